import LoraVerif.Model.Mac
import LoraVerif.Lemmas.Safe
/-!
# `handleCmds`, one command at a time

The definition recurses over the command list with the state of a LinkADRReq block threaded through it.  For every
other command it does one thing to the context and goes on with the block state untouched (`stepModel`,
`handleCmds_cons`); a LinkADRReq moves the block state and, when it is the last of its run, decides
(`adrStepModel`, `handleCmds_adr_cons`).  The names are those of the tie of the regenerated dispatch loop (`Props/TieA/HandleMacs*.lean`); the answers of a
stream (`Lemmas/Answers.lean`: a whole run of LinkADRReq at once, `C08.handleCmds_adr_run`) and totality
(`Lemmas/MacWFCmds.lean`) go through the same two equations.
-/
namespace TieA.Macs
open Model

/-- the model's handling of one command outside a LinkADR block (`handleCmds`, one arm) -/
def stepModel (snr : Int) : Nat × List Nat → MacCtx → M MacCtx
  | (0x06, _), c => pure (c.push 0x06 [255, devStatusMargin snr])
  | (0x08, p), c => do
    let d ← delToDelayMs ((← byteAt p 0) % 16)
    pure ({ c with cfg := { c.cfg with rx1Delay := d } }.push 0x08 [])
  | (0x05, p), c => do
    let (ans, cfg) := rxParamSetup c.cfg c.region.id (← byteAt p 0) (← freq24 p 1)
    pure ({ c with cfg := cfg }.push 0x05 [ans])
  | (0x07, p), c =>
    if c.region.id.isFixed then pure c
    else do
      let idx ← byteAt p 0
      let f ← freq24 p 1
      let r ← byteAt p 4
      let drr : Option Nat := if r / 16 < r % 16 then none else some r
      let ((ackF, ackD), region) ← handleNewChannel c.region idx f drr
      pure ({ c with region := region }.push 0x07 [(if ackF then 1 else 0) + (if ackD then 2 else 0)])
  | (0x0A, p), c =>
    if c.region.id.isFixed then pure c
    else do
      let idx ← byteAt p 0
      let f ← freq24 p 1
      let ((ackF, ackC), region) ← channelDlUpdate c.region idx f
      pure ({ c with region := region }.push 0x0A [(if ackF then 1 else 0) + (if ackC then 2 else 0)])
  | (_, _), c => pure c

theorem handleCmds_cons (snr : Int) (x : Nat × List Nat) (rest : List (Nat × List Nat)) (c : MacCtx) (mask : Mask) (rfu : Bool)
    (n : Nat) (h3 : x.1 ≠ 3) :
    handleCmds snr (x :: rest) c mask rfu n = stepModel snr x c >>= fun c' => handleCmds snr rest c' mask rfu n := by
  obtain ⟨cid, p⟩ := x
  unfold stepModel
  split
  case h_1 heq => cases heq; rw [handleCmds]; rfl
  case h_2 heq => cases heq; rw [handleCmds]; simp only [pure_bind, bind_assoc]
  case h_3 heq => cases heq; rw [handleCmds]; simp only [pure_bind, bind_assoc]
  case h_4 heq => cases heq; rw [handleCmds]; split <;> simp only [pure_bind, bind_assoc]
  case h_5 heq => cases heq; rw [handleCmds]; split <;> simp only [pure_bind, bind_assoc]
  case h_6 h6 h8 h5 h7 hA heq =>
    cases heq
    rw [handleCmds] <;> first | rfl | exact h3 | exact h6 | exact h8 | exact h5 | exact h7 | exact hA

/-- does the command stream go on with a LinkADRReq? (the model's `match rest with | (0x03, _) :: _`) -/
def startsAdr : List (Nat × List Nat) → Bool
  | (0x03, _) :: _ => true
  | _ => false

/-- the model's handling of one LinkADRReq; `more`: the next command is a LinkADRReq too -/
def adrStepModel (p : List Nat) (more : Bool) (c : MacCtx) (mask : Mask) (rfu : Bool) (nAdr : Nat) : M (MacCtx × Mask × Bool × Nat) := do
  let cntl := ((← byteAt p 3) / 16) % 8
  let upd ← channelMaskUpdate c.region mask cntl (← byteAt p 1) (← byteAt p 2)
  let (mask, rfu) := match upd with
    | some m => (m, rfu)
    | none => (mask, true)
  let nAdr := nAdr + 1
  if more then pure (c, mask, rfu, nAdr)
  else do
    let c ← finishLinkAdrBlock c mask rfu nAdr p
    pure (c, channelMaskGet c.region, false, 0)

/-- `push` writes `pending` and `full` only -/
theorem push_cfg (c : MacCtx) (cid : Nat) (p : List Nat) :
    (c.push cid p).cfg = c.cfg ∧ (c.push cid p).region = c.region := by
  unfold MacCtx.push
  split
  · simp
  · split <;> simp

/-- and so does every run of them: the answers to a stream (`g := id`), the `n` identical ones that close a LinkADRReq
block (`g` constant) -/
theorem foldl_push_cfg {β} (g : β → Nat × List Nat) (l : List β) (c : MacCtx) :
    (l.foldl (fun c b => c.push (g b).1 (g b).2) c).cfg = c.cfg ∧
      (l.foldl (fun c b => c.push (g b).1 (g b).2) c).region = c.region :=
  List.foldlRecOn (motive := fun c' => c'.cfg = c.cfg ∧ c'.region = c.region) l _ ⟨rfl, rfl⟩
    fun c' h _ _ => ⟨(push_cfg c' _ _).1.trans h.1, (push_cfg c' _ _).2.trans h.2⟩

/-- `finishLinkAdrBlock` queues its `n` identical answers by a fold over `List.range n` that ignores the index: the first
answer can be taken out in front -/
theorem foldl_range_succ {α} (f : α → α) (k : Nat) (a : α) :
    (List.range (k + 1)).foldl (fun c _ => f c) a = (List.range k).foldl (fun c _ => f c) (f a) := by
  rw [List.range_succ_eq_map, List.foldl_cons, List.foldl_map]

theorem handleCmds_adr_cons (snr : Int) (p : List Nat) (rest : List (Nat × List Nat)) (c : MacCtx) (mask : Mask) (rfu : Bool) (n : Nat) :
    handleCmds snr ((3, p) :: rest) c mask rfu n
      = adrStepModel p (startsAdr rest) c mask rfu n >>= fun r => handleCmds snr rest r.1 r.2.1 r.2.2.1 r.2.2.2 := by
  simp only [handleCmds, adrStepModel, bind, Except.bind, pure, Except.pure]
  cases byteAt p 3 <;> simp only []
  cases byteAt p 1 <;> simp only []
  cases byteAt p 2 <;> simp only []
  rename_i a b d
  cases channelMaskUpdate c.region mask (a / 16 % 8) b d <;> simp only []
  rename_i upd
  match rest with
  | [] => simp only [startsAdr, Bool.false_eq_true, if_false]; cases finishLinkAdrBlock c _ _ (n + 1) p <;> rfl
  | (cid, q) :: rest' =>
    by_cases h : cid = 3
    · subst h; simp only [startsAdr, if_true]; cases upd <;> rfl
    · have : startsAdr ((cid, q) :: rest') = false := by
        unfold startsAdr; split
        · rename_i heq; simp only [List.cons.injEq, Prod.mk.injEq] at heq; exact absurd heq.1.1 h
        · rfl
      rw [this]
      simp only [Bool.false_eq_true, if_false]
      split
      · rename_i heq; simp only [List.cons.injEq, Prod.mk.injEq] at heq; exact absurd heq.1.1 h
      · cases finishLinkAdrBlock c _ _ (n + 1) p <;> rfl

/-- the command counter of a block never goes up by more than one (it goes back to 0 when the block ends) -/
theorem adrStepModel_count (p : List Nat) (more : Bool) (c : MacCtx) (mask : Mask) (rfu : Bool) (n : Nat) :
    Post (adrStepModel p more c mask rfu n) fun r => r.2.2.2 ≤ n + 1 := by
  unfold adrStepModel
  refine Post.skip fun b3 => Post.skip fun b1 => Post.skip fun b2 => Post.skip fun upd => Post.ite ?_ ?_
  · exact Post.pure (Nat.le_refl _)
  · exact Post.skip fun c' => Post.pure (Nat.zero_le _)

theorem handleDownlinkMacs_nil (snr : Int) (c : MacCtx) : handleDownlinkMacs snr [] c = .ok c := by
  simp [handleDownlinkMacs, parseDownlinkCmds, handleCmds]

#print axioms handleCmds_cons
#print axioms handleCmds_adr_cons
end TieA.Macs
