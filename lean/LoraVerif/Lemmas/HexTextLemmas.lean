import LoraVerif.Model.HexText
import LoraVerif.Spec.HexTextSpec
import LoraVerif.Lemmas.FieldAlgebra
/-! The hex text forms of `Model/HexText.lean`: printing is per-octet hexadecimal, parsing undoes it. -/
namespace HexText

def IsBytes (d : Bytes) : Prop := ∀ x ∈ d, x < 256
@[simp] theorem isBytes_cons (a : Nat) (d : Bytes) : IsBytes (a :: d) ↔ a < 256 ∧ IsBytes d := List.forall_mem_cons
@[simp] theorem isBytes_nil : IsBytes [] := fun _ h => nomatch h
theorem IsBytes.append {a b : Bytes} : IsBytes (a ++ b) ↔ IsBytes a ∧ IsBytes b := List.forall_mem_append
theorem IsBytes.reverse {a : Bytes} (h : IsBytes a) : IsBytes a.reverse := by
  intro x hx; exact h x (List.mem_reverse.mp hx)

theorem digitVal_digit : ∀ n, n < 16 → digitVal? (digit n) = some n := by decide
theorem digit_ne_plus : ∀ n, n < 16 → digit n ≠ '+' := by decide

theorem hexEncode_append (a b : Bytes) : hexEncode (a ++ b) = hexEncode a ++ hexEncode b := by
  induction a with
  | nil => rfl
  | cons x xs ih => simp [hexEncode, ih]

theorem hexEncode_length (a : Bytes) : (hexEncode a).length = 2 * a.length := by
  induction a with
  | nil => rfl
  | cons x xs ih => simp [hexEncode, ih]; omega

/-- value-based formatting = per-octet MSB-first -/
theorem hexN_leValue (wire : Bytes) (hb : IsBytes wire) : hexN (2 * wire.length) (leValue wire) = hexEncode wire.reverse := by
  induction wire with
  | nil => rfl
  | cons b bs ih =>
    simp at hb
    obtain ⟨hb0, hbs⟩ := hb
    have e : 2 * (b :: bs).length = 2 * bs.length + 1 + 1 := by simp; omega
    rw [e]
    simp only [hexN, leValue, List.reverse_cons, hexEncode_append, hexEncode]
    have h1 : (b + 256 * leValue bs) / 16 / 16 = leValue bs := by omega
    have h2 : (b + 256 * leValue bs) / 16 % 16 = b / 16 := by omega
    have h3 : (b + 256 * leValue bs) % 16 = b % 16 := by omega
    rw [h1, h2, h3, ih hbs]
    simp

/-! The model's little-endian value and its inverse are the specification's (`Spec.MacCmd.leValue`, `toLe`), whose bound and
round trip are in `Lemmas/FieldAlgebra`. -/
theorem leValue_eq (w : Bytes) : leValue w = Spec.MacCmd.leValue w := by
  induction w with
  | nil => rfl
  | cons b bs ih => rw [leValue, Spec.MacCmd.leValue, ih]

theorem toLeBytes_eq (n v : Nat) : toLeBytes n v = Spec.MacCmd.toLe n v := by
  induction n generalizing v with
  | zero => rfl
  | succ n ih => rw [toLeBytes, Spec.MacCmd.toLe, ih]

theorem leValue_lt (wire : Bytes) (hb : IsBytes wire) : leValue wire < 256 ^ wire.length :=
  leValue_eq wire ▸ Spec.MacCmd.leValue_lt wire hb

theorem toLeBytes_leValue (wire : Bytes) (hb : IsBytes wire) : toLeBytes wire.length (leValue wire) = wire := by
  rw [toLeBytes_eq, leValue_eq, Spec.MacCmd.toLe_leValue wire hb]

/-- big-endian value of an octet string -/
def beValue : Bytes → Nat → Nat
  | [], acc => acc
  | b :: bs, acc => beValue bs (acc * 256 + b)

theorem beValue_append (a b : Bytes) (acc : Nat) : beValue (a ++ b) acc = beValue b (beValue a acc) := by
  induction a generalizing acc with
  | nil => rfl
  | cons x xs ih => simp [beValue, ih]

theorem beValue_reverse (wire : Bytes) : beValue wire.reverse 0 = leValue wire := by
  induction wire with
  | nil => rfl
  | cons b bs ih => simp [beValue_append, beValue, leValue, ih]; omega

theorem beValue_mono (bs : Bytes) (acc : Nat) : acc ≤ beValue bs acc := by
  induction bs generalizing acc with
  | nil => exact Nat.le_refl _
  | cons b bs ih => simp only [beValue]; have := ih (acc * 256 + b); omega

/-- the fold of `from_str_radix` over the digits of an octet string, from any accumulator (the model starts it at `some 0`, which
an induction cannot use); the lambda is the model's, literally, so that unfolding `fromStrRadix16` gives this form -/
theorem radix_fold (bits : Nat) (bs : Bytes) (hb : IsBytes bs) (acc : Nat) (hfin : beValue bs acc < 2 ^ bits) :
    (hexEncode bs).foldl (fun acc c =>
      match acc, digitVal? c with
      | some a, some d => if a * 16 + d < 2 ^ bits then some (a * 16 + d) else none
      | _, _ => none) (some acc) = some (beValue bs acc) := by
  induction bs generalizing acc with
  | nil => rfl
  | cons b bs ih =>
    simp at hb
    obtain ⟨hb0, hbs⟩ := hb
    simp only [hexEncode, List.foldl_cons, beValue] at hfin ⊢
    rw [digitVal_digit _ (by omega), digitVal_digit _ (by omega)]
    have hm := beValue_mono bs (acc * 256 + b)
    have e : (acc * 16 + b / 16) * 16 + b % 16 = acc * 256 + b := by omega
    simp only
    rw [if_pos (by omega)]
    simp only
    rw [if_pos (by omega), e]
    exact ih hbs _ hfin

theorem newtypeToString_eq (wire : Bytes) (hb : IsBytes wire) : newtypeToString wire = hexEncode wire.reverse := by
  have h := leValue_lt wire hb
  have e : (16 : Nat) ^ (2 * wire.length) = 256 ^ wire.length := by
    rw [Nat.pow_mul]
  unfold newtypeToString fmtHex
  rw [if_pos (by rw [e]; exact h)]
  exact hexN_leValue wire hb

theorem stripPlus_cons (c : Char) (cs : List Char) (h : c ≠ '+') : stripPlus (c :: cs) = c :: cs := by
  unfold stripPlus
  split
  · rename_i h'; simp at h'; exact absurd h'.1 h
  · rfl

theorem fromStrRadix16_hexEncode (bits : Nat) (bs : Bytes) (hne : bs ≠ []) (hb : IsBytes bs) (hfin : beValue bs 0 < 2 ^ bits) :
    fromStrRadix16 bits (hexEncode bs) = some (beValue bs 0) := by
  cases bs with
  | nil => exact absurd rfl hne
  | cons b bs =>
    have hb' := hb
    simp at hb'
    have hd := digit_ne_plus (b / 16) (by omega)
    have hs : stripPlus (hexEncode (b :: bs)) = hexEncode (b :: bs) := by
      simp only [hexEncode]; exact stripPlus_cons _ _ hd
    simp only [fromStrRadix16, hs]
    rw [if_neg (by simp [hexEncode])]
    exact radix_fold bits (b :: bs) hb 0 hfin

theorem decodePairs_hexEncode (bs : Bytes) (hb : IsBytes bs) : decodePairs (hexEncode bs) = some bs := by
  induction bs with
  | nil => rfl
  | cons b bs ih =>
    simp at hb
    simp only [hexEncode, decodePairs]
    rw [digitVal_digit _ (by omega), digitVal_digit _ (by omega), ih hb.2]
    simp only
    congr 2
    omega

theorem hexDecode_hexEncode (n : Nat) (bs : Bytes) (hl : bs.length = n) (hb : IsBytes bs) : hexDecode n (hexEncode bs) = .ok bs := by
  unfold hexDecode
  rw [hexEncode_length, hl]
  rw [if_neg (by omega), if_neg (by omega), decodePairs_hexEncode bs hb]

theorem key_roundtrip (k : Bytes) (hl : k.length = 16) (hb : IsBytes k) : keyFromStr (keyToString k) = .ok k :=
  hexDecode_hexEncode 16 k hl hb

theorem eui_roundtrip (w : Bytes) (hl : w.length = 8) (hb : IsBytes w) : euiFromStr (euiToString w) = .ok w := by
  unfold euiFromStr euiToString
  rw [hexDecode_hexEncode 8 w.reverse (by simp [hl]) hb.reverse]
  simp [Except.map]

theorem nibbleChar_eq : ∀ n, n < 16 → Spec.HexText.nibbleChar n = digit n := by decide

theorem msbFirst_eq (bs : Bytes) (hb : IsBytes bs) : Spec.HexText.msbFirst bs = hexEncode bs := by
  induction bs with
  | nil => rfl
  | cons b bs ih =>
    simp at hb
    simp only [Spec.HexText.msbFirst, List.flatMap_cons, hexEncode] at ih ⊢
    rw [nibbleChar_eq _ (by omega), nibbleChar_eq _ (by omega), ih hb.2]
    rfl

end HexText
