import LoraVerif.Lemmas.StepWalk
import LoraVerif.Lemmas.RxFacts
import LoraVerif.Lemmas.Answers
import LoraVerif.Lemmas.TraceC
/-!
# The RX1 delay of every reachable state is between 1 s and 15 s

`cfg.rx1Delay` is written in two places only — RXTimingSetupReq and the JoinAccept's RxDelay — both
through `del_to_delay_ms` of a 4-bit value, whose results are 1000 … 15000 ms; the initial value is
`RECEIVE_DELAY1`.  `DelayOk` is therefore kept by every operation of the MAC whatever its arguments (`kept_delay`), hence
by every history step (`stepC_delayOk`, through the walk of `Lemmas/StepWalk.lean`), which is what the `u32` arithmetic
`delay + tx_ms − lead` of the async front-end's window timers needs (`Props/C04.lean`: `async_no_panic_timing`).  The
statements are `Post` and assume nothing: the simulation of the async front-end (`asyncOps_simX`) asks for an invariant kept
by EVERY returning `stepC`, with neither `MacWF` nor a valid event at hand.
-/

namespace Model

/-- on a number of milliseconds; `DelayOk` is the same of a state's `cfg.rx1Delay` -/
def delayOk (d : Nat) : Prop := 1000 ≤ d ∧ d ≤ 15000

def DelayOk (m : MacState) : Prop := delayOk m.cfg.rx1Delay

theorem delToDelayMs_ok (b d : Nat) (h : delToDelayMs (b % 16) = .ok d) : delayOk d := by
  rw [delToDelayMs_eq] at h
  cases h
  unfold delayOk
  split <;> omega

theorem init_delayOk (r : RegionState) (maxPower : Nat) (gain : Int) : DelayOk (MacState.init r maxPower gain) := by
  unfold DelayOk delayOk MacState.init
  simp only
  decide

end Model

theorem C08.CfgMove.delay {cfg cfg1 : Model.Config} {adr : Bool} (h : C08.CfgMove cfg adr cfg1)
    (hd : Model.delayOk cfg.rx1Delay) : Model.delayOk cfg1.rx1Delay := by
  cases h with
  | rxTiming b d h => exact Model.delToDelayMs_ok b d h
  | _ => exact hd

namespace Model

theorem handleDownlinkMacs_delay (snr : Int) (bytes : List Nat) (c : MacCtx) (h : delayOk c.cfg.rx1Delay) :
    Post (handleDownlinkMacs snr bytes c) (fun c' => delayOk c'.cfg.rx1Delay) := by
  intro c' hc
  obtain ⟨as, mask', ha, _⟩ := C08.handleDownlinkMacs_sem snr bytes c c' hc
  exact ha.cfgs (Q := fun _ cfg cfg' => delayOk cfg.rx1Delay → delayOk cfg'.rx1Delay) (fun _ => id)
    (fun hm ih hd => ih (hm.delay hd)) h

theorem rx2Complete_delay (s : Session) (cfg : Config) (r : RegionId) : (rx2Complete s cfg r).2.2.rx1Delay = cfg.rx1Delay := by
  rcases (rx2Complete_shape s cfg r).1 with h | ⟨d, _, h⟩ <;> rw [h]

theorem acceptCmds_delay (pending : List Nat) (cfg : Config) (region : RegionState) (d : RxData) (snr : Int) (ig : Bool)
    (hd : delayOk cfg.rx1Delay) : Post (acceptCmds pending cfg region d snr ig) (fun c => delayOk c.cfg.rx1Delay) := by
  unfold acceptCmds
  split
  · exact Post.pure hd
  · exact Post.bind (handleDownlinkMacs_delay snr d.fopts _ hd)
      (fun c1 hc1 => Post.ite (handleDownlinkMacs_delay snr d.payload c1 hc1) (Post.pure hc1))

theorem sessionHandleRx_delay (s : Session) (cfg : Config) (region : RegionState) (d : RxData) (mp : Nat) (snr : Int)
    (ig : Bool) (hd : delayOk cfg.rx1Delay) :
    Post (sessionHandleRx s cfg region d mp snr ig) (fun r => delayOk r.2.2.1.rx1Delay) := by
  rw [sessionHandleRx_eq]
  split
  · refine Post.pure ?_
    split
    · exact hd
    · show delayOk (rx2Complete s cfg region.id).2.2.rx1Delay
      rw [rx2Complete_delay]; exact hd
  · split
    · exact Post.bind (acceptCmds_delay _ _ _ _ _ _ hd) (fun ctx hc => Post.pure (by rw [acceptFinish_eq]; exact hc))
    · exact Post.pure hd

theorem otaaAccept_delay (m : MacState) (j : RxJoinAccept) : Post (otaaAccept m j) DelayOk := by
  unfold otaaAccept
  refine Post.skip (fun region => Post.bind_eq (fun d hd => Post.pure ?_))
  have := delToDelayMs_ok _ _ hd
  unfold DelayOk
  simp only
  repeat' split
  all_goals exact this

theorem macHandleRx_delay (m : MacState) (v : RxView) (mp : Nat) (snr : Int) (cc : Bool) (hd : DelayOk m) :
    Post (macHandleRx m v mp snr cc) (fun r => DelayOk r.2) := by
  unfold macHandleRx
  split
  · split
    · refine Post.bind (sessionHandleRx_delay _ _ _ _ _ _ _ hd) ?_
      intro ⟨o', s', cfg', region'⟩ h
      exact Post.pure h
    · exact Post.pure hd
  · split
    · exact Post.pure hd
    · split
      · split
        · exact Post.bind (otaaAccept_delay _ _) (fun m2 h2 => Post.pure h2)
        · exact Post.pure hd
      · exact Post.pure hd
  · split <;> exact Post.pure hd

theorem macRx2Complete_delay (m : MacState) (hd : DelayOk m) : DelayOk (macRx2Complete m).2 := by
  unfold macRx2Complete DelayOk
  split
  · simp only; rw [rx2Complete_delay]; exact hd
  · exact hd
  · exact hd

theorem delayOk_of_cfg {m m' : MacState} (h : m'.cfg = m.cfg) (hd : DelayOk m) : DelayOk m' := by
  unfold DelayOk at hd ⊢; rw [h]; exact hd

theorem kept_delay {σ} (g : Rng σ) : Kept @Post g False DelayOk where
  rx m v mp snr cc h _ := macHandleRx_delay m v mp snr cc h
  rx2 m h := macRx2Complete_delay m h
  rxcConfig _ _ := fun _ _ => trivial
  joinAbp _ _ _ _ h := h
  setAdr m on h := by rw [macSetAdr_eq]; exact h
  setDr _ _ h _ := h
  joinOtaa m rs h := fun r e => delayOk_of_cfg (macJoinOtaa_params g m rs r e).1 h
  send m data fport conf rs h _ := fun r e => delayOk_of_cfg (macSend_params g m data fport conf rs r e).1 h

theorem rxcs_delay (m : MacState) (mp : Nat) (cs : List (RxView × Int)) (os : List RxOut) (fin : Bool) (m' : MacState)
    (hd : DelayOk m) (h : rxcs m mp cs = .ok (os, fin, m')) : DelayOk m' :=
  delayOk_of_cfg (rxcs_params _ _ _ _ _ _ h).1 hd

theorem stepC_delayOk {σ} (g : Rng σ) (m : MacState) (s : σ) (ev : EvC) (ms' : MacState × σ) (oc : OutC) (hd : DelayOk m)
    (h : stepC g (m, s) ev = .ok (ms', oc)) : DelayOk ms'.1 :=
  stepC_wp .post (kept_delay g) m s ev hd False.elim (ms', oc) h

theorem runC_delayOk {σ} (g : Rng σ) (ms ms' : MacState × σ) (evs : List EvC) (ocs : List OutC) (hd : DelayOk ms.1)
    (h : runC g ms evs = .ok (ms', ocs)) : DelayOk ms'.1 := by
  induction evs generalizing ms ocs with
  | nil => cases h; exact hd
  | cons ev rest ih =>
    obtain ⟨ms1, oc, ocs2, hstep, hrun, rfl⟩ := runC_cons_iff.mp h
    exact ih ms1 ocs2 (stepC_delayOk g ms.1 ms.2 ev ms1 oc hd hstep) hrun

/-- the board's timing constants are sane: the lead time does not exceed the shortest wait
(1 s + time on air), and the longest (16 s + time on air) fits a `u32` -/
def TimingOk (cfg : DevCfg) : Prop := cfg.lead ≤ 1000 + cfg.txMs ∧ cfg.txMs + 16000 ≤ 4294967295

theorem macRxDelay_range (m : MacState) (hd : DelayOk m) (join second : Bool) :
    1000 ≤ macRxDelay m join second ∧ macRxDelay m join second ≤ 16000 := by
  obtain ⟨h1, h2⟩ := hd
  cases join <;> cases second <;> simp only [macRxDelay] <;>
    first
      | exact ⟨by omega, by omega⟩
      | (constructor <;> decide)

theorem startDelay_timingOk (cfg : DevCfg) (hT : TimingOk cfg) (d : Nat) (h1 : 1000 ≤ d) (h2 : d ≤ 16000) (e : Fault)
    (h : startDelay d cfg.txMs cfg.lead = .error e) : False := by
  obtain ⟨ha, hb⟩ := hT
  cases (startDelay_ok_iff.mpr ⟨by omega, by omega, rfl⟩).symm.trans h

end Model
