import LoraVerif.Model.HistoryC
import LoraVerif.Lemmas.MacWFTx
/-!
# One walk of `step` / `stepC` for every statement "kept by each operation of the MAC"

`step` and `stepC` compose eight operations of the MAC (`macJoinAbp`, `macSetAdr`, `macSetDatarate`, `macJoinOtaa`,
`macSend`, `macHandleRx`, `macRx2Complete`, and `macRxcConfig`, which only reads).  `Kept W g V I` says that each of them
keeps `I`, in the sense of a weakest-precondition predicate `W` on the model monad (`Safe`, `Post`, `Tot`: `WpRules`, what
holds of whatever is total and has the bind rule); `V` is what is known of the arguments (`True`: they are those of a valid event, `False`: nothing), so
that an invariant which needs no valid event (`DelayOk`, `Lemmas/DelayInv.lean`) goes through the same walk as one that does.
`step_wp` / `stepC_wp` walk the history step once.  Instance here: well-formedness (`kept_wf`, `keptRx_wf`: `I := Keeps m0`), which gives `step_safe`,
`stepC_safe` — a step from a well-formed state under a valid event does not panic and ends well-formed — and by induction
over the event list `run_safe`, `runC_safe`.
-/
namespace Model

structure KeptRx (W : ∀ {α : Type}, M α → (α → Prop) → Prop) (V : Prop) (I : MacState → Prop) : Prop where
  rx : ∀ m v mp snr cc, I m → (V → viewWF v = true) → W (macHandleRx m v mp snr cc) (fun r => I r.2)
  rx2 : ∀ m, I m → I (macRx2Complete m).2
  rxcConfig : ∀ m, I m → W (macRxcConfig m) (fun _ => True)

structure Kept {σ} (W : ∀ {α : Type}, M α → (α → Prop) → Prop) (g : Rng σ) (V : Prop) (I : MacState → Prop) : Prop
    extends KeptRx W V I where
  joinAbp : ∀ m da nwk app, I m → I (macJoinAbp m da nwk app)
  setAdr : ∀ m on, I m → I (macSetAdr m on)
  setDr : ∀ m dr, I m → (V → isUplinkDatarate m.region.id dr = true) → I (macSetDatarate m dr)
  joinOtaa : ∀ m rs, I m → W (macJoinOtaa g m rs) (fun r => I r.2.1)
  send : ∀ m data fport conf rs, I m → (V → (fport = 0 → data = []) ∧ data.length ≤ 222) →
    W (macSend g m data fport conf rs) (fun r => I r.2.1)

section
variable {σ : Type} {W : ∀ {α : Type}, M α → (α → Prop) → Prop} {g : Rng σ} {V : Prop} {I : MacState → Prop}

theorem window_wp (hW : WpRules W) (K : KeptRx W V I) (m : MacState) (f : Option (RxView × Int)) (mp : Nat) (h : I m)
    (hf : V → rxWF f = true) : W (window m f mp) (fun r => I r.2) := by
  unfold window
  cases f with
  | none => exact hW.pure h
  | some f =>
    obtain ⟨v, snr⟩ := f
    refine hW.bind (K.rx m v mp snr false h hf) ?_
    intro ⟨o, m'⟩ hk
    cases o with
    | none => exact hW.pure hk
    | some o => simp only; split <;> exact hW.pure hk

theorem classACycle_wp (hW : WpRules W) (K : KeptRx W V I) (m : MacState) (rx1 rx2 : Option (RxView × Int)) (mp1 mp2 : Nat)
    (h : I m) (h1 : V → rxWF rx1 = true) (h2 : V → rxWF rx2 = true) :
    W (classACycle m rx1 rx2 mp1 mp2) (fun r => I r.2.2) := by
  unfold classACycle
  refine hW.bind (window_wp hW K m rx1 mp1 h h1) ?_
  intro ⟨o1, m1⟩ hk1
  cases o1 with
  | some o => exact hW.pure hk1
  | none =>
    refine hW.bind (window_wp hW K m1 rx2 mp2 hk1 h2) ?_
    intro ⟨o2, m2⟩ hk2
    cases o2 with
    | some o => exact hW.pure hk2
    | none => exact hW.pure (K.rx2 m2 hk2)

theorem faultedCycle_wp (hW : WpRules W) (K : KeptRx W V I) (m : MacState) (k : Nat) (rx1 rx2 : Option (RxView × Int))
    (mp1 mp2 : Nat) (h : I m) (h1 : V → rxWF rx1 = true) (h2 : V → rxWF rx2 = true) :
    W (faultedCycle m k rx1 rx2 mp1 mp2) I := by
  unfold faultedCycle
  split
  · exact hW.pure h
  · exact hW.bind (window_wp hW K m rx1 mp1 h h1) (fun ⟨o1, m1⟩ hk1 => hW.pure hk1)
  · refine hW.bind (window_wp hW K m rx1 mp1 h h1) ?_
    intro ⟨o1, m1⟩ hk1
    cases o1 with
    | some o => exact hW.pure hk1
    | none => exact hW.bind (window_wp hW K m1 rx2 mp2 hk1 h2) (fun ⟨o2, m2⟩ hk2 => hW.pure hk2)

theorem step_wp (hW : WpRules W) (K : Kept W g V I) (m : MacState) (s : σ) (ev : Ev) (h : I m) (hv : V → ValidEv m ev) :
    W (step g (m, s) ev) (fun r => I r.1.1) := by
  unfold ValidEv at hv
  unfold step
  cases ev with
  | joinAbp da nwk app => exact hW.pure (K.joinAbp m da nwk app h)
  | setAdr on => exact hW.pure (K.setAdr m on h)
  | setDr dr => exact hW.pure (K.setDr m dr h hv)
  | rxc v snr mp =>
    refine hW.bind (K.rxcConfig m h) (fun rf _ => ?_)
    exact hW.bind (K.rx m v mp snr true h hv) (fun ⟨o, m'⟩ hk => hW.pure hk)
  | joinOtaa fault rx1 rx2 mp1 mp2 =>
    have hr : V → rxWF rx1 = true ∧ rxWF rx2 = true := fun v => by simpa [validEv] using hv v
    refine hW.bind (K.joinOtaa m s h) ?_
    intro ⟨o, m1, s1⟩ hk1
    cases fault with
    | some k =>
      exact hW.bind (faultedCycle_wp hW K.toKeptRx m1 k rx1 rx2 mp1 mp2 hk1 (fun v => (hr v).1) (fun v => (hr v).2))
        (fun m2 hk2 => hW.pure hk2)
    | none =>
      exact hW.bind (classACycle_wp hW K.toKeptRx m1 rx1 rx2 mp1 mp2 hk1 (fun v => (hr v).1) (fun v => (hr v).2))
        (fun ⟨r, dl, m2⟩ hk2 => hW.pure hk2)
  | uplink data fport conf fault rx1 rx2 mp1 mp2 =>
    have hr : V → ((fport = 0 → data = []) ∧ data.length ≤ 222) ∧ rxWF rx1 = true ∧ rxWF rx2 = true := fun v => by
      have := hv v
      simp only [validEv, Bool.and_eq_true, Bool.or_eq_true, bne_iff_ne, ne_eq, List.isEmpty_iff, decide_eq_true_eq] at this
      exact ⟨⟨fun e => this.1.1.1.resolve_left (fun n => n e), this.1.1.2⟩, this.1.2, this.2⟩
    refine hW.bind (K.send m data fport conf s h (fun v => (hr v).1)) ?_
    intro ⟨o, m1, s1⟩ hk1
    cases o with
    | none => exact hW.pure hk1
    | some o =>
      cases fault with
      | some k =>
        exact hW.bind (faultedCycle_wp hW K.toKeptRx m1 k rx1 rx2 mp1 mp2 hk1 (fun v => (hr v).2.1) (fun v => (hr v).2.2))
          (fun m2 hk2 => hW.pure (K.rx2 m2 hk2))
      | none =>
        exact hW.bind (classACycle_wp hW K.toKeptRx m1 rx1 rx2 mp1 mp2 hk1 (fun v => (hr v).2.1) (fun v => (hr v).2.2))
          (fun ⟨r, dl, m2⟩ hk2 => hW.pure hk2)

theorem rxcs_wp (hW : WpRules W) (K : KeptRx W V I) (m : MacState) (mp : Nat) (cs : List (RxView × Int)) (h : I m)
    (hv : V → csWF cs = true) : W (rxcs m mp cs) (fun r => I r.2.2) := by
  induction cs generalizing m with
  | nil => exact hW.pure h
  | cons c rest ih =>
    obtain ⟨v, snr⟩ := c
    have hv' : V → viewWF v = true ∧ csWF rest = true := fun x => by simpa [csWF] using hv x
    unfold rxcs
    refine hW.bind (K.rx m v mp snr true h (fun x => (hv' x).1)) ?_
    intro ⟨o, m1⟩ hk
    cases o with
    | none => exact ih m1 hk (fun x => (hv' x).2)
    | some o => exact hW.bind (ih m1 hk (fun x => (hv' x).2)) (fun ⟨os, fin, m2⟩ hk2 => hW.pure hk2)

theorem winC_wp (hW : WpRules W) (K : KeptRx W V I) (cc : Bool) (m : MacState) (cs : List (RxView × Int))
    (f : Option (RxView × Int)) (mp : Nat) (eb ea : Bool) (h : I m) (hv : V → csWF cs = true) (hf : V → rxWF f = true) :
    W (winC cc m cs f mp eb ea) (fun r => I r.2.2) := by
  unfold winC between closeWindow
  refine hW.bind (P := fun r => I r.2.2) ?_ ?_
  · cases cc with
    | true => exact hW.bind (K.rxcConfig m h) (fun rf _ => rxcs_wp hW K m _ cs h hv)
    | false => exact hW.pure h
  · intro ⟨os, fin, m1⟩ hk1
    simp only
    split
    · exact hW.pure hk1
    · refine hW.bind (window_wp hW K m1 f mp hk1 hf) ?_
      intro ⟨o, m2⟩ hk2
      refine hW.bind (P := fun _ => True) ?_ (fun _ _ => by split <;> exact hW.pure hk2)
      cases cc with
      | true => exact hW.bind (K.rxcConfig m2 hk2) (fun rf _ => hW.pure trivial)
      | false => exact hW.pure trivial

/-- the frame lists `c1 c2` come before the windows `rx1 rx2` here, not interleaved as in `cycleC` -/
theorem cycleC_wp (hW : WpRules W) (K : KeptRx W V I) (cc : Bool) (m : MacState) (fault : Option FaultPos)
    (c1 c2 : List (RxView × Int)) (rx1 rx2 : Option (RxView × Int)) (mp1 mp2 : Nat) (h : I m)
    (hc1 : V → csWF c1 = true) (h1 : V → rxWF rx1 = true) (hc2 : V → csWF c2 = true) (h2 : V → rxWF rx2 = true) :
    W (cycleC cc m fault c1 rx1 c2 rx2 mp1 mp2) (fun r => I r.2.2) := by
  unfold cycleC
  split
  · exact hW.pure h
  · refine hW.bind (winC_wp hW K cc m c1 rx1 mp1 _ _ h hc1 h1) ?_
    intro ⟨r1, hd1, m1⟩ hk1
    cases r1 with
    | none => exact hW.pure hk1
    | some o1 =>
      cases o1 with
      | some o => exact hW.pure hk1
      | none =>
        refine hW.bind (winC_wp hW K cc m1 c2 rx2 mp2 _ _ hk1 hc2 h2) ?_
        intro ⟨r2, hd2, m2⟩ hk2
        cases r2 with
        | none => exact hW.pure hk2
        | some o2 => cases o2 <;> exact hW.pure hk2

theorem stepC_wp (hW : WpRules W) (K : Kept W g V I) (m : MacState) (s : σ) (ev : EvC) (h : I m) (hv : V → validEvC m.region.id ev = true) :
    W (stepC g (m, s) ev) (fun r => I r.1.1) := by
  unfold stepC
  cases ev with
  | base e => exact hW.bind (step_wp hW K m s e h hv) (fun ⟨ms1, o⟩ hk => hW.pure hk)
  | uplinkC cc data fport conf fault c1 rx1 c2 rx2 =>
    have hr : V → ((fport = 0 → data = []) ∧ data.length ≤ 222) ∧ csWF c1 = true ∧ rxWF rx1 = true ∧ csWF c2 = true ∧
        rxWF rx2 = true := fun v => by
      have := hv v
      simp only [validEvC, Bool.and_eq_true, Bool.or_eq_true, bne_iff_ne, ne_eq, List.isEmpty_iff, decide_eq_true_eq] at this
      obtain ⟨⟨⟨⟨⟨h0, hl⟩, a⟩, b⟩, c⟩, d⟩ := this
      exact ⟨⟨fun e => h0.resolve_left (fun n => n e), hl⟩, a, b, c, d⟩
    refine hW.bind (K.send m data fport conf s h (fun v => (hr v).1)) ?_
    intro ⟨o, m1, s1⟩ hk1
    cases o with
    | none => exact hW.pure hk1
    | some o =>
      refine hW.bind (cycleC_wp hW K.toKeptRx cc m1 fault c1 c2 rx1 rx2 _ _ hk1 (fun v => (hr v).2.1) (fun v => (hr v).2.2.1)
        (fun v => (hr v).2.2.2.1) (fun v => (hr v).2.2.2.2)) ?_
      intro ⟨fin, heard, m2⟩ hk2
      cases fin with
      | resp ro => exact hW.pure hk2
      | complete => exact hW.pure (K.rx2 m2 hk2)
      | cut => exact hW.pure (K.rx2 m2 hk2)
  | joinC cc fault c1 rx1 c2 rx2 =>
    have hr : V → csWF c1 = true ∧ rxWF rx1 = true ∧ csWF c2 = true ∧ rxWF rx2 = true := fun v => by
      have := hv v
      simp only [validEvC, Bool.and_eq_true] at this
      exact ⟨this.1.1.1, this.1.1.2, this.1.2, this.2⟩
    refine hW.bind (K.joinOtaa m s h) ?_
    intro ⟨o, m1, s1⟩ hk1
    refine hW.bind (cycleC_wp hW K.toKeptRx cc m1 fault c1 c2 rx1 rx2 _ _ hk1 (fun v => (hr v).1) (fun v => (hr v).2.1)
      (fun v => (hr v).2.2.1) (fun v => (hr v).2.2.2)) ?_
    intro ⟨fin, heard, m2⟩ hk2
    cases fin with
    | resp ro => exact hW.pure hk2
    | complete => exact hW.pure (K.rx2 m2 hk2)
    | cut => exact hW.pure hk2

end

/-- with the constants of the state `m0` the history started in (`Keeps m0`): the receive procedure is total -/
theorem keptRx_wf (m0 : MacState) : KeptRx @Tot True (Keeps m0) where
  rx m v mp snr cc h hv := (macHandleRx_tot m v mp snr cc h.1 (hv trivial)).mono (fun _ hk => h.trans hk)
  rx2 m h := h.trans (macRx2Complete_wf m h.1)
  rxcConfig m h := macRxcConfig_tot m h.1

/-- … and the transmissions do not panic (channel selection may exhaust its draw budget) -/
theorem kept_wf {σ} (g : Rng σ) (m0 : MacState) : Kept @Safe g True (Keeps m0) where
  rx m v mp snr cc h hv := ((keptRx_wf m0).rx m v mp snr cc h hv).safe
  rx2 := (keptRx_wf m0).rx2
  rxcConfig m h := ((keptRx_wf m0).rxcConfig m h).safe
  joinAbp m da nwk app h := h.trans (macJoinAbp_wf m da nwk app h.1)
  setAdr m on h := h.trans (macSetAdr_wf m on h.1)
  setDr m dr h hv := h.trans (macSetDatarate_wf m dr h.1 (hv trivial))
  joinOtaa m rs h := (macJoinOtaa_safe g m rs h.1).mono (fun _ hk => h.trans hk)
  send m data fport conf rs h hv :=
    (macSend_safe g m data fport conf rs h.1 (hv trivial).1 (hv trivial).2).mono (fun _ hk => h.trans hk)

theorem step_safe {σ} (g : Rng σ) (m : MacState) (s : σ) (ev : Ev) (h : MacWF m) (hv : ValidEv m ev) :
    Safe (step g (m, s) ev) (fun r => Keeps m r.1.1) :=
  step_wp .safe (kept_wf g m) m s ev (Keeps.refl h) (fun _ => hv)

theorem step_keeps {σ} {g : Rng σ} {m m' : MacState} {s s' : σ} {ev : Ev} {out : Out} {r : RegionId} (h : MacWF m)
    (hid : m.region.id = r) (hv : validEv r ev = true) (hs : step g (m, s) ev = .ok ((m', s'), out)) : Keeps m m' :=
  (step_safe g m s ev h (by subst hid; exact hv)).elim hs

theorem run_safe {σ} (g : Rng σ) (m : MacState) (s : σ) (evs : List Ev) (h : MacWF m)
    (hv : ∀ ev ∈ evs, validEv m.region.id ev = true) : Safe (run g (m, s) evs) (fun r => Keeps m r.1.1) := by
  induction evs generalizing m s with
  | nil => exact Safe.pure (Keeps.refl h)
  | cons ev rest ih =>
    unfold run
    refine Safe.bind (step_safe g m s ev h (hv ev List.mem_cons_self)) ?_
    intro ⟨⟨m1, s1⟩, o⟩ hk1
    simp only at hk1 ⊢
    refine Safe.bind (ih m1 s1 hk1.1 (fun ev' he => by rw [hk1.2.1]; exact hv ev' (List.mem_cons_of_mem _ he))) ?_
    intro ⟨⟨m2, s2⟩, os⟩ hk2
    exact Safe.pure (hk1.trans hk2)

theorem cycleC_tot (cc : Bool) (m : MacState) (fault : Option FaultPos) (c1 c2 : List (RxView × Int))
    (rx1 rx2 : Option (RxView × Int)) (mp1 mp2 : Nat) (h : MacWF m) (hc1 : csWF c1 = true) (h1 : rxWF rx1 = true)
    (hc2 : csWF c2 = true) (h2 : rxWF rx2 = true) :
    Tot (cycleC cc m fault c1 rx1 c2 rx2 mp1 mp2) (fun r => Keeps m r.2.2) :=
  cycleC_wp .total (keptRx_wf m) cc m fault c1 c2 rx1 rx2 mp1 mp2 (Keeps.refl h) (fun _ => hc1) (fun _ => h1) (fun _ => hc2)
    (fun _ => h2)

theorem stepC_safe {σ} (g : Rng σ) (m : MacState) (s : σ) (ev : EvC) (h : MacWF m) (hv : validEvC m.region.id ev = true) :
    Safe (stepC g (m, s) ev) (fun r => Keeps m r.1.1) :=
  stepC_wp .safe (kept_wf g m) m s ev (Keeps.refl h) (fun _ => hv)

theorem stepC_keeps {σ} {g : Rng σ} {m m' : MacState} {s s' : σ} {ev : EvC} {out : OutC} {r : RegionId} (h : MacWF m)
    (hid : m.region.id = r) (hv : validEvC r ev = true) (hs : stepC g (m, s) ev = .ok ((m', s'), out)) : Keeps m m' :=
  (stepC_safe g m s ev h (by subst hid; exact hv)).elim hs

theorem runC_safe {σ} (g : Rng σ) (m : MacState) (s : σ) (evs : List EvC) (h : MacWF m)
    (hv : ∀ ev ∈ evs, validEvC m.region.id ev = true) : Safe (runC g (m, s) evs) (fun r => Keeps m r.1.1) := by
  induction evs generalizing m s with
  | nil => exact Safe.pure (Keeps.refl h)
  | cons ev rest ih =>
    unfold runC
    refine Safe.bind (stepC_safe g m s ev h (hv ev List.mem_cons_self)) ?_
    intro ⟨⟨m1, s1⟩, o⟩ hk1
    simp only at hk1 ⊢
    refine Safe.bind (ih m1 s1 hk1.1 (fun ev' he => by rw [hk1.2.1]; exact hv ev' (List.mem_cons_of_mem _ he))) ?_
    intro ⟨⟨m2, s2⟩, os⟩ hk2
    exact Safe.pure (hk1.trans hk2)

theorem step_rxc_returns {σ} (g : Rng σ) (m : MacState) (rs : σ) (v : RxView) (snr : Int) (mp : Nat) (hwf : MacWF m)
    (hv : viewWF v = true) : ∃ m' out, step g (m, rs) (.rxc v snr mp) = .ok ((m', rs), out) := by
  obtain ⟨rf, hrf, _⟩ := macRxcConfig_tot m hwf
  obtain ⟨⟨o, m'⟩, hrx, _⟩ := macHandleRx_tot m v mp snr true hwf hv
  refine ⟨m', .rxc rf o, ?_⟩
  simp only [step, hrf, hrx, bind, Except.bind, pure, Except.pure]

theorem stepC_rxc_returns {σ} (g : Rng σ) (m : MacState) (rs : σ) (v : RxView) (snr : Int) (mp : Nat) (hwf : MacWF m)
    (hv : viewWF v = true) : ∃ m' out, stepC g (m, rs) (.base (.rxc v snr mp)) = .ok ((m', rs), out) := by
  obtain ⟨m', o, hs⟩ := step_rxc_returns g m rs v snr mp hwf hv
  exact ⟨m', { out := o }, by simp only [stepC, hs, bind, Except.bind, pure, Except.pure]⟩

end Model
