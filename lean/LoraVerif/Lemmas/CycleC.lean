import LoraVerif.Lemmas.Cycle
import LoraVerif.Lemmas.TraceC
import LoraVerif.Lemmas.RxFacts
/-!
# Normal form of the extended receive procedure (`Model/HistoryC.lean`) in terms of the REFERENCE

`Lemmas/Cycle.lean` for the events `uplinkC` / `joinC`: the frames a Class C device hears between TX
and RX1 (`c1`) and between RX1 and RX2 (`c2`) go to `handle_rxc` in the middle of the procedure.

* THE REFERENCE (`refRxcs`, `refWin`, `refCycle`, `refUplink`) runs the procedure on two numbers only —
  `PSt`: the last accepted downlink counter and the uplink counter — judging every frame it meets with
  the acceptance rule `accepts` of `Lemmas/Cycle.lean` (Spec/Freshness.lean) under the counter it
  holds AT THAT POINT.  It yields what is reported for every frame handled, in order (`heard`), how the
  procedure ends, and the list of ACTS it decided on: `accC` (a frame accepted on the RXC
  parameters: commands ignored), `accA` (a frame accepted in a Class A window: commands executed),
  `tmo` (`rx2_complete`: both windows empty, an oversized frame, or the procedure cut by a radio
  fault).  Nothing of the model enters.
* THE MODEL IS THAT (`stepC_uplinkC_joined`): the output of `stepC` is the reference's, and the state
  it leaves is reached from the state after `send` by exactly those acts (`Acts` of `Lemmas/Cycle.lean`: `acceptState` /
  `timeoutState`, composed).  A property of the state (C08's answer queue, C12's ADR
  automaton, C20's session invariant) is carried across an extended event by ONE lemma: its relation is
  preserved along `Acts`; C05, C06 and C07 argue on the reference's lists or on the model functions instead.
* A device that is joining (`joinC`) ignores what it hears on the RXC parameters (`handle_rxc` answers
  `Err(NotJoined)`, which `between_windows` takes as `NoUpdate` and goes on listening, so that a stray frame does not
  abort the join): `stepC` on `joinC` is `step` on the plain
  `joinOtaa` with the fault position `joinFaultC` (`stepC_joinC_plain`); `uplinkC` without a session is
  refused.
-/
namespace Model

/-- all the reference keeps of a session along a receive procedure -/
structure PSt where
  last : Option Nat
  fu : Nat
  deriving DecidableEq, Repr

structure Ref where
  heard : List RxOut
  acts : List Act
  st : PSt
  deriving Repr

/-- the frames heard on the RXC parameters while waiting for a window, one after the other -/
def refRxcs (p : PSt) (mpc : Nat) : List (RxView × Int) → Ref
  | [] => ⟨[], [], p⟩
  | (v, _) :: rest =>
    match specRxc p.last v mpc with
    | some (N, d) =>
      let r := refRxcs ⟨some N, bumpFu p.fu⟩ mpc rest
      ⟨accOut p.fu N d :: r.heard, .accC N d :: r.acts, r.st⟩
    | none =>
      let r := refRxcs p mpc rest
      ⟨noUp :: r.heard, r.acts, r.st⟩

/-- `res` as in `winC` -/
structure WRef where
  res : Option (Option RxOut)
  heard : List RxOut
  acts : List Act
  st : PSt
  deriving Repr

def refWin (cc : Bool) (p : PSt) (conf : Bool) (mpc : Nat) (cs : List (RxView × Int)) (f : Option (RxView × Int)) (mp : Nat)
    (eb ea : Bool) : WRef :=
  let b : Ref := if cc then refRxcs p mpc cs else ⟨[], [], p⟩
  if eb then ⟨none, b.heard, b.acts, b.st⟩ else
  match specWindow b.st.last f mp with
  | .nothing => ⟨if ea then none else some none, b.heard, b.acts, b.st⟩
  | .ended =>
    let o : RxOut := { resp := tmoResp b.st.fu conf, downlink := none }
    ⟨if ea then none else some (some o), b.heard ++ [o], b.acts ++ [.tmo], ⟨b.st.last, bumpFu b.st.fu⟩⟩
  | .accepted N d snr =>
    let o := accOut b.st.fu N d
    ⟨if ea then none else some (some o), b.heard ++ [o], b.acts ++ [.accA N d snr], ⟨some N, bumpFu b.st.fu⟩⟩

structure CRef where
  fin : ProcEnd
  heard : List RxOut
  acts : List Act
  st : PSt
  deriving Repr

def refCycle (cc : Bool) (p : PSt) (conf : Bool) (mpc : Nat) (fault : Option FaultPos) (c1 : List (RxView × Int))
    (rx1 : Option (RxView × Int)) (c2 : List (RxView × Int)) (rx2 : Option (RxView × Int)) (mp1 mp2 : Nat) : CRef :=
  if fault = some .tx then ⟨.cut, [], [], p⟩ else
  let w1 := refWin cc p conf mpc c1 rx1 mp1 (fault == some .before1) (fault == some .close1)
  match w1.res with
  | none => ⟨.cut, w1.heard, w1.acts, w1.st⟩
  | some (some o) => ⟨.resp o, w1.heard, w1.acts, w1.st⟩
  | some none =>
    let w2 := refWin cc w1.st conf mpc c2 rx2 mp2 (fault == some .before2) (fault == some .close2)
    match w2.res with
    | none => ⟨.cut, w1.heard ++ w2.heard, w1.acts ++ w2.acts, w2.st⟩
    | some (some o) => ⟨.resp o, w1.heard ++ w2.heard, w1.acts ++ w2.acts, w2.st⟩
    | some none => ⟨.complete, w1.heard ++ w2.heard, w1.acts ++ w2.acts, w2.st⟩

/-- `send` + the receive procedure of a device with a session, judged: what the front-end reports,
what it delivers, what every handled frame yielded, the acts, the counters afterwards -/
structure URef where
  resp : Option Response
  dl : Option (Nat × List Nat)
  heard : List RxOut
  acts : List Act
  st : PSt
  deriving Repr

def refUplink (cc : Bool) (p : PSt) (conf : Bool) (mpc : Nat) (fault : Option FaultPos) (c1 : List (RxView × Int))
    (rx1 : Option (RxView × Int)) (c2 : List (RxView × Int)) (rx2 : Option (RxView × Int)) (mp1 mp2 : Nat) : URef :=
  let c := refCycle cc p conf mpc fault c1 rx1 c2 rx2 mp1 mp2
  match c.fin with
  | .resp o => ⟨some o.resp, o.downlink, c.heard, c.acts, c.st⟩
  | .complete => ⟨some (tmoResp c.st.fu conf), none, c.heard, c.acts ++ [.tmo], ⟨c.st.last, bumpFu c.st.fu⟩⟩
  | .cut => ⟨if c.st.fu = 0xFFFFFFFF then some .sessionExpired else none, none, c.heard, c.acts ++ [.tmo],
             ⟨c.st.last, bumpFu c.st.fu⟩⟩

def stOf (s : Session) : PSt := ⟨s.fcntDown, s.fcntUp⟩

theorem SameParams.rxcMp {m m1 : MacState} (h : SameParams m m1) : rxcMp m1 = rxcMp m := by
  unfold Model.rxcMp; rw [h.macRxcConfig]

theorem macRxcConfig_congr (m m1 : MacState) (hc : m1.cfg = m.cfg) (hr : m1.region.id = m.region.id) :
    macRxcConfig m1 = macRxcConfig m := SameParams.macRxcConfig ⟨hc, hr⟩

theorem rxcMp_congr (m m1 : MacState) (hc : m1.cfg = m.cfg) (hr : m1.region.id = m.region.id) : rxcMp m1 = rxcMp m :=
  SameParams.rxcMp ⟨hc, hr⟩

theorem rxcMp_of_ok {m : MacState} {rf : RfConfig} (h : macRxcConfig m = .ok rf) : rf.maxPayload.toNat = rxcMp m := by
  unfold rxcMp; rw [h]

theorem macHandleRxc_joined_none (m : MacState) (s : Session) (hst : m.st = .joined s) (hl : LastOk s.fcntDown)
    (v : RxView) (mp : Nat) (snr : Int) (hw : viewOk v = true) (hs : specRxc s.fcntDown v mp = none) :
    macHandleRx m v mp snr true = .ok (some noUp, m) := by
  rw [macHandleRxc_joined m s hst hl v mp snr hw, hs]
  rfl

theorem macHandleRxc_joined_some (m : MacState) (s : Session) (hst : m.st = .joined s) (hl : LastOk s.fcntDown)
    (v : RxView) (mp : Nat) (snr : Int) (hw : viewOk v = true) (N : Nat) (d : RxData) (hs : specRxc s.fcntDown v mp = some (N, d)) :
    macHandleRx m v mp snr true = .ok (some (acceptOut s d N (ctxC m s)), acceptState m s d N (ctxC m s)) ∧
      accepts s.fcntDown d mp = some N ∧ d.fcnt16 < 65536 := by
  obtain ⟨rfl, ha⟩ := specRxc_some.mp hs
  exact ⟨by rw [macHandleRxc_joined m s hst hl _ mp snr hw, hs]; rfl, ha, by simpa [viewOk] using hw⟩

def csOk (cs : List (RxView × Int)) : Bool := cs.all (fun c => viewOk c.1)

theorem csOk_cons (c : RxView × Int) (cs : List (RxView × Int)) :
    csOk (c :: cs) = true ↔ viewOk c.1 = true ∧ csOk cs = true := by
  simp only [csOk, List.all_cons, Bool.and_eq_true]

theorem rxcs_joined (mp : Nat) (cs : List (RxView × Int)) (hv : csOk cs = true) :
    ∀ (m : MacState) (s : Session), m.st = .joined s → LastOk s.fcntDown →
      ∃ m' s', rxcs m mp cs = .ok ((refRxcs (stOf s) mp cs).heard, true, m') ∧
        Acts m (refRxcs (stOf s) mp cs).acts m' ∧ m'.st = .joined s' ∧
        stOf s' = (refRxcs (stOf s) mp cs).st ∧ LastOk s'.fcntDown ∧ s'.confirmed = s.confirmed := by
  induction cs with
  | nil =>
    intro m s hst hl
    exact ⟨m, s, rfl, rfl, hst, rfl, hl, rfl⟩
  | cons c rest ih =>
    intro m s hst hl
    obtain ⟨v, snr⟩ := c
    rw [csOk_cons] at hv
    unfold rxcs refRxcs
    cases hs : specRxc (stOf s).last v mp with
    | none =>
      obtain ⟨m', s', hrun, h⟩ := ih hv.2 m s hst hl
      exact ⟨m', s', by simp only [macHandleRxc_joined_none m s hst hl v mp snr hv.1 hs, bind, Except.bind, hrun]; rfl, h⟩
    | some p =>
      obtain ⟨N, d⟩ := p
      obtain ⟨hrx, ha, hw⟩ := macHandleRxc_joined_some m s hst hl v mp snr hv.1 N d hs
      have hlN := lastOk_accepts hw ha
      have hs1 : (acceptFinish s d N (ctxC m s)).2.1 = _ := acceptFinish_session_eq s d N (ctxC m s)
      obtain ⟨m', s', hrun, hacts, hst', hp, hl', hcf⟩ :=
        ih hv.2 (acceptState m s d N (ctxC m s)) _ (acceptState_st m s d N (ctxC m s)) (by rw [hs1]; exact hlN)
      rw [hs1] at hp hcf hrun hacts
      exact ⟨m', s', by simp only [hrx, bind, Except.bind, hrun, acceptOut_eq]; rfl, ⟨s, hst, hlN N rfl, hacts⟩, hst', hp, hl', hcf⟩

theorem between_joined (cc : Bool) (m : MacState) (s : Session) (hst : m.st = .joined s) (hl : LastOk s.fcntDown)
    (cs : List (RxView × Int)) (hv : csOk cs = true) (os : List RxOut) (fin : Bool) (m1 : MacState)
    (h : between cc m cs = .ok (os, fin, m1)) :
    fin = true ∧ os = (if cc then refRxcs (stOf s) (rxcMp m) cs else ⟨[], [], stOf s⟩ : Ref).heard ∧
      Acts m (if cc then refRxcs (stOf s) (rxcMp m) cs else ⟨[], [], stOf s⟩ : Ref).acts m1 ∧
      ∃ s1, m1.st = .joined s1 ∧
        stOf s1 = (if cc then refRxcs (stOf s) (rxcMp m) cs else ⟨[], [], stOf s⟩ : Ref).st ∧ LastOk s1.fcntDown ∧
        s1.confirmed = s.confirmed := by
  rcases between_ok h with ⟨rfl, e⟩ | ⟨rfl, rf, hrf, h⟩
  · cases e
    exact ⟨rfl, rfl, rfl, s, hst, rfl, hl, rfl⟩
  · simp only [if_true]
    rw [rxcMp_of_ok hrf] at h
    obtain ⟨m', s', hrun, hacts, hst', hp, hl', hcf⟩ := rxcs_joined (rxcMp m) cs hv m s hst hl
    cases hrun.symm.trans h
    exact ⟨rfl, rfl, hacts, s', hst', hp, hl', hcf⟩

theorem winC_joined (cc : Bool) (m : MacState) (s : Session) (hst : m.st = .joined s) (hl : LastOk s.fcntDown)
    (cs : List (RxView × Int)) (f : Option (RxView × Int)) (mp : Nat) (eb ea : Bool) (hv : csOk cs = true) (hf : rxOk f = true)
    (r : Option (Option RxOut)) (os : List RxOut) (m' : MacState) (h : winC cc m cs f mp eb ea = .ok (r, os, m')) :
    r = (refWin cc (stOf s) s.confirmed (rxcMp m) cs f mp eb ea).res ∧
    os = (refWin cc (stOf s) s.confirmed (rxcMp m) cs f mp eb ea).heard ∧
    Acts m (refWin cc (stOf s) s.confirmed (rxcMp m) cs f mp eb ea).acts m' ∧
    ∃ s', m'.st = .joined s' ∧ stOf s' = (refWin cc (stOf s) s.confirmed (rxcMp m) cs f mp eb ea).st ∧ LastOk s'.fcntDown ∧
      s'.confirmed = s.confirmed := by
  obtain ⟨os1, fin, m1, hb, h⟩ := winC_ok h
  obtain ⟨rfl, hos, hacts, s1, hst1, hp1, hl1, hcf1⟩ := between_joined cc m s hst hl cs hv os1 fin m1 hb
  unfold refWin
  generalize (if cc then refRxcs (stOf s) (rxcMp m) cs else ⟨[], [], stOf s⟩ : Ref) = b at hos hacts hp1
  subst hos
  cases eb with
  | true =>
    obtain ⟨_, rfl, rfl, rfl⟩ | ⟨hc, _⟩ := h
    · exact ⟨rfl, rfl, hacts, s1, hst1, hp1, hl1, hcf1⟩
    · cases hc
  | false =>
    obtain ⟨hc, _⟩ | ⟨_, o, hw, rfl, rfl⟩ := h
    · cases hc
    simp only [Bool.false_eq_true, if_false]
    have hlast : b.st.last = s1.fcntDown := by rw [← hp1]; rfl
    have hfu : b.st.fu = s1.fcntUp := by rw [← hp1]; rfl
    rw [window_joined m1 s1 hst1 hl1 f mp hf] at hw
    rw [hlast]
    cases hsw : specWindow s1.fcntDown f mp with
    | nothing =>
      simp only [hsw] at hw ⊢
      cases Except.pure_eq_ok hw
      exact ⟨rfl, by simp, hacts, s1, hst1, hp1, hl1, hcf1⟩
    | ended =>
      simp only [hsw] at hw ⊢
      cases Except.pure_eq_ok hw
      obtain ⟨s2, hst2, hfd2, hfu2, hcf2, _, _, _⟩ := timeoutState_session m1 s1 hst1
      rw [macRx2Complete_resp m1 s1 hst1, ← hfu, hcf1]
      refine ⟨rfl, rfl, hacts.append (Acts.tmo1 m1), s2, hst2, ?_, ?_, by rw [hcf2, hcf1]⟩
      · simp only [stOf, hfd2, hfu2, hfu]
      · rw [hfd2]; exact hl1
    | accepted N d snr =>
      simp only [hsw] at hw ⊢
      obtain ⟨ctx, hctx, hw⟩ := Except.bind_pure_eq_ok hw
      cases hw
      have hacc : accepts s1.fcntDown d mp = some N ∧ d.fcnt16 < 65536 := (specWindow_accepted hf hsw).2
      have hlN := lastOk_accepts hacc.2 hacc.1
      rw [acceptOut_eq, ← hfu]
      refine ⟨rfl, rfl, hacts.append ?_, _, acceptState_st m1 s1 d N ctx, ?_, ?_, ?_⟩
      · exact ⟨s1, ctx, hst1, hlN N rfl, hctx, rfl⟩
      · rw [acceptFinish_session_eq]; simp only [stOf, hfu]
      · rw [acceptFinish_session_eq]; exact hlN
      · rw [acceptFinish_session_eq]; exact hcf1

theorem cycleC_joined (cc : Bool) (m : MacState) (s : Session) (hst : m.st = .joined s) (hl : LastOk s.fcntDown)
    (fault : Option FaultPos) (c1 : List (RxView × Int)) (rx1 : Option (RxView × Int)) (c2 : List (RxView × Int))
    (rx2 : Option (RxView × Int)) (mp1 mp2 : Nat) (hv1 : csOk c1 = true) (hf1 : rxOk rx1 = true) (hv2 : csOk c2 = true)
    (hf2 : rxOk rx2 = true) (fin : ProcEnd) (heard : List RxOut) (m' : MacState)
    (h : cycleC cc m fault c1 rx1 c2 rx2 mp1 mp2 = .ok (fin, heard, m')) :
    fin = (refCycle cc (stOf s) s.confirmed (rxcMp m) fault c1 rx1 c2 rx2 mp1 mp2).fin ∧
    heard = (refCycle cc (stOf s) s.confirmed (rxcMp m) fault c1 rx1 c2 rx2 mp1 mp2).heard ∧
    Acts m (refCycle cc (stOf s) s.confirmed (rxcMp m) fault c1 rx1 c2 rx2 mp1 mp2).acts m' ∧
    ∃ s', m'.st = .joined s' ∧ stOf s' = (refCycle cc (stOf s) s.confirmed (rxcMp m) fault c1 rx1 c2 rx2 mp1 mp2).st ∧
      LastOk s'.fcntDown ∧ s'.confirmed = s.confirmed := by
  unfold cycleC at h
  unfold refCycle
  by_cases htx : fault = some .tx
  · simp only [htx, if_true] at h ⊢
    cases Except.pure_eq_ok h
    exact ⟨rfl, rfl, rfl, s, hst, rfl, hl, rfl⟩
  · simp only [htx, if_false] at h ⊢
    obtain ⟨⟨r1, h1, ma⟩, hw1, h⟩ := Except.bind_eq_ok h
    obtain ⟨hr1, hh1, ha1, sa, hsta, hpa, hla, hcfa⟩ :=
      winC_joined cc m s hst hl c1 rx1 mp1 _ _ hv1 hf1 r1 h1 ma hw1
    generalize refWin cc (stOf s) s.confirmed (rxcMp m) c1 rx1 mp1 (fault == some .before1) (fault == some .close1) = w1
      at hr1 hh1 ha1 hpa
    subst hr1 hh1
    match hres1 : w1.res with
    | none | some (some _) =>
      simp only [hres1] at h ⊢
      cases Except.pure_eq_ok h
      exact ⟨rfl, rfl, ha1, sa, hsta, hpa, hla, hcfa⟩
    | some none =>
      simp only [hres1] at h ⊢
      obtain ⟨⟨r2, h2, mb⟩, hw2, h⟩ := Except.bind_eq_ok h
      obtain ⟨hr2, hh2, ha2, sb, hstb, hpb, hlb, hcfb⟩ :=
        winC_joined cc ma sa hsta hla c2 rx2 mp2 _ _ hv2 hf2 r2 h2 mb hw2
      -- a window served without a response leaves the RXC limit as it was: this is why `refCycle` takes ONE `mpc`
      rw [(winC_none_params _ _ _ _ _ _ _ _ _ (hres1 ▸ hw1)).rxcMp, hpa, hcfa] at hr2 hh2 ha2 hpb
      generalize refWin cc w1.st s.confirmed (rxcMp m) c2 rx2 mp2 (fault == some .before2) (fault == some .close2) = w2
        at hr2 hh2 ha2 hpb
      subst hr2 hh2
      match hres2 : w2.res with
      | none | some (some _) | some none =>
        simp only [hres2] at h ⊢
        cases Except.pure_eq_ok h
        exact ⟨rfl, rfl, ha1.append ha2, sb, hstb, hpb, hlb, hcfb.trans hcfa⟩

/-- of a `joinC` only the two `rxOk` conjuncts are ever used (`evOk_joinPlain`): a joining device does not judge the
frames of `c1`, `c2` -/
def evOkC : EvC → Bool
  | .base e => evOk e
  | .uplinkC _ _ _ _ _ c1 rx1 c2 rx2 => csOk c1 && rxOk rx1 && csOk c2 && rxOk rx2
  | .joinC _ _ c1 rx1 c2 rx2 => csOk c1 && rxOk rx1 && csOk c2 && rxOk rx2

/-- the reference's verdict on `send` + receive procedure, for the uplink the MAC built (`so`: its
counter, the payload limits of the windows it handed out) -/
def upRefC (cc : Bool) (last : Option Nat) (conf : Bool) (mpc : Nat) (fault : Option FaultPos) (c1 : List (RxView × Int))
    (rx1 : Option (RxView × Int)) (c2 : List (RxView × Int)) (rx2 : Option (RxView × Int)) (so : SendOut) : URef :=
  refUplink cc ⟨last, so.frame.fcnt⟩ conf mpc fault c1 rx1 c2 rx2 so.tx.rx1.maxPayload.toNat so.tx.rx2.maxPayload.toNat

/-- **`send` + the receive procedure of a device with a session (async front-end, both classes)**:
`Mac::send` as in `Lemmas/Cycle.lean`; the output is the reference's; the state is reached from the
state after `send` by the reference's acts -/
theorem stepC_uplinkC_joined {σ} (g : Rng σ) (m m' : MacState) (rs rs' : σ) (s : Session) (hst : m.st = .joined s)
    (hl : LastOk s.fcntDown) (cc : Bool) (data : List Nat) (fport : Nat) (conf : Bool) (fault : Option FaultPos)
    (c1 : List (RxView × Int)) (rx1 : Option (RxView × Int)) (c2 : List (RxView × Int)) (rx2 : Option (RxView × Int))
    (hv : evOkC (.uplinkC cc data fport conf fault c1 rx1 c2 rx2) = true) (out : OutC)
    (h : stepC g (m, rs) (.uplinkC cc data fport conf fault c1 rx1 c2 rx2) = .ok ((m', rs'), out)) :
    ∃ so m1, macSend g m data fport conf rs = .ok (some so, m1, rs') ∧
      so.frame = descOf s m.cfg m.region.id data fport conf ∧ m1.st = .joined (sentSession s conf) ∧ m1.cfg = m.cfg ∧
      m1.region.id = m.region.id ∧
      out = { out := .up so (upRefC cc s.fcntDown conf (rxcMp m) fault c1 rx1 c2 rx2 so).resp
                              (upRefC cc s.fcntDown conf (rxcMp m) fault c1 rx1 c2 rx2 so).dl,
              heard := (upRefC cc s.fcntDown conf (rxcMp m) fault c1 rx1 c2 rx2 so).heard } ∧
      Acts m1 (upRefC cc s.fcntDown conf (rxcMp m) fault c1 rx1 c2 rx2 so).acts m' ∧
      ∃ s', m'.st = .joined s' ∧ stOf s' = (upRefC cc s.fcntDown conf (rxcMp m) fault c1 rx1 c2 rx2 so).st ∧
        LastOk s'.fcntDown := by
  simp only [evOkC, Bool.and_eq_true] at hv
  obtain ⟨⟨⟨hv1, hf1⟩, hv2⟩, hf2⟩ := hv
  unfold stepC at h
  simp only at h
  obtain ⟨⟨o, m1, rs1⟩, hsend, h⟩ := Except.bind_eq_ok h
  obtain ⟨so, rfl, hs⟩ := macSend_sent hst hsend
  have hl1 : LastOk (sentSession s conf).fcntDown := hl
  simp only at h
  obtain ⟨⟨fin, heard, m2⟩, hcy, h⟩ := Except.bind_eq_ok h
  obtain ⟨hfin, hheard, hacts, s2, hst2, hp2, hl2, hcf2⟩ :=
    cycleC_joined cc m1 _ hs.st hl1 fault c1 rx1 c2 rx2 _ _ hv1 hf1 hv2 hf2 fin heard m2 hcy
  have hsc : (sentSession s conf).confirmed = conf := rfl
  have hso : stOf (sentSession s conf) = ⟨s.fcntDown, s.fcntUp⟩ := rfl
  rw [hs.params.rxcMp, hsc, hso] at hfin hheard hacts hp2
  refine ⟨so, m1, ?_, hs.frame, hs.st, hs.cfg, hs.id, ?_⟩
  · rw [hsend]
    cases fin <;> cases Except.pure_eq_ok h <;> rfl
  have hfc : so.frame.fcnt = s.fcntUp := by rw [hs.frame]; rfl
  unfold upRefC refUplink
  simp only [hfc]
  generalize refCycle cc ⟨s.fcntDown, s.fcntUp⟩ conf (rxcMp m) fault c1 rx1 c2 rx2 so.tx.rx1.maxPayload.toNat
    so.tx.rx2.maxPayload.toNat = c at hfin hheard hacts hp2
  subst hfin hheard
  have hfu2 : c.st.fu = s2.fcntUp := by rw [← hp2]; rfl
  have hfd2 : c.st.last = s2.fcntDown := by rw [← hp2]; rfl
  -- how a procedure without a response leaves through `rx2_complete`
  obtain ⟨s3, hst3, hfd3, hfu3, _⟩ := timeoutState_session m2 s2 hst2
  have htmo : Acts m1 (c.acts ++ [.tmo]) (timeoutState m2) ∧
      ∃ s', (timeoutState m2).st = .joined s' ∧ stOf s' = ⟨c.st.last, bumpFu c.st.fu⟩ ∧ LastOk s'.fcntDown :=
    ⟨hacts.append (Acts.tmo1 m2), s3, hst3, by simp only [stOf, hfd3, hfu3, hfd2, hfu2], by rw [hfd3]; exact hl2⟩
  cases hf : c.fin with
  | resp ro =>
    simp only [hf] at h ⊢
    cases Except.pure_eq_ok h
    exact ⟨rfl, hacts, s2, hst2, hp2, hl2⟩
  | complete =>
    simp only [hf] at h ⊢
    cases Except.pure_eq_ok h
    exact ⟨by rw [macRx2Complete_resp m2 s2 hst2, hfu2, hcf2, hsc], htmo⟩
  | cut =>
    simp only [hf] at h ⊢
    cases Except.pure_eq_ok h
    refine ⟨?_, htmo⟩
    rw [faultExpired_eq m2 s2 hst2, hfu2]
    by_cases hx : s2.fcntUp = 0xFFFFFFFF <;> simp [hx]

theorem stepC_uplinkC_notJoined {σ} (g : Rng σ) (m m' : MacState) (rs rs' : σ) (hst : ∀ s, m.st ≠ .joined s)
    (cc : Bool) (data : List Nat) (fport : Nat) (conf : Bool) (fault : Option FaultPos)
    (c1 : List (RxView × Int)) (rx1 : Option (RxView × Int)) (c2 : List (RxView × Int)) (rx2 : Option (RxView × Int)) (out : OutC)
    (h : stepC g (m, rs) (.uplinkC cc data fport conf fault c1 rx1 c2 rx2) = .ok ((m', rs'), out)) :
    m' = m ∧ rs' = rs ∧ out = { out := .notJoined } := by
  unfold stepC at h
  simp only [macSend_notJoined g m hst] at h
  cases Except.pure_eq_ok h
  exact ⟨rfl, rfl, rfl⟩

theorem stepC_base {σ} (g : Rng σ) (ms ms' : MacState × σ) (e : Ev) (out : OutC)
    (h : stepC g ms (.base e) = .ok (ms', out)) : step g ms e = .ok (ms', out.out) ∧ out.heard = [] := by
  simp only [stepC] at h
  obtain ⟨⟨ms1, o⟩, hs, h⟩ := Except.bind_eq_ok h
  cases Except.pure_eq_ok h
  exact ⟨hs, rfl⟩

def jsOut : RxOut := { resp := .joinSuccess, downlink := none }

theorem rxcs_notJoined (m : MacState) (hst : ∀ s, m.st ≠ .joined s) (mp : Nat) (cs : List (RxView × Int)) :
    rxcs m mp cs = .ok ([], true, m) := by
  induction cs with
  | nil => rfl
  | cons c rest ih =>
    obtain ⟨v, snr⟩ := c
    unfold rxcs
    rw [macHandleRxc_notJoined m hst v mp snr]
    simp only [bind, Except.bind, pure, Except.pure]
    exact ih

theorem between_notJoined (cc : Bool) (m : MacState) (hst : ∀ s, m.st ≠ .joined s) (cs : List (RxView × Int))
    (os : List RxOut) (fin : Bool) (m1 : MacState) (h : between cc m cs = .ok (os, fin, m1)) :
    os = [] ∧ m1 = m ∧ fin = true := by
  rcases between_ok h with ⟨_, e⟩ | ⟨_, rf, _, h⟩
  · cases e; exact ⟨rfl, rfl, rfl⟩
  · rw [rxcs_notJoined m hst] at h
    cases h; exact ⟨rfl, rfl, rfl⟩

theorem between_notJoined_eq (cc : Bool) (m : MacState) (hst : ∀ s, m.st ≠ .joined s) (cs cs' : List (RxView × Int)) :
    between cc m cs = between cc m cs' := by
  unfold between
  cases cc with
  | false => rfl
  | true => simp only [if_true, rxcs_notJoined m hst]

theorem winC_otaa (cc : Bool) (m : MacState) (o : OtaaState) (hst : m.st = .otaa o) (cs : List (RxView × Int))
    (f : Option (RxView × Int)) (mp : Nat) (eb ea : Bool) (r : Option (Option RxOut)) (os : List RxOut) (m' : MacState)
    (h : winC cc m cs f mp eb ea = .ok (r, os, m')) :
    if eb = true then r = none ∧ os = [] ∧ m' = m
    else match joinAcc f with
      | some j => otaaAccept m j = .ok m' ∧ r = (if ea then none else some (some jsOut)) ∧ os = [jsOut]
      | none => m' = m ∧ r = (if ea then none else some none) ∧ os = [] := by
  obtain ⟨os1, fin, m1, hb, hk⟩ := winC_ok h
  clear h
  obtain ⟨rfl, rfl, rfl⟩ := between_notJoined cc m (fun s hs => by rw [hst] at hs; cases hs) cs os1 fin m1 hb
  cases eb with
  | true =>
    obtain ⟨_, rfl, rfl, rfl⟩ | ⟨hc, _⟩ := hk
    · exact ⟨rfl, rfl, rfl⟩
    · cases hc
  | false =>
    obtain ⟨hc, _⟩ | ⟨_, wo, hw, rfl, rfl⟩ := hk
    · cases hc
    simp only [Bool.false_eq_true, if_false]
    rw [window_otaa m1 o hst f mp] at hw
    cases hj : joinAcc f with
    | some j =>
      simp only [hj] at hw ⊢
      obtain ⟨m3, hacc, hw⟩ := Except.bind_pure_eq_ok hw
      cases hw
      exact ⟨hacc, rfl, rfl⟩
    | none =>
      simp only [hj] at hw ⊢
      cases Except.pure_eq_ok hw
      exact ⟨rfl, rfl, rfl⟩

/-- **the fault position, in the terms of `Model/History.lean`, of a join procedure of the async
front-end**: the number of windows served before a radio fault cut it; `none` if it ran to its end (or
RX1 produced the response before the fault was reached) -/
def joinFaultC (fault : Option FaultPos) (rx1 : Option (RxView × Int)) : Option Nat :=
  if fault = some .tx then some 0
  else if fault = some .before1 then some 0
  else if fault = some .close1 then some 1
  else if (joinAcc rx1).isSome then none
  else if fault = some .before2 then some 1
  else if fault = some .close2 then some 2
  else none

theorem cycleC_otaa (cc : Bool) (m : MacState) (o : OtaaState) (hst : m.st = .otaa o) (fault : Option FaultPos)
    (c1 : List (RxView × Int)) (rx1 : Option (RxView × Int)) (c2 : List (RxView × Int)) (rx2 : Option (RxView × Int))
    (mp1 mp2 : Nat) (fin : ProcEnd) (heard : List RxOut) (m' : MacState)
    (h : cycleC cc m fault c1 rx1 c2 rx2 mp1 mp2 = .ok (fin, heard, m')) :
    (match joinRes (joinFaultC fault rx1) rx1 rx2 with
     | some j => otaaAccept m j = .ok m' ∧ heard = [jsOut]
     | none => m' = m ∧ heard = []) ∧
    fin = (if (joinFaultC fault rx1).isSome then .cut
           else match joinRes (joinFaultC fault rx1) rx1 rx2 with
             | some _ => .resp jsOut
             | none => .complete) := by
  unfold cycleC at h
  unfold joinFaultC
  by_cases htx : fault = some .tx
  · simp only [htx, if_true] at h ⊢
    cases Except.pure_eq_ok h
    exact ⟨⟨rfl, rfl⟩, rfl⟩
  simp only [htx, if_false] at h ⊢
  obtain ⟨⟨r1, h1, ma⟩, hw1, hk⟩ := Except.bind_eq_ok h
  clear h
  have hw := winC_otaa cc m o hst c1 rx1 mp1 _ _ r1 h1 ma hw1
  by_cases hb1 : fault = some .before1
  · simp only [hb1, beq_self_eq_true, if_true] at hw ⊢
    obtain ⟨rfl, rfl, rfl⟩ := hw
    cases Except.pure_eq_ok hk
    exact ⟨⟨rfl, rfl⟩, rfl⟩
  simp only [hb1, beq_iff_eq, if_false] at hw ⊢
  by_cases hc1 : fault = some .close1
  · -- RX1 was served, then the fault: its JoinAccept, if any, has been taken
    simp only [hc1, if_true] at hw ⊢
    cases hj : joinAcc rx1
    all_goals
      simp only [hj] at hw
      obtain ⟨hacc, rfl, rfl⟩ := hw
      cases Except.pure_eq_ok hk
      simp [joinRes, specJoinFaulted, hj, hacc]
  simp only [hc1, if_false] at hw ⊢
  cases hj : joinAcc rx1 with
  | some j =>
    simp only [hj] at hw
    obtain ⟨hacc, rfl, rfl⟩ := hw
    cases Except.pure_eq_ok hk
    simp [joinRes, specJoin, hj, hacc]
  | none =>
    simp only [hj] at hw
    obtain ⟨rfl, rfl, rfl⟩ := hw
    simp only [Option.isSome_none, Bool.false_eq_true, if_false] at hk ⊢
    obtain ⟨⟨r2, h2, mb⟩, hw2, hk2⟩ := Except.bind_eq_ok hk
    clear hk
    have hw' := winC_otaa cc ma o hst c2 rx2 mp2 _ _ r2 h2 mb hw2
    by_cases hb2 : fault = some .before2
    · simp only [hb2, beq_self_eq_true, if_true] at hw' ⊢
      obtain ⟨rfl, rfl, rfl⟩ := hw'
      cases Except.pure_eq_ok hk2
      simp [joinRes, specJoinFaulted, hj]
    simp only [hb2, beq_iff_eq, if_false] at hw' ⊢
    by_cases hc2 : fault = some .close2
    · simp only [hc2, if_true] at hw' ⊢
      cases hj2 : joinAcc rx2
      all_goals
        simp only [hj2] at hw'
        obtain ⟨hacc, rfl, rfl⟩ := hw'
        cases Except.pure_eq_ok hk2
        simp [joinRes, specJoinFaulted, specJoin, hj, hj2, hacc]
    · simp only [hc2, if_false] at hw' ⊢
      cases hj2 : joinAcc rx2
      all_goals
        simp only [hj2] at hw'
        obtain ⟨hacc, rfl, rfl⟩ := hw'
        cases Except.pure_eq_ok hk2
        simp [joinRes, specJoin, hj, hj2, hacc]

/-- the plain event a join procedure of the async front-end amounts to.  The payload limits are `0 0`: a joining device
never reads them (`window_otaa`) -/
def joinPlain (fault : Option FaultPos) (rx1 rx2 : Option (RxView × Int)) : Ev :=
  .joinOtaa (joinFaultC fault rx1) rx1 rx2 0 0

theorem evOk_joinPlain {cc : Bool} {fault : Option FaultPos} {c1 c2 : List (RxView × Int)} {rx1 rx2 : Option (RxView × Int)}
    (h : evOkC (.joinC cc fault c1 rx1 c2 rx2) = true) : evOk (joinPlain fault rx1 rx2) = true := by
  simp only [evOkC, Bool.and_eq_true] at h
  simp only [joinPlain, evOk, Bool.and_eq_true]
  exact ⟨h.1.1.2, h.2⟩

theorem validEv_joinPlain {r : RegionId} {cc : Bool} {fault : Option FaultPos} {c1 c2 : List (RxView × Int)}
    {rx1 rx2 : Option (RxView × Int)} (h : validEvC r (.joinC cc fault c1 rx1 c2 rx2) = true) :
    validEv r (joinPlain fault rx1 rx2) = true := by
  simp only [validEvC, Bool.and_eq_true] at h
  simp only [joinPlain, validEv, Bool.and_eq_true]
  exact ⟨h.1.1.2, h.2⟩

/-- **`join` + receive procedure of the async front-end (both classes) IS the plain `joinOtaa` with
the fault position `joinFaultC`**: same state, same generator state, same output; every frame handled
reported `JoinSuccess` or nothing -/
theorem stepC_joinC_plain {σ} (g : Rng σ) (ms ms' : MacState × σ) (cc : Bool) (fault : Option FaultPos)
    (c1 : List (RxView × Int)) (rx1 : Option (RxView × Int)) (c2 : List (RxView × Int)) (rx2 : Option (RxView × Int)) (oc : OutC)
    (h : stepC g ms (.joinC cc fault c1 rx1 c2 rx2) = .ok (ms', oc)) :
    step g ms (joinPlain fault rx1 rx2) = .ok (ms', oc.out) ∧
      oc.heard = (match joinRes (joinFaultC fault rx1) rx1 rx2 with | some _ => [jsOut] | none => []) := by
  obtain ⟨m, s⟩ := ms
  simp only [stepC] at h
  obtain ⟨⟨o, m1, s1⟩, hjoin, h⟩ := Except.bind_eq_ok h
  have hst1 := macJoinOtaa_st hjoin
  obtain ⟨⟨fin, heard, m2⟩, hcy, h⟩ := Except.bind_eq_ok h
  obtain ⟨hres, hfin⟩ := cycleC_otaa cc m1 _ hst1 fault c1 rx1 c2 rx2 _ _ fin heard m2 hcy
  unfold joinPlain step
  simp only [hjoin, bind, Except.bind]
  cases hk : joinFaultC fault rx1 with
  | some k =>
    simp only [hk, Option.isSome_some, if_true, joinRes] at hres hfin ⊢
    subst hfin
    cases Except.pure_eq_ok h
    rw [faultedCycle_otaa m1 _ hst1 k rx1 rx2 0 0]
    cases hj : specJoinFaulted k rx1 rx2 <;> simp only [hj] at hres ⊢
    · obtain ⟨rfl, rfl⟩ := hres
      exact ⟨rfl, rfl⟩
    · simp only [hres.1, hres.2, pure, Except.pure, and_self]
  | none =>
    simp only [hk, Option.isSome_none, Bool.false_eq_true, if_false, joinRes] at hres hfin ⊢
    rw [classACycle_otaa m1 _ hst1 rx1 rx2 0 0]
    cases hj : specJoin rx1 rx2 <;> simp only [hj] at hres hfin ⊢ <;> subst hfin <;> cases Except.pure_eq_ok h
    · obtain ⟨rfl, rfl⟩ := hres
      simp only [macRx2Complete, hst1, pure, Except.pure, and_self]
    · simp only [hres.1, hres.2, bind, Except.bind, pure, Except.pure, jsOut, and_self]

end Model
