import LoraVerif.Lemmas.RefineDefs
import LoraVerif.Lemmas.RxFacts
/-!
# The async front-end refines the (extended) history semantics

`asyncSend` / `asyncJoin` (`Model/Device.lean`, the trace semantics of `async_device::Device::{send,
join}` over a script of radio answers) are simulated by `stepC` on the event `abstractSendC` /
`abstractJoinC` computes from the script: same MAC state, same generator state, same response, same
downlink queue, the frame handed to the radio is the one of the event's output.  Up to one window
(`oneWindow_sim`) the simulation is stated for any predicate `P` on the calls logged (`RunRelP`, `WinCalls`): "no
transmission" for the refinement, the window's own calls for `RefineCalls.lean`.
-/
namespace Model

variable {X : Fault → Prop}

def Call.isTx : Call → Bool
  | .tx _ _ => true
  | _ => false

def CallsSince (P : Call → Prop) (r r' : DevRun) : Prop := ∃ added, r'.calls = added ++ r.calls ∧ ∀ c ∈ added, P c

theorem CallsSince.refl (P : Call → Prop) (r : DevRun) : CallsSince P r r := ⟨[], rfl, by simp⟩

theorem CallsSince.trans {P : Call → Prop} {a b c : DevRun} (h1 : CallsSince P a b) (h2 : CallsSince P b c) : CallsSince P a c := by
  obtain ⟨x, hx, hx'⟩ := h1
  obtain ⟨y, hy, hy'⟩ := h2
  refine ⟨y ++ x, by rw [hy, hx, List.append_assoc], ?_⟩
  intro c hc
  rcases List.mem_append.mp hc with h | h
  · exact hy' c h
  · exact hx' c h

theorem CallsSince.one {P : Call → Prop} {r r' : DevRun} {c : Call} (h : r'.calls = c :: r.calls) (hp : P c) : CallsSince P r r' :=
  ⟨[c], h, by simpa using hp⟩

/-- `r'` is `r` after the frames with outputs `h` were handled, ending in MAC state `m'`, every call logged on the way
satisfying `P`: "no transmission" for the refinement (`RunRel`), `WinCall cfg rf t` for the radio and timer calls of one
window (`oneWindow_calls`), both from ONE walk over the front-end's code -/
structure RunRelP (P : Call → Prop) (r r' : DevRun) (h : List RxOut) (m' : MacState) : Prop where
  m : r'.m = m'
  dls : r'.downlinks = pushDls r.dlCap r.downlinks h
  cap : r'.dlCap = r.dlCap
  calls : CallsSince P r r'

/-- `CallsSince (·.isTx = false)`: the calls logged from `r` to `r'` contain no transmission -/
def NoTxSince (r r' : DevRun) : Prop := ∃ added, r'.calls = added ++ r.calls ∧ ∀ c ∈ added, c.isTx = false

/-- `RunRelP (·.isTx = false)` (`RunRelP.noTx`) -/
structure RunRel (r r' : DevRun) (h : List RxOut) (m' : MacState) : Prop where
  m : r'.m = m'
  dls : r'.downlinks = pushDls r.dlCap r.downlinks h
  cap : r'.dlCap = r.dlCap
  calls : NoTxSince r r'

theorem RunRelP.noTx {r r' : DevRun} {h : List RxOut} {m' : MacState} (x : RunRelP (·.isTx = false) r r' h m') :
    RunRel r r' h m' := ⟨x.m, x.dls, x.cap, x.calls⟩

theorem NoTxSince.trans {a b c : DevRun} (h1 : NoTxSince a b) (h2 : NoTxSince b c) : NoTxSince a c :=
  CallsSince.trans h1 h2

/-- the calls the procedure of one window may log, with its window set-up `setup` and its timer `d`: what `P` must admit
(`WinCall`, `Lemmas/RefineCalls.lean`, is the predicate on ONE call that C10's reading puts for `P`: `winCalls_winCall`) -/
structure WinCalls (P : Call → Prop) (setup : Call) (d : Nat) : Prop where
  lowPower : P .lowPower
  rxSingle : P .rxSingle
  rxContinuous : P .rxContinuous
  setupC : ∀ rfc, P (.setupRx rfc none)
  setup : P setup
  timer : P (.at d)

theorem winCalls_noTx {su : Call} (hsu : su.isTx = false) (d : Nat) : WinCalls (·.isTx = false) su d :=
  ⟨rfl, rfl, rfl, fun _ => rfl, hsu, rfl⟩

variable {P : Call → Prop}

theorem RunRelP.trans {a b c : DevRun} {h1 h2 : List RxOut} {m1 m2 : MacState}
    (r1 : RunRelP P a b h1 m1) (r2 : RunRelP P b c h2 m2) : RunRelP P a c (h1 ++ h2) m2 where
  m := r2.m
  dls := by rw [r2.dls, r1.dls, r1.cap]; unfold pushDls; rw [List.foldl_append]
  cap := by rw [r2.cap, r1.cap]
  calls := r1.calls.trans r2.calls

theorem RunRelP.trans_silent {a b c : DevRun} {h1 : List RxOut} {m1 m2 : MacState}
    (r1 : RunRelP P a b h1 m1) (r2 : RunRelP P b c [] m2) : RunRelP P a c h1 m2 := by
  have := r1.trans r2
  rwa [List.append_nil] at this

theorem RunRelP.silent {r r' : DevRun} (hm : r'.m = r.m) (hd : r'.downlinks = r.downlinks) (hc : r'.dlCap = r.dlCap)
    (hcalls : CallsSince P r r') : RunRelP P r r' [] r.m :=
  ⟨hm, by simpa [pushDls] using hd, hc, hcalls⟩

theorem RunRel.silent {r r' : DevRun} (hm : r'.m = r.m) (hd : r'.downlinks = r.downlinks) (hc : r'.dlCap = r.dlCap)
    (hcalls : NoTxSince r r') : RunRel r r' [] r.m :=
  (RunRelP.silent hm hd hc hcalls).noTx

theorem deliver_some (r : DevRun) (o : RxOut) :
    r.deliver (some o) = { r with downlinks := pushDl r.dlCap r.downlinks o } := by
  cases hd : o.downlink with
  | none => simp [DevRun.deliver, pushDl, hd]
  | some d => by_cases h : r.downlinks.length < r.dlCap <;> simp [DevRun.deliver, pushDl, hd, h]

theorem deliver_fields (r : DevRun) (o : Option RxOut) :
    (r.deliver o).m = r.m ∧ (r.deliver o).script = r.script ∧ (r.deliver o).calls = r.calls ∧ (r.deliver o).dlCap = r.dlCap := by
  cases o with
  | none => exact ⟨rfl, rfl, rfl, rfl⟩
  | some o => rw [deliver_some]; exact ⟨rfl, rfl, rfl, rfl⟩

/-- a radio call, in terms of `nextItem` -/
def afterCall (r : DevRun) (c : Call) : DevRun := { r with script := (nextItem r.script).2, calls := c :: r.calls }

theorem next_log (r : DevRun) (c : Call) : (r.log c).next = ((nextItem r.script).1, afterCall r c) := by
  unfold DevRun.next DevRun.log afterCall
  cases r.script <;> rfl

theorem simpleCall_eq (r : DevRun) (c : Call) :
    r.simpleCall c = if (nextItem r.script).1.isErr then .radioErr (afterCall r c) else .cont () (afterCall r c) := by
  unfold DevRun.simpleCall
  rw [next_log]
  cases (nextItem r.script).1 <;> rfl

theorem afterCall_rel (r : DevRun) (c : Call) (hc : P c) : RunRelP P r (afterCall r c) [] r.m :=
  ⟨rfl, by simp [pushDls, afterCall], rfl, CallsSince.one rfl hc⟩

theorem leadFrames_none {s : List ScriptItem} (h : (nextItem s).1.frame? = none) : leadFrames s = ([], (nextItem s).2) := by
  cases s with
  | nil => rfl
  | cons i rest => cases i <;> first | rfl | cases h

theorem leadFrames_some {s : List ScriptItem} {f : RxView × Int} (h : (nextItem s).1.frame? = some f) :
    leadFrames s = (f :: (leadFrames (nextItem s).2).1, (leadFrames (nextItem s).2).2) := by
  cases s with
  | nil => cases h
  | cons i rest => cases i <;> first | (cases h; rfl) | cases h

theorem rxcLoop_none {mp d fuel : Nat} {r : DevRun} (h : (nextItem r.script).1.frame? = none) :
    rxcLoop mp d (fuel + 1) r = pure (.cont () ((afterCall r .rxContinuous).log (.at d))) := by
  rw [rxcLoop, next_log]
  cases hi : (nextItem r.script).1 <;> first | rfl | (rw [hi] at h; cases h)

theorem rxcLoop_some {mp d fuel : Nat} {r : DevRun} {v : RxView} {snr : Int} (h : (nextItem r.script).1.frame? = some (v, snr)) :
    rxcLoop mp d (fuel + 1) r =
      (macHandleRx r.m v mp snr true >>= fun om => rxcLoop mp d fuel (({ afterCall r .rxContinuous with m := om.2 }).deliver om.1)) := by
  rw [rxcLoop, next_log]
  cases hi : (nextItem r.script).1 <;> rw [hi] at h <;> cases h
  rfl

theorem rxcs_cons (m : MacState) (mp : Nat) (v : RxView) (snr : Int) (rest : List (RxView × Int)) :
    rxcs m mp ((v, snr) :: rest) =
      (macHandleRx m v mp snr true >>= fun om => rxcs om.2 mp rest >>= fun x => pure (om.1.toList ++ x.1, x.2)) := by
  rw [rxcs]
  congr 1; funext om
  obtain ⟨o, m1⟩ := om
  cases o with
  | none => show rxcs m1 mp rest = _; cases rxcs m1 mp rest <;> rfl
  | some o => rfl

theorem deliver_rel (r : DevRun) (c : Call) (hc : P c) (o : Option RxOut) (m : MacState) :
    RunRelP P r (({ afterCall r c with m := m }).deliver o) o.toList m := by
  cases o with
  | none => exact ⟨rfl, by simp [DevRun.deliver, pushDls, afterCall], rfl, CallsSince.one rfl hc⟩
  | some o => rw [deliver_some]; exact ⟨rfl, by simp [pushDls, afterCall], rfl, CallsSince.one rfl hc⟩

def LoopPost (P : Call → Prop) (r : DevRun) (st : Step Unit) (res : List RxOut × Bool × MacState) : Prop :=
  match st with
  | .cont _ r' => res.2.1 = true ∧ RunRelP P r r' res.1 res.2.2 ∧ r'.script = (leadFrames r.script).2
  | .radioErr _ | .macErr _ => False

theorem rxcLoop_sim {su : Call} (hXh : X (.hang "between_windows")) (mp d : Nat) (hw : WinCalls P su d) (fuel : Nat) (r : DevRun) :
    SimX X (rxcLoop mp d fuel r) (rxcs r.m mp (leadFrames r.script).1) (LoopPost P r) := by
  induction fuel generalizing r with
  | zero => exact Or.inl hXh
  | succ fuel ih =>
    cases hf : (nextItem r.script).1.frame? with
    | none =>
      rw [rxcLoop_none hf, leadFrames_none hf]
      exact SimX.pure ⟨rfl, (afterCall_rel r _ hw.rxContinuous).trans_silent (RunRelP.silent rfl rfl rfl (CallsSince.one rfl hw.timer)),
        by rw [leadFrames_none hf]; rfl⟩
    | some f =>
      obtain ⟨v, snr⟩ := f
      rw [rxcLoop_some hf, leadFrames_some hf, rxcs_cons]
      refine SimX.same _ (fun om _ => ?_)
      suffices key : ∀ r2, RunRelP P r r2 om.1.toList om.2 → r2.script = (nextItem r.script).2 →
          SimX X (rxcLoop mp d fuel r2)
            (rxcs om.2 mp (leadFrames (nextItem r.script).2).1 >>= fun x => pure (om.1.toList ++ x.1, x.2)) (LoopPost P r) from
        key _ (deliver_rel r .rxContinuous hw.rxContinuous om.1 om.2) (deliver_fields _ _).2.1
      intro r2 hr2 hscr
      have hi := ih r2
      rw [hr2.m, hscr] at hi
      refine hi.map_right ?_
      intro st res hp
      cases st with
      | cont u r' => exact ⟨hp.1, hr2.trans hp.2.1, by rw [hp.2.2, hscr, leadFrames_some hf]⟩
      | radioErr r' | macErr r' => exact hp.elim

def BetweenPost (P : Call → Prop) (cc : Bool) (r : DevRun) (st : Step Unit) (res : List RxOut × Bool × MacState) : Prop :=
  match st with
  | .cont _ r' => (parseBetween cc r.script).1 = false ∧ res.2.1 = true ∧ RunRelP P r r' res.1 res.2.2 ∧
      r'.script = (parseBetween cc r.script).2.2
  | .radioErr r' => (parseBetween cc r.script).1 = true ∧ RunRelP P r r' res.1 res.2.2
  | .macErr _ => False

theorem parseBetween_err {cc : Bool} {s : List ScriptItem} (he : (nextItem s).1.isErr = true) :
    parseBetween cc s = (true, [], (nextItem s).2) := by simp [parseBetween, he]

theorem parseBetween_c {s : List ScriptItem} (he : ¬ (nextItem s).1.isErr = true) :
    parseBetween true s = (false, leadFrames (nextItem s).2) := by simp [parseBetween, he]

theorem parseBetween_a {s : List ScriptItem} (he : ¬ (nextItem s).1.isErr = true) :
    parseBetween false s = (false, [], (nextItem s).2) := by simp [parseBetween, he]

theorem betweenWindows_sim {su : Call} (hXh : X (.hang "between_windows")) (cfg : DevCfg) (d : Nat) (hw : WinCalls P su d) (r : DevRun) :
    SimX X (betweenWindows cfg d r) (between cfg.classC r.m (parseBetween cfg.classC r.script).2.1)
      (BetweenPost P cfg.classC r) := by
  unfold betweenWindows between
  cases hcc : cfg.classC with
  | true =>
    simp only [if_true]
    refine SimX.same _ (fun rf _ => ?_)
    rw [simpleCall_eq]
    by_cases he : (nextItem r.script).1.isErr = true
    · simp only [he, if_true, parseBetween_err he, rxcs]
      refine SimX.pure ?_
      simp only [BetweenPost, parseBetween_err he]
      exact ⟨trivial, afterCall_rel r _ (hw.setupC _)⟩
    · simp only [he, Bool.false_eq_true, if_false, parseBetween_c he]
      refine (rxcLoop_sim hXh _ _ hw _ (afterCall r _)).mono ?_
      intro st res hp
      cases st with
      | cont u r' =>
        obtain ⟨h1, h2, h3⟩ := hp
        simp only [BetweenPost, parseBetween_c he]
        exact ⟨trivial, h1, (afterCall_rel r _ (hw.setupC _)).trans h2, h3⟩
      | radioErr r' | macErr r' => exact hp.elim
  | false =>
    simp only [Bool.false_eq_true, if_false]
    rw [simpleCall_eq]
    by_cases he : (nextItem r.script).1.isErr = true
    · simp only [he, if_true]
      refine SimX.pure ?_
      simp only [BetweenPost, parseBetween_err he]
      exact ⟨trivial, afterCall_rel r _ hw.lowPower⟩
    · simp only [he, Bool.false_eq_true, if_false]
      refine SimX.pure ?_
      simp only [BetweenPost, parseBetween_a he]
      refine ⟨trivial, trivial, ?_, rfl⟩
      exact (afterCall_rel r .lowPower hw.lowPower).trans (RunRelP.silent rfl rfl rfl (CallsSince.one rfl hw.timer))

theorem window_some (m : MacState) (v : RxView) (snr : Int) (mp : Nat) :
    window m (some (v, snr)) mp = (macHandleRx m v mp snr false >>= fun om => pure (swallow om.1, om.2)) := by
  unfold window swallow
  simp only
  congr 1
  funext om
  obtain ⟨o, m'⟩ := om
  cases o with
  | none => rfl
  | some o => by_cases h : (o.resp == .noUpdate) = true <;> simp [h]

theorem windowComplete_sim {su : Call} {d : Nat} (hw : WinCalls P su d) (cfg : DevCfg) (r : DevRun) :
    SimX X (windowComplete cfg r) (closeWindow cfg.classC r.m)
      (fun st _ => ∃ c : Call, P c ∧
        st = if (nextItem r.script).1.isErr then .radioErr (afterCall r c) else .cont () (afterCall r c)) := by
  unfold windowComplete closeWindow
  cases cfg.classC with
  | true =>
    simp only [if_true]
    refine SimX.same _ (fun rf _ => ?_)
    exact SimX.pure ⟨_, hw.setupC _, simpleCall_eq r _⟩
  | false =>
    simp only [Bool.false_eq_true, if_false]
    exact SimX.pure ⟨_, hw.lowPower, simpleCall_eq r _⟩

/-- the listening part of a window at the MAC level, by the answers to `rx_single` and to the call
of `window_complete` -/
def listenC (cc : Bool) (m : MacState) (i i' : ScriptItem) (mp : Nat) : M (Option (Option RxOut) × List RxOut × MacState) :=
  if i.isErr then pure (none, [], m) else do
    let om ← window m i.frame? mp
    closeWindow cc om.2
    if i'.isErr then pure (none, om.1.toList, om.2) else pure (some om.1, om.1.toList, om.2)

def ListenPost (P : Call → Prop) (r : DevRun) (st : Step (Option RxOut)) (res : Option (Option RxOut) × List RxOut × MacState) : Prop :=
  match st with
  | .cont o r' => res.1 = some o ∧ RunRelP P r r' res.2.1 res.2.2 ∧ r'.script = (nextItem (nextItem r.script).2).2
  | .radioErr r' => res.1 = none ∧ RunRelP P r r' res.2.1 res.2.2
  | .macErr _ => False

theorem deliver_swallow (r : DevRun) (o : Option RxOut) (m : MacState)
    (hdl : ∀ o', o = some o' → o'.resp = .noUpdate → o'.downlink = none) :
    RunRelP P r (({ r with m := m }).deliver o) (swallow o).toList m := by
  cases o with
  | none => exact ⟨rfl, by simp [DevRun.deliver, swallow, pushDls], rfl, CallsSince.refl _ _⟩
  | some o =>
    rw [deliver_some]
    refine ⟨rfl, ?_, rfl, CallsSince.refl _ _⟩
    by_cases hn : (o.resp == .noUpdate) = true
    · have hd := hdl o rfl (by simpa using hn)
      simp [swallow, hn, pushDls, pushDl, hd]
    · simp [swallow, hn, pushDls]

theorem rxListen_sim {su : Call} {d : Nat} (hw : WinCalls P su d) (cfg : DevCfg) (rf : RfConfig) (r : DevRun) :
    SimX X (rxListen cfg rf r)
      (listenC cfg.classC r.m (nextItem r.script).1 (nextItem (nextItem r.script).2).1 rf.maxPayload.toNat) (ListenPost P r) := by
  have hlog : RunRelP P r (afterCall r .rxSingle) [] r.m := afterCall_rel r _ hw.rxSingle
  -- what follows the handling of the window's frame: `window_complete`
  have tail : ∀ (r2 : DevRun) (o : Option RxOut) (h : List RxOut), RunRelP P r r2 h r2.m →
      r2.script = (nextItem r.script).2 →
      SimX X (windowComplete cfg r2 >>= fun st => match st with
            | .cont _ r => pure (.cont o r)
            | .radioErr r => pure (.radioErr r)
            | .macErr r => pure (.macErr r))
        (closeWindow cfg.classC r2.m >>= fun _ =>
          if (nextItem (nextItem r.script).2).1.isErr then pure (none, h, r2.m) else pure (some o, h, r2.m))
        (ListenPost P r) := by
    intro r2 o h hrel hscr
    refine SimX.bind (windowComplete_sim hw cfg r2) ?_
    intro st _ ⟨c, hc, hst⟩
    subst hst
    rw [hscr]
    by_cases he : (nextItem (nextItem r.script).2).1.isErr = true
    · simp only [he, if_true]
      exact SimX.pure ⟨rfl, by simpa using hrel.trans (afterCall_rel r2 c hc)⟩
    · simp only [he, Bool.false_eq_true, if_false]
      exact SimX.pure ⟨rfl, by simpa using hrel.trans (afterCall_rel r2 c hc), by simp [afterCall, hscr]⟩
  unfold rxListen listenC
  rw [next_log]
  cases hi : (nextItem r.script).1 with
  | err => exact SimX.pure ⟨rfl, hlog⟩
  | ok =>
    simp only [ScriptItem.isErr, ScriptItem.frame?, Bool.false_eq_true, if_false, window, pure_bind]
    exact tail (afterCall r .rxSingle) none [] hlog rfl
  | frame snr v =>
    simp only [ScriptItem.isErr, ScriptItem.frame?, Bool.false_eq_true, if_false, window_some, bind_assoc, pure_bind]
    refine SimX.same _ (fun om hom => ?_)
    obtain ⟨o, m⟩ := om
    have hdl : ∀ o', o = some o' → o'.resp = .noUpdate → o'.downlink = none := by
      intro o' e hn; subst e
      exact macHandleRx_noUpdate_dl _ _ _ _ _ _ _ hom hn
    have hr2 := hlog.trans (deliver_swallow (afterCall r .rxSingle) o m hdl)
    have hm2 := (deliver_fields ({ afterCall r .rxSingle with m := m }) o).1
    have := tail (({ afterCall r .rxSingle with m := m }).deliver o) (swallow o) _ (by rw [hm2]; exact hr2)
      (deliver_fields _ _).2.1
    rwa [hm2] at this

def WinPost (P : Call → Prop) (cc : Bool) (r : DevRun) (st : Step (Option RxOut)) (res : Option (Option RxOut) × List RxOut × MacState) : Prop :=
  match st with
  | .cont o r' => res.1 = some o ∧ RunRelP P r r' res.2.1 res.2.2 ∧ r'.script = (parseWin cc r.script).2
  | .radioErr r' => res.1 = none ∧ RunRelP P r r' res.2.1 res.2.2
  | .macErr _ => False

theorem startDelay_extra (delay txMs lead : Nat) (e : Fault) (h : startDelay delay txMs lead = .error e) : Extra e := by
  unfold startDelay at h
  split at h
  · cases h; exact Or.inl rfl
  · split at h
    · cases h; exact Or.inr rfl
    · cases h

theorem listenC_tail (cc : Bool) (m1 : MacState) (i2 i3 : ScriptItem) (mp : Nat) (os : List RxOut)
    (h2 : i2.isErr = false) :
    (do let om ← window m1 i2.frame? mp
        closeWindow cc om.2
        if i3.isErr then pure (none, os ++ om.1.toList, om.2) else pure (some om.1, os ++ om.1.toList, om.2)) =
      (listenC cc m1 i2 i3 mp >>= fun x => pure (x.1, os ++ x.2.1, x.2.2)) := by
  unfold listenC
  simp only [h2, Bool.false_eq_true, if_false, bind_assoc]
  congr 1; funext om
  congr 1; funext _
  by_cases h3 : i3.isErr = true <;> simp [h3]

theorem oneWindow_sim (hXh : X (.hang "between_windows")) (cfg : DevCfg) (join second : Bool) (rf : RfConfig) (r : DevRun)
    (hXd : ∀ e, startDelay (macRxDelay r.m join second) cfg.txMs cfg.lead = .error e → X e)
    (hwc : ∀ d, startDelay (macRxDelay r.m join second) cfg.txMs cfg.lead = .ok d → WinCalls P (.setupRx rf (some cfg.buffer)) d) :
    SimX X (oneWindow cfg join second rf r)
      (winC cfg.classC r.m (parseWin cfg.classC r.script).1.cs (parseWin cfg.classC r.script).1.f rf.maxPayload.toNat
        (parseWin cfg.classC r.script).1.errBefore (parseWin cfg.classC r.script).1.errAfter)
      (WinPost P cfg.classC r) := by
  have hcs : (parseWin cfg.classC r.script).1.cs = (parseBetween cfg.classC r.script).2.1 := by
    unfold parseWin parseListen
    by_cases h : (parseBetween cfg.classC r.script).1 = true
    · simp only [h, if_true]
      unfold parseBetween at h ⊢
      by_cases he : (nextItem r.script).1.isErr = true
      · simp [he]
      · cases hcc : cfg.classC <;> simp [he, hcc] at h
    · simp only [h, Bool.false_eq_true, if_false]
      split <;> (try split) <;> rfl
  unfold oneWindow winC
  refine SimX.extra hXd (fun d hd => ?_)
  rw [hcs]
  refine SimX.bind (betweenWindows_sim hXh cfg d (hwc d hd) r) ?_
  intro st res hp
  obtain ⟨os, fin, m1⟩ := res
  cases st with
  | radioErr r1 =>
    obtain ⟨hb, hrel⟩ := hp
    have hw : (parseWin cfg.classC r.script).1.errBefore = true := by simp [parseWin, hb]
    simp only [hw, Bool.or_true, if_true]
    exact SimX.pure ⟨rfl, hrel⟩
  | macErr r1 => exact hp.elim
  | cont u r1 =>
    obtain ⟨hb, hfin, hrel, hscr⟩ := hp
    simp only at hfin hrel
    have hpw : parseWin cfg.classC r.script = parseListen (parseBetween cfg.classC r.script).2.1 r1.script := by
      simp [parseWin, hb, hscr]
    subst hfin
    have hm1 : r1.m = m1 := hrel.m
    simp only [Bool.not_true, Bool.false_or]
    rw [simpleCall_eq]
    by_cases h1 : (nextItem r1.script).1.isErr = true
    · have hw : (parseWin cfg.classC r.script).1.errBefore = true := by simp [hpw, parseListen, h1]
      simp only [h1, hw, if_true]
      exact SimX.pure ⟨rfl, hm1 ▸ hrel.trans_silent (afterCall_rel r1 _ (hwc d hd).setup)⟩
    · simp only [h1, Bool.false_eq_true, if_false]
      have hsim := rxListen_sim (X := X) (hwc d hd) cfg rf (afterCall r1 (.setupRx rf (some cfg.buffer)))
      by_cases h2 : (nextItem (nextItem r1.script).2).1.isErr = true
      · have hw : (parseWin cfg.classC r.script).1.errBefore = true := by simp [hpw, parseListen, h1, h2]
        simp only [hw, if_true]
        simp only [listenC, afterCall, h2, if_true] at hsim
        refine hsim.of_pure ?_
        intro st hp
        cases st with
        | cont o r' => simp [ListenPost] at hp
        | macErr r' => exact hp.elim
        | radioErr r' =>
          obtain ⟨_, hp⟩ := hp
          exact ⟨rfl, hm1 ▸ (hrel.trans_silent (afterCall_rel r1 _ (hwc d hd).setup)).trans_silent hp⟩
      · have hpl : parseWin cfg.classC r.script =
            (⟨(parseBetween cfg.classC r.script).2.1, false, (nextItem (nextItem r1.script).2).1.frame?,
              (nextItem (nextItem (nextItem r1.script).2).2).1.isErr⟩, (nextItem (nextItem (nextItem r1.script).2).2).2) := by
          simp [hpw, parseListen, h1, h2]
        simp only [hpl, Bool.false_eq_true, if_false]
        rw [listenC_tail _ _ _ _ _ _ (by simpa using h2)]
        rw [← hm1]
        refine hsim.map_right ?_
        intro st res hp
        cases st with
        | cont o r' =>
          obtain ⟨h1', h2', h3'⟩ := hp
          exact ⟨h1', (hrel.trans_silent (afterCall_rel r1 _ (hwc d hd).setup)).trans h2', by rw [h3', hpl]; rfl⟩
        | macErr r' => exact hp.elim
        | radioErr r' =>
          obtain ⟨h1', h2'⟩ := hp
          exact ⟨h1', (hrel.trans_silent (afterCall_rel r1 _ (hwc d hd).setup)).trans h2'⟩

theorem winC_errBefore (cc : Bool) (m : MacState) (cs : List (RxView × Int)) (f : Option (RxView × Int)) (mp : Nat)
    (ea ea' : Bool) : winC cc m cs f mp true ea = winC cc m cs f mp true ea' := by
  unfold winC
  simp

theorem winC_some (cc : Bool) (m : MacState) (cs : List (RxView × Int)) (f : Option (RxView × Int)) (mp : Nat)
    (eb ea : Bool) (o : Option RxOut) (h : List RxOut) (m' : MacState)
    (hw : winC cc m cs f mp eb ea = .ok (some o, h, m')) : eb = false ∧ ea = false := by
  obtain ⟨os, fin, m1, _, ⟨_, e, _⟩ | ⟨hc, o1, _, e, _⟩⟩ := winC_ok hw
  · cases e
  · cases ea
    · exact ⟨(Bool.or_eq_false_iff.mp hc).2, rfl⟩
    · cases e

theorem faultOf_ne_tx (w1 w2 : WinAbs) : faultOf w1 w2 ≠ some .tx := by
  unfold faultOf
  repeat' split
  all_goals simp

theorem winC_fault1 (cc : Bool) (m : MacState) (mp : Nat) (w1 w2 : WinAbs) :
    winC cc m w1.cs w1.f mp (faultOf w1 w2 == some .before1) (faultOf w1 w2 == some .close1) =
      winC cc m w1.cs w1.f mp w1.errBefore w1.errAfter := by
  cases hb : w1.errBefore with
  | true =>
    have : faultOf w1 w2 = some .before1 := by simp [faultOf, hb]
    rw [this]
    exact winC_errBefore _ _ _ _ _ _ _
  | false =>
    cases ha : w1.errAfter with
    | true =>
      have : faultOf w1 w2 = some .close1 := by simp [faultOf, hb, ha]
      rw [this]; rfl
    | false =>
      have h1 : (faultOf w1 w2 == some .before1) = false := by
        cases hb2 : w2.errBefore <;> cases ha2 : w2.errAfter <;> simp [faultOf, hb, ha, hb2, ha2]
      have h2 : (faultOf w1 w2 == some .close1) = false := by
        cases hb2 : w2.errBefore <;> cases ha2 : w2.errAfter <;> simp [faultOf, hb, ha, hb2, ha2]
      rw [h1, h2]

theorem winC_fault2 (cc : Bool) (m : MacState) (mp : Nat) (w1 w2 : WinAbs) (hb1 : w1.errBefore = false)
    (ha1 : w1.errAfter = false) :
    winC cc m w2.cs w2.f mp (faultOf w1 w2 == some .before2) (faultOf w1 w2 == some .close2) =
      winC cc m w2.cs w2.f mp w2.errBefore w2.errAfter := by
  cases hb : w2.errBefore with
  | true =>
    have : faultOf w1 w2 = some .before2 := by simp [faultOf, hb, hb1, ha1]
    rw [this]
    exact winC_errBefore _ _ _ _ _ _ _
  | false =>
    cases ha : w2.errAfter with
    | true =>
      have : faultOf w1 w2 = some .close2 := by simp [faultOf, hb, ha, hb1, ha1]
      rw [this]; rfl
    | false =>
      have : faultOf w1 w2 = none := by simp [faultOf, hb, ha, hb1, ha1]
      rw [this]; rfl

/-- how `rx_downlink` ends, against the MAC-level procedure: a response of a window, the completion
(`rx2_complete`, which the front-end performs itself), or an error -/
def ProcPost (r : DevRun) (st : Step Response) (res : ProcEnd × List RxOut × MacState) : Prop :=
  match st with
  | .cont resp r' =>
    (∃ o, res.1 = .resp o ∧ resp = o.resp ∧ RunRel r r' res.2.1 res.2.2) ∨
    (res.1 = .complete ∧ resp = (macRx2Complete res.2.2).1 ∧ RunRel r r' res.2.1 (macRx2Complete res.2.2).2)
  | .radioErr r' => res.1 = .cut ∧ RunRel r r' res.2.1 res.2.2
  | .macErr _ => False

theorem rxDownlink_sim (hXh : X (.hang "between_windows")) (cfg : DevCfg) (join : Bool) (tx : TxOut) (r : DevRun)
    (hXd : ∀ second e, startDelay (macRxDelay r.m join second) cfg.txMs cfg.lead = .error e → X e) :
    SimX X (rxDownlink cfg join tx r)
      (cycleC cfg.classC r.m
        (faultOf (parseWin cfg.classC r.script).1 (parseWin cfg.classC (parseWin cfg.classC r.script).2).1)
        (parseWin cfg.classC r.script).1.cs (parseWin cfg.classC r.script).1.f
        (parseWin cfg.classC (parseWin cfg.classC r.script).2).1.cs (parseWin cfg.classC (parseWin cfg.classC r.script).2).1.f
        tx.rx1.maxPayload.toNat tx.rx2.maxPayload.toNat)
      (ProcPost r) := by
  unfold rxDownlink cycleC
  simp only [faultOf_ne_tx, if_false]
  rw [winC_fault1]
  refine SimX.bind_eq (oneWindow_sim (P := (·.isTx = false)) hXh cfg join false tx.rx1 r (hXd false)
    fun d _ => winCalls_noTx rfl d) ?_
  intro st res _ hres hp
  obtain ⟨r1, h1, m1⟩ := res
  cases st with
  | macErr r' => exact hp.elim
  | radioErr r' =>
    obtain ⟨e, hrel⟩ := hp
    simp only at e hrel
    subst e
    exact SimX.pure ⟨rfl, hrel.noTx⟩
  | cont o r' =>
    obtain ⟨e, hrel, hscr⟩ := hp
    simp only at e hrel
    subst e
    obtain ⟨hb1, ha1⟩ := winC_some _ _ _ _ _ _ _ _ _ _ hres
    cases o with
    | some o => exact SimX.pure (Or.inl ⟨o, rfl, rfl, hrel.noTx⟩)
    | none =>
      simp only
      rw [winC_fault2 _ _ _ _ _ hb1 ha1]
      have hm : r'.m = m1 := hrel.m
      rw [← hm, ← hscr]
      have hpar : SameParams r.m r'.m := by rw [hm]; exact winC_none_params _ _ _ _ _ _ _ _ _ hres
      refine SimX.bind (oneWindow_sim hXh cfg join true tx.rx2 r'
        (fun e he => hXd true e (hpar.macRxDelay join true ▸ he)) fun d _ => winCalls_noTx rfl d) ?_
      intro st2 res2 hp2
      obtain ⟨r2, h2, m2⟩ := res2
      cases st2 with
      | macErr r'' => exact hp2.elim
      | radioErr r'' =>
        obtain ⟨e, hrel2⟩ := hp2
        simp only at e hrel2
        subst e
        exact SimX.pure ⟨rfl, (hrel.trans hrel2).noTx⟩
      | cont o2 r'' =>
        obtain ⟨e, hrel2, _⟩ := hp2
        simp only at e hrel2
        subst e
        cases o2 with
        | some o => exact SimX.pure (Or.inl ⟨o, rfl, rfl, (hrel.trans hrel2).noTx⟩)
        | none =>
          refine SimX.pure (Or.inr ⟨rfl, ?_, ?_⟩)
          · simp only; rw [hrel2.m]
          · have := hrel.trans hrel2
            refine ⟨?_, this.dls, this.cap, this.calls⟩
            simp only; rw [hrel2.m]

/-- the response as the history reports it: a radio (or `NotJoined`) error is `none` -/
def DevResult.resp? : DevResult → Option Response
  | .ok r => some r
  | _ => none

/-- the front-end's answer against the event's output -/
def RespRel (res : DevResult) : Out → Prop
  | .notJoined => res = .errMac
  | .up _ resp _ => res.resp? = resp
  | .join _ resp => res.resp? = resp
  | _ => False

/-- the calls logged by the operation against the event's output: exactly one transmission, of the
frame and with the radio configuration of the event's output (none if the MAC refused) -/
def TxRel (r r' : DevRun) : Out → Prop
  | .notJoined => r'.calls = r.calls
  | .up o _ _ => ∃ added, r'.calls = added ++ Call.tx o.tx (frameLen o.frame) :: r.calls ∧ ∀ c ∈ added, c.isTx = false
  | .join o _ => ∃ added, r'.calls = added ++ Call.tx o.tx 23 :: r.calls ∧ ∀ c ∈ added, c.isTx = false
  | _ => False

/-- **what the refinement relates**: MAC state, generator state, the downlink queue (every output
the event lists was offered to it, in order), the response, the transmission -/
structure OpRel {σ} (r : DevRun) (a : DevResult × DevRun × σ) (b : (MacState × σ) × OutC) : Prop where
  m : a.2.1.m = b.1.1
  rng : a.2.2 = b.1.2
  dls : a.2.1.downlinks = pushDls r.dlCap r.downlinks b.2.heard
  cap : a.2.1.dlCap = r.dlCap
  resp : RespRel a.1 b.2.out
  tx : TxRel r a.2.1 b.2.out

theorem respRel_fault (m : MacState) (alt : DevResult) (halt : alt.resp? = none) (o : SendOut) :
    RespRel (if faultExpired m then .ok .sessionExpired else alt)
      (.up o (if faultExpired m then some .sessionExpired else none) none) := by
  by_cases hx : faultExpired m = true
  · simp [RespRel, hx, DevResult.resp?]
  · simp only [RespRel, hx, Bool.false_eq_true, if_false]; exact halt

/-- the receive procedure began after the `tx` call `c` and the timer reset: what its `RunRel` says of
the whole operation -/
theorem RunRel.afterTx {r r' : DevRun} {c : Call} {m m' : MacState} {heard : List RxOut}
    (hrel : RunRel ((afterCall { r with m := m } c).log .reset) r' heard m') :
    r'.m = m' ∧ r'.downlinks = pushDls r.dlCap r.downlinks heard ∧ r'.dlCap = r.dlCap ∧
      ∃ added, r'.calls = added ++ c :: r.calls ∧ ∀ c ∈ added, c.isTx = false := by
  refine ⟨hrel.m, hrel.dls, hrel.cap, ?_⟩
  obtain ⟨added, hc, hn⟩ := hrel.calls
  refine ⟨added ++ [.reset], by rw [hc]; simp [afterCall, DevRun.log], ?_⟩
  intro c hcm
  rcases List.mem_append.mp hcm with h | h
  · exact hn c h
  · simp at h; subst h; rfl

theorem asyncSend_sim {σ} (hXh : X (.hang "between_windows")) (g : Rng σ) (cfg : DevCfg) (r : DevRun) (data : List Nat)
    (port : Nat) (conf : Bool) (rs : σ)
    (hXd : ∀ second e, startDelay (macRxDelay r.m false second) cfg.txMs cfg.lead = .error e → X e) :
    SimX X (asyncSend g cfg r data port conf rs) (stepC g (r.m, rs) (abstractSendC cfg r.script data port conf)) (OpRel r) := by
  unfold asyncSend abstractSendC
  by_cases he : (nextItem r.script).1.isErr = true
  · simp only [he, if_true, stepC]
    refine SimX.same _ (fun oms _ => ?_)
    obtain ⟨o, m, rs1⟩ := oms
    cases o with
    | none => exact SimX.pure ⟨rfl, rfl, by simp [pushDls], rfl, rfl, rfl⟩
    | some out =>
      simp only [simpleCall_eq, he, if_true, cycleC, pure_bind]
      exact SimX.pure ⟨rfl, rfl, by simp [pushDls, afterCall], rfl, respRel_fault _ _ rfl _, ⟨[], rfl, by simp⟩⟩
  · simp only [he, Bool.false_eq_true, if_false, stepC]
    refine SimX.same _ (fun oms _ => ?_)
    obtain ⟨o, m, rs1⟩ := oms
    cases o with
    | none => exact SimX.pure ⟨rfl, rfl, by simp [pushDls], rfl, rfl, rfl⟩
    | some out =>
      simp only [simpleCall_eq, he, Bool.false_eq_true, if_false]
      rename_i hsend
      have hpar : SameParams r.m m := macSend_params g _ _ _ _ _ _ hsend
      refine SimX.bind (rxDownlink_sim hXh cfg false out.tx ((afterCall { r with m := m } (.tx out.tx (frameLen out.frame))).log .reset)
        (fun second e he => hXd second e (hpar.macRxDelay false second ▸ he))) ?_
      intro st res hp
      obtain ⟨fin, heard, m2⟩ := res
      cases st with
      | cont resp r' =>
        -- a window's response, or `rx2_complete`: the same reading of `ProcPost`
        rcases hp with ⟨o, e, hresp, hrel⟩ | ⟨e, hresp, hrel⟩ <;>
        · simp only at e hresp hrel
          subst e
          obtain ⟨h1, h2, h3, h4⟩ := hrel.afterTx
          exact SimX.pure ⟨h1, rfl, h2, h3, by simp [RespRel, DevResult.resp?, hresp], h4⟩
      | macErr r' => exact hp.elim
      | radioErr r' =>
        obtain ⟨e, hrel⟩ := hp
        simp only at e hrel
        subst e
        obtain ⟨h1, h2, h3, h4⟩ := hrel.afterTx
        subst h1
        exact SimX.pure ⟨rfl, rfl, h2, h3, respRel_fault _ _ rfl _, h4⟩

theorem asyncJoin_sim {σ} (hXh : X (.hang "between_windows")) (g : Rng σ) (cfg : DevCfg) (r : DevRun) (rs : σ)
    (hXd : ∀ second e, startDelay (macRxDelay r.m true second) cfg.txMs cfg.lead = .error e → X e) :
    SimX X (asyncJoin g cfg r rs) (stepC g (r.m, rs) (abstractJoinC cfg r.script)) (OpRel r) := by
  unfold asyncJoin abstractJoinC
  by_cases he : (nextItem r.script).1.isErr = true
  · simp only [he, if_true, stepC]
    refine SimX.same _ (fun oms _ => ?_)
    obtain ⟨out, m, rs1⟩ := oms
    simp only [simpleCall_eq, he, if_true, cycleC, pure_bind]
    exact SimX.pure ⟨rfl, rfl, by simp [pushDls, afterCall], rfl, rfl, ⟨[], rfl, by simp⟩⟩
  · simp only [he, Bool.false_eq_true, if_false, stepC]
    refine SimX.same _ (fun oms _ => ?_)
    obtain ⟨out, m, rs1⟩ := oms
    simp only [simpleCall_eq, he, Bool.false_eq_true, if_false]
    -- the delays of a join are constants (`JOIN_ACCEPT_DELAY1`/`2`), whatever the state
    refine SimX.bind (rxDownlink_sim hXh cfg true out.tx ((afterCall { r with m := m } (.tx out.tx 23)).log .reset)
      (fun second e he => hXd second e (by cases second <;> exact he))) ?_
    intro st res hp
    obtain ⟨fin, heard, m2⟩ := res
    cases st with
    | cont resp r' =>
      -- a window's response, or `rx2_complete`: the same reading of `ProcPost`
      rcases hp with ⟨o, e, hresp, hrel⟩ | ⟨e, hresp, hrel⟩ <;>
      · simp only at e hresp hrel
        subst e
        obtain ⟨h1, h2, h3, h4⟩ := hrel.afterTx
        exact SimX.pure ⟨h1, rfl, h2, h3, by simp [RespRel, DevResult.resp?, hresp], h4⟩
    | macErr r' => exact hp.elim
    | radioErr r' =>
      obtain ⟨e, hrel⟩ := hp
      simp only at e hrel
      subst e
      obtain ⟨h1, h2, h3, h4⟩ := hrel.afterTx
      exact SimX.pure ⟨h1, rfl, h2, h3, rfl, h4⟩

theorem extra_hang : Extra (.hang "between_windows") := rfl

/-- with `Extra` for `X`: no assumption on the board's timing constants -/
theorem asyncSend_simE {σ} (g : Rng σ) (cfg : DevCfg) (r : DevRun) (data : List Nat) (port : Nat) (conf : Bool) (rs : σ) :
    SimX Extra (asyncSend g cfg r data port conf rs) (stepC g (r.m, rs) (abstractSendC cfg r.script data port conf)) (OpRel r) :=
  asyncSend_sim extra_hang g cfg r data port conf rs (fun _ e he => startDelay_extra _ _ _ e he)

theorem asyncJoin_simE {σ} (g : Rng σ) (cfg : DevCfg) (r : DevRun) (rs : σ) :
    SimX Extra (asyncJoin g cfg r rs) (stepC g (r.m, rs) (abstractJoinC cfg r.script)) (OpRel r) :=
  asyncJoin_sim extra_hang g cfg r rs (fun _ e he => startDelay_extra _ _ _ e he)

end Model
