import LoraVerif.Lemmas.CodecLemmas
/-!
# Lemmas for C01: the frame builders write exactly the specification's frames

A builder fills its buffer front to back, so each is rewritten by `copy_next` / `set_next` (`Lemmas/CodecLemmas`) into
"written part ++ rest", piece by piece; what is left is that the pieces are the specification's message (`hdr_eq`,
`ja_fixed`, `ja_msg_eq`), the buffer check in front (`take_bind`) and the MIC behind (`mic_write`).  An optional piece
(the CFList) is a possibly empty one (`cfBytes`), so that the JoinAccept builder is proved on one path.
-/
open Lora.Codec Lora.CodecLemmas

namespace Lora.C01Lemmas

/-- `let out = buf.get_mut(..n).ok_or(Error::BufferTooShort)?` in the shape the `do` block has after
elaboration: what follows sees `n` bytes of which only the number matters.  `[] ++ out`: nothing is
written yet. -/
theorem take_bind (buf res : Bytes) (n m : Nat) (f : Bytes → Outcome Bytes) (hm : m = n)
    (h : ∀ out : Bytes, out.length = n → f ([] ++ out) = .ok res) :
    (if n ≤ buf.length then (pure (buf.take n) : Outcome Bytes) >>= f else .err .bufferTooShort >>= f)
      = Outcome.ofExcept (if buf.length < m then .error .bufferTooShort else .ok res) := by
  subst hm
  by_cases hb : m ≤ buf.length
  · rw [if_pos hb, if_neg (by omega)]
    exact h _ (by simp; omega)
  · rw [if_neg hb, if_pos (by omega)]; rfl

/-- the end of `write_mic` and of `DataFrame::build_into`: the MIC `g` computes of everything before
the last four bytes goes into these -/
theorem mic_write (W R mic : Bytes) (total : Nat) (g : Bytes → Outcome Bytes) (htot : total = W.length + 4)
    (hR : R.length = 4) (hg : g W = .ok mic) (hm : mic.length = 4) :
    (do let off ← usizeSub total 4
        let pre ← slice (W ++ R) 0 off
        let mic ← g pre
        copyFromSlice (W ++ R) off (W ++ R).length mic) = .ok (W ++ mic) := by
  have hu : usizeSub total 4 = .ok W.length := by
    unfold usizeSub; subst htot; simp
  simp only [bind, Outcome.bind, hu]
  rw [slice_prefix W R _ rfl]
  simp only [hg]
  rw [copy_next _ _ _ _ _ rfl (by simp [hR, hm]) (by simp [hR, hm])]
  simp [hR, hm]

theorem writeMic_tail (cr : Crypto) (W R : Bytes) (hR : R.length = 4) :
    writeMic cr (W ++ R) = .ok (W ++ (cr.cipher.cmac cr.key W).toList.take 4) :=
  mic_write W R _ _ (fun pre => .ok (calculateMic cr pre)) (by simp [hR]) hR rfl (by simp)

theorem toSpec_ftype (d : DataFrame) : d.toSpec.ftype = d.frameType := rfl
theorem toSpec_devAddr (d : DataFrame) : d.toSpec.devAddr = d.devAddr.value := rfl
theorem toSpec_fcnt (d : DataFrame) : d.toSpec.fcnt = d.fcnt := rfl

theorem hdr_eq (d : DataFrame) (hfo : d.fOpts.length ≤ 15) :
    [d.mhdr] ++ d.devAddr.toList ++ [d.fctrl] ++ u16ToLe d.fcnt.toUInt16 ++ d.fOpts
      = Spec.mhdrData d.frameType :: Spec.fhdr d.toSpec := by
  rw [mhdr_eq, fctrl_eq d hfo, u16ToLe_fcnt, ← le_devAddr]
  simp [Spec.fhdr, DataFrame.toSpec]

/-- a description's MHDR and DevAddr, octet by octet as `calculateDataMic_spec` and `encryptFrm_crypt` read them -/
theorem hdr_prefix (d : DataFrame) :
    d.mhdr :: d.devAddr.toList = [d.mhdr, d.devAddr[0], d.devAddr[1], d.devAddr[2], d.devAddr[3]] := by
  rw [vec4_toList]

theorem le_devAddr_cells (a : DevAddr) : Spec.le 4 a.value.toNat = [a[0], a[1], a[2], a[3]] :=
  vec4_toList a ▸ le_devAddr a

theorem encrypt_eq (c : Cipher) (key : Key) (d : DataFrame) (W pl post : Bytes) (cursor : Nat)
    (hW : d.mhdr :: d.devAddr.toList <+: W) (hc : cursor = W.length) (hmax : pl.length ≤ 4064) :
    encryptIfNonEmpty ⟨c, key⟩ (W ++ pl ++ post) cursor pl d.fcnt
      = .ok (W ++ Spec.cryptPayload c key (Spec.dirOf d.frameType) d.devAddr.value d.fcnt pl ++ post) := by
  unfold encryptIfNonEmpty
  cases pl with
  | nil => simp [Spec.cryptPayload, Spec.xorBytes]
  | cons x xs =>
    simp only [List.isEmpty_cons, Bool.not_false, if_true]
    exact encryptFrm_crypt c key _ _ _ _ _ _ _ d.fcnt (dir_eq d) (le_devAddr_cells d.devAddr) W _ post _ _
      (hdr_prefix d ▸ hW) hc rfl hmax

theorem dataMic_tail (c : Cipher) (nwk : Key) (d : DataFrame) (W R : Bytes) (total : Nat)
    (hW : d.mhdr :: d.devAddr.toList <+: W) (htot : total = W.length + 4) (hR : R.length = 4) :
    writeDataMic ⟨c, nwk⟩ (W ++ R) total d.fcnt
      = .ok (W ++ Spec.dataMic c nwk (Spec.dirOf d.frameType) d.devAddr.value d.fcnt W) := by
  rw [hdr_prefix] at hW
  obtain ⟨rest, rfl⟩ := hW
  exact mic_write _ R _ total (calculateDataMic ⟨c, nwk⟩ · d.fcnt) htot hR
    (calculateDataMic_spec c nwk _ _ _ _ _ _ _ d.fcnt (dir_eq d) (le_devAddr_cells d.devAddr) rest)
    (by simp [Spec.dataMic])

theorem fhdr_length (s : Spec.DataDesc) : (Spec.fhdr s).length = 7 + s.fopts.length := by
  simp [Spec.fhdr, le_length]; omega

theorem keystream_length (c : Cipher) (k : Key) (dir : UInt8) (a f : UInt32) (n : Nat) :
    (Spec.keystream c k dir a f n).length = 16 * n := flatMap_blocks_length _ n

theorem cryptPayload_length (c : Cipher) (k : Key) (dir : UInt8) (a f : UInt32) (p : Bytes) :
    (Spec.cryptPayload c k dir a f p).length = p.length := by
  simp [Spec.cryptPayload, Spec.xorBytes, keystream_length]; omega

/-- length of the FRMPayload of a description -/
def payloadLen (d : DataFrame) : Nat :=
  match d.payload with
  | .none => 0
  | .data _ _ b => b.length
  | .macCommands b => b.length

theorem dataMsg_length (c : Cipher) (key : Key) (s : Spec.DataDesc) :
    (Spec.dataMsg c key s).length
      = 1 + (7 + s.fopts.length) + (match s.body with | none => 0 | some (_, pld) => 1 + pld.length) := by
  unfold Spec.dataMsg
  cases s.body with
  | none => simp [fhdr_length]; omega
  | some pp => simp [fhdr_length, cryptPayload_length]; omega

/-- model = specification once the payload kind and the key are decided -/
theorem writeFrame_eq (c : Cipher) (d : DataFrame) (buf : Bytes) (nwk : Key)
    (fPort : Option UInt8) (frm : Bytes) (encKey : Key)
    (hfo : d.fOpts.length ≤ 15) (hfrm : frm.length ≤ 4064) (hport : fPort = none → frm = [])
    (hbody : d.toSpec.body = fPort.map (·, frm)) :
    d.writeFrame c buf nwk fPort frm encKey
      = Outcome.ofExcept (
          let msg := Spec.dataMsg c encKey d.toSpec
          if buf.length < msg.length + 4 then .error .bufferTooShort
          else .ok (msg ++ Spec.dataMic c nwk (Spec.dirOf d.toSpec.ftype) d.toSpec.devAddr d.toSpec.fcnt msg)) := by
  unfold DataFrame.writeFrame
  refine take_bind _ _ _ _ _ ?_ fun out hlen => ?_
  · rw [dataMsg_length, hbody]
    cases fPort <;> simp [portLen, DataFrame.toSpec, hport] <;> omega
  simp (disch := simp [hlen, u16ToLe] <;> omega) only [bind, copy_next, set_next, Outcome.bind_ok]
  -- the header is written: it is MHDR | FHDR of the specification, and begins as the helper blocks need it
  have hH := hdr_eq d hfo
  have hW : d.mhdr :: d.devAddr.toList <+: Spec.mhdrData d.frameType :: Spec.fhdr d.toSpec :=
    ⟨d.fctrl :: (u16ToLe d.fcnt.toUInt16 ++ d.fOpts), by rw [← hH]; simp⟩
  rw [List.nil_append, hH]
  cases fPort with
  | none =>
    obtain rfl := hport rfl
    simp (disch := simp [hlen, fhdr_length, DataFrame.toSpec, portLen, u16ToLe] <;> omega) only [pure, Outcome.bind_ok, copy_next,
      encryptIfNonEmpty, List.isEmpty_nil, Bool.not_true, Bool.false_eq_true, if_false, List.append_nil]
    rw [dataMic_tail c nwk d _ _ _ hW (by simp [fhdr_length, portLen, DataFrame.toSpec]; omega) (by simp [hlen, portLen, u16ToLe]; omega)]
    simp [Spec.dataMsg, hbody, toSpec_ftype, toSpec_devAddr, toSpec_fcnt]
  | some port =>
    simp (disch := simp [hlen, fhdr_length, DataFrame.toSpec, portLen, u16ToLe] <;> omega) only [pure, Outcome.bind_ok, copy_next]
    generalize hR : List.drop frm.length _ = R
    have hRl : R.length = 4 := by rw [← hR]; simp [hlen, portLen, u16ToLe]; omega
    have hWp := hW.trans (List.prefix_append _ [port])
    rw [encrypt_eq c encKey d _ frm R _ hWp (by simp [fhdr_length, DataFrame.toSpec]; omega) hfrm, Outcome.bind_ok,
      dataMic_tail c nwk d _ R _ (hWp.trans (List.prefix_append ..))
        (by simp [fhdr_length, cryptPayload_length, DataFrame.toSpec, portLen]; omega) hRl]
    simp [Spec.dataMsg, hbody, toSpec_ftype, toSpec_devAddr, toSpec_fcnt]

theorem vec3_toList (v : Vector UInt8 3) : v.toList.length = 3 := by simp

theorem ja_finish (c : Cipher) (k : Key) (T : Bytes) :
    decryptTail ⟨c, k⟩ ((0x20 : UInt8) :: T) = .ok (0x20 :: Spec.ecb (c.dec k) (T.length / 16) T) :=
  ecb_tail (c.dec k) _ (fun _ => rfl) 0x20 T

theorem ja_fixed (d : JoinAccept) (out0 : Bytes) (n : Nat) (h : out0.length = 13 + n) :
    d.writeFixedFields out0 = .ok (
      (0x20 :: (Spec.le 3 d.toSpec.joinNonce ++ Spec.le 3 d.toSpec.netId ++ Spec.le 4 d.toSpec.devAddr.toNat
            ++ [d.toSpec.dlSettings, UInt8.ofNat (d.toSpec.rxDelay.toNat % 16)])) ++ out0.drop 13) := by
  unfold JoinAccept.writeFixedFields
  rw [← List.nil_append out0]
  simp (disch := simp [h] <;> omega) only [bind, copy_next, set_next, Outcome.bind_ok]
  simp [JoinAccept.toSpec, le_len, le_devAddr, and_0f]

/-- the CFList octets of a JoinAccept: none, or the sixteen the specification lays out -/
def cfBytes : Option CfList → Bytes
  | none => []
  | some cf => Spec.encodeCfList cf.toSpec

theorem cfBytes_length (cf : Option CfList) : (cfBytes cf).length = if cf.isSome then 16 else 0 := by
  rcases cf with _ | _ | _ <;> simp [cfBytes, Spec.encodeCfList, CfList.toSpec, le_length]

/-- `match &self.c_f_list`: the optional CFList is written as a piece like the others, empty if there is none -/
theorem writeCfList_next (cf : Option CfList) (H R : Bytes) (hH : H.length = 13) (hR : R.length = (cfBytes cf).length + 4) :
    writeCfList cf (H ++ R) = .ok (H ++ cfBytes cf ++ R.drop (cfBytes cf).length) := by
  rcases cf with _ | freqs | mask
  · simp [writeCfList, cfBytes, pure]
  all_goals
    have hR : R.length = 20 := by rw [hR]; simp [cfBytes, Spec.encodeCfList, CfList.toSpec, le_length]
  · simp (disch := simp [hH, hR]) only [writeCfList, bind, vec5_toList, writeFreqs, copy_next, set_next, Outcome.bind_ok]
    simp [cfBytes, Spec.encodeCfList, CfList.toSpec, le_len]
  · simp (disch := simp [hH, hR]) only [writeCfList, bind, copy_next, set_next, Outcome.bind_ok]
    simp [cfBytes, Spec.encodeCfList, CfList.toSpec, le_len]

theorem ja_msg_eq (d : JoinAccept) :
    Spec.joinAcceptMsg d.toSpec = 0x20 :: (Spec.le 3 d.toSpec.joinNonce ++ Spec.le 3 d.toSpec.netId
      ++ Spec.le 4 d.toSpec.devAddr.toNat ++ [d.toSpec.dlSettings, UInt8.ofNat (d.toSpec.rxDelay.toNat % 16)])
      ++ cfBytes d.cFList := by
  unfold Spec.joinAcceptMsg
  cases h : d.cFList <;> simp [JoinAccept.toSpec, h, cfBytes, Spec.mhdrJoinAccept]

theorem ja_msg_length (s : Spec.JoinAcceptDesc) :
    (Spec.joinAcceptMsg s).length = match s.cfList with | none => 13 | some _ => 29 := by
  simp only [Spec.joinAcceptMsg]
  cases s.cfList with
  | none => simp [le_length]
  | some l => cases l <;> simp [le_length, Spec.encodeCfList]

end Lora.C01Lemmas
