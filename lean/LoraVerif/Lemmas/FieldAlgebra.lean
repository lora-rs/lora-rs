import LoraVerif.Spec.MacCmdSpec
import LoraVerif.Lemmas.BitField
/-! Algebra of bit fields of a little-endian payload value (`Spec.MacCmd.field / setField / setFieldBytes`):
reading back a field that was set, fields that do not overlap it, `setField` bit by bit, octet-aligned fields as list surgery;
a sequence of writes (`applyAll`: what it leaves of a field no write overlaps); `applySetter` on the setters of the table
`fieldSetters` (`layout`); the fuel of the specification's McGroupStatusAns item list (`groupItems_fuel`). -/
namespace Spec.MacCmd

theorem field_def (p : Bytes) (lo w : Nat) : field p lo w = leValue p / 2 ^ lo % 2 ^ w := rfl

/-- a field only depends on the bits below its upper end -/
theorem div_mod_two_pow (x lo w : Nat) : x / 2 ^ lo % 2 ^ w = x % 2 ^ (lo + w) / 2 ^ lo := by
  rw [Nat.pow_add, Nat.mod_mul_right_div_self]

theorem get_setField_same (N lo w v : Nat) : setField N lo w v / 2 ^ lo % 2 ^ w = v % 2 ^ w := by
  unfold setField
  have hp : 0 < 2 ^ lo := Nat.two_pow_pos _
  rw [Nat.add_mul_div_left _ _ hp, Nat.div_eq_of_lt (Nat.mod_lt _ hp), Nat.zero_add, Nat.add_mul_mod_self_left]
  exact Nat.mod_mod _ _

theorem get_setField_above (N lo w v lo' w' : Nat) (h : lo + w ≤ lo') :
    setField N lo w v / 2 ^ lo' % 2 ^ w' = N / 2 ^ lo' % 2 ^ w' := by
  obtain ⟨k, rfl⟩ : ∃ k, lo' = lo + w + k := ⟨lo' - (lo + w), by omega⟩
  have hp : 0 < 2 ^ lo := Nat.two_pow_pos _
  have hw : 0 < 2 ^ w := Nat.two_pow_pos _
  have e : setField N lo w v / 2 ^ (lo + w) = N / 2 ^ (lo + w) := by
    unfold setField
    rw [Nat.pow_add, ← Nat.div_div_eq_div_mul, Nat.add_mul_div_left _ _ hp, Nat.div_eq_of_lt (Nat.mod_lt _ hp), Nat.zero_add,
      Nat.add_mul_div_left _ _ hw, Nat.div_eq_of_lt (Nat.mod_lt _ hw), Nat.zero_add]
  rw [Nat.pow_add (2) (lo + w) k, ← Nat.div_div_eq_div_mul, ← Nat.div_div_eq_div_mul, e]

theorem get_setField_below (N lo w v lo' w' : Nat) (h : lo' + w' ≤ lo) :
    setField N lo w v / 2 ^ lo' % 2 ^ w' = N / 2 ^ lo' % 2 ^ w' := by
  obtain ⟨k, rfl⟩ : ∃ k, lo = lo' + w' + k := ⟨lo - (lo' + w'), by omega⟩
  rw [div_mod_two_pow, div_mod_two_pow N]
  congr 1
  unfold setField
  have : 2 ^ (lo' + w' + k) = 2 ^ (lo' + w') * 2 ^ k := Nat.pow_add _ _ _
  rw [this, Nat.mul_assoc, Nat.add_mul_mod_self_left, Nat.mod_mul_right_mod]

theorem leValue_lt (p : Bytes) (hb : ∀ x ∈ p, x < 256) : leValue p < 256 ^ p.length := by
  induction p with
  | nil => simp [leValue]
  | cons b bs ih =>
    have h0 := hb b (by simp)
    have := ih (fun x hx => hb x (by simp [hx]))
    simp only [leValue, List.length_cons, Nat.pow_succ]
    omega

theorem leValue_toLe (n v : Nat) : leValue (toLe n v) = v % 256 ^ n := by
  induction n generalizing v with
  | zero => simp [toLe, leValue, Nat.mod_one]
  | succ n ih =>
    simp only [toLe, leValue, ih, Nat.pow_succ]
    have h : 0 < 256 ^ n := Nat.pow_pos (by omega)
    rw [Nat.mul_comm (256 ^ n) 256, Nat.mod_mul, Nat.add_comm]

theorem toLe_length (n v : Nat) : (toLe n v).length = n := by
  induction n generalizing v with
  | zero => rfl
  | succ n ih => simp [toLe, ih]

theorem toLe_isBytes (n v : Nat) : ∀ x ∈ toLe n v, x < 256 := by
  induction n generalizing v with
  | zero => simp [toLe]
  | succ n ih =>
    intro x hx
    simp only [toLe, List.mem_cons] at hx
    rcases hx with rfl | hx
    · omega
    · exact ih _ x hx

theorem toLe_leValue (p : Bytes) (hb : ∀ x ∈ p, x < 256) : toLe p.length (leValue p) = p := by
  induction p with
  | nil => rfl
  | cons b bs ih =>
    have h0 := hb b (by simp)
    simp only [List.length_cons, toLe, leValue]
    have h1 : (b + 256 * leValue bs) % 256 = b := by omega
    have h2 : (b + 256 * leValue bs) / 256 = leValue bs := by omega
    rw [h1, h2, ih (fun x hx => hb x (by simp [hx]))]

theorem field_mod (x n lo w : Nat) (h : lo + w ≤ 8 * n) : x % 256 ^ n / 2 ^ lo % 2 ^ w = x / 2 ^ lo % 2 ^ w := by
  rw [div_mod_two_pow, div_mod_two_pow x]
  congr 1
  have e : (256 : Nat) ^ n = 2 ^ (lo + w) * 2 ^ (8 * n - (lo + w)) := by
    rw [← Nat.pow_add, show (256 : Nat) = 2 ^ 8 by rfl, ← Nat.pow_mul]
    congr 1; omega
  rw [e, Nat.mod_mul_right_mod]

theorem field_setFieldBytes_same (p : Bytes) (lo w v : Nat) (h : lo + w ≤ 8 * p.length) :
    field (setFieldBytes p lo w v) lo w = v % 2 ^ w := by
  unfold field setFieldBytes
  rw [leValue_toLe, field_mod _ _ _ _ h, get_setField_same]

theorem field_setFieldBytes_other (p : Bytes) (lo w v lo' w' : Nat) (hd : lo + w ≤ lo' ∨ lo' + w' ≤ lo)
    (h : lo' + w' ≤ 8 * p.length) : field (setFieldBytes p lo w v) lo' w' = field p lo' w' := by
  unfold field setFieldBytes
  rw [leValue_toLe, field_mod _ _ _ _ h]
  rcases hd with hd | hd
  · exact get_setField_above _ _ _ _ _ _ hd
  · exact get_setField_below _ _ _ _ _ _ hd

/-- `setField` bit by bit: the bits of `v` in the field, those of `N` elsewhere -/
theorem testBit_setField (N lo w v i : Nat) :
    (setField N lo w v).testBit i = if i < lo then N.testBit i else if i < lo + w then v.testBit (i - lo) else N.testBit i :=
  BitField.testBit_field_write N lo w v i

theorem setFieldBytes_length (p : Bytes) (lo w v : Nat) : (setFieldBytes p lo w v).length = p.length := toLe_length _ _

theorem applyField_shape {lo w : Nat} {pol : Policy} {p : Bytes} {a : Arg} {r : Option String} {p' : Bytes}
    (h : applyField lo w pol p a = some (r, p')) (hp : ∀ x ∈ p, x < 256) : p'.length = p.length ∧ ∀ x ∈ p', x < 256 := by
  have set : ∀ v, (setFieldBytes p lo w v).length = p.length ∧ ∀ x ∈ setFieldBytes p lo w v, x < 256 :=
    fun v => ⟨setFieldBytes_length p lo w v, toLe_isBytes _ _⟩
  have num : ∀ v, (match pol with
      | .mask => some ((none : Option String), setFieldBytes p lo w v)
      | .refuse e => if v < 2 ^ w then some (none, setFieldBytes p lo w v) else some (some e, p)) = some (r, p') →
      p'.length = p.length ∧ ∀ x ∈ p', x < 256 := by
    intro v hv
    cases pol with
    | mask => cases hv; exact set v
    | refuse e =>
      dsimp only at hv
      split at hv <;> cases hv
      · exact set v
      · exact ⟨rfl, hp⟩
  cases a with
  | n v => exact num v h
  | bytes b => exact num _ h
  | i v => cases h
  | item id addr => cases h

theorem leValue_append (a b : Bytes) : leValue (a ++ b) = leValue a + 256 ^ a.length * leValue b := by
  induction a with
  | nil => simp [leValue]
  | cons x xs ih =>
    simp only [List.cons_append, leValue, ih, List.length_cons, Nat.pow_succ]
    rw [Nat.mul_add, ← Nat.mul_assoc, Nat.mul_comm 256 (256 ^ xs.length), Nat.add_assoc]

theorem two_pow_8mul (k : Nat) : (2 : Nat) ^ (8 * k) = 256 ^ k := by rw [Nat.pow_mul]

/-- **octet-aligned fields are list surgery**: writing the `m`-octet field at octet `pre.length` of
`pre ++ mid ++ post` with the little-endian value of `src` replaces `mid` by `src` -/
theorem setFieldBytes_aligned (pre mid post src : Bytes) (hm : src.length = mid.length)
    (hpre : ∀ x ∈ pre, x < 256) (hmid : ∀ x ∈ mid, x < 256) (hpost : ∀ x ∈ post, x < 256) (hsrc : ∀ x ∈ src, x < 256) :
    setFieldBytes (pre ++ mid ++ post) (8 * pre.length) (8 * mid.length) (leValue src) = pre ++ src ++ post := by
  have hA := leValue_lt pre hpre
  have hM := leValue_lt mid hmid
  have hS := leValue_lt src hsrc
  have pk : 0 < 256 ^ pre.length := Nat.pow_pos (by omega)
  have pm : 0 < 256 ^ mid.length := Nat.pow_pos (by omega)
  unfold setFieldBytes setField
  rw [← Nat.mul_add, two_pow_8mul, two_pow_8mul, two_pow_8mul, Nat.pow_add]
  have eN : leValue (pre ++ mid ++ post) = leValue pre + 256 ^ pre.length * (leValue mid + 256 ^ mid.length * leValue post) := by
    rw [List.append_assoc, leValue_append, leValue_append]
  have e1 : leValue (pre ++ mid ++ post) % 256 ^ pre.length = leValue pre := by
    rw [eN, Nat.add_mul_mod_self_left, Nat.mod_eq_of_lt hA]
  have e2 : leValue (pre ++ mid ++ post) / (256 ^ pre.length * 256 ^ mid.length) = leValue post := by
    rw [eN, ← Nat.div_div_eq_div_mul, Nat.add_mul_div_left _ _ pk, Nat.div_eq_of_lt hA, Nat.zero_add,
      Nat.add_mul_div_left _ _ pm, Nat.div_eq_of_lt hM, Nat.zero_add]
  have e3 : leValue src % 256 ^ mid.length = leValue src := Nat.mod_eq_of_lt (hm ▸ hS)
  rw [e1, e2, e3]
  have eR : leValue pre + 256 ^ pre.length * (leValue src + 256 ^ mid.length * leValue post) = leValue (pre ++ src ++ post) := by
    rw [List.append_assoc, leValue_append, leValue_append, hm]
  rw [eR]
  have hl : (pre ++ mid ++ post).length = (pre ++ src ++ post).length := by simp [hm]
  rw [hl]
  apply toLe_leValue
  intro x hx
  simp only [List.mem_append] at hx
  rcases hx with (hx | hx) | hx
  · exact hpre x hx
  · exact hsrc x hx
  · exact hpost x hx

/-! ### `field` and `setFieldBytes` on a cons list: a field that starts 8 or more bits up skips the head octet,
a field inside the head octet reads / rewrites only that octet -/

theorem add_mul_lt {x K q Q : Nat} (hx : x < K) (hq : q < Q) : x + K * q < K * Q :=
  Nat.lt_of_lt_of_le (Nat.add_lt_add_right hx _) (by rw [Nat.add_comm, ← Nat.mul_succ]; exact Nat.mul_le_mul_left K hq)

theorem setField_low (b L k w v : Nat) (h : k + w ≤ 8) :
    setField (b + 256 * L) k w v = setField b k w v + 256 * L := by
  obtain ⟨m, hm⟩ : ∃ m, 8 = k + w + m := ⟨8 - (k + w), by omega⟩
  have e : 256 = 2 ^ (k + w) * 2 ^ m := by rw [← Nat.pow_add, ← hm]
  have h1 : (b + 256 * L) % 2 ^ k = b % 2 ^ k := by
    rw [e, Nat.pow_add, Nat.mul_assoc, Nat.mul_assoc, Nat.add_mul_mod_self_left]
  have h2 : (b + 256 * L) / 2 ^ (k + w) = b / 2 ^ (k + w) + 2 ^ m * L := by
    rw [e, Nat.mul_assoc, Nat.add_mul_div_left _ _ (Nat.two_pow_pos _)]
  unfold setField
  rw [h1, h2, e, Nat.pow_add]
  simp only [Nat.mul_add, Nat.add_assoc, Nat.mul_assoc]

theorem setField_lt_256 (b k w v : Nat) (h : k + w ≤ 8) (hb : b < 256) : setField b k w v < 256 := by
  obtain ⟨m, hm⟩ : ∃ m, 8 = k + w + m := ⟨8 - (k + w), by omega⟩
  have e : 256 = 2 ^ k * (2 ^ w * 2 ^ m) := by rw [← Nat.pow_add, ← Nat.pow_add, ← Nat.add_assoc, ← hm]
  have hz : b / 2 ^ (k + w) < 2 ^ m := by
    rw [Nat.div_lt_iff_lt_mul (Nat.two_pow_pos _), ← Nat.pow_add, Nat.add_comm, ← hm]; exact hb
  rw [e]
  exact add_mul_lt (Nat.mod_lt _ (Nat.two_pow_pos _)) (add_mul_lt (Nat.mod_lt _ (Nat.two_pow_pos _)) hz)

theorem setField_add8 (a N lo w v : Nat) (ha : a < 256) :
    setField (a + 256 * N) (lo + 8) w v = a + 256 * setField N lo w v := by
  have e : 2 ^ (lo + 8) = 256 * 2 ^ lo := by rw [Nat.pow_add, Nat.mul_comm]
  have h1 : (a + 256 * N) % 2 ^ (lo + 8) = a + 256 * (N % 2 ^ lo) := by
    rw [e, Nat.mod_mul, Nat.add_mul_mod_self_left, Nat.mod_eq_of_lt ha, Nat.add_mul_div_left _ _ (by omega),
      Nat.div_eq_of_lt ha, Nat.zero_add]
  have h2 : (a + 256 * N) / 2 ^ (lo + 8 + w) = N / 2 ^ (lo + w) := by
    rw [show lo + 8 + w = 8 + (lo + w) by omega, Nat.pow_add, ← Nat.div_div_eq_div_mul,
      show (2 : Nat) ^ 8 = 256 from rfl, Nat.add_mul_div_left _ _ (by omega), Nat.div_eq_of_lt ha, Nat.zero_add]
  unfold setField
  rw [h1, h2, e, Nat.mul_assoc, Nat.add_assoc, ← Nat.mul_add]

theorem setFieldBytes_cons_add8 (a : Nat) (p : Bytes) (lo w v : Nat) (ha : a < 256) :
    setFieldBytes (a :: p) (lo + 8) w v = a :: setFieldBytes p lo w v := by
  unfold setFieldBytes
  have h1 : (a + 256 * setField (leValue p) lo w v) % 256 = a := by omega
  have h2 : (a + 256 * setField (leValue p) lo w v) / 256 = setField (leValue p) lo w v := by omega
  rw [leValue, setField_add8 _ _ _ _ _ ha, List.length_cons, toLe, h1, h2]

theorem setFieldBytes_cons_low (b : Nat) (p : Bytes) (k w v : Nat) (h : k + w ≤ 8) (hb : b < 256) (hp : ∀ x ∈ p, x < 256) :
    setFieldBytes (b :: p) k w v = setField b k w v :: p := by
  unfold setFieldBytes
  have := setField_lt_256 b k w v h hb
  have h1 : (setField b k w v + 256 * leValue p) % 256 = setField b k w v := by omega
  have h2 : (setField b k w v + 256 * leValue p) / 256 = leValue p := by omega
  rw [leValue, setField_low _ _ _ _ _ h, List.length_cons, toLe, h1, h2, toLe_leValue p hp]

theorem field_cons_add8 (a : Nat) (p : Bytes) (lo w : Nat) (ha : a < 256) : field (a :: p) (lo + 8) w = field p lo w := by
  unfold field
  rw [leValue, Nat.add_comm lo, Nat.pow_add, ← Nat.div_div_eq_div_mul, show (2 : Nat) ^ 8 = 256 from rfl,
    Nat.add_mul_div_left _ _ (by omega), Nat.div_eq_of_lt ha, Nat.zero_add]

theorem field_cons_low (b : Nat) (p : Bytes) (k w : Nat) (h : k + w ≤ 8) : field (b :: p) k w = b / 2 ^ k % 2 ^ w := by
  obtain ⟨m, hm⟩ : ∃ m, 8 = k + w + m := ⟨8 - (k + w), by omega⟩
  have e : 256 = 2 ^ k * (2 ^ w * 2 ^ m) := by rw [← Nat.pow_add, ← Nat.pow_add, ← Nat.add_assoc, ← hm]
  unfold field
  rw [leValue, e, Nat.mul_assoc, Nat.add_mul_div_left _ _ (Nat.two_pow_pos _), Nat.mul_assoc, Nat.add_mul_mod_self_left]
theorem field_cons_wide (b : Nat) (p : Bytes) (w : Nat) (hb : b < 256) : field (b :: p) 0 (w + 8) = b + 256 * field p 0 w := by
  unfold field
  rw [leValue, Nat.pow_zero, Nat.div_one, Nat.div_one, Nat.pow_add, Nat.mul_comm (2 ^ w), show (2 : Nat) ^ 8 = 256 from rfl,
    Nat.mod_mul, Nat.add_mul_mod_self_left, Nat.mod_eq_of_lt hb, Nat.add_mul_div_left _ _ (by omega), Nat.div_eq_of_lt hb,
    Nat.zero_add]

theorem field_width_zero (p : Bytes) (lo : Nat) : field p lo 0 = 0 := Nat.mod_one _

theorem setFieldBytes_splice (p src : Bytes) (i : Nat) (hp : ∀ x ∈ p, x < 256) (hs : ∀ x ∈ src, x < 256)
    (h : i + src.length ≤ p.length) :
    setFieldBytes p (8 * i) (8 * src.length) (leValue src) = p.take i ++ src ++ p.drop (i + src.length) := by
  have e : p.take i ++ (p.drop i).take src.length ++ p.drop (i + src.length) = p := by
    rw [List.append_assoc, ← List.drop_drop, List.take_append_drop, List.take_append_drop]
  have h1 : (p.take i).length = i := by rw [List.length_take]; omega
  have h2 : ((p.drop i).take src.length).length = src.length := by rw [List.length_take, List.length_drop]; omega
  have h := setFieldBytes_aligned (p.take i) ((p.drop i).take src.length) (p.drop (i + src.length)) src h2.symm
    (fun x hx => hp x (List.mem_of_mem_take hx)) (fun x hx => hp x (List.mem_of_mem_drop (List.mem_of_mem_take hx)))
    (fun x hx => hp x (List.mem_of_mem_drop hx)) hs
  rwa [e, h1, h2] at h
theorem setField_mod (N lo w v : Nat) : setField N lo w (v % 2 ^ w) = setField N lo w v := by
  unfold setField; rw [Nat.mod_mod]

theorem setFieldBytes_mod (p : Bytes) (lo w v : Nat) : setFieldBytes p lo w (v % 2 ^ w) = setFieldBytes p lo w v := by
  unfold setFieldBytes; rw [setField_mod]

theorem leValue_toLe_lt (n v : Nat) (h : v < 256 ^ n) : leValue (toLe n v) = v := by
  rw [leValue_toLe, Nat.mod_eq_of_lt h]

/-- a sequence of field writes `(lo, w, v)` applied in order -/
def applyAll (p : Bytes) (cs : List (Nat × Nat × Nat)) : Bytes :=
  cs.foldl (fun p c => setFieldBytes p c.1 c.2.1 c.2.2) p

theorem applyAll_length (p : Bytes) (cs : List (Nat × Nat × Nat)) : (applyAll p cs).length = p.length := by
  induction cs generalizing p with
  | nil => rfl
  | cons c cs ih => simp only [applyAll, List.foldl_cons] at ih ⊢; rw [ih, setFieldBytes_length]

theorem field_applyAll_untouched (p : Bytes) (cs : List (Nat × Nat × Nat)) (lo w : Nat) (hfit : lo + w ≤ 8 * p.length)
    (h : ∀ c ∈ cs, c.1 + c.2.1 ≤ lo ∨ lo + w ≤ c.1) : field (applyAll p cs) lo w = field p lo w := by
  induction cs generalizing p with
  | nil => rfl
  | cons c cs ih =>
    simp only [applyAll, List.foldl_cons] at ih ⊢
    rw [ih _ (by rw [setFieldBytes_length]; exact hfit) (fun c' hc' => h c' (by simp [hc']))]
    exact field_setFieldBytes_other p c.1 c.2.1 c.2.2 lo w (h c (by simp)) hfit

/-- the field a setter writes according to the table `fieldSetters` (the growing McGroupStatusAns, whose payload `applySetter`
first completes, apart) -/
def layout (name setter : String) : Option (Nat × Nat × Policy) :=
  if name = "McGroupStatusAns" then none else ((fieldSetters name).find? (fun s => s.1 == setter)).map (·.2)

/-- `applySetter` on a setter of the table is `applyField` at the table's entry.  What a per-setter statement has to look up
by name is then `layout name setter = some _`, a closed fact the kernel evaluates (unfolding `applySetter` on string literals
in the unifier is several times dearer). -/
theorem applySetter_of_layout {name setter : String} {lo w : Nat} {pol : Policy} (h : layout name setter = some (lo, w, pol))
    (wrap : Bytes → Bytes) (p : Bytes) (a : Arg) : applySetter wrap name p setter a = applyField lo w pol p a := by
  have hs : (layout name setter).isSome := by rw [h]; rfl
  unfold applySetter
  split
  -- none of the six pairs `applySetter` treats apart is in the table
  iterate 6 exact absurd hs (by decide +kernel)
  unfold layout at h
  split at h
  · cases h
  next hn =>
    cases hf : (fieldSetters name).find? (fun s => s.1 == setter) with
    | none => rw [hf] at h; cases h
    | some e => obtain ⟨_, _, _, _⟩ := e; rw [hf] at h; cases h; simp only [hn, false_and, if_false]

/-- the fuel of the specification's item list does not matter once it covers the octets -/
theorem groupItems_fuel : ∀ (k k' : Nat) (d : Bytes), d.length < 5 * k + 5 → d.length < 5 * k' + 5 → groupItems k d = groupItems k' d
  | 0, 0, _, _, _ => rfl
  | 0, k' + 1, d, h, _ => by rw [groupItems, groupItems, if_pos h]
  | k + 1, 0, d, _, h => by rw [groupItems, groupItems, if_pos h]
  | k + 1, k' + 1, d, h, h' => by
    rw [groupItems, groupItems, groupItems_fuel k k' (d.drop 5) (by rw [List.length_drop]; omega) (by rw [List.length_drop]; omega)]

end Spec.MacCmd
