import LoraVerif.Model.CodecBase
/-!
# What the codec and the AES lemma files share: a byte property from its 256 instances, and the laws of `Outcome`
-/
namespace Lora

/-- a property of all bytes from its 256 instances: the form `decide +kernel` can sweep -/
theorem uint8_forall (P : UInt8 → Prop) (h : ∀ i : Fin 256, P (UInt8.ofNat i.val)) (x : UInt8) : P x := by
  have := h ⟨x.toNat, x.toNat_lt⟩
  simpa using this

namespace C02Lemmas
/-- The `simp only` sets of the C02 lemma files name it `bind_ok` in their own namespace, so it is declared there;
everyone else reads it as `Outcome.bind_ok`. -/
@[simp] theorem bind_ok {α β} (a : α) (f : α → Outcome β) : (Outcome.ok a).bind f = f a := rfl
end C02Lemmas

namespace Outcome
export C02Lemmas (bind_ok)

theorem bind_bind {α β γ} (x : Outcome α) (f : α → Outcome β) (g : β → Outcome γ) :
    (x.bind f).bind g = x.bind fun a => (f a).bind g := by cases x <;> rfl

theorem bind_map_comp {α β γ} (x : Outcome α) (f : α → Outcome β) (g : β → γ) :
    x.bind (fun a => (f a).map g) = (x.bind f).map g := by cases x <;> rfl

theorem map_map {α β γ} (x : Outcome α) (f : α → β) (g : β → γ) : (x.map f).map g = x.map (g ∘ f) := by
  cases x <;> rfl

theorem ofExcept_map {α β} (x : Except Err α) (g : α → β) : ofExcept (x.map g) = (ofExcept x).map g := by
  cases x <;> rfl
end Outcome

end Lora
