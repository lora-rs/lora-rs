import LoraVerif.Model.PhyState
import LoraVerif.Model.Chip
/-!
# Weakest preconditions over transcripts (C14)

`wp kind n p Q E t`: started with the chip tracker in state `t`, the `RadioKind`-level program `p`
— whatever bytes the chip answers, wherever an I/O step fails, wherever an `await_irq` is dropped —
ends either normally with a value `a` and the tracker in a state `t'` with `Q a t'`, or abnormally
(`Abort`: error, panic, dropped future) with `E abort t'`.  `wp_sound` ties this to the interpreter
`run` and the transcript tracker `track`.  `mwp` is the same one level up, for the `LoRa<RK>` monad
`M` (driver bookkeeping × tracker state).

`wp` over-approximates the environment: it allows a fault at *every* step (the interpreter schedules
at most one per call); everything proved with it holds a fortiori for `run`.

The clauses I1–I5 that comments of the C14 files refer to are those of `C14.RecOk` (Props/C14.lean).
-/
namespace Model.Phy

/-- how a program can end other than by returning -/
inductive Abort where
  | err (e : RadioError)
  | panic
  | dropped
  deriving DecidableEq, Repr

/-- the radio's own failure reports (I4 is about these) -/
def Abort.timeout : Abort → Bool
  | .err .TransmitTimeout => true
  | .err .ReceiveTimeout => true
  | _ => false

/-- an infrastructure failure (SPI, BUSY, …), a panic or a dropped future: anything but a timeout report -/
abbrev Abort.infra (a : Abort) : Prop := a.timeout = false

def Io.isDelay : Io → Bool
  | .delay _ => true
  | _ => false

section
variable (kind : Kind) (n : Needs)

def wp {α : Type} : Prog α → (α → ChipTrack → Prop) → (Abort → ChipTrack → Prop) → ChipTrack → Prop
  | .ret a, Q, _, t => Q a t
  | .fail e, _, E, t => E (.err e) t
  | .panic _, _, E, t => E .panic t
  | .io req k, Q, E, t =>
    (req.isDelay = false → E (.err (errOf req)) t) ∧ (req = .irq → E .dropped t) ∧
    ∀ bs, wp (k bs) Q E (trackEv kind n t ⟨req, .done⟩)
  | .ioE req k, Q, E, t =>
    (req = .irq → E .dropped t) ∧ (req.isDelay = false → wp (k none) Q E t) ∧
    ∀ bs, wp (k (some bs)) Q E (trackEv kind n t ⟨req, .done⟩)

/-- what `wp` promises about an outcome of the interpreter -/
def outPost {α : Type} (Q : α → ChipTrack → Prop) (E : Abort → ChipTrack → Prop) : Out α → ChipTrack → Prop
  | .ok a, t => Q a t
  | .err e, t => E (.err e) t
  | .panic _, t => E .panic t
  | .dropped, t => E .dropped t

theorem track_snoc (t0 : ChipTrack) (log : List Ev) (e : Ev) :
    track kind n t0 (log ++ [e]) = trackEv kind n (track kind n t0 log) e := by
  simp [track, List.foldl_append]

theorem trackEv_failed (t : ChipTrack) (r : Io) : trackEv kind n t ⟨r, .failed⟩ = t := rfl
theorem trackEv_pending (t : ChipTrack) (r : Io) : trackEv kind n t ⟨r, .pending⟩ = t := rfl
theorem trackEv_delay (t : ChipTrack) (ms : Nat) (m : Mark) : trackEv kind n t ⟨.delay ms, m⟩ = t := by
  cases m <;> rfl

/-- **Soundness of `wp`.**  For every world (chip content, transcript so far, scheduled fault and
drop): the interpreter's outcome satisfies the postconditions on the tracker state of the extended
transcript. -/
theorem wp_sound {α : Type} (p : Prog α) (Q : α → ChipTrack → Prop) (E : Abort → ChipTrack → Prop)
    (t0 : ChipTrack) (w : World) (h : wp kind n p Q E (track kind n t0 w.log)) :
    outPost Q E (run p w).1 (track kind n t0 (run p w).2.log) := by
  induction p generalizing w with
  | ret a => simpa [run, outPost, wp] using h
  | fail e => simpa [run, outPost, wp] using h
  | panic s => simpa [run, outPost, wp] using h
  | io req k ih =>
    obtain ⟨h1, h2, h3⟩ := h
    cases req with
    | delay ms =>
      simp only [run]
      apply ih
      simp only [track_snoc]
      exact h3 []
    | irq =>
      simp only [run, true_and]
      split
      · simp only [outPost, track_snoc, trackEv_pending]; exact h2 rfl
      · split
        · simp only [outPost, track_snoc, trackEv_failed]; exact h1 rfl
        · apply ih; simp only [track_snoc]; exact h3 _
    | _ =>
      simp only [run, reduceCtorEq, false_and, if_false]
      split
      · simp only [outPost, track_snoc, trackEv_failed]; exact h1 rfl
      · apply ih; simp only [track_snoc]; exact h3 _
  | ioE req k ih =>
    obtain ⟨h1, h2, h3⟩ := h
    cases req with
    | delay ms =>
      simp only [run]
      apply ih
      simp only [track_snoc]
      exact h3 []
    | irq =>
      simp only [run, true_and]
      split
      · simp only [outPost, track_snoc, trackEv_pending]; exact h1 rfl
      · split
        · apply ih; simp only [track_snoc, trackEv_failed]; exact h2 rfl
        · apply ih; simp only [track_snoc]; exact h3 _
    | _ =>
      simp only [run, reduceCtorEq, false_and, if_false]
      split
      · apply ih; simp only [track_snoc, trackEv_failed]; exact h2 rfl
      · apply ih; simp only [track_snoc]; exact h3 _

theorem wp_mono {α : Type} (p : Prog α) {Q Q' : α → ChipTrack → Prop} {E E' : Abort → ChipTrack → Prop} {t : ChipTrack}
    (h : wp kind n p Q E t) (hq : ∀ a t', Q a t' → Q' a t') (he : ∀ a t', E a t' → E' a t') :
    wp kind n p Q' E' t := by
  induction p generalizing t with
  | ret a => exact hq _ _ h
  | fail e => exact he _ _ h
  | panic s => exact he _ _ h
  | io req k ih =>
    obtain ⟨h1, h2, h3⟩ := h
    exact ⟨fun hd => he _ _ (h1 hd), fun hi => he _ _ (h2 hi), fun bs => ih bs (h3 bs)⟩
  | ioE req k ih =>
    obtain ⟨h1, h2, h3⟩ := h
    exact ⟨fun hi => he _ _ (h1 hi), fun hd => ih _ (h2 hd), fun bs => ih _ (h3 bs)⟩

theorem wp_bind {α β : Type} (p : Prog α) (f : α → Prog β) (Q : β → ChipTrack → Prop) (E : Abort → ChipTrack → Prop)
    (t : ChipTrack) :
    wp kind n (Prog.bind p f) Q E t ↔ wp kind n p (fun a t' => wp kind n (f a) Q E t') E t := by
  induction p generalizing t with
  | ret a => rfl
  | fail e => rfl
  | panic s => rfl
  | io req k ih =>
    simp only [Prog.bind, wp]
    exact and_congr Iff.rfl (and_congr Iff.rfl (forall_congr' fun bs => ih bs _))
  | ioE req k ih =>
    simp only [Prog.bind, wp]
    exact and_congr Iff.rfl (and_congr (imp_congr Iff.rfl (ih _ _)) (forall_congr' fun bs => ih _ _))

@[simp] theorem wp_ret {α : Type} (a : α) (Q : α → ChipTrack → Prop) (E) (t) : wp kind n (.ret a) Q E t ↔ Q a t := Iff.rfl
@[simp] theorem wp_fail {α : Type} (e : RadioError) (Q : α → ChipTrack → Prop) (E) (t) :
    wp kind n (.fail e : Prog α) Q E t ↔ E (.err e) t := Iff.rfl
@[simp] theorem wp_panic {α : Type} (s : String) (Q : α → ChipTrack → Prop) (E) (t) :
    wp kind n (.panic s : Prog α) Q E t ↔ E .panic t := Iff.rfl

end

/-- every program satisfies the trivial postconditions -/
theorem wp_top {kind : Kind} {n : Needs} {α : Type} (p : Prog α) (t : ChipTrack) : wp kind n p (fun _ _ => True) (fun _ _ => True) t := by
  induction p generalizing t with
  | ret a => simp only [wp]
  | fail e => simp only [wp]
  | panic s => simp only [wp]
  | io req k ih => simp only [wp]; exact ⟨fun _ => trivial, fun _ => trivial, fun bs => ih bs _⟩
  | ioE req k ih => simp only [wp]; exact ⟨fun _ => trivial, fun _ => ih none _, fun bs => ih (some bs) _⟩

section
variable (kind : Kind) (n : Needs) {σ : Type}

def outPostM {α : Type} (Q : α → DriverState σ → ChipTrack → Prop) (E : Abort → DriverState σ → ChipTrack → Prop)
    (t0 : ChipTrack) : Out α × (DriverState σ × World) → Prop
  | (.ok a, (d, w)) => Q a d (track kind n t0 w.log)
  | (.err e, (d, w)) => E (.err e) d (track kind n t0 w.log)
  | (.panic _, (d, w)) => E .panic d (track kind n t0 w.log)
  | (.dropped, (d, w)) => E .dropped d (track kind n t0 w.log)

/-- `mwp m Q E d t`: from driver state `d` and tracker state `t`, in every world whose transcript
tracks to `t`, the API-level program `m` ends in `Q` (normally) or `E` (abnormally). -/
def mwp {α : Type} (m : M σ α) (Q : α → DriverState σ → ChipTrack → Prop) (E : Abort → DriverState σ → ChipTrack → Prop)
    (d : DriverState σ) (t : ChipTrack) : Prop :=
  ∀ (t0 : ChipTrack) (w : World), track kind n t0 w.log = t → outPostM kind n Q E t0 (m (d, w))

variable {kind n}

theorem mwp_pure {α : Type} {a : α} {Q : α → DriverState σ → ChipTrack → Prop} {E} {d : DriverState σ} {t}
    (h : Q a d t) : mwp kind n (pure a : M σ α) Q E d t := by
  intro t0 w hw; subst hw; exact h

theorem mwp_bind {α β : Type} {m : M σ α} {f : α → M σ β} {Q : β → DriverState σ → ChipTrack → Prop} {E} {d : DriverState σ} {t}
    (h : mwp kind n m (fun a d' t' => mwp kind n (f a) Q E d' t') E d t) : mwp kind n (m >>= f) Q E d t := by
  intro t0 w hw
  have h1 := h t0 w hw
  show outPostM kind n Q E t0 (M.bind' m f (d, w))
  unfold M.bind'
  generalize m (d, w) = r at h1
  obtain ⟨o, d', w'⟩ := r
  cases o with
  | ok a => exact h1 t0 w' rfl
  | err e => exact h1
  | panic s => exact h1
  | dropped => exact h1

theorem mwp_call {α : Type} {p : Prog α} {Q : α → DriverState σ → ChipTrack → Prop} {E} {d : DriverState σ} {t}
    (h : wp kind n p (fun a t' => Q a d t') (fun ab t' => E ab d t') t) : mwp kind n (M.call p : M σ α) Q E d t := by
  intro t0 w hw
  subst hw
  have := wp_sound kind n p _ _ t0 w h
  simp only [M.call]
  generalize run p w = r at this
  obtain ⟨o, w'⟩ := r
  cases o <;> exact this

theorem mwp_op {α β : Type} {p : Prog α} {k : α → M σ β} {Q' : α → ChipTrack → Prop} {E' : Abort → ChipTrack → Prop}
    {Q : β → DriverState σ → ChipTrack → Prop} {E} {d : DriverState σ} {t}
    (h : wp kind n p Q' E' t) (hq : ∀ a t', Q' a t' → mwp kind n (k a) Q E d t') (he : ∀ a t', E' a t' → E a d t') :
    mwp kind n (M.call p >>= k) Q E d t :=
  mwp_bind (mwp_call (wp_mono _ _ _ h hq he))

theorem mwp_get {β : Type} {k : DriverState σ → M σ β} {Q : β → DriverState σ → ChipTrack → Prop} {E} {d : DriverState σ} {t}
    (h : mwp kind n (k d) Q E d t) : mwp kind n (M.get >>= k) Q E d t :=
  mwp_bind (fun t0 w hw => by subst hw; exact h)

theorem mwp_modify {f : DriverState σ → DriverState σ} {Q : Unit → DriverState σ → ChipTrack → Prop} {E} {d : DriverState σ} {t}
    (h : Q () (f d) t) : mwp kind n (M.modify f) Q E d t := by
  intro t0 w hw; subst hw; exact h

theorem mwp_setMode {m : RadioMode} {Q : Unit → DriverState σ → ChipTrack → Prop} {E} {d : DriverState σ} {t}
    (h : Q () { d with radioMode := m } t) : mwp kind n (setMode m) Q E d t := mwp_modify h

theorem mwp_throw {α : Type} {e : RadioError} {Q : α → DriverState σ → ChipTrack → Prop} {E} {d : DriverState σ} {t}
    (h : E (.err e) d t) : mwp kind n (M.throw e : M σ α) Q E d t := by
  intro t0 w hw; subst hw; exact h

theorem mwp_panic {α : Type} {s : String} {Q : α → DriverState σ → ChipTrack → Prop} {E} {d : DriverState σ} {t}
    (h : E .panic d t) : mwp kind n (M.panic s : M σ α) Q E d t := by
  intro t0 w hw; subst hw; exact h

theorem mwp_attempt {α : Type} {m : M σ α} {Q : Except RadioError α → DriverState σ → ChipTrack → Prop} {E} {d : DriverState σ} {t}
    (h : mwp kind n m (fun a => Q (.ok a))
          (fun ab d' t' => match ab with | .err e => Q (.error e) d' t' | .panic => E .panic d' t' | .dropped => E .dropped d' t') d t) :
    mwp kind n (M.attempt m) Q E d t := by
  intro t0 w hw
  have h1 := h t0 w hw
  unfold M.attempt
  generalize m (d, w) = r at h1
  obtain ⟨o, d', w'⟩ := r
  cases o <;> exact h1

theorem mwp_mono {α : Type} {m : M σ α} {Q Q' : α → DriverState σ → ChipTrack → Prop} {E E'} {d : DriverState σ} {t}
    (h : mwp kind n m Q E d t) (hq : ∀ a d' t', Q a d' t' → Q' a d' t') (he : ∀ a d' t', E a d' t' → E' a d' t') :
    mwp kind n m Q' E' d t := by
  intro t0 w hw
  have h1 := h t0 w hw
  generalize m (d, w) = r at h1
  obtain ⟨o, d', w'⟩ := r
  cases o
  · exact hq _ _ _ h1
  all_goals exact he _ _ _ h1

theorem mwp_seq {α β : Type} {m : M σ α} {k : α → M σ β} {Q₁ : α → DriverState σ → ChipTrack → Prop}
    {Q : β → DriverState σ → ChipTrack → Prop} {E} {d : DriverState σ} {t}
    (h : mwp kind n m Q₁ E d t) (hk : ∀ a d' t', Q₁ a d' t' → mwp kind n (k a) Q E d' t') :
    mwp kind n (m >>= k) Q E d t :=
  mwp_bind (mwp_mono h hk fun _ _ _ he => he)

/-- a one-armed `if` followed by the rest of a `do` block: the elaborator copies the rest into both arms (a join
point); `Q₁` is what holds when the rest begins, and the rest is met once -/
theorem mwp_ite_seq {β : Type} {c : Prop} [Decidable c] {a : M σ Unit} {k : Unit → M σ β} {Q₁ : DriverState σ → ChipTrack → Prop}
    {Q : β → DriverState σ → ChipTrack → Prop} {E} {d : DriverState σ} {t}
    (h1 : c → mwp kind n a (fun _ => Q₁) E d t) (h0 : ¬c → Q₁ d t) (hk : ∀ d' t', Q₁ d' t' → mwp kind n (k ()) Q E d' t') :
    mwp kind n (if c then a >>= k else k ()) Q E d t := by
  split
  · exact mwp_seq (h1 ‹_›) fun _ => hk
  · exact hk _ _ (h0 ‹_›)

end

end Model.Phy
