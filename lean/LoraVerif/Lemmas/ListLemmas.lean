/-! What the lemma files and the ties need of core `List` operations and core does not state: a position that is
there splits the list (`drop_of_getElem?`), and `set` keeps what holds of every element (`forall_mem_set`; `all_set`
its reading for `all`).  Core only. -/
namespace List

theorem drop_of_getElem? {α} {t : List α} {i : Nat} {x : α} (hi : t[i]? = some x) : t.drop i = x :: t.drop (i + 1) := by
  obtain ⟨hlt, rfl⟩ := getElem?_eq_some_iff.mp hi
  exact drop_eq_getElem_cons hlt

theorem forall_mem_set {α} {P : α → Prop} {l : List α} {x : α} (hl : ∀ a ∈ l, P a) (hx : P x) (i : Nat) :
    ∀ a ∈ l.set i x, P a :=
  fun a ha => (mem_or_eq_of_mem_set ha).elim (hl a) (· ▸ hx)

theorem all_set {α} {f : α → Bool} {l : List α} {x : α} (hl : l.all f = true) (hx : f x = true) (i : Nat) :
    (l.set i x).all f = true :=
  all_eq_true.mpr (forall_mem_set (all_eq_true.mp hl) hx i)

end List
