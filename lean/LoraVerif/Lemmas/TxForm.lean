import LoraVerif.Model.Mac
/-!
# `Session::prepare_buffer` in closed form

The twin of `Lemmas/RxForm.lean` for the transmit side: `prepareBuffer_eq` gives `prepareBuffer` as its three ways to panic
followed by the frame it describes (`descOf`) and the session it leaves (`sentSession`).  That a returning call yields exactly
these (`prepareBuffer_ok`), that a call within the API returns (`prepareBuffer_tot`, `Lemmas/MacWFTx.lean`) and the model
side of the tie of the regenerated method (`Props/TieA/PrepareBuffer.lean`) are read off it.
-/
namespace Model

/-- the frame `prepare_buffer` builds from session `s` -/
def descOf (s : Session) (cfg : Config) (r : RegionId) (data : List Nat) (fport : Nat) (confirmed : Bool) : UplinkDesc :=
  { confirmed := confirmed, devAddr := s.devAddr, adr := cfg.adrEnabled,
    adrAckReq := cfg.adrEnabled && decide (s.adrAckCnt ≥ Gen.Session.ADR_ACK_LIMIT.toNat) && (nextLowerDatarate r cfg.dataRate).isSome,
    ack := s.ackOwed, fcnt := s.fcntUp,
    fopts := if fport != 0 then s.pending else [], fport := fport,
    payload := if fport != 0 then data else s.pending }

/-- the session `prepare_buffer` leaves: ACK consumed, message type remembered, only sticky answers kept -/
def sentSession (s : Session) (confirmed : Bool) : Session :=
  { s with ackOwed := false, confirmed := confirmed, pending := retainSticky (s.pending.length + 1) s.pending }

theorem prepareBuffer_eq (s : Session) (cfg : Config) (r : RegionId) (data : List Nat) (fport : Nat) (conf : Bool) :
    prepareBuffer s cfg r data fport conf =
      if (fport == 0 && !data.isEmpty) = true then panic "Data payload with fport 0 not allowed"
      else if 1 + 7 + (descOf s cfg r data fport conf).fopts.length + 1 + (descOf s cfg r data fport conf).payload.length + 4 > 256 then
        panic "Error assembling packet: BufferTooShort"
      else if 1 + 7 + (descOf s cfg r data fport conf).fopts.length + 1 + (descOf s cfg r data fport conf).payload.length + 4 ≥ 256 then
        panic "tx_buffer.extend_from_slice unwrap"
      else .ok (descOf s cfg r data fport conf, sentSession s conf) := by
  unfold prepareBuffer descOf sentSession
  cases fport != 0 <;> rfl

theorem prepareBuffer_ok (s : Session) (cfg : Config) (r : RegionId) (data : List Nat) (fport : Nat) (conf : Bool)
    (desc : UplinkDesc) (s1 : Session) (h : prepareBuffer s cfg r data fport conf = .ok (desc, s1)) :
    desc = descOf s cfg r data fport conf ∧ s1 = sentSession s conf := by
  rw [prepareBuffer_eq] at h
  repeat' split at h
  all_goals cases h
  exact ⟨rfl, rfl⟩

end Model
