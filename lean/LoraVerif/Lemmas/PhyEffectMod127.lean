import LoraVerif.Lemmas.PhyEffect127
/-!
# SX127x modulation parameters: register effect of lora-phy's `set_modulation_params` against
`sx1276_set_lora_mod_params` / `sx1272_set_lora_mod_params` (C13)

For every SF (6..12) × BW × CR × LDRO, every prior content of the read-modify-written registers,
every chip version (errata 2.1 path on or off) and frequency: the two drivers leave the same value in
RegModemConfig1, RegModemConfig2, RegDetectionThreshold, RegModemConfig3 (except AgcAutoOn, which
lora-phy forces off) and DetectOptimize[2:0] — the bits `eff_mask` of harness/src/c13b.rs compares.
-/
open Model.Phy Spec.Semtech
namespace C13
open Gen.PhyCodes127

/-- the compared bits of a modulation-parameter effect (= `eff_mask("modparams", a)`) -/
def modMask (a : Nat) : UInt8 :=
  if a = 0x1d ∨ a = 0x1e ∨ a = 0x37 then 0xff else if a = 0x26 then 0xfb else if a = 0x31 then 0x07 else 0

theorem mask_close (L R : Nat → UInt8) (h29 : L 29 = R 29) (h30 : L 30 = R 30) (h55 : L 55 = R 55)
    (h38 : L 38 &&& 0xfb = R 38 &&& 0xfb) (h49 : L 49 &&& 7 = R 49 &&& 7) (a : Nat) :
    L a &&& modMask a = R a &&& modMask a := by
  refine agree_of_support modMask [29, 30, 55, 38, 49] L R (fun a ha => ?_) (fun a ha => ?_) a
  · simp at ha; simp [modMask, ha]
  · simp at ha; rcases ha with rfl | rfl | rfl | rfl | rfl <;> simp [modMask, *]

/-- a value shifted into the high nibble has no low nibble -/
theorem u8_shl4_hi (x : UInt8) : x * 16 &&& 0xf0 = x * 16 := by
  apply UInt8.toNat_inj.1
  rw [UInt8.toNat_and]
  generalize hn : (x * 16).toNat = n
  have h16 : n % 16 = 0 := by rw [← hn, UInt8.toNat_mul]; simp
  have hlt : n < 256 := by rw [← hn]; exact UInt8.toNat_lt _
  have h15 : n &&& 15 = 0 := by rw [show (15 : Nat) = 2 ^ 4 - 1 from rfl, Nat.and_two_pow_sub_one_eq_mod]; omega
  have h255 : n &&& 255 = n := by rw [show (255 : Nat) = 2 ^ 8 - 1 from rfl, Nat.and_two_pow_sub_one_eq_mod]; omega
  have h : n &&& (240 ||| 15) = n &&& 240 ||| n &&& 15 := Nat.and_or_distrib_left ..
  rw [h15, Nat.or_zero, show (240 ||| 15 : Nat) = 255 from rfl, h255] at h
  exact h.symm

theorem shl4_and (x m : UInt8) (hm : m &&& 0xf0 = 0xf0) : x * 16 &&& m = x * 16 := by
  rw [← u8_shl4_hi x, UInt8.and_assoc, UInt8.and_comm 0xf0, hm]

/-- a piece of the driver that ends well on an SX127x and leaves the compared bits as it found them -/
def KeepsMod (p : Prog Unit) : Prop :=
  ∀ c : Chip, c.kind = .sx127x →
    (trace p c).2.2 = .ok () ∧ (trace p c).2.1.kind = .sx127x ∧ ∀ a, (trace p c).2.1.regs a &&& modMask a = c.regs a &&& modMask a

theorem KeepsMod.bind {p q : Prog Unit} (hp : KeepsMod p) (hq : KeepsMod q) : KeepsMod (Prog.bind p fun _ => q) := by
  intro c hk
  obtain ⟨h1, h2, h3⟩ := hp c hk
  obtain ⟨g1, g2, g3⟩ := hq _ h2
  rw [trace_bind_ok p _ c () h1]
  exact ⟨g1, g2, fun a => (g3 a).trans (h3 a)⟩

/-- errata 2.1 writes RegHighBwOptimize1 / 2 only -/
theorem errata21_keeps (q : Bool) (bw : Bandwidth) (f : Nat) : KeepsMod (Sx127x.errata21 q bw f) := by
  intro c hk
  unfold Sx127x.errata21
  repeat' split
  all_goals eff127 [hk]
  all_goals (apply mask_close <;> simp [setAt])

/-- errata 2.3 touches bit 7 of RegDetectionOptimize, of which bits 2:0 are compared, and RegIfFreq1 / 2 -/
theorem errata23_keeps (bw : Bandwidth) : KeepsMod (Sx127x.errata23 bw) := by
  intro c hk
  have h80 : ∀ r : UInt8, (r ||| 128) &&& 7 = r &&& 7 := fun r => by fields
  have h7f : ∀ r : UInt8, r &&& 127 &&& 7 = r &&& 7 := fun r => by fields
  unfold Sx127x.errata23
  eff127 [hk]
  repeat' split
  all_goals eff127 [hk]
  all_goals (apply mask_close <;> simp [setAt, h80, h7f])

/-- the equation of `sx1276_modulation_effect_eq` for the reference program it names, the version flag of the chip
opened (`⟨q⟩`) so that `errata21` sees a variable -/
theorem sx1276_mod_core (cfg : Sx127x.Config) (hc : cfg.chip = .sx1276) (q : Bool) (sf : SpreadingFactor) (bw : Bandwidth)
    (cr : CodingRate) (hsf : sf ≠ ._5) (ldro : UInt8) (hl : ldro = 0 ∨ ldro = 1) (f : Nat) (c : Chip) (hk : c.kind = .sx127x) (a : Nat) :
    (trace (Sx127x.setModulationParams cfg ⟨q⟩ ⟨sf, bw, cr, ldro, f⟩) c).2.1.regs a &&& modMask a
    = (trace (S127.sx1276SetLoraModParams (sfNum127 sf) (bw1276Num bw) (crDenom127 cr - 4) ldro) c).2.1.regs a &&& modMask a := by
  obtain ⟨hs, -, -, hs6⟩ := sf127_code sf hsf
  obtain ⟨hcd, -⟩ := cr127_code cr
  obtain ⟨hb, -⟩ := bw1276_code bw
  generalize sfNum127 sf = s at *
  generalize crDenom127 cr = d at *
  generalize bw1276Num bw = k at *
  -- the fields SF, BW, CR, LDRO and the detection settings: straight-line on both sides
  simp only [Sx127x.setModulationParams, Sx127x.variantSetModulationParams_1276 cfg hc, Sx127x.modFields1276, hc, hs, hb, hcd, Sx127x.errOr]
  eff127 [hk, S127.sx1276SetLoraModParams, S127.detectOptimize]
  -- the two errata blocks that follow leave the compared bits alone
  generalize hC : Chip.setReg _ 38 _ = C
  have hCk : C.kind = .sx127x := by rw [← hC]; simpa using hk
  rw [((errata21_keeps q bw f).bind (errata23_keeps bw) C hCk).2.2 a]
  subst hC
  revert a
  apply mask_close <;> simp [setAt]
  · rw [u8_and_or, shl4_and _ _ (by decide)]; congr 2
  · rw [shl4_and _ _ (by decide)]; congr 1
  · simp only [hs6]; split <;> rfl
  · rcases hl with rfl | rfl <;> fields
  · simp only [hs6]; split <;> fields

/-- **SX1276 modulation parameters.**  For every SF 6..12, BW, CR, LDRO bit, frequency, chip version
flag (errata 2.1 path) and prior register content: the reference accepts the parameters and both
drivers leave the same compared bits. -/
theorem sx1276_modulation_effect_eq (cfg : Sx127x.Config) (hc : cfg.chip = .sx1276) (d : Sx127x.Data) (sf : SpreadingFactor)
    (bw : Bandwidth) (cr : CodingRate) (hsf : sf ≠ ._5) (ldro : UInt8) (hl : ldro = 0 ∨ ldro = 1) (f : Nat) (c : Chip)
    (hk : c.kind = .sx127x) :
    ∃ p, S127.modulation false (sfNum127 sf) (Sx127x.hzOf bw) (crDenom127 cr) ldro = some p ∧
      ∀ a, (trace (Sx127x.setModulationParams cfg d ⟨sf, bw, cr, ldro, f⟩) c).2.1.regs a &&& modMask a
            = (trace p c).2.1.regs a &&& modMask a := by
  obtain ⟨_, hs6, hs12, _⟩ := sf127_code sf hsf
  obtain ⟨_, _, hc5, hc8⟩ := cr127_code cr
  obtain ⟨_, hb, _, _⟩ := bw1276_code bw
  refine ⟨S127.sx1276SetLoraModParams (sfNum127 sf) (bw1276Num bw) (crDenom127 cr - 4) ldro, ?_, ?_⟩
  · have : 6 ≤ sfNum127 sf ∧ sfNum127 sf ≤ 12 ∧ 5 ≤ crDenom127 cr ∧ crDenom127 cr ≤ 8 := ⟨hs6, hs12, hc5, hc8⟩
    simp [S127.modulation, this, hb]
  · obtain ⟨q⟩ := d
    exact sx1276_mod_core cfg hc q sf bw cr hsf ldro hl f c hk

/-- **SX1272 modulation parameters** (125 / 250 / 500 kHz; the LDRO bit is RegModemConfig1[0]). -/
theorem sx1272_modulation_effect_eq (cfg : Sx127x.Config) (hc : cfg.chip = .sx1272) (d0 : Sx127x.Data) (sf : SpreadingFactor)
    (bw : Bandwidth) (cr : CodingRate) (hsf : sf ≠ ._5) (hbw : Sx127x.hzOf bw ≥ 125000) (ldro : UInt8) (hl : ldro = 0 ∨ ldro = 1)
    (f : Nat) (c : Chip) (hk : c.kind = .sx127x) :
    ∃ p, S127.modulation true (sfNum127 sf) (Sx127x.hzOf bw) (crDenom127 cr) ldro = some p ∧
      ∀ a, (trace (Sx127x.setModulationParams cfg d0 ⟨sf, bw, cr, ldro, f⟩) c).2.1.regs a &&& modMask a
            = (trace p c).2.1.regs a &&& modMask a := by
  obtain ⟨hs, hs6, hs12, hs6'⟩ := sf127_code sf hsf
  obtain ⟨hcd, hcv, hc5, hc8⟩ := cr127_code cr
  obtain ⟨hb, hbc, hb7, hb9⟩ := bw1272_code bw hbw
  refine ⟨S127.sx1272SetLoraModParams (sfNum127 sf) (bw1276Num bw - 7) (crDenom127 cr - 4) ldro, ?_, ?_⟩
  · have : 6 ≤ sfNum127 sf ∧ sfNum127 sf ≤ 12 ∧ 5 ≤ crDenom127 cr ∧ crDenom127 cr ≤ 8 := ⟨hs6, hs12, hc5, hc8⟩
    simp [S127.modulation, this, hbc, hb7]
  · generalize sfNum127 sf = s at *
    generalize crDenom127 cr = d at *
    generalize bw1276Num bw = k at *
    simp only [Sx127x.setModulationParams, Sx127x.variantSetModulationParams, hc, hs, hb, hcd, hcv, Sx127x.errOr]
    intro a
    eff127 [hk, S127.sx1272SetLoraModParams, S127.detectOptimize]
    revert a
    apply mask_close <;> simp [setAt]
    · congr 3; fields
    · congr 1
    · simp only [hs6']; split <;> rfl
    · simp only [hs6']; split <;> fields

end C13
