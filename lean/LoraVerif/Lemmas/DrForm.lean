import LoraVerif.Model.Region
import LoraVerif.Lemmas.RtLemmas
/-!
# `DR::from(u8)` in closed form

The generated `u8.into_DR` masks its argument with `& 0x0f` and walks sixteen comparisons; `drOfNatT` is the same function as
a table, and `drOfNat_eq` joins the two through `into_dr`, the one evaluation of the sixteen cases.  The properties read off
it that the `unreachable!()` arm of the conversion is never reached (`Model.drOfNat_tot`, `Lemmas/MacWFPlan.lean`), the ties
that it inverts `DR.toInt` (`drOfNat_toInt`).  The table and its facts stand in namespace `TieA` because the ties of the
generated code cite them under that name; `drOfNat_eq` is about the model's `drOfNat` and stands in `Model`.
-/
open Model Gen.Region

namespace TieA

/-- total left inverse of `DR.toInt` on 0..15 -/
def drOfNatT : Nat → DR
  | 0 => ._0 | 1 => ._1 | 2 => ._2 | 3 => ._3 | 4 => ._4 | 5 => ._5 | 6 => ._6 | 7 => ._7
  | 8 => ._8 | 9 => ._9 | 10 => ._10 | 11 => ._11 | 12 => ._12 | 13 => ._13 | 14 => ._14 | _ => ._15

theorem drOfNatT_toInt : ∀ n < 16, (drOfNatT n).toInt.toNat = n := by decide

theorem toInt_drOfNatT (d : DR) : drOfNatT d.toInt.toNat = d := by cases d <;> rfl

theorem DR.toInt_lt (d : DR) : d.toInt.toNat < 16 := by cases d <;> decide

theorem into_dr : ∀ n < 16, u8.into_DR ((n : Nat) : Int) = some (drOfNatT n) := by decide

end TieA

namespace Model
open TieA Rt.OfNat

theorem drOfNat_eq (n : Nat) : drOfNat n = .ok (drOfNatT (n % 16)) := by
  have h : u8.into_DR (n : Int) = u8.into_DR ((n % 16 : Nat) : Int) := by
    unfold u8.into_DR; rw [andI_15 n, andI_15 (n % 16), Nat.mod_mod]
  rw [drOfNat, h, into_dr _ (Nat.mod_lt _ (by decide))]; rfl

end Model

namespace TieA

theorem drOfNat_toInt (d : DR) : drOfNat d.toInt.toNat = .ok d := by
  rw [drOfNat_eq, Nat.mod_eq_of_lt (DR.toInt_lt d), toInt_drOfNatT]

end TieA
