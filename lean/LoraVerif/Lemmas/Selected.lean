import LoraVerif.Model.Region
import LoraVerif.Lemmas.Safe
/-!
# What a successful `select_tx_channel` can have done

One relation, `Selected rs dr frame tx rs'`, per plan kind and frame kind: which channel and data rate went out and what
the plan is afterwards.  It is proved once from `selectTxChannel … = .ok (tx, rs', s')` with no hypothesis on the plan
(`selectTxChannel_selected`); what is said about a returned selection elsewhere is read off it: the region is kept
(`Selected.id`), the downlink frequency is the channel's (`C10.Paired`), no join bias appears (`C12.NoBias`), and, from a
well-formed plan, the channel is legal and the plan left is well-formed (`Selected.legal`, `Selected.wf`,
`Lemmas/MacWFSelect.lean`).  The random generator is quantified away (`JcNext`, `JcFirst`): no reading depends on it.
Before the relation stand what the retry loops return, under the names `C09.*_sound` / `C09.dynDataLoop_first` in which
the property (`Props/C09.lean`) cites them; `dynDataLoop_first` is read by `Lemmas/Accept.lean`.
-/
open Gen.Region Gen.Modulation

namespace Model

theorem indexDatarate_get {r : RegionId} {n : Nat} {o : Option Datarate} (h : indexDatarate r n = .ok o) :
    getDatarate r n = o := by
  unfold indexDatarate at h
  unfold getDatarate
  split at h
  · cases h; rfl
  · cases h

theorem unwrapDatarate_get {site : String} {o : Option Datarate} {d : Datarate} (h : unwrapDatarate site o = .ok d) :
    o = some d := by
  cases o with
  | none => cases h
  | some d' => cases h; rfl

theorem dynJoinLoop_safe {σ} (g : Rng σ) (n fuel : Nat) (s : σ) : Safe (dynJoinLoop g n fuel s) (fun r => r.1 < n) := by
  induction fuel generalizing s with
  | zero => exact Safe.hang
  | succ fuel ih =>
    unfold dynJoinLoop
    simp only
    split
    · exact ih _
    · refine Safe.pure ?_
      simp only; omega

theorem usable_some (p : DynPlan) (i : Nat) (c : Channel) (h : p.usable i = .ok (some c)) :
    p.mask.isEnabled i = .ok true ∧ p.channels[i]? = some (some c) := by
  unfold DynPlan.usable at h
  obtain ⟨en, hen, h⟩ := Except.bind_eq_ok h
  cases en
  · simp [pure, Except.pure] at h
  · simp only [if_true] at h
    refine ⟨hen, ?_⟩
    split at h
    · rename_i c' hc'
      simp only [pure, Except.pure, Except.ok.injEq] at h
      rw [hc', h]
    · cases h

end Model

namespace C09
open Model

theorem dynJoinLoop_sound {σ} (g : Rng σ) (n : Nat) (fuel : Nat) (s : σ) (idx : Nat) (s' : σ)
    (h : dynJoinLoop g n fuel s = .ok (idx, s')) : idx < n :=
  (dynJoinLoop_safe g n fuel s).elim h

theorem dynDataLoop_sound {σ} (g : Rng σ) (p : DynPlan) (fuel : Nat) (s : σ) (c : Channel) (s' : σ)
    (h : dynDataLoop g p fuel s = .ok (c, s')) : ∃ i, p.usable i = .ok (some c) := by
  induction fuel generalizing s with
  | zero => simp [dynDataLoop, hang] at h
  | succ fuel ih =>
    unfold dynDataLoop at h
    obtain ⟨⟨i, s1⟩, _, h⟩ := Except.bind_eq_ok h
    obtain ⟨u, hu, h⟩ := Except.bind_eq_ok h
    cases u with
    | some c' =>
      simp only [pure, Except.pure, Except.ok.injEq, Prod.mk.injEq] at h
      obtain ⟨rfl, _⟩ := h
      exact ⟨i, hu⟩
    | none => exact ih _ h

/-- the data-channel loop returns at the first draw that names a usable channel -/
theorem dynDataLoop_first {σ} (g : Rng σ) (p : DynPlan) (fuel : Nat) (s : σ) (i : Nat) (s1 : σ) (c : Channel)
    (hd : p.randomInRange g s = .ok (i, s1)) (hu : p.usable i = .ok (some c)) :
    dynDataLoop g p (fuel + 1) s = .ok (c, s1) := by
  unfold dynDataLoop
  simp [hd, hu, bind, Except.bind, pure, Except.pure]

theorem fixedMaskLoop_sound {σ} (g : Rng σ) (mask : Mask) (bits base fuel : Nat) (s : σ) (ch : Nat) (s' : σ)
    (hb : 0 < bits) (h : fixedMaskLoop g mask bits base fuel s = .ok (ch, s')) :
    base ≤ ch ∧ ch < base + bits ∧ mask.isEnabled ch = .ok true := by
  induction fuel generalizing s with
  | zero => simp [fixedMaskLoop, hang] at h
  | succ fuel ih =>
    unfold fixedMaskLoop at h
    simp only at h
    obtain ⟨en, hen, h⟩ := Except.bind_eq_ok h
    cases en
    · simp only [Bool.false_eq_true, if_false] at h
      exact ih _ h
    · simp only [if_true, pure, Except.pure, Except.ok.injEq, Prod.mk.injEq] at h
      obtain ⟨rfl, _⟩ := h
      refine ⟨by omega, ?_, ?_⟩
      · have := Nat.mod_lt (draw g s).1 hb
        omega
      · rw [Nat.add_comm]; exact hen

end C09

namespace Model

/-- the data rate a join channel of a fixed plan mandates -/
def joinDr (r : RegionId) (ch : Nat) : DR := if ch < 64 then DR._0 else join500kDr r

def JcNext (j : JoinChannels) (ch : Nat) (j' : JoinChannels) : Prop :=
  ∃ (σ : Type) (g : Rng σ) (s s' : σ), j.getNextChannel g s = .ok (ch, j', s')

def JcFirst (j : JoinChannels) (pref : Option Nat) (j' : JoinChannels) : Prop :=
  ∃ (σ : Type) (g : Rng σ) (s : σ), (j.firstDataChannel g s).1 = pref ∧ (j.firstDataChannel g s).2.1 = j'

/-- the join-channel state in which a data frame of a fixed plan picks a channel of its own: the plan's, or what a
biased attempt on a channel the mask disables has left -/
inductive Tried (p : FixPlan) : JoinChannels → Prop
  | unbiased : p.jc.hasBiasAndNotExhausted = false → Tried p p.jc
  | refused {ch j0} : p.jc.hasBiasAndNotExhausted = true → JcNext p.jc ch j0 → p.mask.isEnabled ch = .ok false → Tried p j0

/-- first half of a fixed plan's selection: data rate, channel, join channels and mask it settles on -/
inductive FixPick (r : RegionId) (p : FixPlan) (dr : DR) : FrameKind → DR → Nat → JoinChannels → Mask → Prop
  | join {ch j'} : JcNext p.jc ch j' → FixPick r p dr .join (joinDr r ch) ch j' p.mask
  | biased {ch j'} : p.jc.hasBiasAndNotExhausted = true → JcNext p.jc ch j' → p.mask.isEnabled ch = .ok true →
      FixPick r p dr .data (joinDr r ch) ch j' p.mask
  | preferred {j0 ch j' d} : Tried p j0 → JcFirst j0 (some ch) j' → p.mask.isEnabled ch = .ok true →
      getDatarate r dr.toInt.toNat = some d → d.bandwidth = Bandwidth._125KHz → FixPick r p dr .data dr ch j' p.mask
  | random {j0 pref j' d mask' ch} : Tried p j0 → JcFirst j0 pref j' → getDatarate r dr.toInt.toNat = some d →
      (mask' = p.mask ∨ p.mask.setBank 8 255 = .ok mask' ∨
        setBanks p.mask ((List.range 8).map (fun i => (i, 255))) = .ok mask') →
      mask'.isEnabled ch = .ok true →
      (if d.bandwidth = Bandwidth._500KHz then 64 ≤ ch ∧ ch < 72 else ch < 64) →
      FixPick r p dr .data dr ch j' mask'

inductive Selected (rs : RegionState) (dr : DR) : FrameKind → TxChannel → RegionState → Prop
  | dynJoin {p i c d} : rs.plan = .dyn p → i < numJoinChannels rs.id → p.channels[i]? = some (some c) →
      getDatarate rs.id dr.toInt.toNat = some d →
      Selected rs dr .join { dr := dr, datarate := d, frequency := c.freq, rx1Frequency := c.rx1Frequency } rs
  | dynData {p mask' i c d} : rs.plan = .dyn p →
      (mask' = p.mask ∨
        (List.range (numJoinChannels rs.id)).foldlM (fun m i => m.setChannel i true) p.mask = .ok mask') →
      mask'.isEnabled i = .ok true → p.channels[i]? = some (some c) → getDatarate rs.id dr.toInt.toNat = some d →
      Selected rs dr .data { dr := dr, datarate := d, frequency := c.freq, rx1Frequency := c.rx1Frequency }
        { rs with plan := .dyn { p with mask := mask' } }
  | fix {p frame dr' ch j' mask' d f f1} : rs.plan = .fix p → FixPick rs.id p dr frame dr' ch j' mask' →
      getDatarate rs.id dr'.toInt.toNat = some d → (uplinkChannels rs.id)[ch]? = some f →
      (downlinkChannels rs.id)[ch % 8]? = some f1 →
      Selected rs dr frame { dr := dr', datarate := d, frequency := f.toNat, rx1Frequency := f1.toNat }
        { rs with plan := .fix { mask := mask', jc := j' } }

theorem selectTxChannel_selected {σ} (g : Rng σ) (rs rs' : RegionState) (dr : DR) (frame : FrameKind) (s s' : σ)
    (tx : TxChannel) (h : selectTxChannel g rs dr frame s = .ok (tx, rs', s')) : Selected rs dr frame tx rs' := by
  unfold selectTxChannel at h
  cases hp : rs.plan with
  | dyn p =>
    simp only [hp] at h
    obtain ⟨drv, hdrv, h⟩ := Except.bind_eq_ok h
    have hg := indexDatarate_get hdrv
    cases frame with
    | join =>
      simp only at h
      obtain ⟨⟨idx, s1⟩, hloop, h⟩ := Except.bind_eq_ok h
      simp only at h
      split at h
      · rename_i c hc
        obtain ⟨d, hd, h⟩ := Except.bind_eq_ok h
        cases Except.pure_eq_ok h
        exact .dynJoin hp (C09.dynJoinLoop_sound g _ _ s _ _ hloop) hc (hg.trans (unwrapDatarate_get hd))
      · cases h
    | data =>
      simp only at h
      obtain ⟨ua, _, h⟩ := Except.bind_eq_ok h
      obtain ⟨p', hp', h⟩ := Except.bind_eq_ok h
      obtain ⟨⟨c, s1⟩, hloop, h⟩ := Except.bind_eq_ok h
      obtain ⟨d, hd, h⟩ := Except.bind_eq_ok h
      cases Except.pure_eq_ok h
      obtain ⟨i, hu⟩ := C09.dynDataLoop_sound g p' loopFuel s c s1 hloop
      obtain ⟨hen, hc⟩ := usable_some p' i c hu
      have hm : ∃ mask', p' = { p with mask := mask' } ∧ (mask' = p.mask ∨
          (List.range (numJoinChannels rs.id)).foldlM (fun m i => m.setChannel i true) p.mask = .ok mask') := by
        cases ua
        · simp only [Bool.false_eq_true, if_false] at hp'
          obtain ⟨m, hm, hp'⟩ := Except.bind_eq_ok hp'
          cases Except.pure_eq_ok hp'
          exact ⟨m, rfl, .inr hm⟩
        · simp only [if_true] at hp'
          cases Except.pure_eq_ok hp'
          exact ⟨p.mask, rfl, .inl rfl⟩
      obtain ⟨mask', rfl, hm⟩ := hm
      exact .dynData hp hm hen hc (hg.trans (unwrapDatarate_get hd))
  | fix p =>
    simp only [hp] at h
    obtain ⟨⟨dr', channel, jc, mask, s1⟩, hsel, h⟩ := Except.bind_eq_ok h
    simp only at h
    obtain ⟨oi, hoi, h⟩ := Except.bind_eq_ok h
    obtain ⟨d, hd, h⟩ := Except.bind_eq_ok h
    have hgd := (indexDatarate_get hoi).trans (unwrapDatarate_get hd)
    suffices hs : FixPick rs.id p dr frame dr' channel jc mask by
      split at h
      · rename_i f f1 hf hf1
        cases Except.pure_eq_ok h
        exact .fix hp hs hgd hf hf1
      · cases h
    clear h hgd hd hoi
    cases frame with
    | join =>
      simp only at hsel
      obtain ⟨⟨ch, jc', s2⟩, hg, hsel⟩ := Except.bind_eq_ok hsel
      cases Except.pure_eq_ok hsel
      exact .join ⟨σ, g, s, s2, hg⟩
    | data =>
      simp only at hsel
      obtain ⟨⟨biased, jc0, s0⟩, hb, hsel⟩ := Except.bind_eq_ok hsel
      have hstage : (∃ ch, biased = some ch ∧ p.jc.hasBiasAndNotExhausted = true ∧ JcNext p.jc ch jc0 ∧
          p.mask.isEnabled ch = .ok true) ∨ (biased = none ∧ Tried p jc0) := by
        split at hb
        · rename_i hbias
          obtain ⟨⟨ch, jc', s2⟩, hg, hb⟩ := Except.bind_eq_ok hb
          obtain ⟨en, hen, hb⟩ := Except.bind_eq_ok hb
          cases Except.pure_eq_ok hb
          cases en
          · exact .inr ⟨rfl, .refused hbias ⟨σ, g, s, s2, hg⟩ hen⟩
          · exact .inl ⟨ch, rfl, hbias, ⟨σ, g, s, s2, hg⟩, hen⟩
        · rename_i hbias
          cases Except.pure_eq_ok hb
          exact .inr ⟨rfl, .unbiased (by simpa using hbias)⟩
      clear hb
      rcases hstage with ⟨ch, rfl, hbias, hn, hen⟩ | ⟨rfl, htried⟩
      · simp only at hsel
        cases Except.pure_eq_ok hsel
        exact .biased hbias hn hen
      · simp only at hsel
        generalize hfd : JoinChannels.firstDataChannel g jc0 s0 = fd at hsel
        obtain ⟨pref, jcf, sf⟩ := fd
        have hfirst : JcFirst jc0 pref jcf := ⟨σ, g, s0, by rw [hfd], by rw [hfd]⟩
        simp only at hsel
        obtain ⟨o, ho, hsel⟩ := Except.bind_eq_ok hsel
        obtain ⟨d0, hd0, hsel⟩ := Except.bind_eq_ok hsel
        have hg0 := (indexDatarate_get ho).trans (unwrapDatarate_get hd0)
        obtain ⟨up, hup, hsel⟩ := Except.bind_eq_ok hsel
        split at hsel
        · rename_i chp
          obtain ⟨en, hen, hup⟩ := Except.bind_eq_ok hup
          have e := Except.pure_eq_ok hup
          simp only [Bool.and_eq_true, beq_iff_eq] at e
          cases Except.pure_eq_ok hsel
          exact .preferred htried hfirst (e.1 ▸ hen) hg0 e.2
        · split at hsel
          · rename_i hbw
            obtain ⟨a, _, hsel⟩ := Except.bind_eq_ok hsel
            obtain ⟨mk, hmk, hsel⟩ := Except.bind_eq_ok hsel
            obtain ⟨⟨ch, s2⟩, hl, hsel⟩ := Except.bind_eq_ok hsel
            cases Except.pure_eq_ok hsel
            obtain ⟨h1, h2, h3⟩ := C09.fixedMaskLoop_sound g _ 8 64 _ sf _ s2 (by decide) hl
            refine .random htried hfirst hg0 ?_ h3 ?_
            · cases a
              · exact .inr (.inl hmk)
              · exact .inl (Except.pure_eq_ok hmk).symm
            · rw [if_pos (by simpa using hbw)]; exact ⟨h1, h2⟩
          · rename_i hbw
            obtain ⟨a, _, hsel⟩ := Except.bind_eq_ok hsel
            obtain ⟨mk, hmk, hsel⟩ := Except.bind_eq_ok hsel
            obtain ⟨⟨ch, s2⟩, hl, hsel⟩ := Except.bind_eq_ok hsel
            cases Except.pure_eq_ok hsel
            obtain ⟨h1, h2, h3⟩ := C09.fixedMaskLoop_sound g _ 64 0 _ sf _ s2 (by decide) hl
            refine .random htried hfirst hg0 ?_ h3 ?_
            · cases a
              · exact .inr (.inr hmk)
              · exact .inl (Except.pure_eq_ok hmk).symm
            · rw [if_neg (by simpa using hbw)]; omega

theorem Selected.id {rs dr frame tx rs'} (h : Selected rs dr frame tx rs') : rs'.id = rs.id := by
  cases h <;> rfl

/-- the channel `first_data_channel` names is a 125 kHz one -/
theorem firstDataChannel_lt {σ} (g : Rng σ) (j : JoinChannels) (s : σ) (ch : Nat)
    (h : (j.firstDataChannel g s).1 = some ch) : ch < 64 := by
  unfold JoinChannels.firstDataChannel at h
  split at h
  · simp only [Option.some.injEq] at h
    subst h
    have hlt : (draw g s).1 % 8 < 8 := Nat.mod_lt _ (by decide)
    simp only [JoinChannels.clearBias]
    by_cases hpc : j.previousChannel < 64 <;> simp only [hpc, if_true, if_false] <;> omega
  · cases h

theorem JcFirst.lt {j : JoinChannels} {ch : Nat} {j' : JoinChannels} (h : JcFirst j (some ch) j') : ch < 64 := by
  obtain ⟨σ, g, s, h1, _⟩ := h
  exact firstDataChannel_lt g j s ch h1

theorem JcNext.nobias {j : JoinChannels} {ch : Nat} {j' : JoinChannels} (h : JcNext j ch j')
    (hn : j.preferredSubband = none) : j'.preferredSubband = none := by
  obtain ⟨σ, g, s, s', h⟩ := h
  unfold JoinChannels.getNextChannel at h
  simp only [hn] at h
  unfold availGetNext at h
  obtain ⟨⟨c, s1⟩, _, h⟩ := Except.bind_eq_ok h
  obtain ⟨a, _, h⟩ := Except.bind_eq_ok h
  cases Except.pure_eq_ok h
  rfl

theorem JcFirst.nobias {j : JoinChannels} {pref : Option Nat} {j' : JoinChannels} (h : JcFirst j pref j')
    (hn : j.preferredSubband = none) : j'.preferredSubband = none := by
  obtain ⟨σ, g, s, _, rfl⟩ := h
  simp [JoinChannels.firstDataChannel, hn]

theorem hasBias_of_none {j : JoinChannels} (hn : j.preferredSubband = none) : j.hasBiasAndNotExhausted = false := by
  simp [JoinChannels.hasBiasAndNotExhausted, hn]

theorem Tried.nobias {p : FixPlan} {j0 : JoinChannels} (h : Tried p j0) (hn : p.jc.preferredSubband = none) :
    j0.preferredSubband = none := by
  cases h with
  | unbiased _ => exact hn
  | refused hb _ _ => rw [hasBias_of_none hn] at hb; cases hb

theorem FixPick.nobias {r : RegionId} {p : FixPlan} {dr : DR} {frame : FrameKind} {dr' : DR} {ch : Nat} {j' : JoinChannels}
    {mask' : Mask} (h : FixPick r p dr frame dr' ch j' mask') (hn : p.jc.preferredSubband = none) :
    j'.preferredSubband = none ∧ (frame = .data → dr' = dr) := by
  cases h with
  | join hnx => exact ⟨hnx.nobias hn, nofun⟩
  | biased hb _ _ => rw [hasBias_of_none hn] at hb; cases hb
  | preferred htr hfst _ _ _ => exact ⟨hfst.nobias (htr.nobias hn), fun _ => rfl⟩
  | random htr hfst _ _ _ _ => exact ⟨hfst.nobias (htr.nobias hn), fun _ => rfl⟩

end Model
