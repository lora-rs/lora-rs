import LoraVerif.Lemmas.TraceC
import LoraVerif.Lemmas.StepWalk
/-!
# Well-formedness along a chain of steps

What the INDEXED history theorems need beside the tracker (`chain_ghRel`, `chainC_ghRel` of `Lemmas/Ghost*.lean`): the state
reached just before position `i` of a history is still well-formed, with the region it started in (`chain_wf`,
`chainC_wf`; C10 `history_windows` / `historyC_windows`).  Both are the generic induction with a ghost that carries nothing.
-/
namespace Model

theorem chain_wf {σ} (g : Rng σ) (ms ms' : MacState × σ) (t : List (Ev × Out)) (hwf : MacWF ms.1)
    (hv : ∀ x ∈ t, validEv ms.1.region.id x.1 = true) (h : Chain g ms t ms') :
    MacWF ms'.1 ∧ ms'.1.region.id = ms.1.region.id :=
  (chain_traceD g (fun _ _ _ => ()) (fun _ _ _ => True) (fun m _ => MacWF m ∧ m.region.id = ms.1.region.id)
    (fun ev => validEv ms.1.region.id ev = true)
    (fun _ _ _ _ _ _ _ hr hv hs => have hk := step_keeps hr.1 hr.2 hv hs; ⟨trivial, hk.1, hk.2.1.trans hr.2⟩)
    ms ms' t () ⟨hwf, rfl⟩ hv h).2

theorem chainC_wf {σ} (g : Rng σ) (ms ms' : MacState × σ) (t : List (EvL × OutC)) (hwf : MacWF ms.1)
    (hv : ∀ x ∈ t, validEvC ms.1.region.id x.1.2 = true) (h : ChainC g ms t ms') :
    MacWF ms'.1 ∧ ms'.1.region.id = ms.1.region.id :=
  (chainC_traceD g (fun _ _ _ => ()) (fun _ _ _ => True) (fun m _ => MacWF m ∧ m.region.id = ms.1.region.id)
    (fun ev => validEvC ms.1.region.id ev = true)
    (fun _ _ _ _ _ _ _ hr hv hs => have hk := stepC_keeps hr.1 hr.2 hv hs; ⟨trivial, hk.1, hk.2.1.trans hr.2⟩)
    ms ms' t () ⟨hwf, rfl⟩ hv h).2

end Model
