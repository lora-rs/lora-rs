import LoraVerif.Lemmas.MacWFTx
/-!
The hang side of C04 / "channel selection always terminates" of C09: in every well-formed state the
accept set of every retry loop that `Mac::send` / `Mac::join_otaa` can enter is NOT EMPTY.
Stated end to end: there is a draw value `v < 64` such that with a generator that yields `v` the
whole call returns (`macSend_returns`, `macJoinOtaa_returns`) — every rejection-sampling loop accepts
at its first draw.  Ingredients: after the fallback a dynamic plan offers a usable channel (`dynFallback`)
whose index is inside the range the draw is reduced to; a fixed plan's mask offers a channel of the
bandwidth the data rate needs (`fallback500`, `fallback125`); the join-channel walk always has a free
channel in the bank it turns to (`AvInv`, `Lemmas/JoinWalk.lean`).
-/
open Gen.Region Gen.Modulation

namespace Model

def constGen {σ} (v : Nat) : Rng σ := fun s => (v, s)

theorem draw_const {σ} (v : Nat) (s : σ) (hv : v < 4294967296) : draw (constGen v) s = (v, s) := by
  unfold draw constGen
  simp only [Nat.mod_eq_of_lt hv]

theorem dynJoinLoop_const {σ} (v n fuel : Nat) (s : σ) (hv : v < 4294967296) (h : v % 4 < n) :
    dynJoinLoop (constGen v) n (fuel + 1) s = .ok (v % 4, s) := by
  unfold dynJoinLoop
  simp only [draw_const v s hv]
  have : ¬ v % 4 ≥ n := by omega
  simp only [this, if_false]; rfl

theorem fixedMaskLoop_const {σ} (v : Nat) (mask : Mask) (bits base fuel : Nat) (s : σ) (hv : v < 4294967296)
    (h : mask.isEnabled (v % bits + base) = .ok true) :
    fixedMaskLoop (constGen v) mask bits base (fuel + 1) s = .ok (base + v % bits, s) := by
  unfold fixedMaskLoop
  simp only [draw_const v s hv, h, ok_bind, if_true]; rfl

theorem entropyLoop_first {σ} (g : Rng σ) (avail : Mask) (bank fuel e used : Nat) (s : σ)
    (h : avail.isEnabled (e % 8 + bank * 8) = .ok true) :
    entropyLoop g avail bank (fuel + 1) e used s = .ok (e % 8 + bank * 8, s) := by
  unfold entropyLoop
  simp only [h, ok_bind, if_true]; rfl

theorem bank_offer (m : Mask) (k : Nat) (hm : m.length = 9) (hk : k < 9) (hc : 1 ≤ bankCnt m k) :
    ∃ j, j < 8 ∧ m.isEnabled (j + k * 8) = .ok true := by
  unfold bankCnt at hc
  have hidx : k < m.length := by omega
  rw [List.getElem?_eq_getElem hidx] at hc
  simp only at hc
  obtain ⟨j, hj, ht⟩ := byte_pos hc
  refine ⟨j, hj, ?_⟩
  have h2 : (j + k * 8) / 8 = k := by omega
  have h3 : (j + k * 8) % 8 = j := by omega
  rw [isEnabled_eq m _ hm (by omega), h2, h3, getElem!_pos m k hidx, ht]

/-- **the walk always has a channel to offer**: outside the biased phase there is a 3-bit draw value
on which `AvailableChannels::get_next` returns (at once) -/
theorem availGetNext_returns (j : JoinChannels) (h : jcWF j = true)
    (hnb : ¬ Biased j) :
    ∃ v, v < 8 ∧ ∀ {σ : Type} (s : σ), Tot (availGetNext (constGen v) j s) (fun r => r.1 < 72 ∧ jcWF r.2.1 = true) := by
  obtain ⟨ha, hsb, hav, _⟩ := jcWF_iff.mp h
  -- the draw value: a free channel of the bank the walk turns to (0 when no loop can be entered)
  have hv : ∃ v, v < 8 ∧ (availIsExhausted j.avail = false → ∀ pv, j.availPrev = some pv →
      j.avail.isEnabled (v + ((pv + 8) % 72 / 8) * 8) = .ok true) := by
    by_cases hex : availIsExhausted j.avail = false
    · cases hp : j.availPrev with
      | none => exact ⟨0, by decide, fun _ pv e => by cases e⟩
      | some pv =>
        rw [hp] at hav
        have hne := avInv_next_nonempty j.avail pv hav hex
        obtain ⟨v, hv8, hen⟩ := bank_offer j.avail _ ha (Nat.mod_lt _ (by decide)) hne
        have hbank : (pv + 8) % 72 / 8 = (pv / 8 + 1) % 9 := by have := hav.2.2.1; omega
        exact ⟨v, hv8, fun _ pv' e => by cases e; rw [hbank]; exact hen⟩
    · exact ⟨0, by decide, fun e => absurd e hex⟩
  obtain ⟨v, hv8, hoffer⟩ := hv
  refine ⟨v, hv8, fun {σ} s => availGetNext_wp .total (constGen v) j s h hnb (fun hex pv hp => ?_)⟩
  rw [draw_const v s (by omega)]
  have e := entropyLoop_first (constGen v) j.avail _ (loopFuel - 1) v 1 s (by rw [Nat.mod_eq_of_lt hv8]; exact hoffer hex pv hp)
  exact Tot.of_eq e ((entropyLoop_safe (constGen v) j.avail _ _ _ _ _ ha (by omega)).elim e)

theorem getNextChannel_returns (j : JoinChannels) (h : jcWF j = true) :
    ∃ v, v < 8 ∧ ∀ {σ : Type} (s : σ), Tot (j.getNextChannel (constGen v) s) (fun r => r.1 < 72 ∧ jcWF r.2.1 = true) := by
  by_cases hb : Biased j
  · exact ⟨0, by decide, fun {σ} s => getNextChannel_biased_tot (constGen 0) j s h hb⟩
  · obtain ⟨v, hv8, hret⟩ := availGetNext_returns _ (jcWF_retry h hb).1 (jcWF_retry h hb).2
    exact ⟨v, hv8, fun {σ} s => by rw [getNextChannel_unbiased j hb]; exact hret s⟩

/-- a draw that names a usable channel is inside the range the draw is reduced to -/
theorem randomInRange_const {σ} (r : RegionId) (p : DynPlan) (h : dynWF r p = true) (i : Nat) (c : Channel)
    (hu : p.usable i = .ok (some c)) (s : σ) : p.randomInRange (constGen i) s = .ok (i, s) := by
  obtain ⟨_, hch⟩ := usable_some p i c hu
  obtain ⟨n, hn, h1, h2⟩ := range_gt r p h i c hch
  unfold DynPlan.randomInRange
  simp only [hn, ok_bind, draw_const i s (by omega)]
  have h16 : ¬ n > 16 := by omega
  simp only [h16, if_false, pure, Except.pure]
  by_cases h8 : n > 8
  · simp only [h8, if_true]
    have : i % (15 + 1) = i := Nat.mod_eq_of_lt (by omega)
    rw [this]
  · simp only [h8, if_false]
    have : i % (7 + 1) = i := Nat.mod_eq_of_lt (by omega)
    rw [this]

/-- **channel selection can return**: for a generator that yields the right constant every loop `selectTxChannel_wp`
leaves open accepts at its first draw — the join channel loop any value below the number of join channels, the data loop
the index of a usable channel (`dynFallback`), the join-channel walk a free channel of the bank it turns to
(`getNextChannel_returns`), the mask loop an enabled channel of the bandwidth asked for (`fallback500`, `fallback125`) -/
theorem selectTxChannel_returns (rs : RegionState) (dr : DR) (frame : FrameKind) (h : regionWF rs = true)
    (hdr : isUplinkDatarate rs.id dr.toInt.toNat = true) :
    ∃ v, v < 64 ∧ ∀ {σ : Type} (s : σ),
      Tot (selectTxChannel (constGen v) rs dr frame s) (fun r => regionWF r.2.1 = true ∧ r.2.1.id = rs.id) := by
  obtain ⟨dd, hdd, _⟩ := isUplink_get hdr
  suffices ∃ v, v < 64 ∧ ∀ {σ : Type} (s : σ), Tot (selectTxChannel (constGen v) rs dr frame s) (fun _ => True) from
    let ⟨v, hv, ht⟩ := this; ⟨v, hv, fun s => (selectTxChannel_safe (constGen v) rs dr frame s h hdr).to_tot (ht s).returns⟩
  cases hp : rs.plan with
  | dyn p =>
    have nofix : ∀ q : FixPlan, rs.plan ≠ .fix q := fun q hq => by rw [hp] at hq; cases hq
    have hw := ((regionWF_dyn hp).mp h).2
    cases frame with
    | join =>
      refine ⟨0, by decide, fun {σ} s => selectTxChannel_wp .total _ rs dr _ s h hdd ?_ nofun
        (fun _ q hq => absurd hq (nofix q)) (fun _ _ q hq => absurd hq (nofix q)) (fun _ _ q hq => absurd hq (nofix q))⟩
      exact fun _ _ _ s => Tot.of_eq (dynJoinLoop_const 0 _ _ s (by decide) (numJoinChannels_pos rs.id))
        (numJoinChannels_pos rs.id)
    | data =>
      obtain ⟨ua, hua, p', hp', hwf', i, c, hi16, husable⟩ := dynFallback rs.id p hw
      refine ⟨i, by omega, fun {σ} s => selectTxChannel_wp .total _ rs dr _ s h hdd nofun ?_ nofun
        (fun _ _ q hq => absurd hq (nofix q)) (fun _ _ q hq => absurd hq (nofix q))⟩
      intro _ q hq
      cases hp.symm.trans hq
      exact ⟨ua, hua, p', hp', fun s => Tot.of_eq (C09.dynDataLoop_first _ p' _ s i s c (randomInRange_const rs.id p' hwf' i c husable s) husable) trivial⟩
  | fix p =>
    have nodyn : ∀ q : DynPlan, rs.plan ≠ .dyn q := fun q hq => by rw [hp] at hq; cases hq
    obtain ⟨hfx, hm, hjc⟩ := (regionWF_fix hp).mp h
    cases frame with
    | join =>
      obtain ⟨v, hv8, hret⟩ := getNextChannel_returns p.jc hjc
      refine ⟨v, by omega, fun {σ} s => selectTxChannel_wp .total _ rs dr _ s h hdd (fun _ q hq => absurd hq (nodyn q))
        nofun ?_ nofun nofun⟩
      intro _ q hq s
      cases hp.symm.trans hq
      exact (hret s).mono (fun _ hx => hx.1)
    | data =>
      cases hbw : dd.bandwidth == Bandwidth._500KHz with
      | true =>
        obtain ⟨any, hany, m', hmk, _, v, hvlt, hen⟩ := fallback500 p.mask hm
        refine ⟨v, by omega, fun {σ} s => selectTxChannel_wp .total _ rs dr _ s h hdd nofun
          (fun _ q hq => absurd hq (nodyn q)) nofun ?_ (fun _ e => by rw [hbw] at e; cases e)⟩
        intro _ _ q hq
        cases hp.symm.trans hq
        exact ⟨any, hany, m', hmk, fun s => Tot.of_eq (fixedMaskLoop_const v m' 8 64 _ s (by omega) hen)
          (by have := Nat.mod_lt v (show 0 < 8 by decide); simp only; omega)⟩
      | false =>
        obtain ⟨any, hany, m', hmk, _, v, hvlt, hen⟩ := fallback125 p.mask hm
        refine ⟨v, hvlt, fun {σ} s => selectTxChannel_wp .total _ rs dr _ s h hdd nofun
          (fun _ q hq => absurd hq (nodyn q)) nofun (fun _ e => by rw [hbw] at e; cases e) ?_⟩
        intro _ _ q hq
        cases hp.symm.trans hq
        exact ⟨any, hany, m', hmk, fun s => Tot.of_eq (fixedMaskLoop_const v m' 64 0 _ s (by omega) hen)
          (by have := Nat.mod_lt v (show 0 < 64 by decide); simp only; omega)⟩

/-- **in a well-formed state the accept sets of `Mac::send` are not empty**: there is a draw value
`v` such that, if the generator yields `v`, the call returns (no retry loop spins) -/
theorem macSend_returns (m : MacState) (data : List Nat) (fport : Nat) (conf : Bool) (h : MacWF m)
    (h0 : fport = 0 → data = []) (hl : data.length ≤ 222) :
    ∃ v, v < 64 ∧ ∀ {σ : Type} (s : σ), ∃ r, macSend (constGen v) m data fport conf s = .ok r := by
  obtain ⟨dr, hdr, hup⟩ := drOfNat_uplink h.dr
  obtain ⟨v, hv, hsel⟩ := selectTxChannel_returns m.region dr .data h.region hup
  refine ⟨v, hv, fun {σ} s => (macSend_wp .total (constGen v) m data fport conf s h h0 hl (fun dr' e => ?_)).returns⟩
  cases hdr.symm.trans e
  exact hsel s

/-- … and so are those of `Mac::join_otaa` -/
theorem macJoinOtaa_returns (m : MacState) (h : MacWF m) :
    ∃ v, v < 64 ∧ ∀ {σ : Type} (s : σ), ∃ r, macJoinOtaa (constGen v) m s = .ok r := by
  obtain ⟨dr, hdr, hup⟩ := drOfNat_uplink h.dr
  obtain ⟨v, hv, hsel⟩ := selectTxChannel_returns m.region dr .join h.region hup
  refine ⟨v, hv, fun {σ} s => (macJoinOtaa_wp .total (constGen v) m s h (fun dr' e s' => ?_)).returns⟩
  cases hdr.symm.trans e
  exact hsel s'

end Model
