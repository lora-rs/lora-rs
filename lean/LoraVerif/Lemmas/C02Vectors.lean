import LoraVerif.Lemmas.AesEval
import LoraVerif.Model.Codec
/-!
# The published frames of `lorawan-encoding/tests/lorawan.rs`, received by the model with the Lean AES
(kernel evaluation; own module so that it is checked in parallel with the proofs).  `upFrame` is the frame
`C01Vectors.up_model` builds, the input of `ja_checked` the one `C01Vectors.ja_model` builds; the keys are defined here
again so that this module does not wait for `C01Vectors`.
-/
open Lora Lora.Codec
namespace C02Vectors

def k01 : Key := Vector.replicate 16 0x01
def k02 : Key := Vector.replicate 16 0x02
def appKey : Key := #v[0x00, 0x11, 0x22, 0x33, 0x44, 0x55, 0x66, 0x77, 0x88, 0x99, 0xaa, 0xbb, 0xcc, 0xdd, 0xee, 0xff]

/-- `phy_dataup_payload` -/
def upFrame : Bytes := [0x40, 0x04, 0x03, 0x02, 0x01, 0x80, 0x01, 0x00, 0x01, 0xa6, 0x94, 0x64, 0x26, 0x15, 0xd6, 0xc3, 0xb5, 0x82]
/-- the same with "hello" in clear -/
def upPlain : Bytes := [0x40, 0x04, 0x03, 0x02, 0x01, 0x80, 0x01, 0x00, 0x01, 0x68, 0x65, 0x6c, 0x6c, 0x6f, 0xd6, 0xc3, 0xb5, 0x82]
/-- last MIC bit flipped -/
def upBad : Bytes := [0x40, 0x04, 0x03, 0x02, 0x01, 0x80, 0x01, 0x00, 0x01, 0xa6, 0x94, 0x64, 0x26, 0x15, 0xd6, 0xc3, 0xb5, 0x83]

/-- checked decoding of the published uplink with the right keys and counter succeeds; the buffer then
holds the plaintext frame -/
theorem up_checked : (match checkMicAndDecryptInPlace aes upFrame k02 (some k01) 1 with
    | (.ok p, b) => p.bytes == b && b == upPlain
    | _ => false) = true := by
  rw [AesEval.aes_eq]; decide +kernel

/-- one flipped MIC bit: `InvalidMic`, buffer untouched -/
theorem bad_checked : checkMicAndDecryptInPlace aes upBad k02 (some k01) 1 = (.err .invalidMic, upBad) := by
  rw [AesEval.aes_eq]; decide +kernel

/-- the right key but a counter in another 2^16 epoch: not authentic -/
theorem up_mic_other_epoch : ((parseData upFrame).bind fun p => p.validateMic ⟨aes, k02⟩ 65537) = .ok false := by
  rw [AesEval.aes_eq]; decide +kernel

/-- `phy_join_accept_payload` under the AppKey of the tests: authentic, and the buffer holds the
plaintext the tests pin -/
theorem ja_checked : joinAcceptCheckMicAndDecryptInPlace [0x20, 0x49, 0x3e, 0xeb, 0x51, 0xfb, 0xa2, 0x11, 0x6f, 0x81, 0x0e, 0xdb, 0x37, 0x42, 0x97, 0x51, 0x42] ⟨aes, appKey⟩
    = (.ok [0x20, 0xc7, 0x0b, 0x57, 0x01, 0x11, 0x22, 0x80, 0x19, 0x03, 0x02, 0x00, 0x00, 0x43, 0x48, 0x5b, 0xbc], [0x20, 0xc7, 0x0b, 0x57, 0x01, 0x11, 0x22, 0x80, 0x19, 0x03, 0x02, 0x00, 0x00, 0x43, 0x48, 0x5b, 0xbc]) := by
  rw [AesEval.aes_eq]; decide +kernel

end C02Vectors
