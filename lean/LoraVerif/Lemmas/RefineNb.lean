import LoraVerif.Lemmas.RefinePlain
import LoraVerif.Lemmas.StepWalk
/-!
# The non-blocking front-end refines the history semantics

`nbStep` (`Model/NbDevice.lean`) is a state machine over application / radio / timer events.  One
*exchange* runs from `Idle` (a `send` or `join` event) through `SendingData`, `WaitingForRxWindow`,
`WaitingForRx` (twice) back to `Idle`.  The theorems hold for EVERY sequence of events and radio
answers — protocol violations answered with `Err(State: …)`, radio errors, `TxDone` delivered at once,
several frames in one window, stray timeouts.  The invariant `NbInv` ties the machine to the history:
while an exchange is in progress the MAC state is the one `Mac::send` / `Mac::join_otaa` left (every
frame handled so far was answered `NoUpdate`, which changes nothing: `macHandleRx_noUpdate_state`);
when it completes, its whole effect is `Model.step` on ONE event `uplink` / `joinOtaa` (`nbAbs`): the
last frame heard in each window, no fault (or "after 0 windows" for a refused transmission), the
payload limits of the windows the MAC handed out (`nbStep_inv`, `nbStep_state_error`, `nbRun_refines`).
`NbStepR` lists what one step can do at the MAC level, success or failure (`nbStep_spec`; `nbStep` is unfolded there and in
`nbStep_refuses` only); every theorem about a step is a case analysis of it.  The session runner (`nbEvent`, `nbRun`) is
defined here.
-/
namespace Model

/-- one event, with the answers of the radio to the calls it causes -/
def nbEvent {σ} (g : Rng σ) (cfg : NbCfg) (r : NbRun) (rs : σ) (ev : NbEvent) (items : List NbItem) : M (NbResp × NbRun × σ) :=
  nbStep g cfg { r with script := items } ev rs

/-- the exchange in progress, as far as the history will need it -/
structure NbGhost where
  /-- `none`: a join; `some (data, port, confirmed)`: a data uplink -/
  kind : Option (List Nat × Nat × Bool)
  /-- the last frame handled in RX1 / RX2 -/
  rx1 : Option (RxView × Int)
  rx2 : Option (RxView × Int)
  deriving Repr

def NbItem.handled : NbItem → Bool
  | .err => false
  | .idle => false
  | _ => true

def headItem : List NbItem → NbItem
  | [] => .dflt
  | i :: _ => i

def NbState.isIdle : NbState → Bool
  | .idle => true
  | _ => false

/-- the event of the exchange `gh` that just completed without a fault -/
def ghostEv (gh : NbGhost) (tx : TxOut) : Ev :=
  match gh.kind with
  | some (d, p, c) => .uplink d p c none gh.rx1 gh.rx2 tx.rx1.maxPayload.toNat tx.rx2.maxPayload.toNat
  | none => .joinOtaa none gh.rx1 gh.rx2 tx.rx1.maxPayload.toNat tx.rx2.maxPayload.toNat

def NbGhost.heard (gh : NbGhost) (second : Bool) (f : RxView × Int) : NbGhost :=
  if second then { gh with rx2 := some f } else { gh with rx1 := some f }

/-- **the abstraction, event by event**: from the exchange in progress, the state before, the event,
the radio's (first) answer and the state after — the history event of the exchange if it completed
here, and the exchange still in progress -/
def nbAbs (gh : Option NbGhost) (st : NbState) (ev : NbEvent) (item : NbItem) (st' : NbState) : Option Ev × Option NbGhost :=
  match st, ev with
  | .idle, .send d p c =>
    if st'.isIdle then (some (.uplink d p c (some 0) none none 0 0), none)
    else (none, some { kind := some (d, p, c), rx1 := none, rx2 := none })
  | .idle, .join =>
    if st'.isIdle then (some (.joinOtaa (some 0) none none 0 0), none)
    else (none, some { kind := none, rx1 := none, rx2 := none })
  | .waitingForRx _ tx second _, .radio (.rx snr v) =>
    if item.handled then
      match gh with
      | some gh =>
        if st'.isIdle then (some (ghostEv (gh.heard second (v, snr)) tx), none) else (none, some (gh.heard second (v, snr)))
      | none => (none, none)
    else (none, gh)
  | .waitingForRx _ tx _ _, .timeout =>
    match gh with
    | some gh => if st'.isIdle then (some (ghostEv gh tx), none) else (none, some gh)
    | none => (none, none)
  | _, _ => (none, gh)

/-- how the exchange in progress began -/
def Started {σ} (g : Rng σ) (pre : MacState × σ) (kind : Option (List Nat × Nat × Bool)) (join : Bool) (tx : TxOut)
    (m1 : MacState) (rs : σ) : Prop :=
  match kind with
  | some (d, p, c) => join = false ∧ ∃ o, macSend g pre.1 d p c pre.2 = .ok (some o, m1, rs) ∧ o.tx = tx
  | none => join = true ∧ ∃ o, macJoinOtaa g pre.1 pre.2 = .ok (o, m1, rs) ∧ o.tx = tx

/-- the exchange in progress: it began at `pre`, and every frame handled since was answered `NoUpdate` -/
def InFlight {σ} (g : Rng σ) (pre : MacState × σ) (gh : Option NbGhost) (join : Bool) (tx : TxOut) (second : Bool)
    (m : MacState) (rs : σ) : Prop :=
  ∃ k rx1 rx2, gh = some { kind := k, rx1 := rx1, rx2 := rx2 } ∧ Started g pre k join tx m rs ∧
    window m rx1 tx.rx1.maxPayload.toNat = .ok (none, m) ∧ window m rx2 tx.rx2.maxPayload.toNat = .ok (none, m) ∧
    (second = false → rx2 = none)

/-- **the invariant**: `pre` is the state of the history (all completed exchanges), `gh` the
exchange in progress -/
def NbInv {σ} (g : Rng σ) (pre : MacState × σ) (gh : Option NbGhost) (r : NbRun) (rs : σ) : Prop :=
  match r.st with
  | .idle => gh = none ∧ pre = (r.m, rs)
  | .sendingData join tx => InFlight g pre gh join tx false r.m rs ∧ ∀ x, gh = some x → x.rx1 = none
  | .waitingForRxWindow join tx second _ => InFlight g pre gh join tx second r.m rs
  | .waitingForRx join tx second _ => InFlight g pre gh join tx second r.m rs

/-- the state machine's answer against the output of the completed exchange's event -/
def NbRespRel (resp : NbResp) : Out → Prop
  | .notJoined => resp = .errMac
  | .up _ (some r) _ => resp = .mac r
  | .up _ none _ => resp = .errRadio ∨ resp = .errState "UnexpectedRadioResponse"
  | .join _ (some r) => resp = .mac r
  | .join _ none => resp = .errRadio ∨ resp = .errState "UnexpectedRadioResponse"
  | _ => False

def NbStepPost {σ} (g : Rng σ) (pre : MacState × σ) (r r' : NbRun) (rs' : σ) (resp : NbResp) :
    Option Ev × Option NbGhost → Prop
  | (none, gh') => NbInv g pre gh' r' rs' ∧ r'.downlinks = r.downlinks
  | (some e, gh') => ∃ out, step g pre e = .ok ((r'.m, rs'), out) ∧ NbInv g (r'.m, rs') gh' r' rs' ∧ NbRespRel resp out ∧
      r'.downlinks = queueAfter r.dlCap r.downlinks out.downlink?

theorem next_eq (r : NbRun) (c : NbCall) :
    r.next c = (headItem r.script, { r with calls := c :: r.calls, script := r.script.tail }) := by
  unfold NbRun.next headItem
  cases r.script <;> rfl

section
variable {σ : Type} {g : Rng σ} {pre : MacState × σ} {gh : Option NbGhost} {r r' : NbRun} {rs : σ} {join : Bool} {tx : TxOut}
  {second : Bool} {t : Nat}

theorem NbInv.same (h : NbInv g pre gh r rs) (hm : r'.m = r.m) (hst : r'.st = r.st) : NbInv g pre gh r' rs := by
  unfold NbInv at h ⊢
  rw [hst, hm]; exact h

theorem NbInv.idle (h : NbInv g pre gh r rs) (hst : r.st = .idle) : gh = none ∧ pre = (r.m, rs) := by
  unfold NbInv at h
  rwa [hst] at h

theorem NbInv.inFlight (h : NbInv g pre gh r rs)
    (hs : r.st = .waitingForRxWindow join tx second t ∨ r.st = .waitingForRx join tx second t) :
    InFlight g pre gh join tx second r.m rs := by
  unfold NbInv at h
  rcases hs with hs | hs <;> rw [hs] at h <;> exact h

theorem NbInv.of_inFlight {m : MacState} (hi : InFlight g pre gh join tx second m rs) (hm : r'.m = m)
    (hs : r'.st = .waitingForRxWindow join tx second t ∨ r'.st = .waitingForRx join tx second t) : NbInv g pre gh r' rs := by
  unfold NbInv
  rcases hs with h | h <;> rw [h, hm] <;> exact hi

end

theorem nbInv_idle {σ} (g : Rng σ) (r : NbRun) (rs : σ) (h : r.st = .idle) : NbInv g (r.m, rs) none r rs := by
  unfold NbInv; rw [h]; exact ⟨rfl, rfl⟩

theorem faultAfterTx_otaa (m : MacState) (o : OtaaState) (h : m.st = .otaa o) :
    faultAfterTx m = m ∧ faultExpired m = false := by
  unfold faultAfterTx faultExpired macRx2Complete
  simp [h]

/-- the pairs of state and event `nbStep` answers without touching anything: a stray timeout, a radio
event nobody waits for, an application call during an exchange -/
def refuses : NbState → NbEvent → Bool
  | .idle, .timeout | .idle, .radio _ => true
  | .sendingData .., .timeout | .sendingData .., .join | .sendingData .., .send .. => true
  | .waitingForRxWindow .., .radio _ | .waitingForRxWindow .., .join | .waitingForRxWindow .., .send .. => true
  | .waitingForRx .., .join | .waitingForRx .., .send .. => true
  | _, _ => false

theorem nbStep_refuses {σ} (g : Rng σ) (cfg : NbCfg) (r : NbRun) (ev : NbEvent) (rs : σ) (h : refuses r.st ev = true) :
    ∃ resp, nbStep g cfg r ev rs = .ok (resp, r, rs) ∧ ∀ msg, resp = .errState msg → msg ≠ "UnexpectedRadioResponse" := by
  revert h
  unfold nbStep
  cases r.st <;> cases ev <;> intro h <;>
    first | (cases h; done) | exact ⟨_, rfl, by intro msg e; cases e <;> decide⟩

theorem nbAbs_refuses {st : NbState} {ev : NbEvent} (h : refuses st ev = true) (gh : Option NbGhost) (item : NbItem)
    (st' : NbState) : nbAbs gh st ev item st' = (none, gh) := by
  cases st <;> cases ev <;> first | rfl | cases h

theorem idleTx_ok {cfg : NbCfg} {r r1 : NbRun} {join : Bool} {tx : TxOut} {len n : Nat} {resp : NbResp}
    (h : idleTx cfg r join tx len n = .ok (resp, r1)) :
    r1.downlinks = r.downlinks ∧
    ((r1.m = r.m ∧ ((resp = .uplinkSending n ∧ r1.st = .sendingData join tx) ∨
        ∃ t, resp = .timeoutRequest t ∧ r1.st = .waitingForRxWindow join tx false t)) ∨
     (r1.m = faultAfterTx r.m ∧ r1.st = r.st ∧
        (resp = (if faultExpired r.m then .mac .sessionExpired else .errRadio) ∨
         resp = (if faultExpired r.m then .mac .sessionExpired else .errState "UnexpectedRadioResponse")))) := by
  unfold idleTx at h
  simp only [next_eq] at h
  cases hit : headItem r.script <;> simp only [hit] at h
  · cases h; exact ⟨rfl, Or.inl ⟨rfl, Or.inl ⟨rfl, rfl⟩⟩⟩
  · cases h; exact ⟨rfl, Or.inr ⟨rfl, rfl, Or.inl rfl⟩⟩
  · obtain ⟨t1, _, h⟩ := Except.bind_eq_ok h
    cases h; exact ⟨rfl, Or.inl ⟨rfl, Or.inr ⟨t1, rfl, rfl⟩⟩⟩
  · cases h; exact ⟨rfl, Or.inr ⟨rfl, rfl, Or.inr rfl⟩⟩

/-- failures of the state machine that are not failures of the MAC: the `i32`/`u32` arithmetic on
timestamps and window times, and the `panic!` on a radio that answers a pending transmission with
anything but `TxDone` -/
def NbExtra : Fault → Prop
  | .panic s => s = "t1 i32 overflow" ∨ s = "u32 add overflow" ∨ s = "u32 sub underflow" ∨
      s = "SendingData: Unexpected radio response"
  | .hang _ => False

theorem ofGen_fault {α} {site : String} {x : Option α} {f : Fault} (h : ofGen site x = .error f) : f = .panic site := by
  cases x with
  | none => cases h; rfl
  | some a => cases h

theorem rx1Timeout_fault {d ts : Nat} {off : Int} {f : Fault} (h : rx1Timeout d ts off = .error f) : NbExtra f := by
  unfold rx1Timeout at h
  simp only at h
  cases h1 : ofGen "t1 i32 overflow" (Rt.ck .i32 (Rt.wrap .i32 (d : Int) + Rt.wrap .i32 (ts : Int))) with
  | error e =>
    rw [h1] at h
    cases h
    rw [ofGen_fault h1]; exact Or.inl rfl
  | ok s1 =>
    rw [h1] at h
    simp only [bind, Except.bind] at h
    cases h2 : ofGen "t1 i32 overflow" (Rt.ck .i32 (s1 + off)) with
    | error e =>
      rw [h2] at h
      cases h
      rw [ofGen_fault h2]; exact Or.inl rfl
    | ok s2 => rw [h2] at h; cases h

theorem u32Add_fault {a b : Nat} {f : Fault} (h : u32Add a b = .error f) : NbExtra f := by
  unfold u32Add at h
  split at h
  · cases h; exact Or.inr (Or.inl rfl)
  · cases h

theorem u32Sub_fault {a b : Nat} {f : Fault} (h : u32Sub a b = .error f) : NbExtra f := by
  unfold u32Sub at h
  split at h
  · cases h; exact Or.inr (Or.inr (Or.inl rfl))
  · cases h

theorem afterTxDone_fault {cfg : NbCfg} {r : NbRun} {join : Bool} {tx : TxOut} {ts : Nat} {f : Fault}
    (h : afterTxDone cfg r join tx ts = .error f) : NbExtra f := by
  unfold afterTxDone at h
  rcases Except.bind_eq_error h with h | ⟨t1, _, h⟩
  · exact rx1Timeout_fault h
  · cases h

theorem idleTx_fault {cfg : NbCfg} {r : NbRun} {join : Bool} {tx : TxOut} {len n : Nat} {f : Fault}
    (h : idleTx cfg r join tx len n = .error f) : NbExtra f := by
  unfold idleTx at h
  simp only [next_eq] at h
  cases hit : headItem r.script <;> simp only [hit] at h
  · cases h
  · cases h
  · exact afterTxDone_fault h
  · cases h

/-- `r` after a radio call `c`, which consumed the head of the script -/
def NbRun.called (r : NbRun) (c : NbCall) : NbRun := { r with calls := c :: r.calls, script := r.script.tail }

/-- the radio call of a step outside `Idle` that is not refused -/
def nbCall : NbState → NbEvent → NbCall
  | .waitingForRxWindow _ tx second _, .timeout => .rxRequest (if second then tx.rx2 else tx.rx1)
  | .waitingForRx .., .timeout => .cancelRx
  | _, _ => .phy

/-- **what one step of the state machine can do**, by what happens at the MAC level; `x` is the outcome of
`nbStep g cfg r ev rs` (`nbStep_spec`), successful or not, with the run it leaves written out -/
inductive NbStepR {σ} (g : Rng σ) (cfg : NbCfg) (r : NbRun) (rs : σ) : NbEvent → M (NbResp × NbRun × σ) → Prop
  | refuse {ev resp} : refuses r.st ev = true → (∀ msg, resp = .errState msg → msg ≠ "UnexpectedRadioResponse") →
      NbStepR g cfg r rs ev (.ok (resp, r, rs))
  | own {ev f} : NbExtra f → NbStepR g cfg r rs ev (.error f)
  | joinFail {f} : r.st = .idle → macJoinOtaa g r.m rs = .error f → NbStepR g cfg r rs .join (.error f)
  | sendFail {d p c f} : r.st = .idle → macSend g r.m d p c rs = .error f → NbStepR g cfg r rs (.send d p c) (.error f)
  | notJoined {d p c m1 rs1} : r.st = .idle → macSend g r.m d p c rs = .ok (none, m1, rs1) →
      NbStepR g cfg r rs (.send d p c) (.ok (.errMac, { r with m := m1 }, rs1))
  /-- the request was built; what the radio makes of it is `idleTx`'s (`idleTx_ok`) -/
  | join {out m1 rs1 resp r1} : r.st = .idle → macJoinOtaa g r.m rs = .ok (out, m1, rs1) →
      idleTx cfg { r with m := m1 } true out.tx 23 out.devNonce = .ok (resp, r1) → NbStepR g cfg r rs .join (.ok (resp, r1, rs1))
  | send {d p c out m1 rs1 resp r1} : r.st = .idle → macSend g r.m d p c rs = .ok (some out, m1, rs1) →
      idleTx cfg { r with m := m1 } false out.tx (frameLen out.frame) out.frame.fcnt = .ok (resp, r1) →
      NbStepR g cfg r rs (.send d p c) (.ok (resp, r1, rs1))
  /-- outside `Idle` a radio error leaves everything but the log as it was -/
  | radioErr {ev} : r.st ≠ .idle → headItem r.script = .err →
      NbStepR g cfg r rs ev (.ok (.errRadio, r.called (nbCall r.st ev), rs))
  | txDone {join tx ts t1} : r.st = .sendingData join tx →
      NbStepR g cfg r rs (.radio (.txDone ts))
        (.ok (.timeoutRequest t1, { r.called .phy with st := .waitingForRxWindow join tx false t1 }, rs))
  | opened {join tx second t close} : r.st = .waitingForRxWindow join tx second t →
      NbStepR g cfg r rs .timeout (.ok (.timeoutRequest close,
        { r.called (.rxRequest (if second then tx.rx2 else tx.rx1)) with st := .waitingForRx join tx second t }, rs))
  /-- in a window: a stray answer of the radio, or a `TxDone` event -/
  | stray {join tx second t e} : r.st = .waitingForRx join tx second t →
      (∀ snr v, e = .rx snr v → (headItem r.script).handled = false) →
      NbStepR g cfg r rs (.radio e) (.ok (.mac .noUpdate, r.called .phy, rs))
  | heardFail {join tx second t snr v f} : r.st = .waitingForRx join tx second t →
      macHandleRx r.m v (if second then tx.rx2 else tx.rx1).maxPayload.toNat snr false = .error f →
      NbStepR g cfg r rs (.radio (.rx snr v)) (.error f)
  /-- a frame in a window answered `NoUpdate` -/
  | ignored {join tx second t snr v o m2} : r.st = .waitingForRx join tx second t → (headItem r.script).handled = true →
      macHandleRx r.m v (if second then tx.rx2 else tx.rx1).maxPayload.toNat snr false = .ok (some o, m2) →
      (o.resp == .noUpdate) = true →
      NbStepR g cfg r rs (.radio (.rx snr v)) (.ok (.mac .noUpdate, { r.called .phy with m := m2 }, rs))
  /-- … or with a response, which ends the exchange -/
  | answered {join tx second t snr v o m2} : r.st = .waitingForRx join tx second t → (headItem r.script).handled = true →
      macHandleRx r.m v (if second then tx.rx2 else tx.rx1).maxPayload.toNat snr false = .ok (some o, m2) →
      (o.resp == .noUpdate) = false →
      NbStepR g cfg r rs (.radio (.rx snr v)) (.ok (.mac o.resp,
        { r.called .phy with m := m2, st := .idle, downlinks := queueAfter r.dlCap r.downlinks o.downlink }, rs))
  | nextWindow {join tx t t2} : r.st = .waitingForRx join tx false t →
      NbStepR g cfg r rs .timeout (.ok (.timeoutRequest t2, { r.called .cancelRx with st := .waitingForRxWindow join tx true t2 }, rs))
  /-- RX2 is over: `rx2_complete` -/
  | complete {join tx t} : r.st = .waitingForRx join tx true t →
      NbStepR g cfg r rs .timeout
        (.ok (.mac (macRx2Complete r.m).1, { r.called .cancelRx with m := (macRx2Complete r.m).2, st := .idle }, rs))

theorem nbStep_spec {σ} (g : Rng σ) (cfg : NbCfg) (r : NbRun) (ev : NbEvent) (rs : σ) :
    NbStepR g cfg r rs ev (nbStep g cfg r ev rs) := by
  by_cases hr : refuses r.st ev = true
  · obtain ⟨resp, h0, hm⟩ := nbStep_refuses g cfg r ev rs hr
    rw [h0]; exact .refuse hr hm
  -- with `r` a record, `r.st`, `refuses` and `nbCall` compute
  obtain ⟨m, st, script, calls, dls, cap⟩ := r
  have panics : NbExtra (.panic "SendingData: Unexpected radio response") := Or.inr (Or.inr (Or.inr rfl))
  unfold nbStep
  cases st with
  | idle =>
    cases ev with
    | timeout | radio e => exact absurd rfl hr
    | join =>
      simp only
      cases hj : macJoinOtaa g m rs with
      | error f => exact .joinFail rfl hj
      | ok x =>
        cases hi : idleTx cfg ⟨x.2.1, .idle, script, calls, dls, cap⟩ true x.1.tx 23 x.1.devNonce with
        | error f => simp only [bind, Except.bind, hi]; exact .own (idleTx_fault hi)
        | ok y => simp only [bind, Except.bind, hi]; exact .join rfl hj hi
    | send d p c =>
      simp only
      cases hj : macSend g m d p c rs with
      | error f => exact .sendFail rfl hj
      | ok x =>
        obtain ⟨o, m1, rs1⟩ := x
        cases o with
        | none => exact .notJoined rfl hj
        | some out =>
          cases hi : idleTx cfg ⟨m1, .idle, script, calls, dls, cap⟩ false out.tx (frameLen out.frame) out.frame.fcnt with
          | error f => simp only [bind, Except.bind, hi]; exact .own (idleTx_fault hi)
          | ok y => simp only [bind, Except.bind, hi]; exact .send rfl hj hi
  | sendingData join tx =>
    cases ev with
    | timeout | join | send d p c => exact absurd rfl hr
    | radio e =>
      simp only [next_eq]
      cases hit : headItem script with
      | err => exact .radioErr (fun e => nomatch e) hit
      | idle => exact .own panics
      | dflt | txDoneNow ts0 =>
        cases e with
        | rx snr v => exact .own panics
        | txDone ts =>
          simp only [afterTxDone]
          cases ht : rx1Timeout (macRxDelay m join false) ts cfg.offset with
          | error f => exact .own (rx1Timeout_fault ht)
          | ok t1 => exact .txDone rfl
  | waitingForRxWindow join tx second t =>
    cases ev with
    | radio e | join | send d p c => exact absurd rfl hr
    | timeout =>
      simp only [next_eq]
      cases hit : headItem script with
      | err => exact .radioErr (fun e => nomatch e) hit
      | dflt | idle | txDoneNow ts0 =>
        simp only
        generalize hc : (if second = true then u32Add t cfg.duration else _) = close
        cases close with
        | ok c => exact .opened rfl
        | error f =>
          refine .own ?_
          cases second with
          | true => exact u32Add_fault hc
          | false =>
            rcases Except.bind_eq_error hc with h | ⟨b, _, h⟩
            · exact u32Sub_fault h
            · split at h <;> exact u32Add_fault h
  | waitingForRx join tx second t =>
    cases ev with
    | join | send d p c => exact absurd rfl hr
    | timeout =>
      simp only [next_eq]
      cases hit : headItem script with
      | err => exact .radioErr (fun e => nomatch e) hit
      | dflt | idle | txDoneNow ts0 =>
        cases second with
        | true => exact .complete rfl
        | false =>
          simp only [Bool.false_eq_true, if_false]
          cases hb : u32Sub (macRxDelay m join true) (macRxDelay m join false) with
          | error f => exact .own (u32Sub_fault hb)
          | ok b =>
            cases ha : u32Add t b with
            | error f => simp only [bind, Except.bind, ha]; exact .own (u32Add_fault ha)
            | ok t2 => simp only [bind, Except.bind, ha]; exact .nextWindow rfl
    | radio e =>
      simp only [next_eq]
      cases hit : headItem script with
      | err => exact .radioErr (fun e => nomatch e) hit
      | idle => exact .stray rfl (fun _ _ _ => by rw [hit]; rfl)
      | dflt | txDoneNow ts0 =>
        have hh : (headItem script).handled = true := by rw [hit]; rfl
        cases e with
        | txDone ts => exact .stray rfl (fun _ _ e => nomatch e)
        | rx snr v =>
          simp only
          cases hrx : macHandleRx m v (if second then tx.rx2 else tx.rx1).maxPayload.toNat snr false with
          | error f => exact .heardFail rfl hrx
          | ok om =>
            obtain ⟨o, m2⟩ := om
            cases o with
            | none => exact (macHandleRx_window_ne_none _ _ _ _ _ hrx).elim
            | some o =>
              simp only [bind, Except.bind]
              cases hn : o.resp == .noUpdate with
              | true => exact .ignored rfl hh hrx hn
              | false =>
                have := NbStepR.answered (g := g) (cfg := cfg) (rs := rs) (r := ⟨m, .waitingForRx join tx second t, script, calls, dls, cap⟩) rfl hh hrx hn
                cases hd : o.downlink with
                | none => simpa only [hd, queueAfter, NbRun.called, pure, Except.pure, Bool.false_eq_true, if_false] using this
                | some d =>
                  by_cases hlt : dls.length < cap <;>
                    simpa only [hd, queueAfter, NbRun.called, hlt, if_true, pure, Except.pure, Bool.false_eq_true, if_false] using this

/-- the completed exchange is one history step -/
theorem step_ghostEv {σ} (g : Rng σ) (pre : MacState × σ) (k : Option (List Nat × Nat × Bool)) (join : Bool) (tx : TxOut)
    (m1 m' : MacState) (rs : σ) (rx1 rx2 : Option (RxView × Int)) (resp : Response) (dl : Option (Nat × List Nat))
    (hs : Started g pre k join tx m1 rs)
    (hc : classACycle m1 rx1 rx2 tx.rx1.maxPayload.toNat tx.rx2.maxPayload.toNat = .ok (resp, dl, m')) :
    ∃ out, step g pre (ghostEv { kind := k, rx1 := rx1, rx2 := rx2 } tx) = .ok ((m', rs), out) ∧
      NbRespRel (.mac resp) out ∧ out.downlink? = dl := by
  cases k with
  | some dpc =>
    obtain ⟨d, p, c⟩ := dpc
    obtain ⟨_, o, hsend, rfl⟩ := hs
    exact ⟨.up o (some resp) dl, (Except.bind_of_ok hsend _).trans (Except.bind_of_ok hc _), rfl, rfl⟩
  | none =>
    obtain ⟨_, o, hjoin, rfl⟩ := hs
    obtain rfl : dl = none := classACycle_otaa_dl (macJoinOtaa_st hjoin) hc
    exact ⟨.join o (some resp), (Except.bind_of_ok hjoin _).trans (Except.bind_of_ok hc _), rfl, rfl⟩

/-- where the MAC fails on a frame in a window, so does the history step of the exchange with this frame heard -/
theorem step_heard_error {σ} (g : Rng σ) (pre : MacState × σ) (k : Option (List Nat × Nat × Bool)) (join : Bool) (tx : TxOut)
    (m : MacState) (rs : σ) (rx1 rx2 : Option (RxView × Int)) (second : Bool) (v : RxView) (snr : Int) (f : Fault)
    (hs : Started g pre k join tx m rs) (hw1 : window m rx1 tx.rx1.maxPayload.toNat = .ok (none, m))
    (hrx : macHandleRx m v (if second then tx.rx2 else tx.rx1).maxPayload.toNat snr false = .error f) :
    step g pre (ghostEv (NbGhost.heard ⟨k, rx1, rx2⟩ second (v, snr)) tx) = .error f := by
  have hwin : window m (some (v, snr)) (if second then tx.rx2 else tx.rx1).maxPayload.toNat = .error f := by
    rw [window_some, hrx]; rfl
  have hcy : classACycle m (NbGhost.heard ⟨k, rx1, rx2⟩ second (v, snr)).rx1
      (NbGhost.heard ⟨k, rx1, rx2⟩ second (v, snr)).rx2
      tx.rx1.maxPayload.toNat tx.rx2.maxPayload.toNat = .error f := by
    cases second with
    | true =>
      simp only [if_true] at hwin
      exact (Except.bind_of_ok hw1 _).trans (Except.bind_of_error hwin _)
    | false =>
      simp only [Bool.false_eq_true, if_false] at hwin
      exact Except.bind_of_error hwin _
  have hk : (NbGhost.heard ⟨k, rx1, rx2⟩ second (v, snr)).kind = k := by cases second <;> rfl
  cases k with
  | some dpc =>
    obtain ⟨d, p, c⟩ := dpc
    obtain ⟨_, o, hsend, rfl⟩ := hs
    simp only [ghostEv, hk]
    exact (Except.bind_of_ok hsend _).trans (Except.bind_of_error hcy _)
  | none =>
    obtain ⟨_, o, hjoin, rfl⟩ := hs
    simp only [ghostEv, hk]
    exact (Except.bind_of_ok hjoin _).trans (Except.bind_of_error hcy _)

section
variable {σ : Type} {g : Rng σ} {cfg : NbCfg} {pre : MacState × σ} {gh : Option NbGhost} {r r' : NbRun} {rs rs' : σ}
  {ev : NbEvent} {resp : NbResp}

theorem NbStepPost.started {k : Option (List Nat × Nat × Bool)} {join : Bool} {tx : TxOut} {n : Nat}
    (hs : Started g pre k join tx r'.m rs') (hd : r'.downlinks = r.downlinks)
    (hst : (resp = .uplinkSending n ∧ r'.st = .sendingData join tx) ∨
      ∃ t, resp = .timeoutRequest t ∧ r'.st = .waitingForRxWindow join tx false t) :
    r'.st.isIdle = false ∧ NbStepPost g pre r r' rs' resp (none, some ⟨k, none, none⟩) := by
  have hi : InFlight g pre (some ⟨k, none, none⟩) join tx false r'.m rs' := ⟨k, none, none, rfl, hs, rfl, rfl, fun _ => rfl⟩
  unfold NbStepPost NbInv
  rcases hst with ⟨_, h⟩ | ⟨t, _, h⟩ <;> rw [h]
  · exact ⟨rfl, ⟨hi, fun x hx => by cases hx; rfl⟩, hd⟩
  · exact ⟨rfl, hi, hd⟩

/-- outside `Idle`, an event after which the exchange is still in progress and which sent no frame to the MAC
leaves the abstraction where it was -/
theorem nbAbs_stays {st st' : NbState} {ev : NbEvent} {item : NbItem} (gh : Option NbGhost) (hst : st ≠ .idle)
    (hst' : st'.isIdle = false) (hrx : ∀ snr v, ev = .radio (.rx snr v) → item.handled = false) :
    nbAbs gh st ev item st' = (none, gh) := by
  cases st with
  | idle => exact absurd rfl hst
  | sendingData join tx | waitingForRxWindow join tx second t => cases ev <;> rfl
  | waitingForRx join tx second t =>
    cases ev with
    | join | send d p c => rfl
    | timeout => cases gh <;> simp only [nbAbs, hst', Bool.false_eq_true, if_false]
    | radio e =>
      cases e with
      | txDone ts => rfl
      | rx snr v => simp only [nbAbs, hrx snr v rfl, Bool.false_eq_true, if_false]

/-- `nbStep_inv` for `nbStep` itself (`nbEvent` runs it on `r` with the event's answers for a script, which drags that
record through every hypothesis) -/
theorem nbStep_post (hinv : NbInv g pre gh r rs) (h : nbStep g cfg r ev rs = .ok (resp, r', rs')) :
    NbStepPost g pre r r' rs' resp (nbAbs gh r.st ev (headItem r.script) r'.st) := by
  have hs := nbStep_spec g cfg r ev rs
  rw [h] at hs
  -- the steps after which the exchange is where it was, or one state further
  have stays : ∀ {r1 : NbRun}, r.st ≠ .idle → r1.st.isIdle = false →
      (∀ snr v, ev = .radio (.rx snr v) → (headItem r.script).handled = false) → NbInv g pre gh r1 rs' →
      r1.downlinks = r.downlinks → NbStepPost g pre r r1 rs' resp (nbAbs gh r.st ev (headItem r.script) r1.st) :=
    fun hni hid hrx hi hd => by rw [nbAbs_stays gh hni hid hrx]; exact ⟨hi, hd⟩
  have active : ∀ {st : NbState}, r.st = st → st ≠ .idle → r.st ≠ .idle := fun e hn => e ▸ hn
  cases hs with
  | refuse hr => rw [nbAbs_refuses hr]; exact ⟨hinv, rfl⟩
  | notJoined hst hsend =>
    obtain ⟨rfl, rfl⟩ := hinv.idle hst
    simp only [hst, nbAbs, NbState.isIdle, if_true, NbStepPost]
    exact ⟨.notJoined, Except.bind_of_ok hsend _, by unfold NbInv; exact ⟨rfl, rfl⟩, rfl, rfl⟩
  | @join out m1 _ _ _ hst hjoin hidle =>
    obtain ⟨rfl, rfl⟩ := hinv.idle hst
    obtain ⟨hd, ⟨hm, hst'⟩ | ⟨hm, hst', hresp⟩⟩ := idleTx_ok hidle
    · obtain ⟨hni, hp⟩ := NbStepPost.started (r := r) (pre := (r.m, rs)) (k := none)
        ⟨rfl, out, by rw [show r'.m = m1 from hm]; exact hjoin, rfl⟩ hd hst'
      simp only [hst, nbAbs, hni, Bool.false_eq_true, if_false]
      exact hp
    · -- the radio refused: a join request leaves no counter to burn
      replace hst' : r'.st = .idle := hst'.trans hst
      obtain ⟨hf1, hf2⟩ := faultAfterTx_otaa m1 _ (macJoinOtaa_st hjoin)
      simp only [hst, nbAbs, hst', NbState.isIdle, if_true, NbStepPost]
      refine ⟨.join out none, ?_, nbInv_idle g r' rs' hst', ?_, hd⟩
      · simp only [step, hjoin, faultedCycle, show r'.m = _ from hm, hf1, bind, Except.bind, pure, Except.pure]
      · simpa only [hf2, Bool.false_eq_true, if_false, NbRespRel] using hresp
  | @send d p c out m1 _ _ _ hst hsend hidle =>
    obtain ⟨rfl, rfl⟩ := hinv.idle hst
    obtain ⟨hd, ⟨hm, hst'⟩ | ⟨hm, hst', hresp⟩⟩ := idleTx_ok hidle
    · obtain ⟨hni, hp⟩ := NbStepPost.started (r := r) (pre := (r.m, rs)) (k := some (d, p, c))
        ⟨rfl, out, by rw [show r'.m = m1 from hm]; exact hsend, rfl⟩ hd hst'
      simp only [hst, nbAbs, hni, Bool.false_eq_true, if_false]
      exact hp
    · replace hst' : r'.st = .idle := hst'.trans hst
      simp only [hst, nbAbs, hst', NbState.isIdle, if_true, NbStepPost]
      refine ⟨.up out (if faultExpired m1 then some .sessionExpired else none) none, ?_, nbInv_idle g r' rs' hst', ?_, hd⟩
      · simp only [step, hsend, faultedCycle, show r'.m = _ from hm, bind, Except.bind, pure, Except.pure]
      · by_cases hx : faultExpired m1 = true
        · simpa only [hx, if_true, NbRespRel, or_self] using hresp
        · simpa only [hx, Bool.false_eq_true, if_false, NbRespRel] using hresp
  | radioErr hni hit =>
    exact stays hni (by show r.st.isIdle = false; cases hs : r.st <;> first | rfl | exact absurd hs hni)
      (fun _ _ _ => by rw [hit]; rfl) (hinv.same rfl rfl) rfl
  | @txDone join tx _ _ hst =>
    have hi : InFlight g pre gh join tx false r.m rs := by unfold NbInv at hinv; rw [hst] at hinv; exact hinv.1
    exact stays (active hst fun e => nomatch e) rfl (fun _ _ e => nomatch e) (.of_inFlight hi rfl (.inl rfl)) rfl
  | opened hst =>
    exact stays (active hst fun e => nomatch e) rfl (fun _ _ e => nomatch e)
      (.of_inFlight (hinv.inFlight (.inl hst)) rfl (.inr rfl)) rfl
  | stray hst hnh =>
    exact stays (active hst fun e => nomatch e) (by show r.st.isIdle = false; rw [hst]; rfl)
      (fun snr v e => hnh snr v (by cases e; rfl)) (hinv.same rfl rfl) rfl
  | nextWindow hst =>
    obtain ⟨k, rx1, rx2, rfl, hstart, hw1, hw2, _⟩ := hinv.inFlight (.inr hst)
    exact stays (active hst fun e => nomatch e) rfl (fun _ _ e => nomatch e)
      (.of_inFlight (second := true) ⟨k, rx1, rx2, rfl, hstart, hw1, hw2, fun e => Bool.noConfusion e⟩ rfl (.inl rfl)) rfl
  | complete hst =>
    obtain ⟨k, rx1, rx2, rfl, hstart, hw1, hw2, _⟩ := hinv.inFlight (.inr hst)
    obtain ⟨out, hstep, hrel, hdl⟩ := step_ghostEv g pre k _ _ r.m _ rs rx1 rx2 _ _ hstart (classACycle_timeout hw1 hw2)
    simp only [hst, nbAbs, NbState.isIdle, if_true, NbStepPost]
    exact ⟨out, hstep, by unfold NbInv; exact ⟨rfl, rfl⟩, hrel, by rw [hdl]; rfl⟩
  | @ignored join tx second t snr v o m2 hst hh hrx hn =>
    -- nothing changed; the frame is the last one heard in its window
    obtain ⟨k, rx1, rx2, rfl, hstart, hw1, hw2, hsec⟩ := hinv.inFlight (.inr hst)
    obtain rfl : m2 = r.m := macHandleRx_noUpdate_state _ _ _ _ _ _ hrx (by simpa using hn)
    have hwin : window r.m (some (v, snr)) (if second then tx.rx2 else tx.rx1).maxPayload.toNat = .ok (swallow (some o), r.m) := by
      rw [window_some, hrx]; rfl
    simp only [swallow, hn, if_true] at hwin
    have hid : ({ r.called .phy with m := r.m } : NbRun).st.isIdle = false := by show r.st.isIdle = false; rw [hst]; rfl
    simp only [hst, nbAbs, hh, if_true, hid, Bool.false_eq_true, if_false, NbStepPost]
    refine ⟨?_, rfl⟩
    unfold NbInv
    simp only [show (NbRun.called r .phy).st = r.st from rfl, hst]
    cases second with
    | true => exact ⟨k, rx1, some (v, snr), rfl, hstart, hw1, hwin, fun e => nomatch e⟩
    | false =>
      obtain rfl : rx2 = none := hsec rfl
      exact ⟨k, some (v, snr), none, rfl, hstart, hwin, hw2, fun _ => rfl⟩
  | @answered join tx second t snr v o m2 hst hh hrx hn =>
    obtain ⟨k, rx1, rx2, rfl, hstart, hw1, hw2, hsec⟩ := hinv.inFlight (.inr hst)
    have hwin : window r.m (some (v, snr)) (if second then tx.rx2 else tx.rx1).maxPayload.toNat = .ok (swallow (some o), m2) := by
      rw [window_some, hrx]; rfl
    simp only [swallow, hn, Bool.false_eq_true, if_false] at hwin
    have hcy : classACycle r.m (NbGhost.heard ⟨k, rx1, rx2⟩ second (v, snr)).rx1
        (NbGhost.heard ⟨k, rx1, rx2⟩ second (v, snr)).rx2
        tx.rx1.maxPayload.toNat tx.rx2.maxPayload.toNat = .ok (o.resp, o.downlink, m2) := by
      cases second with
      | true => exact classACycle_rx2 hw1 hwin
      | false => exact classACycle_rx1 hwin
    obtain ⟨out, hstep, hrel, hdl⟩ := step_ghostEv g pre k join tx r.m m2 rs _ _ _ _ hstart hcy
    rw [show (⟨k, (NbGhost.heard ⟨k, rx1, rx2⟩ second (v, snr)).rx1, (NbGhost.heard ⟨k, rx1, rx2⟩ second (v, snr)).rx2⟩ : NbGhost) =
      NbGhost.heard ⟨k, rx1, rx2⟩ second (v, snr) by cases second <;> rfl] at hstep
    simp only [hst, nbAbs, hh, NbState.isIdle, if_true, NbStepPost]
    exact ⟨out, hstep, by unfold NbInv; exact ⟨rfl, rfl⟩, hrel, by rw [hdl]⟩

end

/-- **one event of the non-blocking state machine, against the history**: either the exchange goes on
(invariant kept, nothing delivered), or it completes here and its whole MAC-level effect — state,
generator state, response, delivered downlink — is `Model.step` on ONE event -/
theorem nbStep_inv {σ} (g : Rng σ) (cfg : NbCfg) (pre : MacState × σ) (gh : Option NbGhost) (r : NbRun) (rs : σ)
    (ev : NbEvent) (items : List NbItem) (resp : NbResp) (r' : NbRun) (rs' : σ)
    (hinv : NbInv g pre gh r rs) (h : nbEvent g cfg r rs ev items = .ok (resp, r', rs')) :
    NbStepPost g pre r r' rs' resp (nbAbs gh r.st ev (headItem items) r'.st) :=
  nbStep_post (r := { r with script := items }) (hinv.same rfl rfl) h

theorem idleTx_errState {cfg : NbCfg} {r r1 : NbRun} {join : Bool} {tx : TxOut} {len n : Nat} {msg : String}
    (h : idleTx cfg r join tx len n = .ok (.errState msg, r1)) : msg = "UnexpectedRadioResponse" := by
  obtain ⟨_, ⟨_, ⟨e, _⟩ | ⟨_, e, _⟩⟩ | ⟨_, _, e | e⟩⟩ := idleTx_ok h
  · cases e
  · cases e
  · split at e <;> cases e
  · split at e <;> cases e
    rfl

/-- **an event answered with a state error changes nothing** (MAC state, machine state, generator
state, downlink queue) — except `UnexpectedRadioResponse`, which is the radio refusing a transmission
and is a completed exchange (`nbStep_inv`) -/
theorem nbStep_state_error {σ} (g : Rng σ) (cfg : NbCfg) (r : NbRun) (rs : σ) (ev : NbEvent) (items : List NbItem)
    (msg : String) (r' : NbRun) (rs' : σ) (hmsg : msg ≠ "UnexpectedRadioResponse")
    (h : nbEvent g cfg r rs ev items = .ok (.errState msg, r', rs')) :
    r'.m = r.m ∧ r'.st = r.st ∧ rs' = rs ∧ r'.downlinks = r.downlinks := by
  have hs := nbStep_spec g cfg { r with script := items } ev rs
  rw [show nbStep g cfg { r with script := items } ev rs = _ from h] at hs
  cases hs with
  | refuse => exact ⟨rfl, rfl, rfl, rfl⟩
  | join _ _ hi | send _ _ hi => exact absurd (idleTx_errState hi) hmsg

/-- a session of the non-blocking device: events in order, each with the radio's answers -/
def nbRun {σ} (g : Rng σ) (cfg : NbCfg) : NbRun → σ → List (NbEvent × List NbItem) → M (List NbResp × NbRun × σ)
  | r, rs, [] => pure ([], r, rs)
  | r, rs, (ev, items) :: rest => do
    let (resp, r, rs) ← nbEvent g cfg r rs ev items
    let (resps, r, rs) ← nbRun g cfg r rs rest
    pure (resp :: resps, r, rs)

/-- **the history of a session**: the events of the exchanges it completes, in order (`nbAbs` along
the states the machine goes through) -/
def nbAbstract {σ} (g : Rng σ) (cfg : NbCfg) : Option NbGhost → NbRun → σ → List (NbEvent × List NbItem) → List Ev
  | _, _, _, [] => []
  | gh, r, rs, (ev, items) :: rest =>
    match nbEvent g cfg r rs ev items with
    | .ok (_, r', rs') =>
      (nbAbs gh r.st ev (headItem items) r'.st).1.toList ++
        nbAbstract g cfg (nbAbs gh r.st ev (headItem items) r'.st).2 r' rs' rest
    | .error _ => []

/-- **every event sequence of the non-blocking front-end refines `Model.run`**: from any state
satisfying the invariant (in particular from `Idle`), if the session returns, the history of its
completed exchanges returns, and the invariant relates the final states — in `Idle` the MAC state
and the generator state ARE the history's -/
theorem nbRun_refines {σ} (g : Rng σ) (cfg : NbCfg) (pre : MacState × σ) (gh : Option NbGhost) (r : NbRun) (rs : σ)
    (evs : List (NbEvent × List NbItem)) (resps : List NbResp) (r' : NbRun) (rs' : σ)
    (hinv : NbInv g pre gh r rs) (h : nbRun g cfg r rs evs = .ok (resps, r', rs')) :
    ∃ pre' gh' outs, run g pre (nbAbstract g cfg gh r rs evs) = .ok (pre', outs) ∧ NbInv g pre' gh' r' rs' := by
  induction evs generalizing pre gh r rs resps with
  | nil =>
    cases h
    exact ⟨pre, gh, [], rfl, hinv⟩
  | cons x rest ih =>
    obtain ⟨ev, items⟩ := x
    unfold nbRun at h
    obtain ⟨⟨resp, r1, rs1⟩, hev, hk⟩ := Except.bind_eq_ok h
    obtain ⟨⟨resps1, r2, rs2⟩, hrun, hk2⟩ := Except.bind_eq_ok hk
    cases hk2
    have hpost := nbStep_inv g cfg pre gh r rs ev items resp r1 rs1 hinv hev
    simp only [nbAbstract, hev]
    cases hab : nbAbs gh r.st ev (headItem items) r1.st with
    | mk e gh1 =>
      rw [hab] at hpost
      cases e with
      | none =>
        obtain ⟨pre', gh', outs, hr, hi⟩ := ih pre gh1 r1 rs1 resps1 hpost.1 hrun
        exact ⟨pre', gh', outs, by simpa using hr, hi⟩
      | some e =>
        obtain ⟨out, hstep, hinv1, _, _⟩ := hpost
        obtain ⟨pre', gh', outs, hr, hi⟩ := ih (r1.m, rs1) gh1 r1 rs1 resps1 hinv1 hrun
        exact ⟨pre', gh', out :: outs, by simpa using run_cons_iff.mpr ⟨_, _, _, hstep, hr, rfl⟩, hi⟩

/-- the history event whose step fails where the state machine's MAC call fails -/
def FaultEv (gh : Option NbGhost) (st : NbState) (ev : NbEvent) (e : Ev) : Prop :=
  match st, ev with
  | .idle, .join => e = .joinOtaa (some 0) none none 0 0
  | .idle, .send d p c => e = .uplink d p c (some 0) none none 0 0
  | .waitingForRx _ tx second _, .radio (.rx snr v) => ∃ gh0, gh = some gh0 ∧ e = ghostEv (gh0.heard second (v, snr)) tx
  | _, _ => False

/-- **a failure of the state machine is one of its own (`NbExtra`) or the failure of a history step** -/
theorem nbStep_fault {σ} (g : Rng σ) (cfg : NbCfg) (pre : MacState × σ) (gh : Option NbGhost) (r : NbRun) (rs : σ)
    (ev : NbEvent) (items : List NbItem) (f : Fault)
    (hinv : NbInv g pre gh r rs) (h : nbEvent g cfg r rs ev items = .error f) :
    NbExtra f ∨ ∃ e, step g pre e = .error f ∧ FaultEv gh r.st ev e := by
  have hs := nbStep_spec g cfg { r with script := items } ev rs
  rw [show nbStep g cfg { r with script := items } ev rs = _ from h] at hs
  cases hs with
  | own hx => exact Or.inl hx
  | joinFail hst hj =>
    obtain ⟨rfl, rfl⟩ := hinv.idle hst
    replace hj : macJoinOtaa g r.m rs = .error f := hj
    exact Or.inr ⟨.joinOtaa (some 0) none none 0 0, Except.bind_of_error hj _, by rw [show r.st = _ from hst]; rfl⟩
  | @sendFail d p c _ hst hj =>
    obtain ⟨rfl, rfl⟩ := hinv.idle hst
    replace hj : macSend g r.m d p c rs = .error f := hj
    exact Or.inr ⟨.uplink d p c (some 0) none none 0 0, Except.bind_of_error hj _, by rw [show r.st = _ from hst]; rfl⟩
  | heardFail hst hrx =>
    obtain ⟨k, rx1, rx2, rfl, hstart, hw1, _⟩ := hinv.inFlight (.inr hst)
    exact Or.inr ⟨_, step_heard_error g pre k _ _ r.m rs rx1 rx2 _ _ _ f hstart hw1 hrx,
      by rw [show r.st = _ from hst]; exact ⟨_, rfl, rfl⟩⟩

def kindOk : Option (List Nat × Nat × Bool) → Bool
  | none => true
  | some (d, p, _) => (p != 0 || d.isEmpty) && decide (d.length ≤ 222)

def ghOk : Option NbGhost → Bool
  | none => true
  | some x => kindOk x.kind && rxWF x.rx1 && rxWF x.rx2

/-- the application contract of an event (`send`: as `validEv`), and well-formed decoded views -/
def NbEvent.valid : NbEvent → Bool
  | .send d p _ => (p != 0 || d.isEmpty) && decide (d.length ≤ 222)
  | .radio (.rx _ v) => viewWF v
  | _ => true

theorem ghostEv_valid (rid : RegionId) (x : NbGhost) (tx : TxOut) (h : ghOk (some x) = true) :
    validEv rid (ghostEv x tx) = true := by
  simp only [ghOk, Bool.and_eq_true] at h
  obtain ⟨⟨hk, h1⟩, h2⟩ := h
  unfold ghostEv
  cases hkind : x.kind with
  | none => simp only [validEv, h1, h2, Bool.and_self]
  | some dpc =>
    obtain ⟨d, p, c⟩ := dpc
    rw [hkind] at hk
    simp only [kindOk, Bool.and_eq_true] at hk
    simp only [validEv, hk.1, hk.2, h1, h2, Bool.and_self]

theorem heard_ok (x : NbGhost) (second : Bool) (v : RxView) (snr : Int) (h : ghOk (some x) = true) (hv : viewWF v = true) :
    ghOk (some (x.heard second (v, snr))) = true := by
  simp only [ghOk, Bool.and_eq_true] at h ⊢
  obtain ⟨⟨hk, h1⟩, h2⟩ := h
  cases second with
  | true => exact ⟨⟨hk, h1⟩, hv⟩
  | false => exact ⟨⟨hk, hv⟩, h2⟩

theorem nbAbs_ok (rid : RegionId) (gh : Option NbGhost) (st : NbState) (ev : NbEvent) (item : NbItem) (st' : NbState)
    (hg : ghOk gh = true) (hv : ev.valid = true) :
    ghOk (nbAbs gh st ev item st').2 = true ∧ ∀ e, (nbAbs gh st ev item st').1 = some e → validEv rid e = true := by
  unfold nbAbs
  split
  · rename_i d p c
    simp only [NbEvent.valid, Bool.and_eq_true] at hv
    split
    · exact ⟨rfl, fun e he => by cases he; simp only [validEv, hv.1, hv.2, rxWF, Bool.and_self]⟩
    · exact ⟨by simp only [ghOk, kindOk, hv.1, hv.2, rxWF, Bool.and_self], fun e he => by cases he⟩
  · split
    · exact ⟨rfl, fun e he => by cases he; rfl⟩
    · exact ⟨rfl, fun e he => by cases he⟩
  · rename_i join tx second t snr v
    split
    · split
      · rename_i x
        have hx := heard_ok x second v snr hg hv
        split
        · exact ⟨rfl, fun e he => by cases he; exact ghostEv_valid rid _ tx hx⟩
        · exact ⟨hx, fun e he => by cases he⟩
      · exact ⟨rfl, fun e he => by cases he⟩
    · exact ⟨hg, fun e he => by cases he⟩
  · rename_i join tx second t
    split
    · rename_i x
      split
      · exact ⟨rfl, fun e he => by cases he; exact ghostEv_valid rid _ tx hg⟩
      · exact ⟨hg, fun e he => by cases he⟩
    · exact ⟨rfl, fun e he => by cases he⟩
  · exact ⟨hg, fun e he => by cases he⟩

theorem faultEv_valid (rid : RegionId) (gh : Option NbGhost) (st : NbState) (ev : NbEvent) (e : Ev)
    (hg : ghOk gh = true) (hv : ev.valid = true) (h : FaultEv gh st ev e) : validEv rid e = true := by
  unfold FaultEv at h
  split at h
  · subst h; rfl
  · subst h
    simp only [NbEvent.valid, Bool.and_eq_true] at hv
    simp only [validEv, hv.1, hv.2, rxWF, Bool.and_self]
  · obtain ⟨gh0, rfl, rfl⟩ := h
    exact ghostEv_valid rid _ _ (heard_ok gh0 _ _ _ hg hv)
  · exact h.elim

/-- **no session of the non-blocking front-end panics in the MAC**: a panic of `nbRun` is one of the
state machine's own (`NbExtra`) -/
theorem nbRun_fault {σ} (g : Rng σ) (cfg : NbCfg) (pre : MacState × σ) (gh : Option NbGhost) (r : NbRun) (rs : σ)
    (evs : List (NbEvent × List NbItem)) (site : String)
    (hinv : NbInv g pre gh r rs) (hwf : MacWF pre.1) (hg : ghOk gh = true) (hv : ∀ x ∈ evs, x.1.valid = true)
    (h : nbRun g cfg r rs evs = .error (.panic site)) : NbExtra (.panic site) := by
  induction evs generalizing pre gh r rs with
  | nil => cases h
  | cons x rest ih =>
    obtain ⟨ev, items⟩ := x
    have hvx : ev.valid = true := hv (ev, items) List.mem_cons_self
    unfold nbRun at h
    rcases Except.bind_eq_error h with h | ⟨⟨resp, r1, rs1⟩, hev, h⟩
    · rcases nbStep_fault g cfg pre gh r rs ev items _ hinv h with hx | ⟨e, hstep, hfe⟩
      · exact hx
      · exfalso
        obtain ⟨m0, s0⟩ := pre
        exact (step_safe g m0 s0 e hwf (faultEv_valid _ gh r.st ev e hg hvx hfe)).no_panic site hstep
    · rcases Except.bind_eq_error h with h | ⟨y, _, h⟩
      · have hpost := nbStep_inv g cfg pre gh r rs ev items resp r1 rs1 hinv hev
        have hok := nbAbs_ok pre.1.region.id gh r.st ev (headItem items) r1.st hg hvx
        cases hab : nbAbs gh r.st ev (headItem items) r1.st with
        | mk e gh1 =>
          rw [hab] at hpost hok
          have hrest : ∀ x ∈ rest, x.1.valid = true := fun x hx => hv x (List.mem_cons_of_mem _ hx)
          cases e with
          | none => exact ih pre gh1 r1 rs1 hpost.1 hwf hok.1 hrest h
          | some e =>
            obtain ⟨out, hstep, hinv1, _, _⟩ := hpost
            obtain ⟨m0, s0⟩ := pre
            have hwf1 : MacWF r1.m := (step_keeps hwf rfl (hok.2 e rfl) hstep).1
            exact ih (r1.m, rs1) gh1 r1 rs1 hinv1 hwf1 hok.1 hrest h
      · cases h

end Model
