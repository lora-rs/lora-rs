import LoraVerif.Lemmas.MacWFPlan
import LoraVerif.Lemmas.HandleCmds
/-!
Totality and invariant preservation of the MAC command interpreter (`handleCmds`: every CID, every
payload byte, in any order).  It contains no retry loop, so the statements are `Tot`: the call
RETURNS (no panic, no hang) and the working state it leaves is well-formed again.  Command by command
(`stepModel_tot`, `adrStepModel_tot`) along the equations of `Lemmas/HandleCmds.lean`.
-/
open Gen.Region

namespace Model

def CtxWF (c : MacCtx) : Prop :=
  regionWF c.region = true ∧ cfgWF c.region.id c.cfg = true ∧ c.pending.length ≤ 15

abbrev CtxKeeps (c c' : MacCtx) : Prop := CtxWF c' ∧ c'.region.id = c.region.id

theorem push_wf (c : MacCtx) (cid : Nat) (p : List Nat) (h : CtxWF c) : CtxWF (c.push cid p) := by
  unfold MacCtx.push
  split
  · exact h
  · split
    · refine ⟨h.1, h.2.1, ?_⟩
      simp only [List.length_append, List.length_cons]; omega
    · exact h

theorem foldl_push_wf (n : Nat) (c : MacCtx) (cid : Nat) (p : List Nat) (h : CtxWF c) :
    CtxWF ((List.range n).foldl (fun c _ => c.push cid p) c) :=
  List.foldlRecOn _ _ h fun c' h' _ _ => push_wf c' cid p h'

theorem linkAdrDr_valid {cfg : Config} {r : RegionId} {drRaw d : Nat} (hc : cfgWF r cfg = true)
    (h : linkAdrDr cfg r drRaw = some d) : isUplinkDatarate r d = true := by
  unfold linkAdrDr at h
  split at h
  · cases h; exact (cfgWF_iff.mp hc).1
  · split at h
    · rename_i hv; cases h; exact hv
    · cases h

theorem linkAdrPw_tot (cfg : Config) (r : RegionId) (pwRaw : Nat) (h : pwRaw < 16) :
    Tot (linkAdrPw cfg r pwRaw) (fun _ => True) := by
  unfold linkAdrPw
  split
  · exact Tot.pure trivial
  · refine Tot.bind (txPowerAdjust_tot r pwRaw h) (fun o _ => ?_)
    cases o <;> exact Tot.pure trivial

theorem linkAdrCmAck_tot (region : RegionState) (mask : Mask) (rfu : Bool) (dr : Option Nat)
    (h : regionWF region = true) (hm : mask.length = 9) (hdr : ∀ d, dr = some d → isUplinkDatarate region.id d = true) :
    Tot (linkAdrCmAck region mask rfu dr) (fun _ => True) := by
  unfold linkAdrCmAck
  have h1 : Tot (match dr with
      | some d => do pure (some (← drOfNat d))
      | none => (pure none : M (Option DR))) (fun o => ∀ d, o = some d → d.toInt.toNat < 15) := by
    cases dr with
    | none => exact Tot.pure (fun d e => by cases e)
    | some d =>
      obtain ⟨_, _, hlt⟩ := isUplink_get (hdr d rfl)
      refine Tot.bind (drOfNat_tot d) (fun dd hdd => Tot.pure ?_)
      intro d' e; cases e
      rw [hdd]; omega
  refine Tot.bind h1 (fun o ho => ?_)
  cases rfu
  · simp only [Bool.false_eq_true, if_false]
    exact channelMaskValidate_tot region mask o h hm ho
  · exact Tot.pure trivial

theorem linkAdrDecide_tot (cfg : Config) (region : RegionState) (mask : Mask) (rfu : Bool) (drRaw pwRaw : Nat)
    (h : regionWF region = true) (hc : cfgWF region.id cfg = true) (hm : mask.length = 9) (hpw : pwRaw < 16) :
    Tot (linkAdrDecide cfg region mask rfu drRaw pwRaw)
      (fun r => regionWF r.2.2 = true ∧ r.2.2.id = region.id ∧ cfgWF region.id r.2.1 = true) := by
  unfold linkAdrDecide
  refine Tot.bind (linkAdrPw_tot cfg region.id pwRaw hpw) (fun pw _ => ?_)
  refine Tot.bind (linkAdrCmAck_tot region mask rfu _ h hm (fun d hd => linkAdrDr_valid hc hd)) (fun cm _ => ?_)
  simp only
  split
  · rename_i d p hd
    refine Tot.pure ⟨(channelMaskSet_wf region mask h hm).1, (channelMaskSet_wf region mask h hm).2, ?_⟩
    have hv := linkAdrDr_valid hc hd
    exact cfgWF_iff.mpr ⟨hv, (cfgWF_iff.mp hc).2⟩
  · exact Tot.pure ⟨h, rfl, hc⟩

theorem byteAt_tot (l : List Nat) (i : Nat) (h : i < l.length) : Tot (byteAt l i) (fun _ => True) := by
  unfold byteAt
  rw [List.getElem?_eq_getElem h]
  exact Tot.ok trivial

theorem freq24_tot (l : List Nat) (i : Nat) (h : i + 2 < l.length) : Tot (freq24 l i) (fun _ => True) := by
  unfold freq24
  refine Tot.bind (byteAt_tot l (i + 2) h) (fun _ _ => ?_)
  refine Tot.bind (byteAt_tot l (i + 1) (by omega)) (fun _ _ => ?_)
  refine Tot.bind (byteAt_tot l i (by omega)) (fun _ _ => Tot.pure trivial)

theorem finishLinkAdrBlock_tot (c : MacCtx) (mask : Mask) (rfu : Bool) (n : Nat) (last : List Nat)
    (h : CtxWF c) (hm : mask.length = 9) (hl : 0 < last.length) :
    Tot (finishLinkAdrBlock c mask rfu n last) (CtxKeeps c) := by
  unfold finishLinkAdrBlock
  refine Tot.bind (byteAt_tot last 0 hl) (fun b0 _ => ?_)
  refine Tot.bind (linkAdrDecide_tot c.cfg c.region mask rfu (b0 / 16) (b0 % 16) h.1 h.2.1 hm
    (Nat.mod_lt _ (by decide))) ?_
  intro ⟨ans, cfg, region⟩ ⟨h1, h2, h3⟩
  simp only at h1 h2 h3 ⊢
  have hw : CtxWF { c with cfg := cfg, region := region } := ⟨h1, by simp only; rw [h2]; exact h3, h.2.2⟩
  exact Tot.pure ⟨foldl_push_wf n _ 0x03 [ans] hw,
    (congrArg RegionState.id (TieA.Macs.foldl_push_cfg (fun _ => (0x03, [ans])) (List.range n) _).2).trans h2⟩

theorem rxParamSetup_wf (cfg : Config) (r : RegionId) (dl f : Nat) (h : cfgWF r cfg = true) :
    cfgWF r (rxParamSetup cfg r dl f).2 = true := by
  unfold rxParamSetup
  simp only
  split
  · rename_i r2 o _ _ ho
    exact cfgWF_iff.mpr ⟨(cfgWF_iff.mp h).1, rx1DrOffsetValidate_lt ho⟩
  · exact h

/-- `del_to_delay_ms`: 0 and 1 mean one second -/
theorem delToDelayMs_eq (del : Nat) : delToDelayMs del = .ok (if 2 ≤ del ∧ del ≤ 15 then del * 1000 else 1000) := by
  unfold delToDelayMs Gen.Session.del_to_delay_ms
  by_cases hr : 2 ≤ del ∧ del ≤ 15
  · have hi : (2 : Int) ≤ (del : Int) ∧ (del : Int) ≤ 15 := by omega
    simp only [hi, hr, and_self, decide_true, if_true]
    simp only [Rt.ck_u32 (x := (del : Int) * 1000) (by omega) (by omega)]
    exact congrArg Except.ok (by omega)
  · have hi : ¬ ((2 : Int) ≤ (del : Int) ∧ (del : Int) ≤ 15) := by omega
    simp only [hi, hr, decide_false, Bool.false_eq_true, if_false]
    rfl

theorem delToDelayMs_tot (del : Nat) : Tot (delToDelayMs del) (fun _ => True) :=
  Tot.of_eq (delToDelayMs_eq del) trivial

theorem parseDownlinkCmds_lens (fuel : Nat) (bytes : List Nat) :
    ∀ x ∈ parseDownlinkCmds fuel bytes, downlinkCmdLen x.1 = some x.2.length := by
  induction fuel generalizing bytes with
  | zero => intro x hx; simp [parseDownlinkCmds] at hx
  | succ fuel ih =>
    intro x hx
    cases bytes with
    | nil => simp [parseDownlinkCmds] at hx
    | cons cid rest =>
      unfold parseDownlinkCmds at hx
      split at hx
      · simp at hx
      · rename_i n hn
        split at hx
        · simp at hx
        · rename_i hlen
          simp only [List.mem_cons] at hx
          rcases hx with rfl | hx
          · simp only [List.length_take]
            rw [hn]; congr 1; omega
          · exact ih _ x hx

/-- one command other than LinkADRReq, with any payload bytes, is handled without panic and
leaves a well-formed working state of the same region -/
theorem stepModel_tot (snr : Int) (cid : Nat) (p : List Nat) (c : MacCtx) (hx : downlinkCmdLen cid = some p.length)
    (h : CtxWF c) : Tot (TieA.Macs.stepModel snr (cid, p) c) (CtxKeeps c) := by
  -- every command ends by pushing its answer
  have answer : ∀ (c1 : MacCtx) (cid : Nat) (pl : List Nat), CtxWF c1 → c1.region.id = c.region.id →
      Tot (pure (c1.push cid pl) : M MacCtx) (CtxKeeps c) :=
    fun c1 cid pl h1 hid => Tot.pure ⟨push_wf c1 cid pl h1, by rw [(TieA.Macs.push_cfg c1 cid pl).2]; exact hid⟩
  unfold TieA.Macs.stepModel
  split
  case h_1 heq => cases heq; exact answer _ 0x06 _ h rfl
  case h_2 heq =>
    cases heq
    have hp : 1 = p.length := Option.some.inj hx
    refine Tot.bind (byteAt_tot p 0 (by omega)) (fun b0 _ => ?_)
    refine Tot.bind (delToDelayMs_tot _) (fun d _ => ?_)
    exact answer _ 0x08 [] ⟨h.1, h.2.1, h.2.2⟩ rfl
  case h_3 heq =>
    cases heq
    have hp : 4 = p.length := Option.some.inj hx
    refine Tot.bind (byteAt_tot p 0 (by omega)) (fun b0 _ => ?_)
    refine Tot.bind (freq24_tot p 1 (by omega)) (fun f _ => ?_)
    exact answer _ 0x05 _ ⟨h.1, rxParamSetup_wf _ _ _ _ h.2.1, h.2.2⟩ rfl
  case h_4 heq =>
    cases heq
    have hp : 5 = p.length := Option.some.inj hx
    split
    · exact Tot.pure ⟨h, rfl⟩
    · rename_i hfix
      refine Tot.bind (byteAt_tot p 0 (by omega)) (fun idx _ => ?_)
      refine Tot.bind (freq24_tot p 1 (by omega)) (fun f _ => ?_)
      refine Tot.bind (byteAt_tot p 4 (by omega)) (fun r _ => ?_)
      refine Tot.bind (handleNewChannel_tot _ idx f _ h.1 (by simpa using hfix)) ?_
      intro ⟨⟨ackF, ackD⟩, region⟩ ⟨hr1, hr2⟩
      simp only at hr1 hr2 ⊢
      exact answer _ 0x07 _ ⟨hr1, by simp only; rw [hr2]; exact h.2.1, h.2.2⟩ hr2
  case h_5 heq =>
    cases heq
    have hp : 4 = p.length := Option.some.inj hx
    split
    · exact Tot.pure ⟨h, rfl⟩
    · rename_i hfix
      refine Tot.bind (byteAt_tot p 0 (by omega)) (fun idx _ => ?_)
      refine Tot.bind (freq24_tot p 1 (by omega)) (fun f _ => ?_)
      refine Tot.bind (channelDlUpdate_tot _ idx f h.1 (by simpa using hfix)) ?_
      intro ⟨⟨ackF, ackC⟩, region⟩ ⟨hr1, hr2⟩
      simp only at hr1 hr2 ⊢
      exact answer _ 0x0A _ ⟨hr1, by simp only; rw [hr2]; exact h.2.1, h.2.2⟩ hr2
  case h_6 heq => cases heq; exact Tot.pure ⟨h, rfl⟩

/-- one LinkADRReq is handled without panic; the context stays well-formed in its region (`CtxKeeps`, here flat with the
third conjunct) and the working copy of the mask 9 bytes -/
theorem adrStepModel_tot (p : List Nat) (more : Bool) (c : MacCtx) (mask : Mask) (rfu : Bool) (n : Nat) (hp : 4 = p.length)
    (h : CtxWF c) (hm : mask.length = 9) :
    Tot (TieA.Macs.adrStepModel p more c mask rfu n)
      (fun r => CtxWF r.1 ∧ r.1.region.id = c.region.id ∧ r.2.1.length = 9) := by
  unfold TieA.Macs.adrStepModel
  refine Tot.bind (byteAt_tot p 3 (by omega)) (fun b3 _ => ?_)
  refine Tot.bind (byteAt_tot p 1 (by omega)) (fun b1 _ => ?_)
  refine Tot.bind (byteAt_tot p 2 (by omega)) (fun b2 _ => ?_)
  refine Tot.bind (channelMaskUpdate_tot c.region mask _ b1 b2 hm) (fun upd hupd => ?_)
  have hm' : (match upd with | some m => (m, rfu) | none => (mask, true)).1.length = 9 := by
    cases upd with
    | none => exact hm
    | some m => exact hupd m rfl
  dsimp only
  split
  · exact Tot.pure ⟨h, rfl, hm'⟩
  · exact Tot.bind (finishLinkAdrBlock_tot c _ _ (n + 1) p h hm' (by omega))
      (fun c1 ⟨hc1, hid1⟩ => Tot.pure ⟨hc1, hid1, channelMaskGet_length _ hc1.1⟩)

/-- **every downlink MAC command, with any payload bytes, in any order, is handled without panic**
and leaves a well-formed working state of the same region -/
theorem handleCmds_tot (snr : Int) (cmds : List (Nat × List Nat)) (c : MacCtx) (mask : Mask) (rfu : Bool) (nAdr : Nat)
    (hlen : ∀ x ∈ cmds, downlinkCmdLen x.1 = some x.2.length) (h : CtxWF c) (hm : mask.length = 9) :
    Tot (handleCmds snr cmds c mask rfu nAdr) (CtxKeeps c) := by
  induction cmds generalizing c mask rfu nAdr with
  | nil => exact ⟨c, rfl, h, rfl⟩
  | cons x rest ih =>
    obtain ⟨cid, p⟩ := x
    have hx : downlinkCmdLen cid = some p.length := hlen (cid, p) List.mem_cons_self
    have next : ∀ (c1 : MacCtx) (mask : Mask) (rfu : Bool) (nAdr : Nat), CtxWF c1 → c1.region.id = c.region.id →
        mask.length = 9 → Tot (handleCmds snr rest c1 mask rfu nAdr) (CtxKeeps c) :=
      fun c1 mask rfu nAdr h1 hid hm =>
        (ih c1 mask rfu nAdr (fun x hx => hlen x (List.mem_cons_of_mem _ hx)) h1 hm).mono (fun c2 ⟨hc2, hid2⟩ => ⟨hc2, hid2.trans hid⟩)
    by_cases h3 : cid = 3
    · subst h3
      rw [TieA.Macs.handleCmds_adr_cons]
      exact Tot.bind (adrStepModel_tot p _ c mask rfu nAdr (Option.some.inj hx) h hm)
        (fun r ⟨hc, hid, hmr⟩ => next r.1 r.2.1 r.2.2.1 r.2.2.2 hc hid hmr)
    · rw [TieA.Macs.handleCmds_cons snr (cid, p) rest c mask rfu nAdr h3]
      exact Tot.bind (stepModel_tot snr cid p c hx h) (fun c1 ⟨h1, hid⟩ => next c1 mask rfu nAdr h1 hid hm)

theorem handleDownlinkMacs_tot (snr : Int) (bytes : List Nat) (c : MacCtx) (h : CtxWF c) :
    Tot (handleDownlinkMacs snr bytes c) (CtxKeeps c) := by
  unfold handleDownlinkMacs
  exact handleCmds_tot snr _ c _ false 0 (parseDownlinkCmds_lens _ _) h (channelMaskGet_length _ h.1)

end Model
