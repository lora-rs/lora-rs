import LoraVerif.Lemmas.PhyEffect127
/-!
# SX127x TX power and ramp: register effect against `sx127x_set_pa_cfg` + `sx127x_set_tx_params` (C13)

The reference is run once, in closed form (`refTxParams_regs`: three read-modify-writes); lora-phy's program is run in
each case of chip, pin and power range, the clamped request a variable; PaRamp and PaDac agree in every case, so a case
is left with the RegPaConfig byte.
-/
open Model.Phy Spec.Semtech
namespace C13
open Gen.PhyCodes127

/-- the compared bits of a TX-power effect (= `eff_mask("txpower", a)`): PaSelect and OutputPower
(and MaxPower on the SX1276 RFO pin — with PA_BOOST the reference keeps those bits, lora-phy clears
them), PaRamp[3:0], PaDac[2:0] of the variant's PaDac register -/
def txMask (cfg : Sx127x.Config) (a : Nat) : UInt8 :=
  if a = 0x09 then (if cfg.chip = .sx1276 ∧ cfg.txBoost = false then 0xff else 0x8f)
  else if a = 0x0a then 0x0f
  else if a = 0x4d then (if cfg.chip = .sx1276 then 0x07 else 0)
  else if a = 0x5a then (if cfg.chip = .sx1272 then 0x07 else 0)
  else 0

/-- the reference calls realising `set_tx_power_and_ramp_time(p, is_tx_prep)`: the caller clamps the
power to the range of the selected output, selects the +20 dBm option above 17 dBm on PA_BOOST, and
passes the ramp time 40 µs (TX preparation) or 250 µs -/
def refTxPower (cfg : Sx127x.Config) (p : Int) (prep : Bool) : Prog Unit :=
  let is1272 := cfg.chip == .sx1272
  let pc : Int :=
    if is1272 then (if cfg.txBoost then (if p > 17 then Sx127x.clampI p 5 20 else Sx127x.clampI p 2 17) else Sx127x.clampI p (-1) 14)
    else (if cfg.txBoost then Sx127x.clampI p 2 20 else Sx127x.clampI p (-4) 14)
  S127.setTxParams is1272 cfg.txBoost (cfg.txBoost && decide (pc > 17)) pc (if prep then 9 else 4)

theorem clampI_bounds (x lo hi : Int) (h : lo ≤ hi) : lo ≤ Sx127x.clampI x lo hi ∧ Sx127x.clampI x lo hi ≤ hi := by
  unfold Sx127x.clampI; omega

theorem tx_mask_close (cfg : Sx127x.Config) (L R : Nat → UInt8)
    (h09 : L 9 &&& (if cfg.chip = .sx1276 ∧ cfg.txBoost = false then 0xff else 0x8f) =
           R 9 &&& (if cfg.chip = .sx1276 ∧ cfg.txBoost = false then 0xff else 0x8f))
    (h0a : L 10 &&& 0x0f = R 10 &&& 0x0f)
    (h4d : cfg.chip = .sx1276 → L 77 &&& 7 = R 77 &&& 7) (h5a : cfg.chip = .sx1272 → L 90 &&& 7 = R 90 &&& 7) (a : Nat) :
    L a &&& txMask cfg a = R a &&& txMask cfg a := by
  refine agree_of_support (txMask cfg) [9, 10, 77, 90] L R (fun a ha => ?_) (fun a ha => ?_) a
  · simp at ha; simp [txMask, ha]
  · simp at ha; rcases ha with rfl | rfl | rfl | rfl <;> simp [txMask, *]
    · by_cases hc : cfg.chip = .sx1276 <;> simp [hc, h4d]
    · by_cases hc : cfg.chip = .sx1272 <;> simp [hc, h5a]

/-- RegPaConfig as `sx127x_set_tx_params` computes it from its old content -/
def refPaConfig (is1272 boost is20 : Bool) (pwr : Int) (old : UInt8) : UInt8 :=
  let c0 : UInt8 := (old &&& ~~~((1 : UInt8) <<< 7)) ||| (if boost then (1 : UInt8) <<< 7 else (0 : UInt8) <<< 7)
  if boost then
    if is20 then (c0 &&& ~~~((15 : UInt8) <<< 0)) ||| (S127.i2u8 (pwr - 5) &&& 0x0F)
    else (c0 &&& ~~~((15 : UInt8) <<< 0)) ||| (S127.i2u8 (pwr - 2) &&& 0x0F)
  else if is1272 then (c0 &&& ~~~((15 : UInt8) <<< 0)) ||| (S127.i2u8 (pwr + 1) &&& 0x0F)
  else
    let (mx, p) : UInt8 × Int := if pwr > 0 then (7, pwr) else (0, pwr + 4)
    (c0 &&& ~~~((7 : UInt8) <<< 4) &&& ~~~((15 : UInt8) <<< 0)) ||| (mx <<< 4) ||| (S127.i2u8 p &&& 0x0F)

/-- the reference's TX parameters, run once for all arguments: three read-modify-writes -/
theorem refTxParams_regs (is1272 boost is20 : Bool) (pwr : Int) (ramp : UInt8) (c : Chip) (hk : c.kind = .sx127x) :
    (trace (S127.setTxParams is1272 boost is20 pwr ramp) c).2.1.regs =
      let d := if is1272 then 90 else 77
      setAt (setAt (setAt c.regs 9 (refPaConfig is1272 boost is20 pwr (c.regs 9))) 10 (c.regs 10 &&& ~~~15 ||| ramp)) d
        (c.regs d &&& ~~~7 ||| if is20 then 7 else 4) := by
  cases is1272 <;> eff127 [S127.setTxParams, hk, refPaConfig]

theorem nib_and (t : Int) (h0 : 0 ≤ t) (h1 : t < 16) : UInt8.ofNat (t % 256).toNat &&& 15 = UInt8.ofNat (t % 256).toNat := by
  obtain ⟨n, hn⟩ : ∃ n : Fin 16, (t % 256).toNat = n.val := ⟨⟨(t % 256).toNat, by omega⟩, rfl⟩
  rw [hn]; clear hn; revert n; decide

/-- the RegPaConfig goal on the SX1276: the OutputPower nibble of the clamped, offset request `t` is a variable
`x = x &&& 15` (`0 ≤ t < 16`, so the reference's `& 0x0F` does nothing; the two bounds by `omega` from the bounds of the
clamp in the context); the rest is `fields` -/
macro "pw" t:term : tactic => `(tactic|
  (have hx := (nib_and ($t) (by omega) (by omega)).symm
   generalize UInt8.ofNat _ = x at hx ⊢
   rw [hx]; fields))

/-- PaRamp[3:0] as lora-phy writes it -/
theorem ramp_low (v : Sx127x.Variant) (prep : Bool) :
    Sx127x.rampValue v (if prep then .Ramp40Us else .Ramp250Us) &&& 15 = (if prep then 9 else 4) &&& 15 := by
  cases v <;> cases prep <;> decide

/-- Two steps: `eff127` on `set_tx_power_and_ramp_time` with the code tables of the PA registers; then
`tx_mask_close`, whose goals for PaRamp[3:0] and PaDac[2:0] a `simp` closes with `u8_field_seen` and `ramp_low` (both
drivers write these fields, one absolutely, one by read-modify-write).  Left to the caller: the RegPaConfig goal. -/
syntax "tx127" "[" Lean.Parser.Tactic.simpLemma,* "]" : tactic
macro_rules
  | `(tactic| tx127 [$ls,*]) => `(tactic| (
    eff127 [$ls,*, Sx127x.setTxPowerAndRampTime, Sx127x.setTxPower, Sx127x.setOcp, refPaConfig, S127.i2u8,
      PaDac.value, PaDac.toInt, PaConfig.value, PaConfig.toInt, OcpTrim.value, OcpTrim.toInt,
      byte, Rt.wrap, Rt.orI, Rt.ITy.bits, Rt.ITy.signed]
    apply tx_mask_close <;> simp +decide (disch := decide) [$ls,*, setAt, u8_field_seen, ramp_low]))

/-- **SX127x TX power and ramp time**, SX1276 and SX1272, RFO and PA_BOOST pin, every requested power
(any integer: both sides clamp), both ramp selections, every prior content of RegPaConfig / RegPaRamp /
RegPaDac: same PaSelect, OutputPower (and MaxPower on the SX1276 RFO pin), PaRamp[3:0], PaDac[2:0]. -/
theorem sx127x_tx_power_effect_eq (cfg : Sx127x.Config) (p : Int) (prep : Bool) (c : Chip) (hk : c.kind = .sx127x) (a : Nat) :
    (trace (Sx127x.setTxPowerAndRampTime cfg p prep) c).2.1.regs a &&& txMask cfg a =
      (trace (refTxPower cfg p prep) c).2.1.regs a &&& txMask cfg a := by
  simp only [refTxPower, refTxParams_regs _ _ _ _ _ c hk]
  revert a
  cases hc : cfg.chip <;> cases hb : cfg.txBoost
  · obtain ⟨b1, b2⟩ := clampI_bounds p (-4) 14 (by decide)
    generalize htx : Sx127x.clampI p (-4) 14 = txp at *
    by_cases h0 : txp > 0
    · tx127 [hc, hb, hk, htx, h0]
      pw txp
    · tx127 [hc, hb, hk, htx, h0]
      pw (txp + 4)
  · obtain ⟨b1, b2⟩ := clampI_bounds p 2 20 (by decide)
    generalize htx : Sx127x.clampI p 2 20 = txp at *
    by_cases h17 : txp > 17
    · tx127 [hc, hb, hk, htx, h17]
      pw (txp - 5)
    · tx127 [hc, hb, hk, htx, h17]
      pw (txp - 2)
  · obtain ⟨b1, b2⟩ := clampI_bounds p (-1) 14 (by decide)
    generalize htx : Sx127x.clampI p (-1) 14 = txp at *
    have h17 : ¬ txp > 17 := by omega
    tx127 [hc, hb, hk, htx, h17]
    fields
  · by_cases hp : p > 17
    · obtain ⟨b1, b2⟩ := clampI_bounds p 5 20 (by decide)
      have b3 : 17 < Sx127x.clampI p 5 20 := by unfold Sx127x.clampI; omega
      generalize htx : Sx127x.clampI p 5 20 = txp at *
      tx127 [hc, hb, hk, htx, hp, b3]
      fields
    · obtain ⟨b1, b2⟩ := clampI_bounds p 2 17 (by decide)
      generalize htx : Sx127x.clampI p 2 17 = txp at *
      have h17 : ¬ txp > 17 := by omega
      tx127 [hc, hb, hk, htx, hp, h17]
      fields

end C13
