import LoraVerif.Model.History
import LoraVerif.Lemmas.Safe
/-!
# `MacWF`: the well-formedness invariant of the MAC model, and the totality of the mask operations

`MacWF` is what every reachable `MacState` satisfies (`macWF_init` below; kept by every step: `step_safe`,
`Lemmas/StepWalk.lean`) and what the no-panic theorems need.  All pieces are decidable (`Bool`).

* plan shape — dynamic: region not fixed, 16 slots, 9-byte mask, the default (join) channels defined,
  every defined channel inside the region's band (needed by C09, not for panic-freedom);
  fixed: region fixed, 9-byte masks (plan and `jc.avail`), `preferredSubband ∈ 1..8`;
  (`previousChannel`/`availPrev` need NO bound for panic-freedom: the code reduces them mod 72 / to a
  sub-band itself; the `pv < 72` inside `AvInv` serves the walk invariant only);
  the join-channel walk is in a state `AvInv` in which the bank visited next has a free channel
  (needed for "the accept set is never empty", not for panic-freedom), and has not started while biased join
  attempts remain (`biasFresh`);
* `cfg.dataRate` is a data rate the region defines for uplinks (so `datarates()[dr]` is in range and
  `unwrap()` succeeds); `cfg.rx1DrOffset < 8` (the domain on which the RX1 tables are total);
* the antenna gain is an `i8` with `MAX_EIRP − gain ≤ 127` (the one `i8` subtraction of `adjust_power`);
  the radio's maximum power needs no bound for panic-freedom (it is only cast);
* a joined session's pending MAC answers are at most 15 bytes.
-/

namespace Model

def definedSlot (l : List (Option Channel)) (i : Nat) : Bool :=
  match l[i]? with
  | some (some _) => true
  | _ => false

def inBand (r : RegionId) : Option Channel → Bool
  | some c => frequencyValid r c.freq
  | none => true

def dynWF (r : RegionId) (p : DynPlan) : Bool :=
  p.channels.length == 16 && p.mask.length == 9 && (List.range (numJoinChannels r)).all (definedSlot p.channels) &&
    p.channels.all (inBand r)

/-! the walk over the join channels of a fixed plan (`AvailableChannels`): banks are visited in
cyclic order and each visit takes one free channel of the bank, so the bank visited next always has
a free channel left (the accept set of the `entropy` loop is never empty) -/

/-- number of channels a mask byte enables -/
def byteCnt (b : Nat) : Nat := ((List.range 8).filter (fun i => b.testBit i)).length

def bankCnt (m : Mask) (k : Nat) : Nat :=
  match m[k]? with
  | some b => byteCnt b
  | none => 0

/-- `k` lies in the cyclic interval of banks `b0, b0+1, …, b` (mod 9) -/
def inCyc (b0 b k : Nat) : Prop := if b0 ≤ b then b0 ≤ k ∧ k ≤ b else (b0 ≤ k ∨ k ≤ b)

instance (b0 b k : Nat) : Decidable (inCyc b0 b k) := by unfold inCyc; infer_instance

/-- in round `t` (1..8) of the walk every bank of `avail` holds `8 − t` channels if it was visited in this round
(`b0 … b`), `9 − t` otherwise -/
def AvShape (avail : Mask) (b0 t b : Nat) : Prop :=
  ∀ k, k < 9 → bankCnt avail k = if inCyc b0 b k then 8 - t else 9 - t

/-- the invariant of `AvailableChannels`: fresh, or banks visited in cyclic order, one channel per visit -/
def AvInv (avail : Mask) (prev : Option Nat) : Prop :=
  avail.length = 9 ∧ (∀ b ∈ avail, b < 256) ∧
  match prev with
  | none => avail = Mask.default
  | some pv => pv < 72 ∧ ∃ b0 t, b0 < 9 ∧ 1 ≤ t ∧ t ≤ 8 ∧ AvShape avail b0 t (pv / 8)

/-- `AvInv` as a decidable check (`t' + 1` is the round `t` of `AvShape`) -/
def avOk (avail : Mask) (prev : Option Nat) : Bool :=
  avail.length == 9 && avail.all (fun b => decide (b < 256)) &&
    (match prev with
     | none => avail == Mask.default
     | some pv => decide (pv < 72) &&
        (List.range 9).any (fun b0 => (List.range 8).any (fun t' =>
          (List.range 9).all (fun k => bankCnt avail k == if inCyc b0 (pv / 8) k then 8 - (t' + 1) else 9 - (t' + 1)))))

theorem avOk_iff {avail : Mask} {prev : Option Nat} : avOk avail prev = true ↔ AvInv avail prev := by
  unfold avOk AvInv AvShape
  cases prev with
  | none => simp [and_assoc]
  | some pv =>
    simp only [Bool.and_eq_true, beq_iff_eq, List.all_eq_true, decide_eq_true_eq, List.any_eq_true, List.mem_range, and_assoc]
    constructor
    · rintro ⟨h1, h2, h3, b0, hb0, t', ht', h4⟩
      exact ⟨h1, h2, h3, b0, t' + 1, hb0, by omega, by omega, h4⟩
    · rintro ⟨h1, h2, h3, b0, t, hb0, ht1, ht8, h4⟩
      refine ⟨h1, h2, h3, b0, hb0, t - 1, by omega, ?_⟩
      have : t - 1 + 1 = t := by omega
      rw [this]; exact h4

/-- biased join attempts remain (`hasBiasAndNotExhausted` asks in addition that one was made) -/
abbrev Biased (j : JoinChannels) : Prop := j.preferredSubband.isSome = true ∧ j.numRetries < j.maxRetries

/-- while biased join attempts remain, the walk has not started -/
def biasFresh (j : JoinChannels) : Bool :=
  !(j.preferredSubband.isSome && decide (j.numRetries < j.maxRetries)) || (j.avail == Mask.default && j.availPrev == none)

def jcWF (j : JoinChannels) : Bool :=
  j.avail.length == 9 &&
    (match j.preferredSubband with
     | some sb => decide (1 ≤ sb ∧ sb ≤ 8)
     | none => true) && avOk j.avail j.availPrev && biasFresh j

def regionWF (rs : RegionState) : Bool :=
  match rs.plan with
  | .dyn p => !rs.id.isFixed && dynWF rs.id p
  | .fix p => rs.id.isFixed && p.mask.length == 9 && jcWF p.jc

def cfgWF (r : RegionId) (c : Config) : Bool := isUplinkDatarate r c.dataRate && decide (c.rx1DrOffset < 8)

/-- `check_tx_power(0).unwrap()`: the regional maximum EIRP as the code computes it -/
def basePower (r : RegionId) : Option Nat :=
  match txPowerAdjust r 0 with
  | .ok (some p) => some p
  | _ => none

def gainOk (r : RegionId) (g : Int) : Bool :=
  match basePower r with
  | some p0 => decide (-128 ≤ g ∧ g ≤ 127 ∧ (p0 : Int) - g ≤ 127)
  | none => false

def pendingOk : JoinState → Bool
  | .joined s => decide (s.pending.length ≤ 15)
  | _ => true

def macWF (m : MacState) : Bool :=
  regionWF m.region && cfgWF m.region.id m.cfg && gainOk m.region.id m.antennaGain && pendingOk m.st

def MacWF (m : MacState) : Prop := macWF m = true

instance (m : MacState) : Decidable (MacWF m) := by unfold MacWF; infer_instance

theorem MacWF.region {m : MacState} (h : MacWF m) : regionWF m.region = true := by
  unfold MacWF macWF at h; simp only [Bool.and_eq_true] at h; exact h.1.1.1

theorem MacWF.cfg {m : MacState} (h : MacWF m) : cfgWF m.region.id m.cfg = true := by
  unfold MacWF macWF at h; simp only [Bool.and_eq_true] at h; exact h.1.1.2

theorem MacWF.gain {m : MacState} (h : MacWF m) : gainOk m.region.id m.antennaGain = true := by
  unfold MacWF macWF at h; simp only [Bool.and_eq_true] at h; exact h.1.2

theorem MacWF.pending {m : MacState} (h : MacWF m) : pendingOk m.st = true := by
  unfold MacWF macWF at h; simp only [Bool.and_eq_true] at h; exact h.2

theorem MacWF.mk {m : MacState} (h1 : regionWF m.region = true) (h2 : cfgWF m.region.id m.cfg = true)
    (h3 : gainOk m.region.id m.antennaGain = true) (h4 : pendingOk m.st = true) : MacWF m := by
  unfold MacWF macWF; simp [h1, h2, h3, h4]

theorem macWF_init (r : RegionId) (maxPower : Nat) (gain : Int) (hg : gainOk r gain = true) :
    MacWF (MacState.init (RegionState.init r) maxPower gain) := by
  apply MacWF.mk
  · cases r <;> rfl
  · cases r <;> rfl
  · exact hg
  · rfl

theorem dynWF_iff {r : RegionId} {p : DynPlan} :
    dynWF r p = true ↔ p.channels.length = 16 ∧ p.mask.length = 9 ∧
      (∀ i, i < numJoinChannels r → ∃ c, p.channels[i]? = some (some c)) ∧ p.channels.all (inBand r) = true := by
  unfold dynWF
  simp only [Bool.and_eq_true, beq_iff_eq]
  constructor
  · rintro ⟨⟨⟨h1, h2⟩, h3⟩, h4⟩
    refine ⟨h1, h2, fun i hi => ?_, h4⟩
    have := List.all_eq_true.mp h3 i (List.mem_range.mpr hi)
    unfold definedSlot at this
    split at this
    · rename_i c hc; exact ⟨c, hc⟩
    · cases this
  · rintro ⟨h1, h2, h3, h4⟩
    refine ⟨⟨⟨h1, h2⟩, List.all_eq_true.mpr (fun i hi => ?_)⟩, h4⟩
    obtain ⟨c, hc⟩ := h3 i (List.mem_range.mp hi)
    unfold definedSlot; rw [hc]

theorem biasFresh_iff {j : JoinChannels} :
    biasFresh j = true ↔ (j.preferredSubband.isSome = true → j.numRetries < j.maxRetries → j.avail = Mask.default ∧ j.availPrev = none) := by
  unfold biasFresh
  cases j.preferredSubband <;> by_cases h : j.numRetries < j.maxRetries <;> simp [h]

theorem jcWF_iff {j : JoinChannels} :
    jcWF j = true ↔ j.avail.length = 9 ∧ (∀ sb, j.preferredSubband = some sb → 1 ≤ sb ∧ sb ≤ 8) ∧
      AvInv j.avail j.availPrev ∧ biasFresh j = true := by
  unfold jcWF
  rw [← avOk_iff]
  cases j.preferredSubband <;> simp [and_assoc]

theorem avInv_fresh : AvInv Mask.default none := ⟨by decide, by decide, rfl⟩

theorem regionWF_dyn {rs : RegionState} {p : DynPlan} (hp : rs.plan = .dyn p) :
    regionWF rs = true ↔ rs.id.isFixed = false ∧ dynWF rs.id p = true := by
  unfold regionWF; rw [hp]; simp

theorem regionWF_fix {rs : RegionState} {p : FixPlan} (hp : rs.plan = .fix p) :
    regionWF rs = true ↔ rs.id.isFixed = true ∧ p.mask.length = 9 ∧ jcWF p.jc = true := by
  unfold regionWF; rw [hp]; simp [Bool.and_assoc]

theorem regionWF_withDyn {rs : RegionState} {p' : DynPlan} (hf : rs.id.isFixed = false) (h' : dynWF rs.id p' = true) :
    regionWF { rs with plan := .dyn p' } = true :=
  (regionWF_dyn rfl).mpr ⟨hf, h'⟩

theorem regionWF_withFix {rs : RegionState} {p' : FixPlan} (hf : rs.id.isFixed = true) (hm : p'.mask.length = 9)
    (hj : jcWF p'.jc = true) : regionWF { rs with plan := .fix p' } = true :=
  (regionWF_fix rfl).mpr ⟨hf, hm, hj⟩

theorem regionWF_isFixed {rs : RegionState} (h : regionWF rs = true) :
    (rs.id.isFixed = true → ∃ p, rs.plan = .fix p) ∧ (rs.id.isFixed = false → ∃ p, rs.plan = .dyn p) := by
  cases hp : rs.plan with
  | dyn p =>
    have := (regionWF_dyn hp).mp h
    exact ⟨fun hf => (by rw [this.1] at hf; cases hf), fun _ => ⟨p, rfl⟩⟩
  | fix p =>
    have := (regionWF_fix hp).mp h
    exact ⟨fun _ => ⟨p, rfl⟩, fun hf => (by rw [this.1] at hf; cases hf)⟩

theorem cfgWF_iff {r : RegionId} {c : Config} :
    cfgWF r c = true ↔ isUplinkDatarate r c.dataRate = true ∧ c.rx1DrOffset < 8 := by
  unfold cfgWF; simp

theorem MacWF.dr {m : MacState} (h : MacWF m) : isUplinkDatarate m.region.id m.cfg.dataRate = true :=
  (cfgWF_iff.mp h.cfg).1

theorem MacWF.off {m : MacState} (h : MacWF m) : m.cfg.rx1DrOffset < 8 := (cfgWF_iff.mp h.cfg).2

theorem pendingOk_joined {s : Session} : pendingOk (.joined s) = true ↔ s.pending.length ≤ 15 := by
  simp [pendingOk]

theorem MacWF.pending_joined {m : MacState} {s : Session} (h : MacWF m) (hst : m.st = .joined s) :
    s.pending.length ≤ 15 :=
  pendingOk_joined.mp (hst ▸ h.pending)

theorem isEnabled_eq (m : Mask) (i : Nat) (hm : m.length = 9) (hi : i < 72) :
    m.isEnabled i = .ok (m[i / 8]!.testBit (i % 8)) := by
  unfold Mask.isEnabled
  have hidx : i / 8 < m.length := by omega
  rw [if_neg (by omega), List.getElem?_eq_getElem hidx, getElem!_pos m _ hidx]

theorem isEnabled_tot (m : Mask) (i : Nat) (hm : m.length = 9) (hi : i < 72) : Tot (m.isEnabled i) (fun _ => True) :=
  Tot.of_eq (isEnabled_eq m i hm hi) trivial

theorem setChannel_eq (m : Mask) (ch : Nat) (on : Bool) (hi : ch / 8 < m.length) :
    m.setChannel ch on
      = .ok (m.set (ch / 8) (if on then m[ch / 8] ||| 1 <<< (ch % 8) else m[ch / 8] &&& (255 - 1 <<< (ch % 8)))) := by
  unfold Mask.setChannel
  rw [List.getElem?_eq_getElem hi]

theorem setChannel_tot (m : Mask) (ch : Nat) (on : Bool) (hm : m.length = 9) (hi : ch < 72) :
    Tot (m.setChannel ch on) (fun m' => m'.length = 9) :=
  Tot.of_eq (setChannel_eq m ch on (by omega)) (by simp [hm])

theorem setBank_ok (m : Mask) (i v : Nat) (h : i < m.length) : m.setBank i v = .ok (m.set i v) := by
  unfold Mask.setBank; simp [h]

theorem setBank_tot (m : Mask) (i v : Nat) (hm : m.length = 9) (hi : i < 9) :
    Tot (m.setBank i v) (fun m' => m'.length = 9) :=
  ⟨_, setBank_ok m i v (by omega), by simp [hm]⟩

theorem setBanks_tot (m : Mask) (l : List (Nat × Nat)) (hm : m.length = 9) (h : ∀ p ∈ l, p.1 < 9) :
    Tot (setBanks m l) (fun m' => m'.length = 9) := by
  induction l generalizing m with
  | nil => exact ⟨m, rfl, hm⟩
  | cons p rest ih =>
    obtain ⟨i, v⟩ := p
    unfold setBanks
    refine Tot.bind (setBank_tot m i v hm (h (i, v) List.mem_cons_self)) ?_
    intro m' hm'
    exact ih m' hm' (fun p hp => h p (List.mem_cons_of_mem _ hp))

theorem setBanks_range8_tot (m : Mask) (f : Nat → Nat) (hm : m.length = 9) :
    Tot (setBanks m ((List.range 8).map (fun i => (i, f i)))) (fun m' => m'.length = 9) := by
  apply setBanks_tot m _ hm
  intro p hp
  simp only [List.mem_map, List.mem_range] at hp
  obtain ⟨i, hi, rfl⟩ := hp
  simp only; omega

theorem countEnabled_tot (m : Mask) (l : List Nat) (acc : Nat) (hm : m.length = 9) (h : ∀ i ∈ l, i < 72) :
    Tot (countEnabled m l acc) (fun _ => True) := by
  induction l generalizing acc with
  | nil => exact ⟨acc, rfl, trivial⟩
  | cons i rest ih =>
    unfold countEnabled
    by_cases hacc : acc ≥ 2
    · simp only [hacc, if_true]; exact ⟨acc, rfl, trivial⟩
    · simp only [hacc, if_false]
      refine Tot.bind (isEnabled_tot m i hm (h i List.mem_cons_self)) ?_
      intro b _
      have hr : ∀ i ∈ rest, i < 72 := fun i hi => h i (List.mem_cons_of_mem _ hi)
      cases b
      · simp only [Bool.false_eq_true, if_false]; exact ih acc hr
      · simp only [if_true]; exact ih (acc + 1) hr

end Model
