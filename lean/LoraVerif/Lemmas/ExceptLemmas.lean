/-! Stepping through `Except` do-blocks in proofs: from the results of the calls to the result of the block (`bind_of_ok`,
`bind_of_error`; used as terms and chained by `Eq.trans`, they reach the rest of the block by unification), and back
(`bind_eq_ok`, `pure_eq_ok`).  Core only. -/
namespace Except

theorem bind_of_ok {ε α β} {x : Except ε α} {a : α} (h : x = .ok a) (f : α → Except ε β) : (x >>= f) = f a := h ▸ rfl

theorem bind_of_error {ε α β} {x : Except ε α} {e : ε} (h : x = .error e) (f : α → Except ε β) : (x >>= f) = .error e :=
  h ▸ rfl

theorem bind_eq_ok {ε α β} {x : Except ε α} {f : α → Except ε β} {b : β}
    (h : (x >>= f) = .ok b) : ∃ a, x = .ok a ∧ f a = .ok b := by
  cases x with
  | error e => simp [bind, Except.bind] at h
  | ok a => exact ⟨a, rfl, h⟩

theorem pure_eq_ok {ε α} {a b : α} (h : (pure a : Except ε α) = .ok b) : a = b := by
  simp [pure, Except.pure] at h; exact h

theorem bind_pure_eq_ok {ε α β} {x : Except ε α} {f : α → β} {b : β}
    (h : (x >>= fun a => pure (f a)) = .ok b) : ∃ a, x = .ok a ∧ f a = b := by
  obtain ⟨a, ha, h⟩ := bind_eq_ok h
  exact ⟨a, ha, pure_eq_ok h⟩

theorem bind_eq_error {ε α β} {x : Except ε α} {f : α → Except ε β} {e : ε} (h : (x >>= f) = .error e) :
    x = .error e ∨ ∃ a, x = .ok a ∧ f a = .error e := by
  cases x with
  | error e' => cases h; exact .inl rfl
  | ok a => exact .inr ⟨a, rfl, h⟩

end Except
