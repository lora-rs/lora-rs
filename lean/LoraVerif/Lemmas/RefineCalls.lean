import LoraVerif.Lemmas.RefineAsync
/-!
# The radio and timer calls of the async receive procedure

For C10 on the front-end: between the transmission and the end of the procedure, the calls the async
front-end logs fall into an RX1 segment followed by an RX2 segment; every window set-up of a segment
uses the window configuration the MAC handed out WITH the uplink (by value) and the board's window
buffer, every timer of a segment is `delay + tx_ms − lead` with the delay the MAC state had WHEN THE
FRAME WAS BUILT — nothing handled in between (Class C frames: MAC commands ignored; a frame in RX1
that is answered `NoUpdate`: nothing changed) moves it.  The calls of one window are read off its simulation
(`oneWindow_sim` with `WinCall` for the predicate on the logged calls), not off a second walk over the code.
-/
namespace Model

/-- a call of the segment of one window: sleep / RXC listening, the window set-up with configuration
`rf` and the board's buffer, the timer at `t`, the single reception -/
def WinCall (cfg : DevCfg) (rf : RfConfig) (t : Nat) (c : Call) : Prop :=
  c = .lowPower ∨ c = .rxSingle ∨ c = .rxContinuous ∨ (∃ rfc, c = .setupRx rfc none) ∨
    c = .setupRx rf (some cfg.buffer) ∨ c = .at t

def Step.run {α} : Step α → DevRun
  | .cont _ r => r
  | .radioErr r => r
  | .macErr r => r

theorem winCalls_winCall (cfg : DevCfg) (rf : RfConfig) (d : Nat) : WinCalls (WinCall cfg rf d) (.setupRx rf (some cfg.buffer)) d :=
  ⟨.inl rfl, .inr (.inl rfl), .inr (.inr (.inl rfl)), fun rfc => .inr (.inr (.inr (.inl ⟨rfc, rfl⟩))),
    .inr (.inr (.inr (.inr (.inl rfl)))), .inr (.inr (.inr (.inr (.inr rfl))))⟩

theorem startDelay_val {delay txMs lead t : Nat} (h : startDelay delay txMs lead = .ok t) : t = delay + txMs - lead :=
  (startDelay_ok_iff.mp h).2.2

/-- **one window with what precedes it**: every call is one of the window's own, with configuration
`rf` and the timer `delay + tx_ms − lead` for the delay of the state the window procedure starts in;
if the window produced no response, the parameters of the MAC are what they were -/
theorem oneWindow_calls (cfg : DevCfg) (join second : Bool) (rf : RfConfig) (r : DevRun) (st : Step (Option RxOut))
    (h : oneWindow cfg join second rf r = .ok st) :
    CallsSince (WinCall cfg rf (macRxDelay r.m join second + cfg.txMs - cfg.lead)) r st.run ∧
      ∀ r', st = .cont none r' → SameParams r.m r'.m := by
  -- the simulation of the window, with `WinCall` for the predicate on the calls; no failure is excluded
  obtain ⟨⟨o, hd, m'⟩, hw, hp⟩ := (oneWindow_sim (X := fun _ => True)
    (P := WinCall cfg rf (macRxDelay r.m join second + cfg.txMs - cfg.lead)) trivial cfg join second rf r (fun _ _ => trivial)
    (fun d hd => by rw [startDelay_val hd]; exact winCalls_winCall cfg rf _)).elim_ok h
  cases st with
  | macErr r' => exact hp.elim
  | radioErr r' => exact ⟨hp.2.calls, fun _ e => nomatch e⟩
  | cont o' r' =>
    obtain ⟨e, hrel, _⟩ := hp
    refine ⟨hrel.calls, fun r'' e' => ?_⟩
    cases e'
    cases e
    rw [hrel.m]
    exact winC_none_params _ _ _ _ _ _ _ _ _ hw

/-- **the receive procedure: an RX1 segment, then an RX2 segment**, each with the window
configuration handed out with the uplink and the timer of the delay in force when the procedure began -/
theorem rxDownlink_calls (cfg : DevCfg) (join : Bool) (tx : TxOut) (r : DevRun) (st : Step Response)
    (h : rxDownlink cfg join tx r = .ok st) :
    ∃ seg1 seg2, st.run.calls = seg2 ++ seg1 ++ r.calls ∧
      (∀ c ∈ seg1, WinCall cfg tx.rx1 (macRxDelay r.m join false + cfg.txMs - cfg.lead) c) ∧
      (∀ c ∈ seg2, WinCall cfg tx.rx2 (macRxDelay r.m join true + cfg.txMs - cfg.lead) c) := by
  unfold rxDownlink at h
  obtain ⟨st1, h1, hk⟩ := Except.bind_eq_ok h
  obtain ⟨⟨seg1, hs1, hp1⟩, hcfg1⟩ := oneWindow_calls cfg join false tx.rx1 r st1 h1
  cases st1 with
  | radioErr r1 | macErr r1 => cases hk; exact ⟨seg1, [], by simpa [Step.run] using hs1, hp1, by simp⟩
  | cont o r1 =>
    cases o with
    | some o => cases hk; exact ⟨seg1, [], by simpa [Step.run] using hs1, hp1, by simp⟩
    | none =>
      obtain ⟨st2, h2, hk2⟩ := Except.bind_eq_ok hk
      obtain ⟨⟨seg2, hs2, hp2⟩, _⟩ := oneWindow_calls cfg join true tx.rx2 r1 st2 h2
      rw [(hcfg1 r1 rfl).macRxDelay] at hp2
      have hcalls : st2.run.calls = seg2 ++ seg1 ++ r.calls := by rw [hs2, show r1.calls = _ from hs1, List.append_assoc]
      cases st2 with
      | radioErr r2 | macErr r2 => cases hk2; exact ⟨seg1, seg2, hcalls, hp1, hp2⟩
      | cont o2 r2 => cases o2 <;> cases hk2 <;> exact ⟨seg1, seg2, hcalls, hp1, hp2⟩

/-- the calls of one `send` / `join` that the MAC did not refuse: the transmission `tx` of `len` bytes, with the radio
configuration `Mac::send` / `Mac::join_otaa` returned, and — unless the radio refused it — the timer reset and the two
window segments, with the delays of the state `m1` the MAC call left -/
def TxCalls (cfg : DevCfg) (d d' : DevRun) (tx : TxOut) (len : Nat) (join : Bool) (m1 : MacState) : Prop :=
  d'.calls = Call.tx tx len :: d.calls ∨
  ∃ seg1 seg2, d'.calls = seg2 ++ seg1 ++ Call.reset :: Call.tx tx len :: d.calls ∧
    (∀ c ∈ seg1, WinCall cfg tx.rx1 (macRxDelay m1 join false + cfg.txMs - cfg.lead) c) ∧
    (∀ c ∈ seg2, WinCall cfg tx.rx2 (macRxDelay m1 join true + cfg.txMs - cfg.lead) c)

theorem asyncSend_calls {σ} (g : Rng σ) (cfg : DevCfg) (d : DevRun) (data : List Nat) (port : Nat) (conf : Bool) (rs : σ)
    (res : DevResult) (d' : DevRun) (rs' : σ) (h : asyncSend g cfg d data port conf rs = .ok (res, d', rs')) :
    (∃ m1 rs1, macSend g d.m data port conf rs = .ok (none, m1, rs1) ∧ d'.calls = d.calls) ∨
    ∃ so m1 rs1, macSend g d.m data port conf rs = .ok (some so, m1, rs1) ∧
      TxCalls cfg d d' so.tx (frameLen so.frame) false m1 := by
  unfold asyncSend at h
  obtain ⟨⟨o, m1, rs1⟩, hsend, hk⟩ := Except.bind_eq_ok h
  cases o with
  | none =>
    cases hk
    exact Or.inl ⟨_, _, hsend, rfl⟩
  | some so =>
    refine Or.inr ⟨so, m1, rs1, hsend, ?_⟩
    simp only [simpleCall_eq] at hk
    by_cases he : (nextItem d.script).1.isErr = true
    · simp only [he, if_true] at hk
      cases hk
      exact Or.inl rfl
    · simp only [he, Bool.false_eq_true, if_false] at hk
      obtain ⟨st, hrx, hk2⟩ := Except.bind_eq_ok hk
      obtain ⟨seg1, seg2, hc, hp1, hp2⟩ := rxDownlink_calls cfg false so.tx _ st hrx
      refine Or.inr ⟨seg1, seg2, ?_, hp1, hp2⟩
      cases st <;> cases hk2 <;> exact hc

theorem asyncJoin_calls {σ} (g : Rng σ) (cfg : DevCfg) (d : DevRun) (rs : σ)
    (res : DevResult) (d' : DevRun) (rs' : σ) (h : asyncJoin g cfg d rs = .ok (res, d', rs')) :
    ∃ jo m1 rs1, macJoinOtaa g d.m rs = .ok (jo, m1, rs1) ∧ TxCalls cfg d d' jo.tx 23 true m1 := by
  unfold asyncJoin at h
  obtain ⟨⟨jo, m1, rs1⟩, hjoin, hk⟩ := Except.bind_eq_ok h
  refine ⟨jo, m1, rs1, hjoin, ?_⟩
  simp only [simpleCall_eq] at hk
  by_cases he : (nextItem d.script).1.isErr = true
  · simp only [he, if_true] at hk
    cases hk
    exact Or.inl rfl
  · simp only [he, Bool.false_eq_true, if_false] at hk
    obtain ⟨st, hrx, hk2⟩ := Except.bind_eq_ok hk
    obtain ⟨seg1, seg2, hc, hp1, hp2⟩ := rxDownlink_calls cfg true jo.tx _ st hrx
    refine Or.inr ⟨seg1, seg2, ?_, hp1, hp2⟩
    cases st <;> cases hk2 <;> exact hc

end Model
