import LoraVerif.Lemmas.C01Lemmas
/-!
# Lemmas for C02: a received data frame taken apart

A byte string that `Layout::validate` accepts is MHDR | DevAddr | FCtrl | FCnt | FOpts | [FPort | FRMPayload] | MIC,
and the specification's decoder accepts the same strings and cuts them the same way (`frame_cases`).  Such a string
is the `bytes` of a `Frame`; each operation of the parser (`Layout.validate`, `DataPayload.view`, `validateMic`,
`decryptInPlace`) and of the specification (`Spec.decodeData`, `msgOf`, `withPayload`) is evaluated on it once, in the
`Frame.*` lemmas, and decryption is an operation on frames (`Frame.crypt`, its own inverse), so that the theorems of
C02 compare results on frames and unfold neither side.
-/
open Lora.Codec Lora.CodecLemmas Lora.C01Lemmas

namespace Lora.C02Lemmas

theorem major_iff (x : UInt8) : x &&& 0b11 ≠ 0 ↔ x.toNat % 4 ≠ 0 := by
  rw [ne_eq, ← UInt8.toNat_inj, UInt8.toNat_and]
  exact Iff.of_eq (congrArg (· ≠ 0) (Nat.and_two_pow_sub_one_eq_mod x.toNat 2))

theorem ftype_code : ∀ x : UInt8, ftypeFromMhdr x = Spec.mtypeOfCode (x.toNat / 32) :=
  uint8_forall _ (by decide +kernel)

theorem flags_eq (x : UInt8) :
    (decide (x &&& 0x80 ≠ 0) = Spec.testBit x 7) ∧ (decide (x &&& 0x40 ≠ 0) = Spec.testBit x 6)
    ∧ (decide (x &&& 0x20 ≠ 0) = Spec.testBit x 5) ∧ (decide (x &&& 0x10 ≠ 0) = Spec.testBit x 4) := by
  simp only [Spec.testBit, ← Nat.testBit_eq_decide_div_mod_eq]
  exact ⟨flag_testBit x 7 (by decide), flag_testBit x 6 (by decide), flag_testBit x 5 (by decide), flag_testBit x 4 (by decide)⟩

theorem mtype_shift (x : UInt8) : (x >>> 5).toNat = x.toNat / 32 :=
  UInt8.toNat_shiftRight .. ▸ Nat.shiftRight_eq_div_pow x.toNat 5

theorem split3 (l : Bytes) (k n : Nat) (hk : k ≤ n) (hn : n + 4 = l.length) :
    ∃ fo body mic, l = fo ++ body ++ mic ∧ fo.length = k ∧ mic.length = 4 := by
  refine ⟨l.take k, (l.take n).drop k, l.drop n, ?_, ?_, ?_⟩
  · have h1 : l.take k = (l.take n).take k := by rw [List.take_take]; congr 1; omega
    rw [h1, List.take_append_drop, List.take_append_drop]
  · simp; omega
  · simp; omega

/-- the composite "parse then run every accessor" -/
def dataViewOf (b : Bytes) : Outcome DataView := (parseData b).bind DataPayload.view

/-- the specification's view of a frame given in pieces -/
def specViewOf (ft : FType) (a0 a1 a2 a3 fc c0 c1 : UInt8) (fo body mic : Bytes) : Spec.DataView :=
  { ftype := ft, uplink := ft.isUplink, confirmed := ft.isConfirmed
    devAddr := UInt32.ofNat (Spec.fromLe [a0, a1, a2, a3]), fctrl := fc, adr := Spec.testBit fc 7
    adrAckReq := ft.isUplink && Spec.testBit fc 6, ack := Spec.testBit fc 5
    fPending := !ft.isUplink && Spec.testBit fc 4, foptsLen := fc.toNat % 16
    fcnt16 := UInt16.ofNat (Spec.fromLe [c0, c1]), fopts := fo, port := body.head?, frm := body.drop 1, mic := mic }

/-- the layout `Layout::validate` computes for `k` octets of FOpts and `m` octets between FOpts and MIC -/
def layoutOf (ft : FType) (k m : Nat) : Layout :=
  { frameType := ft, fhdrLen := 7 + k
    fPortOffset := if m = 0 then none else some (1 + (7 + k))
    frmStart := if m = 0 then 1 + (7 + k) else 1 + (7 + k) + 1
    frmEnd := 8 + k + m }

/-! `Layout::validate` and the specification's decoder on MHDR | DevAddr | FCtrl | FCnt | tail: past the length
check both make the same three decisions, and where they accept, FOpts, [FPort | FRMPayload] and MIC are cut out of
the tail at FOptsLen and four octets before its end. -/

theorem validate_cons (mhdr a0 a1 a2 a3 fc c0 c1 : UInt8) (tail : Bytes) (h : 4 ≤ tail.length) :
    Layout.validate (mhdr :: a0 :: a1 :: a2 :: a3 :: fc :: c0 :: c1 :: tail) =
      if mhdr.toNat % 4 ≠ 0 then .err .unsupportedMajorVersion else
      match Spec.mtypeOfCode (mhdr.toNat / 32) with
      | none => .err .notADataFrame
      | some ft =>
        if fc.toNat % 16 > tail.length - 4 then .err .truncatedFhdr else
        .ok (layoutOf ft (fc.toNat % 16) (tail.length - 4 - fc.toNat % 16)) := by
  obtain ⟨n, hn⟩ : ∃ n, tail.length = n + 4 := ⟨tail.length - 4, by omega⟩
  have hl : (mhdr :: a0 :: a1 :: a2 :: a3 :: fc :: c0 :: c1 :: tail).length = n + 8 + 4 := by
    simp only [List.length_cons, hn]
  unfold Layout.validate
  rw [hl, if_neg (by omega), hn]
  -- `omega` below is slow in a context that still speaks of the list and of `mhdr`
  clear hl h
  simp only [bind, Outcome.bind, getByte_zero, getByte_succ, major_iff, ftype_code, foptslen_eq, usizeSub,
    Nat.le_add_left, if_true, Nat.add_sub_cancel]
  generalize fc.toNat % 16 = k
  congr 1
  cases Spec.mtypeOfCode (mhdr.toNat / 32) with
  | none => rfl
  | some ft =>
    simp only [Outcome.okOr]
    by_cases hkn : k > n
    · rw [if_pos hkn, if_pos (by omega)]
    · rw [if_neg hkn, if_neg (by omega)]
      have hc : 1 + (7 + k) < n + 8 ↔ ¬ (n - k = 0) := by omega
      simp only [hc, apply_ite Prod.fst, apply_ite Prod.snd, ite_not, layoutOf, pure]
      congr 2
      omega

theorem decode_cons (mhdr a0 a1 a2 a3 fc c0 c1 : UInt8) (tail : Bytes) (h : 4 ≤ tail.length) :
    Spec.decodeData (mhdr :: a0 :: a1 :: a2 :: a3 :: fc :: c0 :: c1 :: tail) =
      if mhdr.toNat % 4 ≠ 0 then .error .unsupportedMajorVersion else
      match Spec.mtypeOfCode (mhdr.toNat / 32) with
      | none => .error .notADataFrame
      | some ft =>
        if fc.toNat % 16 > tail.length - 4 then .error .truncatedFhdr else
        .ok (specViewOf ft a0 a1 a2 a3 fc c0 c1 (tail.take (fc.toNat % 16))
          ((tail.take (tail.length - 4)).drop (fc.toNat % 16)) (tail.drop (tail.length - 4))) := by
  unfold Spec.decodeData
  rw [if_neg (by simp only [List.length_cons]; omega)]
  rfl

theorem dir_of_code : ∀ x : UInt8, ∀ ft, Spec.mtypeOfCode (x.toNat / 32) = some ft → (x &&& 0x20) >>> 5 = Spec.dirOf ft :=
  uint8_forall _ (by decide +kernel)

theorem le4_fromLe (a0 a1 a2 a3 : UInt8) :
    Spec.le 4 (UInt32.ofNat (Spec.fromLe [a0, a1, a2, a3])).toNat = [a0, a1, a2, a3] :=
  le_devAddr #v[a0, a1, a2, a3]

theorem u16FromLe_eq (c0 c1 : UInt8) : u16FromLe c0 c1 = UInt16.ofNat (Spec.fromLe [c0, c1]) := by
  simp [u16FromLe, Spec.fromLe]

/-- `((fcnt >> 16) << 16) | wire` is the specification's counter with the lower half from the wire -/
theorem fullFcnt_wire (N : UInt32) (wire : UInt16) : ((N >>> 16) <<< 16) ||| wire.toUInt32 = Spec.fullFcnt N wire := by
  have hw := wire.toNat_lt
  have hN := N.toNat_lt
  apply UInt32.toNat_inj.mp
  simp only [UInt32.toNat_or, UInt32.toNat_shiftLeft, UInt32.toNat_shiftRight, UInt16.toNat_toUInt32, Spec.fullFcnt]
  simp only [UInt32.toNat_ofNat', Nat.shiftRight_eq_div_pow, Nat.shiftLeft_eq]
  have h3 : N.toNat / 2 ^ (16 % 32) * 2 ^ (16 % 32) % 2 ^ 32 = (N.toNat / 65536) <<< 16 := by
    simp [Nat.shiftLeft_eq]; omega
  rw [show (UInt32.toNat 16) = 16 from rfl, h3, ← Nat.shiftLeft_add_eq_or_of_lt (by omega), Nat.shiftLeft_eq]
  omega

/-- the receiver's counter completed from the wire is any counter with the same upper half and that lower half -/
theorem fullFcnt_of_halves (N M : UInt32) (wire : UInt16) (h1 : M.toNat / 65536 = N.toNat / 65536)
    (h2 : M.toNat % 65536 = wire.toNat) : Spec.fullFcnt N wire = M := by
  unfold Spec.fullFcnt
  rw [← h1, ← h2, Nat.div_add_mod', UInt32.ofNat_toNat]

theorem msgOf_append (msg mic : Bytes) (h : mic.length = 4) : Spec.msgOf (msg ++ mic) = msg := by
  unfold Spec.msgOf
  rw [List.length_append, h, Nat.add_sub_cancel, List.take_left' rfl]

theorem withPayload_split (pre frm mic plain : Bytes) (v : Spec.DataView) (hf : v.frm = frm) (hm : v.mic = mic)
    (hmic : mic.length = 4) : Spec.withPayload (pre ++ (frm ++ mic)) v plain = pre ++ plain ++ mic := by
  unfold Spec.withPayload
  rw [hf, hm, List.take_left' (by simp only [List.length_append, hmic]; omega)]

theorem xor_xor (p K : Bytes) (h : p.length ≤ K.length) : Spec.xorBytes (Spec.xorBytes p K) K = p := by
  induction p generalizing K with
  | nil => rfl
  | cons x xs ih =>
    cases K with
    | nil => simp at h
    | cons k ks =>
      simp only [Spec.xorBytes, List.zipWith_cons_cons] at ih ⊢
      rw [ih ks (by simpa using h)]
      congr 1
      rw [UInt8.xor_assoc, UInt8.xor_self]; simp

theorem crypt_involutive (c : Cipher) (k : Key) (dir : UInt8) (a f : UInt32) (p : Bytes) :
    Spec.cryptPayload c k dir a f (Spec.cryptPayload c k dir a f p) = p := by
  have hl := cryptPayload_length c k dir a f p
  unfold Spec.cryptPayload at hl ⊢
  rw [hl]
  exact xor_xor p _ (by rw [keystream_length]; omega)

/-- **A data frame the parser accepts**, as a value: MHDR | DevAddr | FCtrl | FCnt | FOpts | [FPort | FRMPayload] | MIC
with the conditions under which `Layout::validate` and the specification's decoder accept it.  `frame_cases` says
every accepted byte string is `F.bytes` of one; each operation of parser and specification on `F.bytes` is then a
function of `F` (`validate`, `decode`, `view_eq`, `validateMic`, `decrypt`, `msgOf`, `withPayload`). -/
structure Frame where
  (mhdr a0 a1 a2 a3 fc c0 c1 : UInt8)
  (fo body mic : Bytes)
  ft : FType
  hmaj : mhdr.toNat % 4 = 0
  hft : Spec.mtypeOfCode (mhdr.toNat / 32) = some ft
  hfo : fo.length = fc.toNat % 16
  hmic : mic.length = 4

namespace Frame
variable (F : Frame)

def bytes : Bytes := F.mhdr :: F.a0 :: F.a1 :: F.a2 :: F.a3 :: F.fc :: F.c0 :: F.c1 :: (F.fo ++ F.body ++ F.mic)
/-- everything the MIC is computed over -/
def msg : Bytes := F.mhdr :: F.a0 :: F.a1 :: F.a2 :: F.a3 :: F.fc :: F.c0 :: F.c1 :: (F.fo ++ F.body)
def layout : Layout := layoutOf F.ft F.fo.length F.body.length
def view : Spec.DataView := specViewOf F.ft F.a0 F.a1 F.a2 F.a3 F.fc F.c0 F.c1 F.fo F.body F.mic
def frm : Bytes := F.body.drop 1
/-- the same header, FOpts, FPort and MIC around another FRMPayload -/
def setFrm (plain : Bytes) : Frame := { F with body := F.body.take 1 ++ plain }
/-- the frame with its FRMPayload run through the payload cipher, which encrypts and decrypts; the counter is the
receiver's, completed from the wire -/
def crypt (c : Cipher) (k : Key) (N : UInt32) : Frame :=
  F.setFrm (Spec.cryptPayload c k (Spec.dirOf F.ft) F.view.devAddr (Spec.fullFcnt N F.view.fcnt16) F.frm)

theorem view_frm : F.view.frm = F.frm := rfl

theorem bytes_eq : F.bytes = F.msg ++ F.mic := by simp [bytes, msg]

theorem length_bytes : F.bytes.length = 8 + F.fo.length + F.body.length + 4 := by
  simp [bytes, F.hmic]; omega

theorem validate_decode : Layout.validate F.bytes = .ok F.layout ∧ Spec.decodeData F.bytes = .ok F.view := by
  have hn : (F.fo ++ F.body ++ F.mic).length - 4 = F.fo.length + F.body.length := by
    rw [List.length_append, F.hmic, Nat.add_sub_cancel, List.length_append]
  have hk : ¬ F.fo.length > F.fo.length + F.body.length := by omega
  have h4 : 4 ≤ (F.fo ++ F.body ++ F.mic).length := by rw [List.length_append, F.hmic]; omega
  have t1 : (F.fo ++ F.body ++ F.mic).take F.fo.length = F.fo := by rw [List.append_assoc, List.take_left]
  have t2 : (F.fo ++ F.body ++ F.mic).take (F.fo.length + F.body.length) = F.fo ++ F.body :=
    List.take_left' (List.length_append ..)
  have t3 : (F.fo ++ F.body ++ F.mic).drop (F.fo.length + F.body.length) = F.mic :=
    List.drop_left' (List.length_append ..)
  unfold bytes
  rw [validate_cons _ _ _ _ _ _ _ _ _ h4, decode_cons _ _ _ _ _ _ _ _ _ h4]
  simp only [if_neg (not_not_intro F.hmaj), F.hft, hn, ← F.hfo, if_neg hk, t1, t2, t3, List.drop_left,
    Nat.add_sub_cancel_left, layout, view, and_self]

theorem validate : Layout.validate F.bytes = .ok F.layout := F.validate_decode.1

theorem decode : Spec.decodeData F.bytes = .ok F.view := F.validate_decode.2

theorem msgOf : Spec.msgOf F.bytes = F.msg := F.bytes_eq ▸ msgOf_append F.msg F.mic F.hmic

theorem micStart : usizeSub F.bytes.length 4 = .ok (8 + F.fo.length + F.body.length) := by
  rw [length_bytes]; simp [usizeSub]

theorem slice_mic : slice F.bytes (8 + F.fo.length + F.body.length) F.bytes.length = .ok F.mic :=
  slice_suffix F.msg F.mic F.bytes_eq (by simp [msg]; omega)

theorem getByte_port (p : UInt8) (t : Bytes) (hb : F.body = p :: t) : getByte F.bytes (1 + (7 + F.fo.length)) = .ok p :=
  getByte_at ([F.mhdr, F.a0, F.a1, F.a2, F.a3, F.fc, F.c0, F.c1] ++ F.fo) (t ++ F.mic) p (by simp [bytes, hb])
    (by simp; omega)

theorem view_eq : (DataPayload.view ⟨F.bytes, F.layout⟩).map DataView.toSpec = .ok F.view := by
  obtain ⟨m0, m1, m2, m3, hm⟩ := list4 F.mic F.hmic
  have e1 : slice F.bytes 1 (1 + (7 + F.fo.length)) = .ok (F.a0 :: F.a1 :: F.a2 :: F.a3 :: F.fc :: F.c0 :: F.c1 :: F.fo) :=
    slice_seg [F.mhdr] _ (F.body ++ F.mic) (by simp [bytes]) rfl (by simp; omega)
  have e2 : (slice (F.a0 :: F.a1 :: F.a2 :: F.a3 :: F.fc :: F.c0 :: F.c1 :: F.fo) 0 4).bind (arr 4)
      = .ok [F.a0, F.a1, F.a2, F.a3] := rfl
  have e3 : slice (F.a0 :: F.a1 :: F.a2 :: F.a3 :: F.fc :: F.c0 :: F.c1 :: F.fo) 7
      (F.a0 :: F.a1 :: F.a2 :: F.a3 :: F.fc :: F.c0 :: F.c1 :: F.fo).length = .ok F.fo :=
    slice_suffix [F.a0, F.a1, F.a2, F.a3, F.fc, F.c0, F.c1] F.fo rfl rfl
  obtain ⟨hf1, hf2, hf3, hf4⟩ := flags_eq F.fc
  simp only [DataPayload.view, layout, layoutOf, view, specViewOf, bind, pure, e1, bind_ok, e2, e3, getByte_zero,
    getByte_succ, F.micStart, F.slice_mic, hm, FCtrl.adr, FCtrl.adrAckReq, FCtrl.ack, FCtrl.fPending, hf1, hf2, hf3, hf4,
    FCtrl.fOptsLen, foptslen_eq, u16FromLe_eq]
  rcases hb : F.body with _ | ⟨p, frm⟩
  · have e6 : slice F.bytes (1 + (7 + F.fo.length)) (8 + F.fo.length + 0) = .ok [] :=
      slice_seg ([F.mhdr, F.a0, F.a1, F.a2, F.a3, F.fc, F.c0, F.c1] ++ F.fo) [] F.mic (by simp [bytes, hb])
        (by simp; omega) (by simp; omega)
    simp only [List.length_nil, if_true, bind_ok, e6]
    rfl
  · have e7 : slice F.bytes (1 + (7 + F.fo.length) + 1) (8 + F.fo.length + (frm.length + 1)) = .ok frm :=
      slice_seg ([F.mhdr, F.a0, F.a1, F.a2, F.a3, F.fc, F.c0, F.c1] ++ F.fo ++ [p]) frm F.mic (by simp [bytes, hb])
        (by simp; omega) (by omega)
    simp only [List.length_cons, Nat.add_one_ne_zero, if_false, bind_ok, F.getByte_port p frm hb, e7]
    rfl

theorem validateMic (c : Cipher) (k : Key) (N : UInt32) (l : Layout) :
    DataPayload.validateMic ⟨F.bytes, l⟩ ⟨c, k⟩ N
      = .ok (F.mic == Spec.dataMic c k (Spec.dirOf F.ft) F.view.devAddr N F.msg) := by
  obtain ⟨m0, m1, m2, m3, hm⟩ := list4 F.mic F.hmic
  have e1 : slice F.bytes 0 (8 + F.fo.length + F.body.length) = .ok F.msg :=
    slice_seg [] _ F.mic F.bytes_eq rfl (by simp [msg]; omega)
  have hc : calculateDataMic ⟨c, k⟩ F.msg N = .ok (Spec.dataMic c k (Spec.dirOf F.ft) F.view.devAddr N F.msg) :=
    calculateDataMic_spec c k _ _ _ _ _ _ _ N (dir_of_code F.mhdr F.ft F.hft) (le4_fromLe F.a0 F.a1 F.a2 F.a3) _
  unfold DataPayload.validateMic DataPayload.mic
  simp only [bind, pure, F.micStart, bind_ok, e1, F.slice_mic, hm, getByte_zero, getByte_succ, hc]

theorem setFrm_frm : F.setFrm F.frm = F := by
  cases F; simp only [setFrm, frm, List.take_append_drop]

/-- FPort exists whenever FRMPayload does -/
theorem body_of_frm (h : F.frm ≠ []) : ∃ p, F.body = p :: F.frm := by
  unfold frm at h ⊢
  cases hb : F.body with
  | nil => rw [hb] at h; exact absurd rfl h
  | cons p t => exact ⟨p, rfl⟩

theorem setFrm_layout (plain : Bytes) (h : plain.length = F.frm.length) : (F.setFrm plain).layout = F.layout := by
  show layoutOf F.ft F.fo.length (F.body.take 1 ++ plain).length = layoutOf F.ft F.fo.length F.body.length
  rw [List.length_append, h, frm, ← List.length_append, List.take_append_drop]

theorem setFrm_view (plain : Bytes) (h : F.frm = [] → plain = []) : (F.setFrm plain).view = { F.view with frm := plain } := by
  unfold frm at h
  rcases hb : F.body with _ | ⟨p, t⟩
  · obtain rfl := h (by rw [hb]; rfl)
    simp [setFrm, view, specViewOf, hb]
  · simp [setFrm, view, specViewOf, hb]

theorem withPayload (plain : Bytes) : Spec.withPayload F.bytes F.view plain = (F.setFrm plain).bytes := by
  have hb : F.bytes = (F.mhdr :: F.a0 :: F.a1 :: F.a2 :: F.a3 :: F.fc :: F.c0 :: F.c1 :: (F.fo ++ F.body.take 1))
      ++ (F.frm ++ F.mic) := by
    have : F.body ++ F.mic = F.body.take 1 ++ (F.frm ++ F.mic) := by
      rw [← List.append_assoc, frm, List.take_append_drop]
    simp only [bytes, List.cons_append, List.append_assoc, this]
  rw [hb, withPayload_split _ F.frm F.mic plain F.view rfl rfl F.hmic]
  simp [setFrm, bytes]

section crypt
variable (c : Cipher) (k : Key) (N : UInt32)

theorem crypt_frm : (F.crypt c k N).frm
    = Spec.cryptPayload c k (Spec.dirOf F.ft) F.view.devAddr (Spec.fullFcnt N F.view.fcnt16) F.frm := by
  unfold crypt setFrm frm
  rcases hb : F.body with _ | ⟨p, t⟩
  · simp [Spec.cryptPayload, Spec.xorBytes]
  · simp

theorem setFrm_crypt : F.setFrm (F.crypt c k N).frm = F.crypt c k N := by rw [crypt_frm]; rfl

theorem crypt_layout : (F.crypt c k N).layout = F.layout := F.setFrm_layout _ (cryptPayload_length ..)

theorem crypt_view : (F.crypt c k N).view = { F.view with frm := (F.crypt c k N).frm } := by
  rw [crypt_frm]
  exact F.setFrm_view _ fun h => by rw [h]; simp [Spec.cryptPayload, Spec.xorBytes]

/-- the payload cipher is its own inverse (header, hence direction, address and counter, are those of `F`) -/
theorem crypt_crypt : (F.crypt c k N).crypt c k N = F := by
  show (F.crypt c k N).setFrm (Spec.cryptPayload c k (Spec.dirOf F.ft) F.view.devAddr (Spec.fullFcnt N F.view.fcnt16)
    (F.crypt c k N).frm) = F
  rw [crypt_frm, crypt_involutive]
  unfold crypt
  rcases F with ⟨_, _, _, _, _, _, _, _, _, body, _, _, _, _, _, _⟩
  cases body <;> simp [setFrm, frm, Spec.cryptPayload, Spec.xorBytes]

end crypt

/-- the keystream loop on the FRMPayload range of an accepted frame -/
theorem encrypt (c : Cipher) (k : Key) (N : UInt32) (p : UInt8) (t : Bytes) (hb : F.body = p :: t) (hmax : t.length ≤ 4064) :
    encryptFrmDataPayload ⟨c, k⟩ F.bytes (1 + (7 + F.fo.length) + 1) (8 + F.fo.length + (t.length + 1)) N
      = .ok (F.setFrm (Spec.cryptPayload c k (Spec.dirOf F.ft) F.view.devAddr N t)).bytes := by
  have hsplit : F.bytes = (F.mhdr :: F.a0 :: F.a1 :: F.a2 :: F.a3 :: F.fc :: F.c0 :: F.c1 :: (F.fo ++ [p])) ++ t ++ F.mic := by
    simp [bytes, hb]
  rw [hsplit, encryptFrm_crypt c k _ _ _ _ _ _ F.view.devAddr N (dir_of_code F.mhdr F.ft F.hft) (le4_fromLe F.a0 F.a1 F.a2 F.a3)
    (F.mhdr :: F.a0 :: F.a1 :: F.a2 :: F.a3 :: F.fc :: F.c0 :: F.c1 :: (F.fo ++ [p])) t F.mic _ _
    ⟨F.fc :: F.c0 :: F.c1 :: (F.fo ++ [p]), rfl⟩ (by simp; omega) (by omega) hmax]
  simp [setFrm, bytes, hb]

/-- `decrypt_in_place` on an accepted frame: without FRMPayload nothing is done and no key is asked for; else the key
FPort selects, and the frame `crypt`ed.  `hmax`: the loop numbers its keystream blocks in a `u8`. -/
theorem decrypt (c : Cipher) (nwk app : Option Key) (N : UInt32) (hmax : F.frm.length ≤ 4064) :
    decryptInPlace c F.bytes nwk app N =
      if F.frm = [] then (.ok ⟨F.bytes, F.layout⟩, F.bytes) else
      match Spec.receiveKey nwk app F.view with
      | none => (.err .missingKey, F.bytes)
      | some k => (.ok ⟨(F.crypt c k N).bytes, F.layout⟩, (F.crypt c k N).bytes) := by
  unfold decryptInPlace
  rw [F.validate]
  by_cases h : F.frm = []
  · have hl : F.body.length ≤ 1 := by
      have := congrArg List.length h
      simp only [frm, List.length_drop, List.length_nil] at this
      omega
    rw [if_pos h]
    exact if_neg (by simp only [layout, layoutOf]; split <;> omega)
  · obtain ⟨p, hb⟩ := F.body_of_frm h
    have hkey : (if decide (p ≠ 0) = true then app else nwk) = Spec.receiveKey nwk app F.view := by
      show _ = match F.body.head? with | some port => if port = 0 then nwk else app | none => nwk
      rw [hb]
      by_cases hp : p = 0 <;> simp [hp]
    have h6 : getByte F.bytes 6 = .ok F.c0 := rfl
    have h7 : getByte F.bytes 7 = .ok F.c1 := rfl
    have hlen : F.body.length = F.frm.length + 1 := by rw [hb]; rfl
    rw [if_neg h]
    simp only [layout, layoutOf, hlen, Nat.add_one_ne_zero, if_false]
    rw [if_pos (by have := List.length_pos_iff.mpr h; omega)]
    simp only [F.getByte_port p _ hb, bind_ok, pure, h6, h7, hkey]
    cases Spec.receiveKey nwk app F.view with
    | none => rfl
    | some key =>
      simp only []
      rw [fullFcnt_wire, u16FromLe_eq, F.encrypt c key _ p _ hb hmax]
      rfl

/-- the specification's decryption has the shape of `decrypt` -/
theorem decryptData (c : Cipher) (nwk app : Option Key) (N : UInt32) :
    Spec.decryptData c nwk app N F.bytes =
      if F.frm = [] then .ok (F.view, []) else
      match Spec.receiveKey nwk app F.view with
      | none => .error .missingKey
      | some k => .ok (F.view, (F.crypt c k N).frm) := by
  simp only [Spec.decryptData, F.decode, F.view_frm, List.length_eq_zero_iff, F.crypt_frm]
  by_cases h : F.frm = []
  · rw [if_pos h, if_pos h]
  · rw [if_neg h, if_neg h]
    cases Spec.receiveKey nwk app F.view <;> rfl

end Frame

/-- **What `Layout::validate` accepts.** Model and specification refuse `b` with the same error, or `b` is a `Frame`,
which both accept and cut the same way (`Frame.validate`, `Frame.decode`). -/
theorem frame_cases (b : Bytes) :
    (∃ e, Layout.validate b = .err e ∧ Spec.decodeData b = .error e) ∨ ∃ F : Frame, b = F.bytes := by
  by_cases hlen : b.length < 12
  · exact .inl ⟨.tooShort, if_pos hlen, if_pos hlen⟩
  obtain ⟨mhdr, a0, a1, a2, a3, fc, c0, c1, tail, rfl⟩ := list8 b (by omega)
  have htl : 4 ≤ tail.length := by simp only [List.length_cons] at hlen; omega
  have hv := validate_cons mhdr a0 a1 a2 a3 fc c0 c1 tail htl
  have hd := decode_cons mhdr a0 a1 a2 a3 fc c0 c1 tail htl
  by_cases hmaj : mhdr.toNat % 4 ≠ 0
  · rw [if_pos hmaj] at hv hd
    exact .inl ⟨_, hv, hd⟩
  cases hft : Spec.mtypeOfCode (mhdr.toNat / 32) with
  | none =>
    rw [if_neg hmaj, hft] at hv hd
    exact .inl ⟨_, hv, hd⟩
  | some ft =>
    by_cases hkn : fc.toNat % 16 > tail.length - 4
    · simp only [if_neg hmaj, hft, if_pos hkn] at hv hd
      exact .inl ⟨_, hv, hd⟩
    · obtain ⟨fo, body, mic, rfl, hfo, hmic⟩ := split3 tail _ _ (Nat.le_of_not_gt hkn) (by omega)
      exact .inr ⟨⟨mhdr, a0, a1, a2, a3, fc, c0, c1, fo, body, mic, ft, Decidable.not_not.1 hmaj, hft, hfo, hmic⟩, rfl⟩

/-- the FRMPayload a decoder finds is part of the byte string -/
theorem frm_length_le (b : Bytes) (v : Spec.DataView) (h : Spec.decodeData b = .ok v) : v.frm.length ≤ b.length := by
  rcases frame_cases b with ⟨e, _, hs⟩ | ⟨F, rfl⟩
  · rw [hs] at h; cases h
  · rw [F.decode] at h; cases h
    rw [F.length_bytes, F.view_frm, Frame.frm, List.length_drop]; omega

theorem parse_eq_spec (b : Bytes) : (dataViewOf b).map DataView.toSpec = Outcome.ofExcept (Spec.decodeData b) := by
  unfold dataViewOf parseData
  rcases frame_cases b with ⟨e, hm, hs⟩ | ⟨F, rfl⟩
  · rw [hm, hs]; rfl
  · rw [F.validate, F.decode]; exact F.view_eq

theorem decrypt_untouched_or_ok (c : Cipher) (b : Bytes) (nwk app : Option Key) (N : UInt32) :
    (decryptInPlace c b nwk app N).2 = b ∨ ∃ p, (decryptInPlace c b nwk app N).1 = .ok p := by
  unfold decryptInPlace
  simp only []
  repeat' split
  all_goals first | (left; rfl) | (right; exact ⟨_, rfl⟩)

end Lora.C02Lemmas
