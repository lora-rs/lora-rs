import LoraVerif.Lemmas.PhyTrack
/-!
# The inductive invariant of C14, what it asks of a radio kind, and the building blocks of `lib.rs`

Generic over the radio kind: `OpsSpec` lists what the proof needs to know about each `RadioKind`
operation (as `wp` facts about the tracker); `Lemmas/PhyOps126.lean` / `PhyOps127.lean` prove it for
the SX126x and SX127x models.  Here: the invariant `Inv` over (driver bookkeeping × tracker state), the two
abnormal postconditions the walks end in (`AbInv`, `AbI4`), and the preservation lemmas of the fragments several
API methods share (`toStandby`, `do_cold_start`, `init`, `prepare_modem`, the error path `failToStandby`): from `Inv`,
under every chip answer, a fault at any I/O step and a drop at any `await_irq`, they end in `Inv` again.  The API
programs themselves are walked in `Lemmas/PhyApi.lean`.
-/
namespace Model.Phy

/-- the bring-up items of the board (`init_lora`; regulator and TCXO on a board that uses them): what I2 asks for -/
def baseItems (reg tcxo : Bool) : Items :=
  { packetType := true, syncWord := true, bufferBase := true, regulator := reg, tcxo := tcxo }
/-- what `do_cold_start` programs: the bring-up items, TX parameters and IRQ routing -/
def bringUp (reg tcxo : Bool) : Items := { baseItems reg tcxo with irq := true, pa := true }

section
variable (kind : Kind) (n : Needs)

/-- a configuration operation: needs an awake chip; flags stay down, items only grow and `g` is
programmed on success; it fails only with infrastructure errors -/
def Cfg {α : Type} (p : Prog α) (g : Items) : Prop :=
  ∀ t, Clean t → Aw t → wp kind n p (fun _ t' => Ext t t' ∧ g.le t'.items) (fun a t' => Ext t t' ∧ a.infra) t

/-- a read-out operation: leaves the tracker as it is -/
def ReadOnly {α : Type} (p : Prog α) (t : ChipTrack) : Prop :=
  wp kind n p (fun _ t' => t' = t) (fun a t' => t' = t ∧ a.infra) t
end

/-- what the invariant proof needs from a `RadioKind` (board with/without regulator and TCXO) -/
structure OpsSpec (kind : Kind) (reg tcxo : Bool) (sb : Items) (Rdy : ChipTrack → Prop) {σ μ : Type} (rk : RadioKindOps σ μ) : Prop where
  rdy_of_aw : ∀ t, Aw t → Rdy t
  /-- `sb`: what an executed `set_standby` leaves programmed (SX127x: the LoRa bit of RegOpMode); part of the bring-up items -/
  sb_le : sb.le (baseItems reg tcxo)
  reset : ∀ t, Clean t →
    wp kind (needsFor reg tcxo) rk.reset (fun _ t' => Clean t') (fun a t' => Clean t' ∧ a.infra) t
  ensureReady : ∀ m t, Clean t → Link m t →
    wp kind (needsFor reg tcxo) (rk.ensureReady m) (fun _ t' => Ext t t' ∧ Rdy t') (fun a t' => Ext t t' ∧ a.infra) t
  setStandby : ∀ t, Clean t → Rdy t →
    wp kind (needsFor reg tcxo) rk.setStandby (fun _ t' => Ext t t' ∧ Aw t' ∧ t'.mode = .standby ∧ sb.le t'.items) (fun a t' => Ext t t' ∧ a.infra) t
  setSleep : ∀ warm t, Clean t → Rdy t →
    wp kind (needsFor reg tcxo) (rk.setSleep warm) (fun _ t' => Clean t' ∧ (warm = true → t.items.le t'.items))
      (fun a t' => Ext t t' ∧ a.infra) t
  initLora : ∀ st sw, Cfg kind (needsFor reg tcxo) (rk.initLora st sw) ((baseItems reg tcxo).diff sb)
  setTxPower : ∀ p m b, Cfg kind (needsFor reg tcxo) (rk.setTxPowerAndRampTime p m b) { pa := true }
  setIrqParams : ∀ m, Cfg kind (needsFor reg tcxo) (rk.setIrqParams m) { irq := true }
  setModulationParams : ∀ st m, Cfg kind (needsFor reg tcxo) (rk.setModulationParams st m) { modulation := true }
  setPacketParams : ∀ p, Cfg kind (needsFor reg tcxo) (rk.setPacketParams p) { packet := true }
  calibrateImage : ∀ f, Cfg kind (needsFor reg tcxo) (rk.calibrateImage f) {}
  setChannel : ∀ f, Cfg kind (needsFor reg tcxo) (rk.setChannel f) { frequency := true }
  setPayload : ∀ p, Cfg kind (needsFor reg tcxo) (rk.setPayload p) {}
  setLoraSyncWord : ∀ w, Cfg kind (needsFor reg tcxo) (rk.setLoraSyncWord w) {}
  doTx : ∀ t, Clean t → Aw t → (needsFor reg tcxo).tx.le t.items →
    wp kind (needsFor reg tcxo) rk.doTx (fun _ t' => Ext t t') (fun a t' => Ext t t' ∧ a.infra) t
  doRx : ∀ m t, Clean t → Rdy t → Link (.receive m) t → (needsFor reg tcxo).rx.le t.items →
    wp kind (needsFor reg tcxo) (rk.doRx m) (fun _ t' => Clean t' ∧ t.items.le t'.items ∧ Link (.receive m) t')
      (fun a t' => (Clean t' ∧ t.items.le t'.items ∧ Link (.receive m) t') ∧ a.infra) t
  doCad : ∀ m t, Clean t → Aw t → (needsFor reg tcxo).cad.le t.items →
    wp kind (needsFor reg tcxo) (rk.doCad m) (fun _ t' => Ext t t') (fun a t' => Ext t t' ∧ a.infra) t
  awaitIrq : ∀ t, ReadOnly kind (needsFor reg tcxo) rk.awaitIrq t
  processIrqEvent : ∀ m c cl t, Clean t → t.mode ≠ .sleep → (t.mode = .rxDuty → m.isSingle = false) →
    wp kind (needsFor reg tcxo) (rk.processIrqEvent m c cl) (fun _ t' => t' = t) (fun _ t' => t' = t) t
  getRxPayload : ∀ p b t, Clean t → t.mode ≠ .sleep → ReadOnly kind (needsFor reg tcxo) (rk.getRxPayload p b) t
  getRxPacketStatus : ∀ t, Clean t → t.mode ≠ .sleep → ReadOnly kind (needsFor reg tcxo) rk.getRxPacketStatus t

/-- which items each driver mode presupposes -/
def ModeItems (n : Needs) (sb : Items) (m : RadioMode) (it : Items) : Prop :=
  match m with
  | .sleep => True
  | .transmit => n.tx.le it
  | .receive _ => n.rx.le it
  | .cad => n.cad.le it
  | _ => sb.le it

/-- **The invariant** over driver bookkeeping `d` and tracker state `t`. -/
structure Inv (reg tcxo : Bool) (sb : Items) {σ : Type} (d : DriverState σ) (t : ChipTrack) : Prop where
  /-- I1, I3 -/
  clean : Clean t
  /-- chip possibly asleep ⇒ the driver's mode makes the next `ensure_ready` the wake-up -/
  link : Link d.radioMode t
  /-- I2 (contrapositive, strengthened): `cold_start` down ⇒ bring-up items, TX parameters, IRQ routing programmed -/
  cold : d.coldStart = false → (bringUp reg tcxo).le t.items
  /-- the driver's mode says an operation is prepared ⇒ everything it needs is programmed -/
  items : ModeItems (needsFor reg tcxo) sb d.radioMode t.items

section
variable {kind : Kind} {reg tcxo : Bool} {sb : Items} {Rdy : ChipTrack → Prop} {σ μ : Type} {rk : RadioKindOps σ μ}

theorem ModeItems.mono {n : Needs} {sb : Items} {m : RadioMode} {a b : Items} (h : ModeItems n sb m a) (hab : a.le b) : ModeItems n sb m b := by
  cases m <;> first | exact Items.le_trans h hab | trivial

theorem Inv.ext {d : DriverState σ} {t t' : ChipTrack} (h : Inv reg tcxo sb d t) (e : Ext t t') : Inv reg tcxo sb d t' :=
  ⟨e.clean, h.link.ext e.2.2, fun hc => e.le (h.cold hc), h.items.mono e.items⟩

theorem Inv.abort {d : DriverState σ} {t : ChipTrack} (h : Inv reg tcxo sb d t) (a : Abort) (t' : ChipTrack)
    (e : Ext t t' ∧ a.infra) : Inv reg tcxo sb d t' ∧ a.infra := ⟨h.ext e.1, e.2⟩

theorem Inv.congr {d d' : DriverState σ} {t : ChipTrack} (h : Inv reg tcxo sb d t)
    (hm : d'.radioMode = d.radioMode) (hc : d'.coldStart = d.coldStart) : Inv reg tcxo sb d' t :=
  ⟨h.clean, hm ▸ h.link, fun hx => h.cold (hc ▸ hx), hm ▸ h.items⟩

theorem Inv.items_of {d : DriverState σ} {t : ChipTrack} {m : RadioMode} (h : Inv reg tcxo sb d t) (hm : d.radioMode = m) :
    ModeItems (needsFor reg tcxo) sb m t.items := hm ▸ h.items

theorem Inv.aw {d : DriverState σ} {t : ChipTrack} (h : Inv reg tcxo sb d t)
    (h1 : d.radioMode ≠ .sleep) (h2 : d.radioMode.isDuty = false) : Aw t := h.link.aw h1 h2

theorem Inv.standby {d : DriverState σ} {t t' : ChipTrack} (h : Inv reg tcxo sb d t) (e : Ext t t') (ha : Aw t')
    (hs : sb.le t'.items) : Inv reg tcxo sb { d with radioMode := .standby } t' :=
  ⟨e.clean, Link.of_aw ha, fun hc => e.le (h.cold hc), hs⟩

/-- the state after `do_rx`: `radio_mode` is `Receive(mode)` and the chip may be duty-cycling -/
theorem Inv.afterRx {d : DriverState σ} {t t' : ChipTrack} {mode : RxMode} (h : Inv reg tcxo sb d t) (hm : d.radioMode = .receive mode)
    (p : RxPost mode t t') : Inv reg tcxo sb d t' :=
  ⟨p.1, hm ▸ p.2.2, fun hx => Items.le_trans (h.cold hx) p.2.1, h.items.mono p.2.1⟩

theorem ModeItems.sb_le {m : RadioMode} {it : Items} (hsb : sb.le (baseItems reg tcxo))
    (h : ModeItems (needsFor reg tcxo) sb m it) (hm : m ≠ .sleep) : sb.le it := by
  have b1 : (baseItems reg tcxo).le (needsFor reg tcxo).tx := by
    simp only [Items.le, baseItems, needsFor]; simp
  have b2 : (baseItems reg tcxo).le (needsFor reg tcxo).rx := by
    simp only [Items.le, baseItems, needsFor]; simp
  have b3 : (baseItems reg tcxo).le (needsFor reg tcxo).cad := by
    simp only [Items.le, baseItems, needsFor]; simp
  cases m with
  | sleep => exact absurd rfl hm
  | transmit => exact Items.le_trans hsb (Items.le_trans b1 h)
  | receive _ => exact Items.le_trans hsb (Items.le_trans b2 h)
  | cad => exact Items.le_trans hsb (Items.le_trans b3 h)
  | standby => exact h
  | frequencySynthesis => exact h
  | listen => exact h

/-- a configuration operation inside a stretch of them that began at `t₀`: what the stretch guarantees
(`Ext t₀ ·`) and what it has programmed so far (`G`) are carried along from step to step -/
theorem mwp_cfg {α β : Type} {p : Prog α} {k : α → M σ β} {g G : Items} (hc : Cfg kind (needsFor reg tcxo) p g)
    {Q : β → DriverState σ → ChipTrack → Prop} {E} {d : DriverState σ} {t₀ t : ChipTrack}
    (s : Ext t₀ t ∧ G.le t.items) (haw : Aw t₀) (he : ∀ a t', Ext t₀ t' ∧ a.infra → E a d t')
    (hq : ∀ a t', Ext t₀ t' ∧ (G.union g).le t'.items → mwp kind (needsFor reg tcxo) (k a) Q E d t') :
    mwp kind (needsFor reg tcxo) (M.call p >>= k) Q E d t :=
  mwp_op (hc t s.1.clean (s.1.aw haw))
    (fun a t' h => hq a t' ⟨s.1.trans h.1, Items.union_le (h.1.le s.2) h.2⟩) (fun a t' h => he a t' ⟨s.1.trans h.1, h.2⟩)

theorem mwp_ro {α : Type} {p : Prog α} {t : ChipTrack} (hc : ReadOnly kind (needsFor reg tcxo) p t)
    {Q : α → DriverState σ → ChipTrack → Prop} {E} {d : DriverState σ}
    (hq : ∀ a, Q a d t) (he : ∀ a, a.infra → E a d t) :
    mwp kind (needsFor reg tcxo) (M.call p : M σ α) Q E d t :=
  mwp_call (wp_mono _ _ _ hc (fun a _ h => h ▸ hq a) (fun a _ h => h.1 ▸ he a h.2))

/-- the abnormal postcondition of whatever cannot report the radio's own timeout: the invariant holds, the ending
is an infrastructure one -/
def AbInv (reg tcxo : Bool) (sb : Items) (a : Abort) (d : DriverState σ) (t : ChipTrack) : Prop :=
  Inv reg tcxo sb d t ∧ a.infra

/-- the standard abnormal postcondition: the invariant holds, and a reported timeout means standby -/
def AbI4 (reg tcxo : Bool) (sb : Items) (exempt : Prop) (a : Abort) (d : DriverState σ) (t : ChipTrack) : Prop :=
  Inv reg tcxo sb d t ∧ (a.timeout = true → ¬ exempt → d.radioMode = .standby ∧ t.mode = .standby)

theorem AbI4.of_infra {exempt : Prop} {a : Abort} {d : DriverState σ} {t : ChipTrack} (h : Inv reg tcxo sb d t) (ha : a.infra) :
    AbI4 reg tcxo sb exempt a d t := ⟨h, fun ht => by simp [Abort.infra] at ha; simp [ha] at ht⟩

theorem mwp_infra_abI4 {n : Needs} {α : Type} {m : M σ α} {Q : α → DriverState σ → ChipTrack → Prop} {exempt : Prop}
    {d : DriverState σ} {t : ChipTrack} (h : mwp kind n m Q (AbInv reg tcxo sb) d t) :
    mwp kind n m Q (AbI4 reg tcxo sb exempt) d t :=
  mwp_mono h (fun _ _ _ hq => hq) (fun _ _ _ he => AbI4.of_infra he.1 he.2)

theorem mwp_abI4_exempt {n : Needs} {α : Type} {m : M σ α} {Q : α → DriverState σ → ChipTrack → Prop} {exempt : Prop}
    {d : DriverState σ} {t : ChipTrack} (h : mwp kind n m Q (AbI4 reg tcxo sb False) d t) :
    mwp kind n m Q (AbI4 reg tcxo sb exempt) d t :=
  mwp_mono h (fun _ _ _ hq => hq) (fun _ _ _ he => ⟨he.1, fun ht _ => he.2 ht (fun f => f)⟩)

variable (S : OpsSpec kind reg tcxo sb Rdy rk)
include S

theorem toStandby_inv {d : DriverState σ} {t : ChipTrack} (h : Inv reg tcxo sb d t) :
    mwp kind (needsFor reg tcxo) (toStandby rk)
      (fun _ d' t' => d' = { d with radioMode := .standby } ∧ Ext t t' ∧ Aw t' ∧ sb.le t'.items)
      (AbInv reg tcxo sb) d t := by
  unfold toStandby
  refine mwp_get ?_
  refine mwp_op (S.ensureReady d.radioMode t h.clean h.link) (fun _ t1 h1 => ?_) h.abort
  obtain ⟨e1, r1⟩ := h1
  by_cases hm : d.radioMode = .standby
  · simp only [ne_eq, hm, not_true_eq_false, if_false]
    refine mwp_pure ⟨?_, e1, e1.aw (h.aw (by simp [hm]) (by simp [hm, RadioMode.isDuty])),
      e1.le (h.items.sb_le S.sb_le (by simp [hm]))⟩
    cases d; simp_all
  · simp only [ne_eq, hm, not_false_eq_true, if_true]
    refine mwp_op (S.setStandby t1 e1.clean r1) (fun _ t2 h2 => ?_) (fun a t' h' => ⟨h.ext (e1.trans h'.1), h'.2⟩)
    exact mwp_setMode ⟨rfl, e1.trans h2.1, h2.2.1, h2.2.2.2⟩

theorem doColdStart_inv {d : DriverState σ} {t : ChipTrack} (h : Inv reg tcxo sb d t) (ha : Aw t) (hs : sb.le t.items) :
    mwp kind (needsFor reg tcxo) (doColdStart rk)
      (fun _ d' t' => (∃ st, d' = { d with rk := st, coldStart := false, calibrateImage := true }) ∧ Ext t t' ∧
        (bringUp reg tcxo).le t'.items)
      (AbInv reg tcxo sb) d t := by
  unfold doColdStart
  refine mwp_get ?_
  refine mwp_cfg (S.initLora _ _) (Ext.nil h.clean) ha h.abort fun st t1 s1 => ?_
  refine mwp_bind (mwp_modify ?_)
  have he := (h.congr (d' := { d with rk := st }) rfl rfl).abort
  refine mwp_cfg (S.setTxPower _ _ _) s1 ha he fun _ t2 s2 => ?_
  refine mwp_get ?_
  refine mwp_cfg (S.setIrqParams _) s2 ha he fun _ t3 s3 => ?_
  refine mwp_modify ⟨⟨st, rfl⟩, s3.1, ?_⟩
  have g := s3.2
  have b := Items.le_of_diff (g := baseItems reg tcxo) (s3.1.le hs) (Items.le_trans (by simp [Items.le, Items.union]) g)
  simp only [Items.le, Items.union, bringUp, baseItems] at b g ⊢
  simp_all

theorem init_inv {d : DriverState σ} {t : ChipTrack} (h : Clean t) :
    mwp kind (needsFor reg tcxo) (init rk)
      (fun _ d' t' => Inv reg tcxo sb d' t') (AbInv reg tcxo sb) d t := by
  unfold init
  have inv1 : ∀ t', Clean t' → Inv reg tcxo sb { d with coldStart := true, radioMode := .sleep } t' :=
    fun t' hc => ⟨hc, Link.sleep _, fun hx => by simp at hx, trivial⟩
  refine mwp_bind (mwp_modify ?_)
  refine mwp_op (S.reset t h) (fun _ t1 c1 => ?_) (fun a t' h' => ⟨inv1 _ h'.1, h'.2⟩)
  refine mwp_get ?_
  refine mwp_op (S.ensureReady .sleep t1 c1 (Link.sleep _)) (fun _ t2 h2 => ?_)
    (fun a t' h' => ⟨inv1 _ h'.1.clean, h'.2⟩)
  refine mwp_op (S.setStandby t2 h2.1.clean h2.2) (fun _ t3 h3 => ?_)
    (fun a t' h' => ⟨inv1 _ h'.1.clean, h'.2⟩)
  refine mwp_bind (mwp_setMode ?_)
  have inv3 : Inv reg tcxo sb { d with coldStart := true, radioMode := .standby } t3 :=
    ⟨h3.1.clean, Link.of_aw h3.2.1, fun hx => by simp at hx, h3.2.2.2⟩
  refine mwp_mono (doColdStart_inv S inv3 h3.2.1 h3.2.2.2) (fun _ d' t' hq => ?_) (fun a d' t' he => he)
  obtain ⟨⟨st, rfl⟩, e, g⟩ := hq
  exact ⟨e.clean, Link.of_aw (e.aw h3.2.1), fun _ => g, e.le h3.2.2.2⟩

/-- `prepare_modem`: afterwards the chip is awake, in the driver's eyes in standby, and brought up -/
theorem prepareModem_inv (freq : Nat) {d : DriverState σ} {t : ChipTrack} (h : Inv reg tcxo sb d t) :
    mwp kind (needsFor reg tcxo) (prepareModem rk freq)
      (fun _ d' t' => Inv reg tcxo sb d' t' ∧ Aw t' ∧ d'.radioMode = .standby ∧ d'.coldStart = false)
      (AbInv reg tcxo sb) d t := by
  unfold prepareModem
  refine mwp_seq (toStandby_inv S h) fun _ d1 t1 h1 => ?_
  obtain ⟨hd1, e1, a1, s1⟩ := h1
  have i1 : Inv reg tcxo sb d1 t1 := hd1 ▸ h.standby e1 a1 s1
  have m1 : d1.radioMode = .standby := by rw [hd1]
  clear hd1
  refine mwp_get ?_
  refine mwp_ite_seq
    (Q₁ := fun d2 t2 => Inv reg tcxo sb d2 t2 ∧ Aw t2 ∧ d2.radioMode = .standby ∧ d2.coldStart = false)
    (fun _ => mwp_mono (doColdStart_inv S i1 a1 s1) (fun _ d2 t2 h2 => ?_) fun _ _ _ he => he)
    (fun hcs => ⟨i1, a1, m1, by simpa using hcs⟩) fun d2 t2 ⟨i2, a2, m2, c2⟩ => ?_
  · obtain ⟨⟨st, rfl⟩, e2, g2⟩ := h2
    exact ⟨⟨e2.clean, Link.of_aw (e2.aw a1), fun _ => g2, by simp only [m1]; exact e2.le s1⟩, e2.aw a1, m1, rfl⟩
  · refine mwp_get ?_
    by_cases hc : d2.calibrateImage = true
    · simp only [hc, if_true]
      refine mwp_cfg (S.calibrateImage _) (Ext.nil i2.clean) a2 i2.abort fun _ t3 s3 => ?_
      exact mwp_modify ⟨(i2.ext s3.1).congr rfl rfl, s3.1.aw a2, m2, c2⟩
    · simp only [hc, Bool.false_eq_true, if_false]
      exact mwp_pure ⟨i2, a2, m2, c2⟩

/-- the error path `ensure_ready; set_standby; radio_mode = Standby; Err(e)` (I4) -/
theorem failToStandby_inv {α : Type} (e : RadioError) {d : DriverState σ} {t : ChipTrack} (h : Inv reg tcxo sb d t)
    (Q : α → DriverState σ → ChipTrack → Prop) :
    mwp kind (needsFor reg tcxo) (failToStandby rk e : M σ α) Q (AbI4 reg tcxo sb False) d t := by
  unfold failToStandby
  refine mwp_get ?_
  refine mwp_op (S.ensureReady d.radioMode t h.clean h.link) (fun _ t1 h1 => ?_)
    (fun a t' h' => AbI4.of_infra (h.ext h'.1) h'.2)
  refine mwp_op (S.setStandby t1 h1.1.clean h1.2) (fun _ t2 h2 => ?_)
    (fun a t' h' => AbI4.of_infra (h.ext (h1.1.trans h'.1)) h'.2)
  refine mwp_bind (mwp_setMode ?_)
  exact mwp_throw ⟨h.standby (h1.1.trans h2.1) h2.2.1 h2.2.2.2, fun _ _ => ⟨rfl, h2.2.2.1⟩⟩

end
end Model.Phy
