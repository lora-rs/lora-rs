import LoraVerif.Model.History
import LoraVerif.Lemmas.RxForm
import LoraVerif.Lemmas.TxForm
import LoraVerif.Lemmas.Selected
import LoraVerif.Lemmas.FcntDown
import LoraVerif.Spec.Freshness
/-!
# The MAC model in normal form, in terms of the REFERENCE acceptance rule

The reference decides — from the decoded view of a frame, the window's size limit and the last
accepted downlink counter alone (`Spec/Freshness.lean`) — whether a frame heard in a receive window
is *accepted*, *ends the Class A procedure* (oversized) or is *nothing* (`specWindow`).  This file
shows that the model's `macHandleRx` / `window` / `classACycle` / `faultedCycle` ARE that decision
followed by the effect of the accepted frame (`acceptCmds`, `acceptFinish`) — as equations, so that
rejected frames visibly never reach a handler.  The history-level properties are built on these equations.  Beside the
receive side the file inverts the other calls a history makes: `send` (`macSend_joined`, packed as `Sent`), `join_otaa`
(`macJoinOtaa_ok`, `step_joinOtaa_inv`) and `set_adr` (`macSetAdr_st`).  For the STATE a step leaves there is one more form: it is reached from the state
after `send` (or from the state itself, for a Class C reception) by the acts the reference decides on
(`Acts`; `classACycle_acts`, `faultedCycle_acts`, `macHandleRxc_acts`), so that a relation preserved along
`Acts` is preserved by the step (`Acts.invariant` where no ghost moves with the acts).
-/
open Spec.Freshness

namespace Model

/-- the counter under which the reference accepts data frame `d` in a window limited to `mp` bytes
of MAC payload, when `last` is the last accepted downlink counter of the session: the frame fits,
and its MIC verifies under a counter that is fresh -/
def accepts (last : Option Nat) (d : RxData) (mp : Nat) : Option Nat :=
  match d.micFcnt with
  | some N => if d.len ≤ mp + 5 ∧ Fresh last d.fcnt16 N then some N else none
  | none => none

theorem accepts_some {last : Option Nat} {d : RxData} {mp N : Nat} :
    accepts last d mp = some N ↔ d.len ≤ mp + 5 ∧ Fresh last d.fcnt16 N ∧ d.micFcnt = some N := by
  unfold accepts
  cases hm : d.micFcnt with
  | none => simp
  | some K =>
    simp only [Option.some.injEq]
    by_cases hc : d.len ≤ mp + 5 ∧ Fresh last d.fcnt16 K
    · rw [if_pos hc]
      simp only [Option.some.injEq]
      constructor
      · rintro rfl; exact ⟨hc.1, hc.2, rfl⟩
      · rintro ⟨_, _, h⟩; exact h
    · rw [if_neg hc]
      simp only [reduceCtorEq, false_iff]
      rintro ⟨h1, h2, rfl⟩; exact hc ⟨h1, h2⟩

/-- representation fact of the decoded view: the wire counter is a 16-bit field.  `viewOk` / `rxOk` / `evOk`, and
`csOk` / `evOkC` of `Lemmas/CycleC.lean`, are what the receive-side equations need; the application contract and the CFList lengths are the
other family, `viewWF` … `validEv` / `validEvC` of `Model/History*.lean`, which totality and the absence of panics need -/
def viewOk : RxView → Bool
  | .data d => decide (d.fcnt16 < 65536)
  | _ => true

def rxOk : Option (RxView × Int) → Bool
  | some (v, _) => viewOk v
  | none => true

def evOk : Ev → Bool
  | .joinOtaa _ rx1 rx2 _ _ => rxOk rx1 && rxOk rx2
  | .uplink _ _ _ _ rx1 rx2 _ _ => rxOk rx1 && rxOk rx2
  | .rxc v _ _ => viewOk v
  | _ => true

/-- the stored downlink counter is a `u32` -/
def LastOk (last : Option Nat) : Prop := ∀ l, last = some l → l < 4294967296

theorem nextFcntDown_iff (last : Option Nat) (w N : Nat) (hl : LastOk last) (hw : w < 65536) :
    nextFcntDown last w = some N ↔ Fresh last w N := by
  unfold nextFcntDown Fresh
  cases last with
  | none =>
    simp only [Option.map_none, C05.next_none, Option.map_some, Int.toNat_natCast, Option.some.injEq]
    exact eq_comm
  | some l =>
    have hl' := hl l rfl
    have hs := fun v => C05.next_spec (l : Int) (w : Int) v (by omega) (by omega) (by omega) (by omega)
    simp only [Option.map_some, Option.map_eq_some_iff, maxFcntGap]
    constructor
    · rintro ⟨v, hv, rfl⟩
      have := (hs v).mp hv
      omega
    · intro h
      exact ⟨(N : Int), (hs N).mpr (by omega), by simp⟩

theorem fresh_lastOk {last : Option Nat} {w N : Nat} (hw : w < 65536) (h : Fresh last w N) : LastOk (some N) := by
  intro l e; cases e
  unfold Fresh at h
  cases last with
  | none => simp only at h; omega
  | some l => exact h.2.2.2

def acceptOut (s : Session) (d : RxData) (fcnt : Nat) (ctx : MacCtx) : RxOut := (acceptFinish s d fcnt ctx).1

def acceptState (m : MacState) (s : Session) (d : RxData) (fcnt : Nat) (ctx : MacCtx) : MacState :=
  { m with st := .joined (acceptFinish s d fcnt ctx).2.1, cfg := (acceptFinish s d fcnt ctx).2.2.1,
           region := (acceptFinish s d fcnt ctx).2.2.2 }

theorem acceptOut_eq (s : Session) (d : RxData) (N : Nat) (ctx : MacCtx) : acceptOut s d N ctx = accOut s.fcntUp N d :=
  congrArg Prod.fst (acceptFinish_eq s d N ctx)

theorem acceptFinish_session_eq (s : Session) (d : RxData) (N : Nat) (ctx : MacCtx) :
    (acceptFinish s d N ctx).2.1 =
      { s with fcntDown := some N, adrAckCnt := 0, pending := ctx.pending, ackOwed := s.ackOwed || d.confirmed,
               fcntUp := bumpFu s.fcntUp } :=
  congrArg (·.2.1) (acceptFinish_eq s d N ctx)

theorem acceptState_st (m : MacState) (s : Session) (d : RxData) (N : Nat) (ctx : MacCtx) :
    (acceptState m s d N ctx).st = .joined (acceptFinish s d N ctx).2.1 := rfl

theorem acceptState_cfg (m : MacState) (s : Session) (d : RxData) (N : Nat) (ctx : MacCtx) :
    (acceptState m s d N ctx).cfg = ctx.cfg ∧ (acceptState m s d N ctx).region = ctx.region := by
  simp only [acceptState, acceptFinish_eq, and_self]

/-- the model's test (counter reconstruction, then the MIC under that counter) is the reference's -/
theorem accepts_eq_filter {last : Option Nat} {d : RxData} {mp : Nat} (hl : LastOk last) (hw : d.fcnt16 < 65536)
    (hlen : d.len ≤ mp + 5) : (nextFcntDown last d.fcnt16).filter (d.micFcnt == some ·) = accepts last d mp := by
  ext N
  rw [Option.filter_eq_some_iff, nextFcntDown_iff last _ N hl hw, accepts_some]
  simp only [beq_iff_eq, hlen, true_and]

/-- `Session::handle_rx` IS the reference's decision followed by the effect of the accepted frame -/
theorem sessionHandleRx_spec (s : Session) (cfg : Config) (region : RegionState) (d : RxData) (mp : Nat) (snr : Int)
    (ig : Bool) (hl : LastOk s.fcntDown) (hw : d.fcnt16 < 65536) :
    sessionHandleRx s cfg region d mp snr ig =
      if d.len > mp + 5 then
        pure (if ig then (noUp, s, cfg, region)
              else ({ resp := (rx2Complete s cfg region.id).1, downlink := none }, (rx2Complete s cfg region.id).2.1,
                    (rx2Complete s cfg region.id).2.2, region))
      else match accepts s.fcntDown d mp with
        | some N => acceptCmds s.pending cfg region d snr ig >>= fun ctx => pure (acceptFinish s d N ctx)
        | none => pure (noUp, s, cfg, region) := by
  rw [sessionHandleRx_eq]
  split
  · rfl
  · rw [accepts_eq_filter (mp := mp) hl hw (by omega)]
    rfl

/-- the timer of a window, `delay + tx_ms − lead` in `u32`: computed exactly when neither the sum overflows nor the
difference underflows -/
theorem startDelay_ok_iff {delay txMs lead t : Nat} :
    startDelay delay txMs lead = .ok t ↔ delay + txMs ≤ 4294967295 ∧ lead ≤ delay + txMs ∧ t = delay + txMs - lead := by
  unfold startDelay
  split
  · exact ⟨nofun, by omega⟩
  · split
    · exact ⟨nofun, by omega⟩
    · exact ⟨fun h => ⟨by omega, by omega, (Except.pure_eq_ok h).symm⟩, fun h => h.2.2 ▸ rfl⟩

theorem MacState.eta_joined {m : MacState} {s : Session} (hst : m.st = .joined s) :
    { m with st := .joined s, cfg := m.cfg, region := m.region } = m := by
  cases m; simp only at hst; subst hst; rfl

theorem macRx2Complete_joined {m : MacState} {s : Session} (hst : m.st = .joined s) :
    macRx2Complete m = (tmoResp s.fcntUp s.confirmed,
      { m with st := .joined (rx2Complete s m.cfg m.region.id).2.1, cfg := (rx2Complete s m.cfg m.region.id).2.2 }) := by
  simp only [macRx2Complete, hst, rx2Complete_eq]

theorem macRx2Complete_resp (m : MacState) (s : Session) (hst : m.st = .joined s) :
    (macRx2Complete m).1 = tmoResp s.fcntUp s.confirmed :=
  congrArg Prod.fst (macRx2Complete_joined hst)

theorem faultExpired_eq (m : MacState) (s : Session) (hst : m.st = .joined s) :
    faultExpired m = decide (s.fcntUp = 0xFFFFFFFF) := by
  rw [faultExpired, macRx2Complete_resp m s hst, tmoResp]
  by_cases hx : s.fcntUp = 0xFFFFFFFF
  · simp [hx]
  · cases s.confirmed <;> simp [hx]

def acceptM (m : MacState) (s : Session) (d : RxData) (N : Nat) (snr : Int) (cc : Bool) : M (Option RxOut × MacState) :=
  acceptCmds s.pending m.cfg m.region d snr cc >>= fun ctx => pure (some (acceptOut s d N ctx), acceptState m s d N ctx)

/-- the state `rx2_complete` leaves.  `Model/Device.lean` names the same state `faultAfterTx` where a front-end calls
`rx2_complete` after a radio fault (`faultAfterTx_eq`); the lemmas are stated for `timeoutState`, but for
`faultedCycle_acts`, which concludes in the name `step` uses.  The report beside it stays `(macRx2Complete m).1` in the
equations of `window` and `classACycle`; `macRx2Complete_resp` reads it as `tmoResp` -/
def timeoutState (m : MacState) : MacState := (macRx2Complete m).2

theorem faultAfterTx_eq (m : MacState) : faultAfterTx m = timeoutState m := rfl

theorem timeoutState_region (m : MacState) : (timeoutState m).region = m.region := by
  unfold timeoutState macRx2Complete
  cases m.st <;> rfl

theorem timeoutState_joined {m : MacState} {s : Session} (hst : m.st = .joined s) :
    timeoutState m =
      { m with st := .joined (rx2Complete s m.cfg m.region.id).2.1, cfg := (rx2Complete s m.cfg m.region.id).2.2 } :=
  congrArg Prod.snd (macRx2Complete_joined hst)

theorem timeoutState_session (m : MacState) (s : Session) (hst : m.st = .joined s) :
    ∃ s', (timeoutState m).st = .joined s' ∧ s'.fcntDown = s.fcntDown ∧ s'.fcntUp = bumpFu s.fcntUp ∧
      s'.confirmed = s.confirmed ∧ s'.pending = s.pending ∧ s'.ackOwed = s.ackOwed ∧ (timeoutState m).region = m.region := by
  rw [timeoutState_joined hst, rx2Complete_eq]
  exact ⟨_, rfl, rfl, rfl, rfl, rfl, rfl, rfl⟩

theorem timeoutState_notJoined (m : MacState) (hst : ∀ s, m.st ≠ .joined s) : timeoutState m = m := by
  unfold timeoutState macRx2Complete
  cases h : m.st with
  | joined s => exact absurd h (hst s)
  | otaa o => rfl
  | unjoined => rfl

theorem macHandleRx_joined (m : MacState) (s : Session) (hst : m.st = .joined s) (hl : LastOk s.fcntDown)
    (v : RxView) (mp : Nat) (snr : Int) (cc : Bool) (hw : viewOk v = true) :
    macHandleRx m v mp snr cc =
      match v with
      | .data d =>
        if d.len > mp + 5 then
          pure (if cc then (some noUp, m) else (some { resp := (macRx2Complete m).1, downlink := none }, timeoutState m))
        else (match accepts s.fcntDown d mp with
          | some N => acceptM m s d N snr cc
          | none => pure (some noUp, m))
      | _ => pure (some noUp, m) := by
  unfold macHandleRx
  cases v with
  | garbage => simp only [hst]; rfl
  | joinAccept j => simp only [hst]; rfl
  | data d =>
    simp only [hst, sessionHandleRx_spec s m.cfg m.region d mp snr cc hl (by simpa [viewOk] using hw)]
    split
    · cases cc
      · simp only [timeoutState, macRx2Complete, hst]; rfl
      · simp only [if_true, pure_bind, MacState.eta_joined hst]
    · cases accepts s.fcntDown d mp with
      | none => simp only [pure_bind, MacState.eta_joined hst]
      | some N => simp only [acceptM, bind_assoc, pure_bind, acceptOut, acceptState]

/-- the reference's verdict on what a Class A receive window heard -/
inductive WinRes where
  | nothing
  /-- an oversized frame ends the receive procedure as a timeout would -/
  | ended
  | accepted (N : Nat) (d : RxData) (snr : Int)
  deriving DecidableEq, Repr

def specWindow (last : Option Nat) (f : Option (RxView × Int)) (mp : Nat) : WinRes :=
  match f with
  | some (.data d, snr) =>
    if d.len > mp + 5 then .ended
    else match accepts last d mp with
      | some N => .accepted N d snr
      | none => .nothing
  | _ => .nothing

/-- both windows: RX2 is only listened to when RX1 yielded nothing -/
def specCycle (last : Option Nat) (rx1 rx2 : Option (RxView × Int)) (mp1 mp2 : Nat) : WinRes :=
  match specWindow last rx1 mp1 with
  | .nothing => specWindow last rx2 mp2
  | r => r

/-- the windows served before a radio fault struck (`k` of them) -/
def specFaulted (last : Option Nat) (k : Nat) (rx1 rx2 : Option (RxView × Int)) (mp1 mp2 : Nat) : WinRes :=
  match k with
  | 0 => .nothing
  | 1 => specWindow last rx1 mp1
  | _ => specCycle last rx1 rx2 mp1 mp2

theorem window_joined (m : MacState) (s : Session) (hst : m.st = .joined s) (hl : LastOk s.fcntDown)
    (f : Option (RxView × Int)) (mp : Nat) (hw : rxOk f = true) :
    window m f mp =
      match specWindow s.fcntDown f mp with
      | .nothing => pure (none, m)
      | .ended => pure (some { resp := (macRx2Complete m).1, downlink := none }, timeoutState m)
      | .accepted N d snr => acceptM m s d N snr false := by
  unfold window specWindow
  cases f with
  | none => rfl
  | some f =>
    obtain ⟨v, snr⟩ := f
    simp only [macHandleRx_joined m s hst hl v mp snr false hw]
    cases v with
    | garbage => rfl
    | joinAccept j => rfl
    | data d =>
      simp only []
      split
      · simp only [Bool.false_eq_true, if_false, pure_bind, macRx2Complete_resp m s hst, tmoResp_ne_noUpdate]
      · cases accepts s.fcntDown d mp with
        | none => rfl
        | some N =>
          simp only [acceptM, bind_assoc, pure_bind, acceptOut_eq, accOut_ne_noUpdate, Bool.false_eq_true, if_false]

theorem classACycle_joined (m : MacState) (s : Session) (hst : m.st = .joined s) (hl : LastOk s.fcntDown)
    (rx1 rx2 : Option (RxView × Int)) (mp1 mp2 : Nat) (hw1 : rxOk rx1 = true) (hw2 : rxOk rx2 = true) :
    classACycle m rx1 rx2 mp1 mp2 =
      match specCycle s.fcntDown rx1 rx2 mp1 mp2 with
      | .accepted N d snr =>
        acceptCmds s.pending m.cfg m.region d snr false >>= fun ctx =>
          pure ((acceptOut s d N ctx).resp, (acceptOut s d N ctx).downlink, acceptState m s d N ctx)
      | _ => pure ((macRx2Complete m).1, none, timeoutState m) := by
  unfold classACycle specCycle
  rw [window_joined m s hst hl rx1 mp1 hw1]
  cases specWindow s.fcntDown rx1 mp1 with
  | ended => rfl
  | accepted N d snr => simp only [acceptM, bind_assoc, pure_bind]
  | nothing =>
    simp only [pure_bind]
    rw [window_joined m s hst hl rx2 mp2 hw2]
    cases specWindow s.fcntDown rx2 mp2 with
    | ended => rfl
    | nothing => rfl
    | accepted N d snr => simp only [acceptM, bind_assoc, pure_bind]

theorem faultedCycle_joined (m : MacState) (s : Session) (hst : m.st = .joined s) (hl : LastOk s.fcntDown) (k : Nat)
    (rx1 rx2 : Option (RxView × Int)) (mp1 mp2 : Nat) (hw1 : rxOk rx1 = true) (hw2 : rxOk rx2 = true) :
    faultedCycle m k rx1 rx2 mp1 mp2 =
      match specFaulted s.fcntDown k rx1 rx2 mp1 mp2 with
      | .accepted N d snr =>
        acceptCmds s.pending m.cfg m.region d snr false >>= fun ctx => pure (acceptState m s d N ctx)
      | .ended => pure (timeoutState m)
      | .nothing => pure m := by
  unfold faultedCycle specFaulted
  match k with
  | 0 => rfl
  | 1 =>
    simp only []
    rw [window_joined m s hst hl rx1 mp1 hw1]
    cases specWindow s.fcntDown rx1 mp1 with
    | ended => rfl
    | nothing => rfl
    | accepted N d snr => simp only [acceptM, bind_assoc, pure_bind]
  | k + 2 =>
    simp only [specCycle]
    rw [window_joined m s hst hl rx1 mp1 hw1]
    cases specWindow s.fcntDown rx1 mp1 with
    | ended => rfl
    | accepted N d snr => simp only [acceptM, bind_assoc, pure_bind]
    | nothing =>
      simp only [pure_bind]
      rw [window_joined m s hst hl rx2 mp2 hw2]
      cases specWindow s.fcntDown rx2 mp2 with
      | ended => rfl
      | nothing => rfl
      | accepted N d snr => simp only [acceptM, bind_assoc, pure_bind]

/-- the reference's verdict on a Class C reception -/
def specRxc (last : Option Nat) (v : RxView) (mp : Nat) : Option (Nat × RxData) :=
  match v with
  | .data d => (accepts last d mp).map (fun N => (N, d))
  | _ => none

theorem specRxc_some {last : Option Nat} {v : RxView} {mp N : Nat} {d : RxData} :
    specRxc last v mp = some (N, d) ↔ v = .data d ∧ accepts last d mp = some N := by
  cases v with
  | data d' =>
    simp only [specRxc, Option.map_eq_some_iff, Prod.mk.injEq, RxView.data.injEq]
    constructor
    · rintro ⟨_, ha, rfl, rfl⟩; exact ⟨rfl, ha⟩
    · rintro ⟨rfl, ha⟩; exact ⟨N, ha, rfl, rfl⟩
  | _ => simp [specRxc]

/-- the command-handling result of a Class C acceptance: nothing handled -/
def ctxC (m : MacState) (s : Session) : MacCtx := { cfg := m.cfg, region := m.region, pending := s.pending }

theorem acceptCmds_c (pending : List Nat) (cfg : Config) (region : RegionState) (d : RxData) (snr : Int) :
    acceptCmds pending cfg region d snr true = .ok { cfg := cfg, region := region, pending := pending } := rfl

/-- `handle_rxc` of a device with a session IS the reference's verdict followed by the effect of the accepted frame -/
theorem macHandleRxc_joined (m : MacState) (s : Session) (hst : m.st = .joined s) (hl : LastOk s.fcntDown)
    (v : RxView) (mp : Nat) (snr : Int) (hw : viewOk v = true) :
    macHandleRx m v mp snr true =
      match specRxc s.fcntDown v mp with
      | some (N, d) => pure (some (acceptOut s d N (ctxC m s)), acceptState m s d N (ctxC m s))
      | none => pure (some noUp, m) := by
  rw [macHandleRx_joined m s hst hl v mp snr true hw]
  cases v with
  | garbage | joinAccept => rfl
  | data d =>
    simp only [specRxc]
    cases ha : accepts s.fcntDown d mp with
    | none => simp only [Option.map_none, if_true, ite_self]
    | some N =>
      -- the reference does not accept an oversized frame
      rw [if_neg (Nat.not_lt.mpr (accepts_some.mp ha).1)]
      rfl

/-- `Otaa::handle_rx` on an authentic JoinAccept: the region takes the CFList, the RX1 delay is the
JoinAccept's, RX1DROffset and the RX2 data rate are taken over where the region defines them, and the session is fresh -/
theorem otaaAccept_ok {m m' : MacState} {j : RxJoinAccept} (h : otaaAccept m j = .ok m') :
    ∃ region d, processJoinAccept m.region j.cfList = .ok region ∧ delToDelayMs (j.rxDelay % 16) = .ok d ∧
      m' = { m with
        cfg :=
          let cfg := { m.cfg with rx1Delay := d }
          let cfg := match rx1DrOffsetValidate region.id ((j.dlSettings / 16) % 8) with
            | some o => { cfg with rx1DrOffset := o }
            | none => cfg
          if (getDatarate region.id (j.dlSettings % 16)).isSome then { cfg with rx2DataRate := some (j.dlSettings % 16) } else cfg,
        region := region, st := .joined (Session.new j.devAddr j.nwkKey j.appKey) } := by
  unfold otaaAccept at h
  obtain ⟨region, hreg, h⟩ := Except.bind_eq_ok h
  obtain ⟨d, hd, h⟩ := Except.bind_eq_ok h
  exact ⟨region, d, hreg, hd, (Except.pure_eq_ok h).symm⟩

theorem otaaAccept_st (m m' : MacState) (j : RxJoinAccept) (h : otaaAccept m j = .ok m') :
    m'.st = .joined (Session.new j.devAddr j.nwkKey j.appKey) := by
  obtain ⟨_, _, _, _, rfl⟩ := otaaAccept_ok h
  rfl

theorem otaaAccept_cfg (m m' : MacState) (j : RxJoinAccept) (h : otaaAccept m j = .ok m') :
    m'.cfg.adrEnabled = m.cfg.adrEnabled ∧ m'.cfg.dataRate = m.cfg.dataRate := by
  obtain ⟨region, d, _, _, rfl⟩ := otaaAccept_ok h
  simp only []
  constructor <;> (repeat' split) <;> rfl

theorem macSetAdr_st (m : MacState) (on : Bool) :
    (∀ s, m.st = .joined s → ∃ cnt, (macSetAdr m on).st = .joined { s with adrAckCnt := cnt }) ∧
    ((∀ s, m.st ≠ .joined s) → (macSetAdr m on).st = m.st) := by
  rw [macSetAdr_eq]
  constructor
  · intro s hs
    exact ⟨if on then s.adrAckCnt else 0, by simp only [hs]⟩
  · intro hn
    cases h : m.st with
    | joined s => exact absurd h (hn s)
    | otaa o => rfl
    | unjoined => rfl

theorem macSetAdr_joined {m : MacState} {on : Bool} {s' : Session} (h : (macSetAdr m on).st = .joined s') :
    ∃ s, m.st = .joined s ∧ s' = { s with adrAckCnt := if on then s.adrAckCnt else 0 } := by
  rw [macSetAdr_eq] at h
  cases hs : m.st <;> simp only [hs] at h <;> cases h
  exact ⟨_, rfl, rfl⟩

/-- the authentic JoinAccept a window heard, if any -/
def joinAcc : Option (RxView × Int) → Option RxJoinAccept
  | some (.joinAccept j, _) => if j.micOk then some j else none
  | _ => none

def specJoin (rx1 rx2 : Option (RxView × Int)) : Option RxJoinAccept :=
  match joinAcc rx1 with
  | some j => some j
  | none => joinAcc rx2

def specJoinFaulted (k : Nat) (rx1 rx2 : Option (RxView × Int)) : Option RxJoinAccept :=
  match k with
  | 0 => none
  | 1 => joinAcc rx1
  | _ => specJoin rx1 rx2

theorem window_otaa (m : MacState) (o : OtaaState) (hst : m.st = .otaa o) (f : Option (RxView × Int)) (mp : Nat) :
    window m f mp =
      match joinAcc f with
      | some j => otaaAccept m j >>= fun m' => pure (some { resp := .joinSuccess, downlink := none }, m')
      | none => pure (none, m) := by
  unfold window joinAcc
  cases f with
  | none => rfl
  | some f =>
    obtain ⟨v, snr⟩ := f
    cases v with
    | garbage => simp only [macHandleRx, hst]; rfl
    | data d => simp only [macHandleRx, hst]; rfl
    | joinAccept j =>
      simp only [macHandleRx, hst, Bool.false_eq_true, if_false]
      cases j.micOk
      · rfl
      · simp only [if_true, bind_assoc, pure_bind]; rfl

theorem classACycle_otaa (m : MacState) (o : OtaaState) (hst : m.st = .otaa o) (rx1 rx2 : Option (RxView × Int)) (mp1 mp2 : Nat) :
    classACycle m rx1 rx2 mp1 mp2 =
      match specJoin rx1 rx2 with
      | some j => otaaAccept m j >>= fun m' => pure (.joinSuccess, none, m')
      | none => pure (.noJoinAccept, none, m) := by
  unfold classACycle specJoin
  rw [window_otaa m o hst rx1 mp1]
  cases joinAcc rx1 with
  | some j => simp only [bind_assoc, pure_bind]
  | none =>
    simp only [pure_bind]
    rw [window_otaa m o hst rx2 mp2]
    cases joinAcc rx2 with
    | some j => simp only [bind_assoc, pure_bind]
    | none => simp only [pure_bind, macRx2Complete, hst]

theorem faultedCycle_otaa (m : MacState) (o : OtaaState) (hst : m.st = .otaa o) (k : Nat) (rx1 rx2 : Option (RxView × Int))
    (mp1 mp2 : Nat) :
    faultedCycle m k rx1 rx2 mp1 mp2 =
      match specJoinFaulted k rx1 rx2 with
      | some j => otaaAccept m j
      | none => pure m := by
  unfold faultedCycle specJoinFaulted
  match k with
  | 0 => rfl
  | 1 =>
    simp only []
    rw [window_otaa m o hst rx1 mp1]
    cases joinAcc rx1 with
    | none => rfl
    | some j => simp only [bind_assoc, pure_bind, bind_pure]
  | k + 2 =>
    simp only [specJoin]
    rw [window_otaa m o hst rx1 mp1]
    cases joinAcc rx1 with
    | some j => simp only [bind_assoc, pure_bind, bind_pure]
    | none =>
      simp only [pure_bind]
      rw [window_otaa m o hst rx2 mp2]
      cases joinAcc rx2 with
      | none => rfl
      | some j => simp only [bind_assoc, pure_bind, bind_pure]

theorem macHandleRxc_notJoined (m : MacState) (hst : ∀ s, m.st ≠ .joined s) (v : RxView) (mp : Nat) (snr : Int) :
    macHandleRx m v mp snr true = pure (none, m) := by
  unfold macHandleRx
  cases h : m.st with
  | joined s => exact absurd h (hst s)
  | otaa o => rfl
  | unjoined => rfl

theorem selectTxChannel_id {σ} (g : Rng σ) (rs rs' : RegionState) (dr : Gen.Region.DR) (frame : FrameKind) (s s' : σ) (tx : TxChannel)
    (h : selectTxChannel g rs dr frame s = .ok (tx, rs', s')) : rs'.id = rs.id :=
  (selectTxChannel_selected g rs rs' dr frame s s' tx h).id

theorem macSend_joined {σ} (g : Rng σ) (m : MacState) (s : Session) (hst : m.st = .joined s) (data : List Nat) (fport : Nat)
    (conf : Bool) (rs rs' : σ) (o : Option SendOut) (m1 : MacState) (h : macSend g m data fport conf rs = .ok (o, m1, rs')) :
    ∃ dr tx region' pw rx1 rx2,
      prepareBuffer s m.cfg m.region.id data fport conf = .ok (descOf s m.cfg m.region.id data fport conf, sentSession s conf) ∧
      drOfNat m.cfg.dataRate = .ok dr ∧
      selectTxChannel g m.region dr .data rs = .ok (tx, region', rs') ∧
      m1 = { m with st := .joined (sentSession s conf), region := region' } ∧
      rxWindows m1 tx = .ok (rx1, rx2) ∧
      o = some { tx := { pw := pw, rf := rfOf tx.datarate tx.frequency, rx1 := rx1, rx2 := rx2 },
                 frame := descOf s m.cfg m.region.id data fport conf } := by
  unfold macSend at h
  simp only [hst] at h
  obtain ⟨⟨desc, s1⟩, hpb, h⟩ := Except.bind_eq_ok h
  obtain ⟨rfl, rfl⟩ := prepareBuffer_ok s m.cfg m.region.id data fport conf desc s1 hpb
  obtain ⟨dr, hdr, h⟩ := Except.bind_eq_ok h
  obtain ⟨⟨tx, region', rs1⟩, hsel, h⟩ := Except.bind_eq_ok h
  obtain ⟨pw, hpw, h⟩ := Except.bind_eq_ok h
  obtain ⟨⟨rx1, rx2⟩, hrw, h⟩ := Except.bind_eq_ok h
  cases Except.pure_eq_ok h
  exact ⟨dr, tx, region', pw, rx1, rx2, hpb, hdr, hsel, rfl, hrw, rfl⟩

theorem macSend_notJoined {σ} (g : Rng σ) (m : MacState) (hst : ∀ s, m.st ≠ .joined s) (data : List Nat) (fport : Nat)
    (conf : Bool) (rs : σ) : macSend g m data fport conf rs = .ok (none, m, rs) := by
  unfold macSend
  cases h : m.st with
  | joined s => exact absurd h (hst s)
  | otaa o => rfl
  | unjoined => rfl

theorem macJoinOtaa_ok {σ} (g : Rng σ) (m : MacState) (rs rs' : σ) (o : JoinOut) (m1 : MacState)
    (h : macJoinOtaa g m rs = .ok (o, m1, rs')) :
    ∃ dr tx region' pw rx1 rx2,
      drOfNat m.cfg.dataRate = .ok dr ∧
      selectTxChannel g m.region dr .join (draw g rs).2 = .ok (tx, region', rs') ∧
      m1 = { m with st := .otaa { devNonce := (draw g rs).1 % 65536 }, region := region' } ∧
      rxWindows m1 tx = .ok (rx1, rx2) ∧
      o = { tx := { pw := pw, rf := rfOf tx.datarate tx.frequency, rx1 := rx1, rx2 := rx2 }, devNonce := (draw g rs).1 % 65536 } := by
  unfold macJoinOtaa at h
  simp only at h
  obtain ⟨dr, hdr, h⟩ := Except.bind_eq_ok h
  obtain ⟨⟨tx, region', rs1⟩, hsel, h⟩ := Except.bind_eq_ok h
  obtain ⟨pw, hpw, h⟩ := Except.bind_eq_ok h
  obtain ⟨⟨rx1, rx2⟩, hrw, h⟩ := Except.bind_eq_ok h
  cases Except.pure_eq_ok h
  exact ⟨dr, tx, region', pw, rx1, rx2, hdr, hsel, rfl, hrw, rfl⟩

theorem macJoinOtaa_st {σ} {g : Rng σ} {m m1 : MacState} {rs rs' : σ} {o : JoinOut} (h : macJoinOtaa g m rs = .ok (o, m1, rs')) :
    m1.st = .otaa { devNonce := (draw g rs).1 % 65536 } := by
  obtain ⟨_, _, _, _, _, _, _, _, rfl, _, _⟩ := macJoinOtaa_ok g m rs rs' o m1 h
  rfl

/-- the reference's verdict on the receive procedure of a plain `uplink` event, cut by a fault after `k` windows or not -/
def upRes (last : Option Nat) (fault : Option Nat) (rx1 rx2 : Option (RxView × Int)) (mp1 mp2 : Nat) : WinRes :=
  match fault with
  | some k => specFaulted last k rx1 rx2 mp1 mp2
  | none => specCycle last rx1 rx2 mp1 mp2

/-- the authentic JoinAccept the receive procedure of a plain `joinOtaa` event takes, if any -/
def joinRes (fault : Option Nat) (rx1 rx2 : Option (RxView × Int)) : Option RxJoinAccept :=
  match fault with
  | some k => specJoinFaulted k rx1 rx2
  | none => specJoin rx1 rx2

theorem joinAcc_some {f : Option (RxView × Int)} {j : RxJoinAccept} (h : joinAcc f = some j) :
    ∃ snr, f = some (.joinAccept j, snr) ∧ j.micOk = true := by
  unfold joinAcc at h
  split at h
  · split at h
    · cases h; exact ⟨_, rfl, ‹_›⟩
    · cases h
  · cases h

theorem joinRes_window {fault : Option Nat} {rx1 rx2 : Option (RxView × Int)} {j : RxJoinAccept}
    (h : joinRes fault rx1 rx2 = some j) : joinAcc rx1 = some j ∨ joinAcc rx2 = some j := by
  have hs : specJoin rx1 rx2 = some j → joinAcc rx1 = some j ∨ joinAcc rx2 = some j := by
    intro hs
    unfold specJoin at hs
    split at hs
    · exact Or.inl (hs ▸ ‹_›)
    · exact Or.inr hs
  unfold joinRes at h
  cases fault with
  | none => exact hs h
  | some k =>
    match k with
    | 0 => cases h
    | 1 => exact Or.inl h
    | k + 2 => exact hs h

theorem joinRes_heard {fault : Option Nat} {rx1 rx2 : Option (RxView × Int)} {j : RxJoinAccept}
    (h : joinRes fault rx1 rx2 = some j) :
    ∃ snr, (rx1 = some (.joinAccept j, snr) ∨ rx2 = some (.joinAccept j, snr)) ∧ j.micOk = true := by
  rcases joinRes_window h with h1 | h2
  · obtain ⟨snr, e, hm⟩ := joinAcc_some h1
    exact ⟨snr, Or.inl e, hm⟩
  · obtain ⟨snr, e, hm⟩ := joinAcc_some h2
    exact ⟨snr, Or.inr e, hm⟩

theorem lastOk_accepts {last : Option Nat} {d : RxData} {mp N : Nat} (hw : d.fcnt16 < 65536)
    (h : accepts last d mp = some N) : LastOk (some N) :=
  fresh_lastOk hw (accepts_some.mp h).2.1

theorem specWindow_accepted {last : Option Nat} {f : Option (RxView × Int)} {mp N : Nat} {d : RxData} {snr : Int}
    (hw : rxOk f = true) (h : specWindow last f mp = .accepted N d snr) :
    f = some (.data d, snr) ∧ accepts last d mp = some N ∧ d.fcnt16 < 65536 := by
  unfold specWindow at h
  split at h
  · rename_i d' snr'
    split at h
    · cases h
    · split at h
      · rename_i N' ha
        cases h
        exact ⟨rfl, ha, by simpa [rxOk, viewOk] using hw⟩
      · cases h
  · cases h

theorem specCycle_accepted {last : Option Nat} {rx1 rx2 : Option (RxView × Int)} {mp1 mp2 N : Nat} {d : RxData} {snr : Int}
    (hw1 : rxOk rx1 = true) (hw2 : rxOk rx2 = true) (h : specCycle last rx1 rx2 mp1 mp2 = .accepted N d snr) :
    (rx1 = some (.data d, snr) ∧ accepts last d mp1 = some N ∧ d.fcnt16 < 65536) ∨
    (specWindow last rx1 mp1 = .nothing ∧ rx2 = some (.data d, snr) ∧ accepts last d mp2 = some N ∧ d.fcnt16 < 65536) := by
  unfold specCycle at h
  cases h1 : specWindow last rx1 mp1 with
  | nothing => rw [h1] at h; exact Or.inr ⟨rfl, specWindow_accepted hw2 h⟩
  | ended => rw [h1] at h; cases h
  | accepted N' d' snr' => rw [h1] at h; cases h; exact Or.inl (specWindow_accepted hw1 h1)

theorem upRes_accepted {last : Option Nat} {fault : Option Nat} {rx1 rx2 : Option (RxView × Int)} {mp1 mp2 N : Nat}
    {d : RxData} {snr : Int} (hw1 : rxOk rx1 = true) (hw2 : rxOk rx2 = true)
    (h : upRes last fault rx1 rx2 mp1 mp2 = .accepted N d snr) :
    ∃ mp, accepts last d mp = some N ∧ d.fcnt16 < 65536 := by
  have both : specCycle last rx1 rx2 mp1 mp2 = .accepted N d snr → ∃ mp, accepts last d mp = some N ∧ d.fcnt16 < 65536 :=
    fun h => (specCycle_accepted hw1 hw2 h).elim (fun ⟨_, ha, hw⟩ => ⟨mp1, ha, hw⟩) (fun ⟨_, _, ha, hw⟩ => ⟨mp2, ha, hw⟩)
  unfold upRes at h
  cases fault with
  | none => exact both h
  | some k =>
    simp only at h
    unfold specFaulted at h
    match k with
    | 0 => cases h
    | 1 => exact ⟨mp1, (specWindow_accepted hw1 h).2⟩
    | k + 2 => exact both h

theorem step_uplink_notJoined {σ} (g : Rng σ) (m m' : MacState) (rs rs' : σ) (hst : ∀ s, m.st ≠ .joined s)
    (data : List Nat) (fport : Nat) (conf : Bool) (fault : Option Nat) (rx1 rx2 : Option (RxView × Int)) (mp1 mp2 : Nat)
    (out : Out) (h : step g (m, rs) (.uplink data fport conf fault rx1 rx2 mp1 mp2) = .ok ((m', rs'), out)) :
    m' = m ∧ rs' = rs ∧ out = .notJoined := by
  unfold step at h
  simp only [macSend_notJoined g m hst] at h
  cases Except.pure_eq_ok h
  exact ⟨rfl, rfl, rfl⟩

theorem step_joinOtaa_inv {σ} (g : Rng σ) (m m' : MacState) (rs rs' : σ) (fault : Option Nat)
    (rx1 rx2 : Option (RxView × Int)) (mp1 mp2 : Nat) (out : Out)
    (h : step g (m, rs) (.joinOtaa fault rx1 rx2 mp1 mp2) = .ok ((m', rs'), out)) :
    ∃ jo m1 o, macJoinOtaa g m rs = .ok (jo, m1, rs') ∧ m1.st = .otaa o ∧ m1.cfg = m.cfg ∧
      match joinRes fault rx1 rx2 with
      | some j => otaaAccept m1 j = .ok m' ∧ out = .join jo (if fault.isSome then none else some .joinSuccess)
      | none => m' = m1 ∧ out = .join jo (if fault.isSome then none else some .noJoinAccept) := by
  unfold step at h
  simp only at h
  obtain ⟨⟨jo, m1, rs1⟩, hj, h⟩ := Except.bind_eq_ok h
  obtain ⟨dr, tx, region', pw, r1, r2, _, _, hm1, _, _⟩ := macJoinOtaa_ok g m rs rs1 jo m1 hj
  have hst1 := macJoinOtaa_st hj
  simp only at h
  unfold joinRes
  cases fault with
  | none =>
    simp only at h ⊢
    rw [classACycle_otaa m1 _ hst1 rx1 rx2 mp1 mp2] at h
    obtain ⟨⟨r, dl, m2⟩, hc, h⟩ := Except.bind_eq_ok h
    cases Except.pure_eq_ok h
    refine ⟨jo, m1, _, hj, hst1, by rw [hm1], ?_⟩
    cases hsj : specJoin rx1 rx2 with
    | some j =>
      simp only [hsj] at hc ⊢
      obtain ⟨m3, hacc, hc⟩ := Except.bind_pure_eq_ok hc
      cases hc
      exact ⟨hacc, rfl⟩
    | none =>
      simp only [hsj] at hc ⊢
      cases Except.pure_eq_ok hc
      exact ⟨rfl, rfl⟩
  | some k =>
    simp only at h ⊢
    rw [faultedCycle_otaa m1 _ hst1 k rx1 rx2 mp1 mp2] at h
    obtain ⟨m2, hc, h⟩ := Except.bind_eq_ok h
    cases Except.pure_eq_ok h
    refine ⟨jo, m1, _, hj, hst1, by rw [hm1], ?_⟩
    cases hsj : specJoinFaulted k rx1 rx2 with
    | some j =>
      simp only [hsj] at hc ⊢
      exact ⟨hc, rfl⟩
    | none =>
      simp only [hsj] at hc ⊢
      exact ⟨(Except.pure_eq_ok hc).symm, rfl⟩

/-- what a receive procedure does to the state of a device with a session, one entry per state change -/
inductive Act where
  /-- a frame heard on the RXC parameters is accepted under counter `N` (MAC commands ignored) -/
  | accC (N : Nat) (d : RxData)
  /-- a frame heard in a Class A window is accepted under counter `N` (MAC commands executed) -/
  | accA (N : Nat) (d : RxData) (snr : Int)
  /-- `rx2_complete` -/
  | tmo
  deriving DecidableEq, Repr

/-- `m'` is reached from `m` by the acts, in order.  An acceptance records that its counter is a `u32`, so that `LastOk` of
the session it leaves can be had from the act alone, without the frame -/
def Acts : MacState → List Act → MacState → Prop
  | m, [], m' => m' = m
  | m, .accC N d :: rest, m' => ∃ s, m.st = .joined s ∧ N < 4294967296 ∧ Acts (acceptState m s d N (ctxC m s)) rest m'
  | m, .accA N d snr :: rest, m' =>
    ∃ s ctx, m.st = .joined s ∧ N < 4294967296 ∧ acceptCmds s.pending m.cfg m.region d snr false = .ok ctx ∧
      Acts (acceptState m s d N ctx) rest m'
  | m, .tmo :: rest, m' => Acts (timeoutState m) rest m'

theorem Acts.append_iff {m m' : MacState} {a b : List Act} : Acts m (a ++ b) m' ↔ ∃ m1, Acts m a m1 ∧ Acts m1 b m' := by
  induction a generalizing m with
  | nil => exact ⟨fun h => ⟨m, rfl, h⟩, fun ⟨_, h1, h2⟩ => h1 ▸ h2⟩
  | cons x rest ih =>
    cases x <;> simp only [List.cons_append, Acts, ih]
    · exact ⟨fun ⟨s, hs, hN, m1, h1, h2⟩ => ⟨m1, ⟨s, hs, hN, h1⟩, h2⟩, fun ⟨m1, ⟨s, hs, hN, h1⟩, h2⟩ => ⟨s, hs, hN, m1, h1, h2⟩⟩
    · exact ⟨fun ⟨s, ctx, hs, hN, hc, m1, h1, h2⟩ => ⟨m1, ⟨s, ctx, hs, hN, hc, h1⟩, h2⟩,
        fun ⟨m1, ⟨s, ctx, hs, hN, hc, h1⟩, h2⟩ => ⟨s, ctx, hs, hN, hc, m1, h1, h2⟩⟩

theorem Acts.append {m m1 m' : MacState} {a b : List Act} (h1 : Acts m a m1) (h2 : Acts m1 b m') : Acts m (a ++ b) m' :=
  Acts.append_iff.mpr ⟨m1, h1, h2⟩

theorem Acts.split {m m' : MacState} {a b : List Act} (h : Acts m (a ++ b) m') : ∃ m1, Acts m a m1 ∧ Acts m1 b m' :=
  Acts.append_iff.mp h

theorem Acts.nil (m : MacState) : Acts m [] m := rfl

theorem Acts.tmo1 (m : MacState) : Acts m [.tmo] (timeoutState m) := by simp only [Acts]

theorem Acts.invariant {I : MacState → Prop} (htmo : ∀ m, I m → I (timeoutState m))
    (hC : ∀ m s N d, I m → m.st = .joined s → N < 4294967296 → I (acceptState m s d N (ctxC m s)))
    (hA : ∀ m s N d snr ctx, I m → m.st = .joined s → N < 4294967296 →
      acceptCmds s.pending m.cfg m.region d snr false = .ok ctx → I (acceptState m s d N ctx))
    {acts : List Act} {m m' : MacState} (hi : I m) (h : Acts m acts m') : I m' := by
  induction acts generalizing m with
  | nil => cases h; exact hi
  | cons a rest ih =>
    cases a with
    | accC N d => obtain ⟨s, hs, hN, h⟩ := h; exact ih (hC m s N d hi hs hN) h
    | accA N d snr => obtain ⟨s, ctx, hs, hN, hc, h⟩ := h; exact ih (hA m s N d snr ctx hi hs hN hc) h
    | tmo => exact ih (htmo m hi) h

/-- the acts of a plain receive procedure (`Model/History.lean`), by the reference's verdict: the
accepted frame or `rx2_complete`, and one more `rx2_complete` where a radio fault cut it short after that -/
def plainActs (w : WinRes) (fault : Option Nat) : List Act :=
  match w, fault with
  | .accepted N d snr, none => [.accA N d snr]
  | .accepted N d snr, some _ => [.accA N d snr, .tmo]
  | .ended, some _ => [.tmo, .tmo]
  | _, _ => [.tmo]

/-- what a procedure cut by a radio fault reports: nothing, unless the uplink counter space is exhausted -/
def cutResp (fu : Nat) : Option Response := if fu = 0xFFFFFFFF then some .sessionExpired else none

/-- what the front-end reports and delivers after a plain uplink with counter `fu`, by the reference's verdict -/
def plainOut (fu : Nat) (conf : Bool) : WinRes → Option Nat → Option Response × Option (Nat × List Nat)
  | .accepted N d _, none => (some (accOut fu N d).resp, (accOut fu N d).downlink)
  | _, none => (some (tmoResp fu conf), none)
  | .nothing, some _ => (cutResp fu, none)
  | _, some _ => (cutResp (bumpFu fu), none)

def rxcActs (last : Option Nat) (v : RxView) (mp : Nat) : List Act :=
  match specRxc last v mp with
  | some (N, d) => [.accC N d]
  | none => []

def rxcOut (fu : Nat) (last : Option Nat) (v : RxView) (mp : Nat) : RxOut :=
  match specRxc last v mp with
  | some (N, d) => accOut fu N d
  | none => noUp

/-- `send` by a device with session `s`: the uplink it builds and the state it leaves -/
structure Sent {σ} (g : Rng σ) (m : MacState) (rs : σ) (s : Session) (data : List Nat) (fport : Nat) (conf : Bool)
    (so : SendOut) (m1 : MacState) (rs' : σ) : Prop where
  send : macSend g m data fport conf rs = .ok (some so, m1, rs')
  frame : so.frame = descOf s m.cfg m.region.id data fport conf
  st : m1.st = .joined (sentSession s conf)
  cfg : m1.cfg = m.cfg
  id : m1.region.id = m.region.id

theorem macSend_sent {σ} {g : Rng σ} {m : MacState} {s : Session} (hst : m.st = .joined s) {data : List Nat} {fport : Nat}
    {conf : Bool} {rs rs' : σ} {o : Option SendOut} {m1 : MacState} (h : macSend g m data fport conf rs = .ok (o, m1, rs')) :
    ∃ so, o = some so ∧ Sent g m rs s data fport conf so m1 rs' := by
  obtain ⟨dr, tx, region', pw, r1, r2, _, _, hsel, rfl, _, rfl⟩ := macSend_joined g m s hst data fport conf rs rs' o m1 h
  exact ⟨_, rfl, h, rfl, rfl, rfl, selectTxChannel_id g m.region region' dr .data rs rs' tx hsel⟩

/-- an accepting verdict of the reference, as an act from a state with session `s`: the rule that introduces an
`Act.accA`, named after that constructor -/
theorem Acts.accA {m : MacState} {s : Session} (hst : m.st = .joined s) {fault : Option Nat} {rx1 rx2 : Option (RxView × Int)}
    {mp1 mp2 N : Nat} {d : RxData} {snr : Int} (hw1 : rxOk rx1 = true) (hw2 : rxOk rx2 = true)
    (hu : upRes s.fcntDown fault rx1 rx2 mp1 mp2 = .accepted N d snr) {ctx : MacCtx}
    (hc : acceptCmds s.pending m.cfg m.region d snr false = .ok ctx) {rest : List Act} {m' : MacState}
    (h : Acts (acceptState m s d N ctx) rest m') : Acts m (.accA N d snr :: rest) m' := by
  obtain ⟨mp, ha, hw⟩ := upRes_accepted hw1 hw2 hu
  exact ⟨s, ctx, hst, lastOk_accepts hw ha N rfl, hc, h⟩

/-- the Class A receive procedure of a device with session `s`, run to its end: the report, and the acts that lead
to the state -/
theorem classACycle_acts {m m' : MacState} {s : Session} (hst : m.st = .joined s) (hl : LastOk s.fcntDown)
    {rx1 rx2 : Option (RxView × Int)} {mp1 mp2 : Nat} (hw1 : rxOk rx1 = true) (hw2 : rxOk rx2 = true)
    {r : Response} {dl : Option (Nat × List Nat)} (h : classACycle m rx1 rx2 mp1 mp2 = .ok (r, dl, m')) :
    (some r, dl) = plainOut s.fcntUp s.confirmed (upRes s.fcntDown none rx1 rx2 mp1 mp2) none ∧
      Acts m (plainActs (upRes s.fcntDown none rx1 rx2 mp1 mp2) none) m' := by
  rw [classACycle_joined m s hst hl rx1 rx2 mp1 mp2 hw1 hw2,
    show specCycle s.fcntDown rx1 rx2 mp1 mp2 = upRes s.fcntDown none rx1 rx2 mp1 mp2 from rfl] at h
  have htmo : (pure ((macRx2Complete m).1, none, timeoutState m) : M _) = .ok (r, dl, m') →
      (some r, dl) = (some (tmoResp s.fcntUp s.confirmed), none) ∧ Acts m [.tmo] m' := fun h => by
    cases Except.pure_eq_ok h
    exact ⟨by rw [macRx2Complete_resp m s hst], Acts.tmo1 m⟩
  cases hu : upRes s.fcntDown none rx1 rx2 mp1 mp2 with
  | accepted N d snr =>
    rw [hu] at h
    obtain ⟨ctx, hc, h⟩ := Except.bind_pure_eq_ok h
    cases h
    exact ⟨by rw [acceptOut_eq]; rfl, Acts.accA hst hw1 hw2 hu hc rfl⟩
  | ended => rw [hu] at h; exact htmo h
  | nothing => rw [hu] at h; exact htmo h

/-- the same procedure cut by a radio fault after `k` windows; `rx2_complete` follows -/
theorem faultedCycle_acts {m m2 : MacState} {s : Session} (hst : m.st = .joined s) (hl : LastOk s.fcntDown)
    {rx1 rx2 : Option (RxView × Int)} {mp1 mp2 : Nat} (hw1 : rxOk rx1 = true) (hw2 : rxOk rx2 = true) {k : Nat}
    (h : faultedCycle m k rx1 rx2 mp1 mp2 = .ok m2) :
    ((if faultExpired m2 then some .sessionExpired else none, none) =
        plainOut s.fcntUp s.confirmed (upRes s.fcntDown (some k) rx1 rx2 mp1 mp2) (some k)) ∧
      Acts m (plainActs (upRes s.fcntDown (some k) rx1 rx2 mp1 mp2) (some k)) (faultAfterTx m2) := by
  rw [faultedCycle_joined m s hst hl k rx1 rx2 mp1 mp2 hw1 hw2,
    show specFaulted s.fcntDown k rx1 rx2 mp1 mp2 = upRes s.fcntDown (some k) rx1 rx2 mp1 mp2 from rfl] at h
  rw [faultAfterTx_eq]
  cases hu : upRes s.fcntDown (some k) rx1 rx2 mp1 mp2 with
  | accepted N d snr =>
    rw [hu] at h
    obtain ⟨ctx, hc, h⟩ := Except.bind_pure_eq_ok h
    cases h
    refine ⟨?_, Acts.accA hst hw1 hw2 hu hc (Acts.tmo1 _)⟩
    rw [faultExpired_eq _ _ (acceptState_st m s d N ctx), acceptFinish_session_eq]
    simp only [plainOut, cutResp, decide_eq_true_eq]
  | ended =>
    rw [hu] at h
    cases Except.pure_eq_ok h
    obtain ⟨s', hst', _, hfu, _⟩ := timeoutState_session m s hst
    refine ⟨?_, Acts.tmo1 _⟩
    rw [faultExpired_eq _ _ hst', hfu]
    simp only [plainOut, cutResp, decide_eq_true_eq]
  | nothing =>
    rw [hu] at h
    cases Except.pure_eq_ok h
    refine ⟨?_, Acts.tmo1 _⟩
    rw [faultExpired_eq _ _ hst]
    simp only [plainOut, cutResp, decide_eq_true_eq]

/-- a frame heard on the RXC parameters by a device with session `s`: the report, and the one act (or none) that
leads to the state -/
theorem macHandleRxc_acts {m m' : MacState} {s : Session} (hst : m.st = .joined s) (hl : LastOk s.fcntDown) {v : RxView}
    {mp : Nat} {snr : Int} (hw : viewOk v = true) {o : Option RxOut} (h : macHandleRx m v mp snr true = .ok (o, m')) :
    o = some (rxcOut s.fcntUp s.fcntDown v mp) ∧ Acts m (rxcActs s.fcntDown v mp) m' := by
  rw [macHandleRxc_joined m s hst hl v mp snr hw] at h
  unfold rxcOut rxcActs
  cases hs : specRxc s.fcntDown v mp with
  | none => rw [hs] at h; cases Except.pure_eq_ok h; exact ⟨rfl, rfl⟩
  | some p =>
    rw [hs] at h
    cases Except.pure_eq_ok h
    obtain ⟨rfl, ha⟩ := specRxc_some.mp hs
    exact ⟨by rw [acceptOut_eq], s, hst, lastOk_accepts (by simpa [viewOk] using hw) ha p.1 rfl, rfl⟩

theorem step_rxc_notJoined {σ} (g : Rng σ) (m m' : MacState) (rs rs' : σ) (hst : ∀ s, m.st ≠ .joined s)
    (v : RxView) (snr : Int) (mp : Nat) (out : Out)
    (h : step g (m, rs) (.rxc v snr mp) = .ok ((m', rs'), out)) :
    m' = m ∧ rs' = rs ∧ ∃ rf, macRxcConfig m = .ok rf ∧ out = .rxc rf none := by
  unfold step at h
  simp only at h
  obtain ⟨rf, hrf, h⟩ := Except.bind_eq_ok h
  rw [macHandleRxc_notJoined m hst v mp snr] at h
  cases Except.pure_eq_ok h
  exact ⟨rfl, rfl, rf, hrf, rfl⟩

end Model
