import LoraVerif.Lemmas.RefineOps
import LoraVerif.Lemmas.GhostC
/-!
# From sessions of the async front-end to extended histories, for the history-level theorems

What the lifted history theorems (`historyC_*`) need besides `asyncOps_runC` (`Lemmas/RefineOps.lean`) to be
stated for the front-end: frames with 16-bit wire counters in the scripts give events satisfying `evOkC`
(`abstractOps_evOkC`); with valid calls besides, the events are valid too (`abstractSessionC_ok`).
-/
namespace Model

theorem rxOk_eq (f : Option (RxView × Int)) : rxOk f = rxAll viewOk f := by
  rcases f with _ | ⟨v, snr⟩ <;> rfl

/-- scripts whose frames carry 16-bit wire counters give events whose frames do -/
theorem abstractOp_evOkC (cfg : DevCfg) (op : AsyncOp) (h : op.allView viewOk = true) : evOkC (abstractOp cfg op) = true := by
  cases op with
  | send data port conf script =>
    obtain ⟨_, _, _, _, _, he, _, hP⟩ := abstractC_shape cfg script
    obtain ⟨h1, h2, h3, h4⟩ := hP viewOk h
    simp only [abstractOp, he, evOkC, csOk, rxOk_eq, h1, h2, h3, h4, Bool.and_self]
  | join script =>
    obtain ⟨_, _, _, _, _, _, he, hP⟩ := abstractC_shape cfg script
    obtain ⟨h1, h2, h3, h4⟩ := hP viewOk h
    simp only [abstractOp, he, evOkC, csOk, rxOk_eq, h1, h2, h3, h4, Bool.and_self]
  | abp da nwk app | setAdr on | setDr dr => rfl

theorem abstractOps_evOkC (cfg : DevCfg) (ops : List AsyncOp) (h : ∀ op ∈ ops, op.allView viewOk = true) :
    ∀ ev ∈ ops.map (abstractOp cfg), evOkC ev = true :=
  List.forall_mem_map.mpr fun op hop => abstractOp_evOkC cfg op (h op hop)

/-- the plain event an extended event amounts to keeps 16-bit wire counters -/
theorem evOk_plainOf {σ} (g : Rng σ) (m : MacState) (s : σ) (ev : EvC) (h : evOkC ev = true) : evOk (plainOf g m s ev) = true := by
  cases ev with
  | base e => exact h
  | uplinkC _ _ _ _ _ _ _ _ _ | joinC _ _ _ _ _ _ =>
    simp only [evOkC, Bool.and_eq_true] at h
    simp only [plainOf]
    split <;> exact (Bool.and_eq_true _ _).mpr ⟨h.1.1.2, h.2⟩

/-- the events of a session of valid calls whose frames carry 16-bit wire counters: what the `historyC_*` theorems ask of
`abstractSessionC cfg ops` -/
theorem abstractSessionC_ok (cfg : DevCfg) (r : RegionId) (ops : List AsyncOp)
    (hv : ∀ op ∈ ops, op.allView viewOk = true ∧ op.valid r = true) :
    ∀ ev ∈ abstractSessionC cfg ops, evOkC ev = true ∧ validEvC r ev = true :=
  List.forall_mem_map.mpr fun op hop => ⟨abstractOp_evOkC cfg op (hv op hop).1, abstractOp_valid cfg r op (hv op hop).2⟩

end Model
