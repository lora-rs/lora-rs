import LoraVerif.Model.PhySpi
import LoraVerif.Spec.SemtechSpi
/-! Lemmas about the I/O layer: equations of `Prog.bind` and `trace` (also under `if` and `>>=`), `run` = `trace` when
nothing is scheduled to fail and `run` of the first requests; for the SX126x model, its closed forms (`pllStep`,
`mantExp`) and `set_tx_power_and_ramp_time` in sequence (the SX127x analogues are in `PhyRegs127`). -/
namespace Model.Phy

@[simp] theorem pure_eq_ret {α : Type} (a : α) : (pure a : Prog α) = .ret a := rfl
@[simp] theorem bind_eq {α β : Type} (p : Prog α) (f : α → Prog β) : p >>= f = Prog.bind p f := rfl
@[simp] theorem bind_ret {α β : Type} (a : α) (f : α → Prog β) : Prog.bind (.ret a) f = f a := rfl
@[simp] theorem bind_fail {α β : Type} (e : RadioError) (f : α → Prog β) : Prog.bind (.fail e : Prog α) f = .fail e := rfl
@[simp] theorem bind_panic {α β : Type} (s : String) (f : α → Prog β) : Prog.bind (.panic s : Prog α) f = .panic s := rfl
@[simp] theorem bind_io {α β : Type} (r : Io) (k : Bytes → Prog α) (f : α → Prog β) :
    Prog.bind (.io r k) f = .io r (fun bs => Prog.bind (k bs) f) := rfl

@[simp] theorem bind_ioE {α β : Type} (r : Io) (k : Option Bytes → Prog α) (f : α → Prog β) :
    Prog.bind (.ioE r k) f = .ioE r (fun x => Prog.bind (k x) f) := rfl

/-- `write_with_payload` is one transaction over the concatenation: everything about `intfWrite` holds of it -/
@[simp] theorem intfWriteWithPayload_eq (w p : Bytes) (sl : Bool) : intfWriteWithPayload w p sl = intfWrite (w ++ p) sl := rfl

theorem Prog.bind_assoc {α β γ : Type} (p : Prog α) (g : α → Prog β) (f : β → Prog γ) :
    Prog.bind (Prog.bind p g) f = Prog.bind p (fun a => Prog.bind (g a) f) := by
  induction p with
  | io req k ih | ioE req k ih => simp only [Prog.bind]; congr 1; funext r; exact ih r
  | _ => rfl

theorem Prog.bind_ret_right {α : Type} (p : Prog α) : Prog.bind p .ret = p := by
  induction p with
  | io req k ih | ioE req k ih => simp only [Prog.bind]; congr 1; funext r; exact ih r
  | _ => rfl

/-- A one-armed `if` inside a `do` block is elaborated with what follows it copied into both arms (a join point,
inlined as soon as the definition is unfolded); this puts it back behind the `if`, so that a proof meets it once. -/
theorem Prog.ite_seq {β : Type} (c : Prop) [Decidable c] (a : Prog Unit) (k : Unit → Prog β) :
    (if c then Prog.bind a k else k ()) = Prog.bind (if c then a else .ret ()) k := by
  split <;> rfl

@[simp] theorem trace_ret {α : Type} (a : α) (c : Chip) : trace (.ret a) c = ([], c, .ok a) := rfl
@[simp] theorem trace_fail {α : Type} (e : RadioError) (c : Chip) : trace (.fail e : Prog α) c = ([], c, .err e) := rfl
@[simp] theorem trace_panic {α : Type} (s : String) (c : Chip) : trace (.panic s : Prog α) c = ([], c, .panic s) := rfl
@[simp] theorem trace_spi {α : Type} (w : Bytes) (r : Nat) (k : Bytes → Prog α) (c : Chip) :
    trace (.io (.spi w r) k) c =
      ((w ++ List.replicate r 0) :: (trace (k (c.transact w r).1) (c.transact w r).2).1,
       (trace (k (c.transact w r).1) (c.transact w r).2).2) := rfl
@[simp] theorem traceE_spi {α : Type} (w : Bytes) (r : Nat) (k : Option Bytes → Prog α) (c : Chip) :
    trace (.ioE (.spi w r) k) c =
      ((w ++ List.replicate r 0) :: (trace (k (some (c.transact w r).1)) (c.transact w r).2).1,
       (trace (k (some (c.transact w r).1)) (c.transact w r).2).2) := rfl
@[simp] theorem traceE_busy {α : Type} (k : Option Bytes → Prog α) (c : Chip) : trace (.ioE .busy k) c = trace (k (some [])) c := rfl
@[simp] theorem traceE_irq {α : Type} (k : Option Bytes → Prog α) (c : Chip) : trace (.ioE .irq k) c = trace (k (some [])) c := rfl
@[simp] theorem traceE_rfRx {α : Type} (k : Option Bytes → Prog α) (c : Chip) : trace (.ioE .rfRx k) c = trace (k (some [])) c := rfl
@[simp] theorem traceE_rfTx {α : Type} (k : Option Bytes → Prog α) (c : Chip) : trace (.ioE .rfTx k) c = trace (k (some [])) c := rfl
@[simp] theorem traceE_rfOff {α : Type} (k : Option Bytes → Prog α) (c : Chip) : trace (.ioE .rfOff k) c = trace (k (some [])) c := rfl
@[simp] theorem traceE_reset {α : Type} (k : Option Bytes → Prog α) (c : Chip) : trace (.ioE .reset k) c = trace (k (some [])) c := rfl
@[simp] theorem traceE_delay {α : Type} (ms : Nat) (k : Option Bytes → Prog α) (c : Chip) : trace (.ioE (.delay ms) k) c = trace (k (some [])) c := rfl
@[simp] theorem trace_busy {α : Type} (k : Bytes → Prog α) (c : Chip) : trace (.io .busy k) c = trace (k []) c := rfl
@[simp] theorem trace_irq {α : Type} (k : Bytes → Prog α) (c : Chip) : trace (.io .irq k) c = trace (k []) c := rfl
@[simp] theorem trace_rfRx {α : Type} (k : Bytes → Prog α) (c : Chip) : trace (.io .rfRx k) c = trace (k []) c := rfl
@[simp] theorem trace_rfTx {α : Type} (k : Bytes → Prog α) (c : Chip) : trace (.io .rfTx k) c = trace (k []) c := rfl
@[simp] theorem trace_rfOff {α : Type} (k : Bytes → Prog α) (c : Chip) : trace (.io .rfOff k) c = trace (k []) c := rfl
@[simp] theorem trace_reset {α : Type} (k : Bytes → Prog α) (c : Chip) : trace (.io .reset k) c = trace (k []) c := rfl
@[simp] theorem trace_delay {α : Type} (ms : Nat) (k : Bytes → Prog α) (c : Chip) : trace (.io (.delay ms) k) c = trace (k []) c := rfl

theorem trace_ite {α : Type} (p : Prop) [Decidable p] (a b : Prog α) (c : Chip) :
    trace (if p then a else b) c = if p then trace a c else trace b c :=
  apply_ite (trace · c) _ _ _

/-- chip and outcome after `p >>= f`: those of `f` on what `p` left, unless `p` stopped -/
theorem trace_bind {α β : Type} (p : Prog α) (f : α → Prog β) (c : Chip) :
    (trace (Prog.bind p f) c).2 =
      match (trace p c).2 with
      | (c1, .ok a) => (trace (f a) c1).2
      | (c1, .err e) => (c1, .err e)
      | (c1, .panic s) => (c1, .panic s)
      | (c1, .dropped) => (c1, .dropped) := by
  induction p generalizing c with
  | ret a => rfl
  | fail e => rfl
  | panic s => rfl
  | io req k ih | ioE req k ih => cases req <;> simp only [Prog.bind, trace] <;> exact ih _ _

theorem trace_bind_ok {α β : Type} (p : Prog α) (f : α → Prog β) (c : Chip) (a : α) (h : (trace p c).2.2 = .ok a) :
    (trace (Prog.bind p f) c).2 = (trace (f a) (trace p c).2.1).2 := by
  rw [trace_bind, show (trace p c).2 = ((trace p c).2.1, .ok a) by rw [← h]]

end Model.Phy

namespace Model.Phy.Sx126x
open Gen.PhyCodes126

theorem addr1_val (r : Register) : Register.addr1 r = some (Register.toInt r / 256) := by
  cases r <;> rfl

@[simp] theorem addr1_ret (r : Register) : addr1 r = .ret (byte (Register.toInt r / 256)) := by
  simp [addr1, addr1_val, ofOpt]

/-- the hand model's `pllStep` computes the word of the generated `convert_freq_in_hz_to_pll_step`
(`convert_freq_in_hz_to_pll_step_closed`, `Lemmas/PhyArithLemmas`); no overflow below 2^30 Hz -/
theorem pllStep_closed (f : Nat) (h : f < 1073741824) : pllStep f = some ((f * 16384 + 7812) / 15625) := by
  unfold pllStep
  have hr : f - f / 15625 * 15625 = f % 15625 := by omega
  have h1 : f / 15625 * 16384 % 4294967296 = f / 15625 * 16384 := Nat.mod_eq_of_lt (by omega)
  have h2 : f % 15625 * 16384 % 4294967296 = f % 15625 * 16384 := Nat.mod_eq_of_lt (by omega)
  simp only [hr, h1, h2]
  rw [if_pos (by omega)]
  congr 1
  omega

/-- the `while mant > 31` loop in closed form on the halves the clamp allows: at most one turn -/
theorem mantExp_closed (h : Nat) (hh : h ≤ 124) :
    mantExp h 0 8 = if h > 31 then ((h + 3) / 4, 1) else (h, 0) := by
  by_cases g : h > 31
  · have g2 : ¬ (h + 3) / 4 > 31 := by omega
    simp [mantExp, g, g2]
  · simp [mantExp, g]

/-- what `set_tx_power_and_ramp_time` does before it looks the power up: the TxClampCfg workaround on a high-power
output; on a low-power one the refusal of +15 dBm and more below 400 MHz -/
def txGuard (highPower : Bool) (power : Int) (freq : Option Nat) : Prog Unit :=
  if highPower then do
    let v ← regR8 .TxClampCfg
    regW8 .TxClampCfg (v ||| 0x1e)
  else
    match freq with
    | some f => if power ≥ 15 ∧ f < 400000000 then .fail .InvalidOutputPowerForFrequency else pure ()
    | none => pure ()

/-- `set_tx_power_and_ramp_time` in sequence: the guard, then the part common to all outputs -/
theorem setTxPowerAndRampTime_seq (cfg : Config) (power : Int) (freq : Option Nat) (isTxPrep : Bool) :
    setTxPowerAndRampTime cfg power freq isTxPrep = (do
      txGuard cfg.chip.highPower power freq
      let (entry, txp) ← ofOpt "PaTable::lookup: empty table" (cfg.chip.paTable.lookup power)
      setPaConfig entry.duty entry.hpMax cfg.chip.deviceSel
      intfWrite [op .SetTxParams, txp, byte (RampTime.value (if isTxPrep then .Ramp40Us else .Ramp200Us))]) := by
  unfold setTxPowerAndRampTime txGuard
  cases cfg.chip.highPower
  · rcases freq with _ | f
    · rfl
    · simp only [Bool.false_eq_true, if_false]
      split <;> rfl
  · rfl

end Model.Phy.Sx126x

namespace Model.Phy

attribute [simp] UInt8.ofNat_mod_size'

theorem mosi_append (a b : List Ev) : mosi (a ++ b) = mosi a ++ mosi b := by
  simp [mosi, List.filterMap_append]

/-- With no fault and no drop scheduled, the interpreter computes exactly the denotation `trace`:
same result, same final chip, and the SPI part of its transcript is `trace`'s MOSI list. -/
theorem run_eq_trace {α : Type} (p : Prog α) (w : World) (hf : w.fault = none) (hp : w.pendAt = none) :
    (run p w).1 = (trace p w.chip).2.2 ∧
    (run p w).2.chip = (trace p w.chip).2.1 ∧
    mosi (run p w).2.log = mosi w.log ++ (trace p w.chip).1 ∧
    (run p w).2.fault = none ∧ (run p w).2.pendAt = none := by
  induction p generalizing w with
  | ret a => simp [run, trace, hf, hp]
  | fail e => simp [run, trace, hf, hp]
  | panic s => simp [run, trace, hf, hp]
  -- a request: one step of `run`, then the induction hypothesis on the world after it (its log and
  -- step counter are found by unification with the goal); only the transcript needs an argument
  | io req k ih | ioE req k ih =>
    obtain ⟨chip, log, step, fault, pendAt⟩ := w
    simp only at hf hp
    subst hf hp
    cases req
    all_goals
      simp only [run, trace, reduceCtorEq, and_false, if_false]
      refine ⟨(ih _ ⟨_, _, _, none, none⟩ rfl rfl).1, (ih _ ⟨_, _, _, none, none⟩ rfl rfl).2.1, ?_,
        (ih _ ⟨_, _, _, none, none⟩ rfl rfl).2.2.2⟩
      rw [(ih _ ⟨_, _, _, none, none⟩ rfl rfl).2.2.1]; simp [mosi]

/-- `?`-sequencing commutes with the interpreter -/
theorem run_bind {α β : Type} (p : Prog α) (f : α → Prog β) (w : World) :
    run (Prog.bind p f) w =
      match run p w with
      | (.ok a, w') => run (f a) w'
      | (.err e, w') => (.err e, w')
      | (.panic s, w') => (.panic s, w')
      | (.dropped, w') => (.dropped, w') := by
  induction p generalizing w with
  | ret a => simp [Prog.bind, run]
  | fail e => simp [Prog.bind, run]
  | panic s => simp [Prog.bind, run]
  -- a delay cannot fail; any other request is dropped (`await_irq` pending), fails, or is answered:
  -- the first two end (or hand `none` on) the same way on both sides, the third is the induction hypothesis
  | io req k ih =>
    cases req <;> simp only [Prog.bind, run] <;>
      first
      | exact ih _ _
      | (split
         · rfl
         split
         · rfl
         · exact ih _ _)
  | ioE req k ih =>
    cases req <;> simp only [Prog.bind, run] <;>
      first
      | exact ih _ _
      | (split
         · rfl
         split <;> exact ih _ _)

theorem run_busy (w : World) :
    run (Prog.req .busy) w =
      if w.fault = some w.step then (.err .Busy, { w with log := w.log ++ [⟨.busy, .failed⟩], step := w.step + 1 })
      else (.ok (), { w with log := w.log ++ [⟨.busy, .done⟩], step := w.step + 1 }) := by
  simp [Prog.req, run]; split <;> simp [errOf]

theorem run_rfOff (w : World) :
    run (Prog.req .rfOff) w =
      if w.fault = some w.step then (.err .RfSwitchRx, { w with log := w.log ++ [⟨.rfOff, .failed⟩], step := w.step + 1 })
      else (.ok (), { w with log := w.log ++ [⟨.rfOff, .done⟩], step := w.step + 1 }) := by
  simp [Prog.req, run]; split <;> simp [errOf]

theorem run_intfWrite (bs : Bytes) (w : World) :
    run (intfWrite bs) w =
      if w.fault = some w.step then (.err .SPI, { w with log := w.log ++ [⟨.spi bs 0, .failed⟩], step := w.step + 1 })
      else if w.fault = some (w.step + 1) then
        (.err .Busy, { w with log := w.log ++ [⟨.spi bs 0, .done⟩, ⟨.busy, .failed⟩], step := w.step + 2, chip := (w.chip.transact bs 0).2 })
      else (.ok (), { w with log := w.log ++ [⟨.spi bs 0, .done⟩, ⟨.busy, .done⟩], step := w.step + 2, chip := (w.chip.transact bs 0).2 }) := by
  simp only [intfWrite, Prog.xfer, Prog.req, bind_eq, bind_io, bind_ret, Bool.false_eq_true, if_false]
  simp only [run, reduceCtorEq, false_and, if_false]
  split
  · simp [errOf]
  · simp [errOf, List.append_assoc]

end Model.Phy
