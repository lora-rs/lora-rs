import LoraVerif.Lemmas.AesEval
import LoraVerif.Model.Codec
import LoraVerif.Spec.LoRaWANBridge
/-!
# The published frames of `lorawan-encoding/tests/lorawan.rs`, rebuilt by the model with the Lean AES
(kernel evaluation; kept in their own module so that they are checked in parallel with the proofs).
`C02Vectors` receives what is built here: its `upFrame` is the frame of `up_model`, the input of its `ja_checked` the
frame of `ja_model`.
-/
open Lora Lora.Codec
namespace C01Vectors

def k01 : Key := Vector.replicate 16 0x01
def k02 : Key := Vector.replicate 16 0x02

/-- `phy_dataup_payload`: unconfirmed uplink, DevAddr 01020304, ADR, FCnt 1, port 1, "hello",
NwkSKey 02…02, AppSKey 01…01 -/
def upDesc : DataFrame :=
  { frameType := .unconfirmedUp, devAddr := #v[0x04, 0x03, 0x02, 0x01], adr := true, adrAckReq := false, ack := false,
    fPending := false, fcnt := 1, fOpts := [], payload := .data 1 (by decide) [0x68, 0x65, 0x6c, 0x6c, 0x6f] }

theorem up_model : upDesc.buildInto aes (List.replicate 64 0) k02 (some k01)
    = .ok [0x40, 0x04, 0x03, 0x02, 0x01, 0x80, 0x01, 0x00, 0x01, 0xa6, 0x94, 0x64, 0x26, 0x15, 0xd6, 0xc3, 0xb5, 0x82] := by
  rw [AesEval.aes_eq]; decide +kernel

theorem up_missing_key : upDesc.buildInto aes (List.replicate 64 0) k02 none = .err .missingKey := by decide +kernel
theorem up_short_buffer : upDesc.buildInto aes (List.replicate 17 0) k02 (some k01) = .err .bufferTooShort := by
  decide +kernel

/-- `phy_datadown_payload`: confirmed downlink, FCnt 76543 (only the low 16 bits are on the wire), port 42, "hello lora" -/
def downDesc : DataFrame :=
  { frameType := .confirmedDown, devAddr := #v[0x04, 0x03, 0x02, 0x01], adr := true, adrAckReq := false, ack := false,
    fPending := false, fcnt := 76543, fOpts := [], payload := .data 42 (by decide) [0x68, 0x65, 0x6c, 0x6c, 0x6f, 0x20, 0x6c, 0x6f, 0x72, 0x61] }

theorem down_model : downDesc.buildInto aes (List.replicate 64 0xaa) k02 (some k01)
    = .ok [0xa0, 0x04, 0x03, 0x02, 0x01, 0x80, 0xff, 0x2a, 0x2a, 0x0a, 0xf1, 0xa3, 0x6a, 0x05, 0xd0, 0x12, 0x5f, 0x88, 0x5d, 0x88, 0x1d, 0x49, 0xe1] := by
  rw [AesEval.aes_eq]; decide +kernel

/-- `phy_join_request_payload` (AppKey 01…01) -/
def jrDesc : JoinRequest :=
  { joinEui := #v[4, 3, 2, 1, 4, 3, 2, 1], devEui := #v[5, 4, 3, 2, 5, 4, 3, 2], devNonce := #v[0x2d, 0x10] }

theorem jr_model : jrDesc.buildInto (List.replicate 23 0) ⟨aes, k01⟩
    = .ok [0x00, 0x04, 0x03, 0x02, 0x01, 0x04, 0x03, 0x02, 0x01, 0x05, 0x04, 0x03, 0x02, 0x05, 0x04, 0x03, 0x02, 0x2d, 0x10, 0x6a, 0x99, 0x0e, 0x12] := by
  rw [AesEval.aes_eq]; decide +kernel

/-- `phy_join_accept_payload` (AppKey 00112233…ff), whose decrypted form the tests pin as
`20 c70b57 011122 80190302 00 00 43485bbc` -/
def jaDesc : JoinAccept :=
  { joinNonce := #v[0xc7, 0x0b, 0x57], netId := #v[0x01, 0x11, 0x22], devAddr := #v[0x80, 0x19, 0x03, 0x02],
    dlSettings := 0, rxDelay := 0, cFList := none }

def appKey : Key := #v[0x00, 0x11, 0x22, 0x33, 0x44, 0x55, 0x66, 0x77, 0x88, 0x99, 0xaa, 0xbb, 0xcc, 0xdd, 0xee, 0xff]

theorem ja_model : jaDesc.buildInto (List.replicate 17 0) ⟨aes, appKey⟩
    = .ok [0x20, 0x49, 0x3e, 0xeb, 0x51, 0xfb, 0xa2, 0x11, 0x6f, 0x81, 0x0e, 0xdb, 0x37, 0x42, 0x97, 0x51, 0x42] := by
  rw [AesEval.aes_eq]; decide +kernel

end C01Vectors
