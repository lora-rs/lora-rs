import LoraVerif.Lemmas.PhyInv
/-!
# Two small calculi over `wp`: configuration operations (`Cfg`, `CfgN`) and read-out operations (`RO`)

`Cfg p g`: on an awake chip with the flags down, `p` keeps the flags down, only adds programmed
items (among them `g` on success) and fails only with infrastructure errors.  Closed under `?`-
sequencing, `if`, `pure`, `fail`; the leaves are single SPI transactions whose command is benign
(not a sleep / start command).  `CfgN need p g` is the same on a chip that has `need` programmed: there a
start command is a leaf too.  `RO A p t`: `p` leaves the tracker at `t`.  What a chip's transactions do to the
tracker (which are benign, which start what) is said per chip, in `PhyOps126` / `PhyOps127`.
-/
namespace Model.Phy

section
variable {kind : Kind} {n : Needs}

theorem Cfg.pure {α : Type} (a : α) : Cfg kind n (Pure.pure a : Prog α) {} :=
  fun _ hc _ => ⟨Ext.refl hc, Items.none_le _⟩

theorem Cfg.fail {α : Type} (e : RadioError) (g : Items) (he : Abort.infra (.err e)) : Cfg kind n (Prog.fail e : Prog α) g :=
  fun _ hc _ => ⟨Ext.refl hc, he⟩

theorem Cfg.panic {α : Type} (s : String) (g : Items) : Cfg kind n (Prog.panic s : Prog α) g :=
  fun _ hc _ => ⟨Ext.refl hc, rfl⟩

theorem Cfg.weaken {α : Type} {p : Prog α} {g g' : Items} (h : Cfg kind n p g) (hg : g'.le g) : Cfg kind n p g' :=
  fun t hc ha => wp_mono _ _ _ (h t hc ha) (fun _ _ hq => ⟨hq.1, Items.le_trans hg hq.2⟩) (fun _ _ he => he)

theorem Cfg.zero {α : Type} {p : Prog α} {g : Items} (h : Cfg kind n p g) : Cfg kind n p {} := h.weaken (Items.none_le _)

theorem Cfg.bind {α β : Type} {p : Prog α} {f : α → Prog β} {g1 g2 : Items} (h1 : Cfg kind n p g1) (h2 : ∀ a, Cfg kind n (f a) g2) :
    Cfg kind n (p >>= f) (g1.union g2) := by
  intro t hc ha
  show wp kind n (Prog.bind p f) _ _ t
  rw [wp_bind]
  refine wp_mono _ _ _ (h1 t hc ha) (fun a t1 hq => ?_) (fun _ _ he => he)
  refine wp_mono _ _ _ (h2 a t1 hq.1.clean (hq.1.aw ha)) (fun _ t2 hq2 => ?_) (fun _ t2 he => ⟨hq.1.trans he.1, he.2⟩)
  exact ⟨hq.1.trans hq2.1, Items.union_le (hq2.1.le hq.2) hq2.2⟩

theorem Cfg.bind_l {α β : Type} {p : Prog α} {f : α → Prog β} {g : Items} (h1 : Cfg kind n p g) (h2 : ∀ a, Cfg kind n (f a) {}) :
    Cfg kind n (p >>= f) g :=
  (Cfg.bind h1 h2).weaken (by simp only [Items.le, Items.union, Bool.or_false]; simp)

theorem Cfg.bind_r {α β : Type} {p : Prog α} {f : α → Prog β} {g : Items} (h1 : Cfg kind n p {}) (h2 : ∀ a, Cfg kind n (f a) g) :
    Cfg kind n (p >>= f) g :=
  (Cfg.bind h1 h2).weaken (by simp only [Items.le, Items.union, Bool.false_or]; simp)

theorem Cfg.bind0 {α β : Type} {p : Prog α} {f : α → Prog β} (h1 : Cfg kind n p {}) (h2 : ∀ a, Cfg kind n (f a) {}) :
    Cfg kind n (p >>= f) {} := Cfg.bind_r h1 h2

/-- sequencing against a fixed goal: what the first part programs need not be programmed by the rest -/
theorem Cfg.step {α β : Type} {p : Prog α} {f : α → Prog β} {g g1 : Items} (h1 : Cfg kind n p g1)
    (h2 : ∀ a, Cfg kind n (f a) (g.diff g1)) : Cfg kind n (p >>= f) g :=
  (Cfg.bind h1 h2).weaken (Items.le_union_diff g g1)

theorem Cfg.ite {α : Type} {c : Prop} [Decidable c] {p q : Prog α} {g : Items} (h1 : Cfg kind n p g) (h2 : Cfg kind n q g) :
    Cfg kind n (if c then p else q) g := by split <;> assumption

/-- a one-armed `if` followed by the rest of a `do` block: the elaborator copies the rest into both arms (a join
point); here it is met once.  The arm's items are programmed when the condition holds. -/
theorem Cfg.ite_seq {β : Type} {c : Prop} [Decidable c] {a : Prog Unit} {k : Unit → Prog β} {g1 g2 : Items}
    (h1 : Cfg kind n a g1) (h2 : Cfg kind n (k ()) g2) :
    Cfg kind n (if c then a >>= k else k ()) (if c then g1.union g2 else g2) := by
  split
  · exact Cfg.bind h1 fun _ => h2
  · exact h2

theorem cfg_plain (r : Io) (hr : r.isPlain = true := by rfl) : Cfg kind n (Prog.req r) {} := by
  intro t hc _
  rw [wp_req_plain kind n r hr]
  refine ⟨⟨Ext.refl hc, ?_⟩, Ext.refl hc, Items.none_le _⟩
  cases r <;> first | rfl | exact absurd hr Bool.false_ne_true

/-- a single transaction whose tracker step is benign -/
theorem cfg_of_step {g : Items} {w : Bytes} (h : ∀ t, Clean t → Aw t → Ext t (spiStep kind n t w) ∧ g.le (spiStep kind n t w).items) :
    Cfg kind n (intfWrite w) g := by
  intro t hc ha
  rw [wp_intfWrite]
  have := h t hc ha
  exact ⟨⟨Ext.refl hc, rfl⟩, ⟨this.1, rfl⟩, this⟩

theorem start_ext {t : ChipTrack} (hc : Clean t) {m : ChipMode} {need : Items} (hn : need.le t.items)
    (hm : m ≠ .sleep ∧ m ≠ .rxDuty) : Ext t (start t m need) := by
  obtain ⟨c1, c2⟩ := hc
  have := (Items.covers_iff t.items need).2 hn
  exact ⟨⟨c1, by simp [start, c2, this]⟩, Items.le_refl _, fun h => absurd h hm.1, fun h => absurd h hm.2⟩

theorem cfg_of_step_read {w : Bytes} {r : Nat} (h : ∀ t, Clean t → Aw t → Ext t (spiStep kind n t w)) :
    Cfg kind n (intfRead w r) {} := by
  intro t hc ha
  rw [wp_intfRead]
  have := h t hc ha
  exact ⟨⟨Ext.refl hc, rfl⟩, ⟨this, rfl⟩, fun _ => ⟨this, Items.none_le _⟩⟩

theorem cfg_of_step_readStatus {w : Bytes} {r : Nat} (h : ∀ t, Clean t → Aw t → Ext t (spiStep kind n t w)) :
    Cfg kind n (intfReadWithStatus w r) {} := by
  intro t hc ha
  have := h t hc ha
  exact wp_intfReadWithStatus kind n w r _ _ t ⟨Ext.refl hc, rfl⟩ ⟨this, rfl⟩ (fun _ => ⟨this, Items.none_le _⟩)

/-- a configuration operation inside a stretch of them that began at `t₀`, then anything: `Ext t₀ ·` is carried
from step to step (see `mwp_cfg`) -/
theorem wp_cfg_bind {α β : Type} {p : Prog α} {f : α → Prog β} {g : Items} (hp : Cfg kind n p g)
    {Q : β → ChipTrack → Prop} {E : Abort → ChipTrack → Prop} {t₀ t : ChipTrack} (e : Ext t₀ t) (ha : Aw t₀)
    (he : ∀ a t', Ext t₀ t' → a.infra → E a t') (hq : ∀ a t', Ext t₀ t' → wp kind n (f a) Q E t') :
    wp kind n (p >>= f) Q E t := by
  show wp kind n (Prog.bind p f) _ _ t
  rw [wp_bind]
  exact wp_mono _ _ _ (hp t e.clean (e.aw ha)) (fun a t' h => hq a t' (e.trans h.1)) (fun a t' h => he a t' (e.trans h.1) h.2)

/-! ### the starts: configuration operations on a chip that has what they need -/

/-- what each kind of start needs -/
def Needs.of (n : Needs) : ChipMode → Items
  | .tx => n.tx
  | .cad => n.cad
  | .rx | .rxDuty => n.rx
  | _ => {}

/-- `Cfg` on a chip on which `need` is programmed.  With it SetTx / SetRx / SetCad are leaves of the same calculus
(`cfg_start126`, `Sx127x.cfg_opMode`), and `do_tx`, `do_cad` and the receptions whose start keeps the chip awake are
derivations like `set_packet_params`.  Not the SX126x duty-cycle reception: after SetRxDutyCycle the chip may be
asleep, so its post is not `Ext`, and `Sx126x.doRx_spec` walks its program by hand. -/
def CfgN (kind : Kind) (n : Needs) (need : Items) {α : Type} (p : Prog α) (g : Items) : Prop :=
  ∀ t, Clean t → Aw t → need.le t.items →
    wp kind n p (fun _ t' => Ext t t' ∧ g.le t'.items) (fun a t' => Ext t t' ∧ a.infra) t

theorem Cfg.toN {α : Type} {p : Prog α} {g : Items} (h : Cfg kind n p g) (need : Items) : CfgN kind n need p g :=
  fun t hc ha _ => h t hc ha

/-- configuration operations first, then something that relies on `need`: `Ext` keeps `need` programmed -/
theorem CfgN.seq {α β : Type} {p : Prog α} {f : α → Prog β} {need g1 g : Items} (h1 : Cfg kind n p g1)
    (h2 : ∀ a, CfgN kind n need (f a) g) : CfgN kind n need (p >>= f) g := by
  intro t hc ha hn
  show wp kind n (Prog.bind p f) _ _ t
  rw [wp_bind]
  refine wp_mono _ _ _ (h1 t hc ha) (fun a t1 hq => ?_) (fun _ _ he => he)
  exact wp_mono _ _ _ (h2 a t1 hq.1.clean (hq.1.aw ha) (hq.1.le hn)) (fun _ _ hq2 => ⟨hq.1.trans hq2.1, hq2.2⟩)
    (fun _ _ he => ⟨hq.1.trans he.1, he.2⟩)

theorem cfgN_of_step {need : Items} {w : Bytes}
    (h : ∀ t, Clean t → Aw t → need.le t.items → Ext t (spiStep kind n t w)) : CfgN kind n need (intfWrite w) {} := by
  intro t hc ha hn
  rw [wp_intfWrite]
  have := h t hc ha hn
  exact ⟨⟨Ext.refl hc, rfl⟩, ⟨this, rfl⟩, this, Items.none_le _⟩

/-- the form in which `OpsSpec` asks for `do_tx` / `do_cad` -/
theorem CfgN.spec {α : Type} {p : Prog α} {need g : Items} (h : CfgN kind n need p g) (t : ChipTrack) (hc : Clean t)
    (ha : Aw t) (hn : need.le t.items) : wp kind n p (fun _ t' => Ext t t') (fun a t' => Ext t t' ∧ a.infra) t :=
  wp_mono _ _ _ (h t hc ha hn) (fun _ _ hq => hq.1) (fun _ _ he => he)

end

/-! ## read-out operations: the tracker stays where it is -/
section
variable (kind : Kind) (n : Needs)

/-- `p` never moves the tracker from `t`; its abnormal endings satisfy `A`.  `ReadOnly` (PhyInv.lean), in which
`OpsSpec` asks for the read-out operations, is the case `A = Abort.infra`; `A` is a parameter because
`process_irq_event`, whose `Result` the caller matches, may end with any error (`A = fun _ => True`). -/
def RO (A : Abort → Prop) {α : Type} (p : Prog α) (t : ChipTrack) : Prop :=
  wp kind n p (fun _ t' => t' = t) (fun a t' => t' = t ∧ A a) t


variable {kind n} {A : Abort → Prop}

theorem RO.pure {α : Type} (a : α) (t : ChipTrack) : RO kind n A (Pure.pure a : Prog α) t := rfl
theorem RO.ret {α : Type} (a : α) (t : ChipTrack) : RO kind n A (Prog.ret a : Prog α) t := rfl
theorem RO.fail {α : Type} (e : RadioError) (t : ChipTrack) (h : A (.err e)) : RO kind n A (Prog.fail e : Prog α) t := ⟨rfl, h⟩
theorem RO.panic {α : Type} (s : String) (t : ChipTrack) (h : A .panic) : RO kind n A (Prog.panic s : Prog α) t := ⟨rfl, h⟩

theorem RO.bind {α β : Type} {p : Prog α} {f : α → Prog β} {t : ChipTrack} (h1 : RO kind n A p t) (h2 : ∀ a, RO kind n A (f a) t) :
    RO kind n A (p >>= f) t := by
  show wp kind n (Prog.bind p f) _ _ t
  rw [wp_bind]
  exact wp_mono _ _ _ h1 (fun a t1 hq => hq ▸ h2 a) (fun _ _ he => he)

theorem RO.ite {α : Type} {c : Prop} [Decidable c] {p q : Prog α} {t : ChipTrack} (h1 : RO kind n A p t) (h2 : RO kind n A q t) :
    RO kind n A (if c then p else q) t := by split <;> assumption

/-- a one-armed `if` followed by the rest of a `do` block (see `Cfg.ite_seq`) -/
theorem RO.ite_seq {β : Type} {c : Prop} [Decidable c] {a : Prog Unit} {k : Unit → Prog β} {t : ChipTrack}
    (h1 : RO kind n A a t) (h2 : RO kind n A (k ()) t) : RO kind n A (if c then a >>= k else k ()) t := by
  split
  · exact RO.bind h1 fun _ => h2
  · exact h2

theorem RO.mono {α : Type} {A' : Abort → Prop} {p : Prog α} {t : ChipTrack} (h : RO kind n A p t) (ha : ∀ a, A a → A' a) :
    RO kind n A' p t := wp_mono _ _ _ h (fun _ _ hq => hq) (fun _ _ he => ⟨he.1, ha _ he.2⟩)

/-- the form in which `OpsSpec` asks for `process_irq_event` -/
theorem RO.spec {α : Type} {p : Prog α} {t : ChipTrack} (h : RO kind n A p t) :
    wp kind n p (fun _ t' => t' = t) (fun _ t' => t' = t) t := wp_mono _ _ _ h (fun _ _ hq => hq) fun _ _ he => he.1

theorem RO.plain {r : Io} (hr : r = .busy ∨ r = .rfRx ∨ r = .rfTx ∨ r = .rfOff) (t : ChipTrack) (h : A (.err (errOf r))) :
    RO kind n A (Prog.req r) t := by
  unfold RO
  rw [wp_req_plain kind n r (by rcases hr with rfl | rfl | rfl | rfl <;> rfl)]
  exact ⟨⟨rfl, h⟩, rfl⟩

theorem RO.write {w : Bytes} {t : ChipTrack} (hs : spiStep kind n t w = t) (h1 : A (.err .SPI)) (h2 : A (.err .Busy)) :
    RO kind n A (intfWrite w) t := by
  unfold RO; rw [wp_intfWrite, hs]; exact ⟨⟨rfl, h1⟩, ⟨rfl, h2⟩, rfl⟩

theorem RO.read {w : Bytes} {r : Nat} {t : ChipTrack} (hs : spiStep kind n t w = t) (h1 : A (.err .SPI)) (h2 : A (.err .Busy)) :
    RO kind n A (intfRead w r) t := by
  unfold RO; rw [wp_intfRead, hs]; exact ⟨⟨rfl, h1⟩, ⟨rfl, h2⟩, fun _ => rfl⟩

theorem RO.readStatus {w : Bytes} {r : Nat} {t : ChipTrack} (hs : spiStep kind n t w = t) (h1 : A (.err .SPI)) (h2 : A (.err .Busy)) :
    RO kind n A (intfReadWithStatus w r) t :=
  wp_intfReadWithStatus kind n w r _ _ t ⟨rfl, h1⟩ ⟨hs, h2⟩ (fun _ => hs)

theorem RO.readStatusE {w : Bytes} {r : Nat} {t : ChipTrack} (hs : spiStep kind n t w = t) :
    RO kind n A (intfReadWithStatusE w r) t := by
  simp only [RO, intfReadWithStatusE, wp, Io.isDelay, reduceCtorEq, false_implies, true_and, trackEv_spi, hs, trackEv_busy,
    forall_const, and_self]

theorem RO.readE {w : Bytes} {r : Nat} {t : ChipTrack} (hs : spiStep kind n t w = t) :
    RO kind n A (intfReadE w r) t := by
  simp only [RO, intfReadE, wp, Io.isDelay, reduceCtorEq, false_implies, true_and, trackEv_spi, hs, trackEv_busy,
    forall_const, and_self]

theorem RO.awaitIrq (t : ChipTrack) (h1 : A (.err .Irq)) (h2 : A .dropped) : RO kind n A (Prog.req .irq) t := by
  unfold RO; rw [wp_awaitIrq]; exact ⟨⟨rfl, h1⟩, ⟨rfl, h2⟩, rfl⟩

theorem RO.attempt_noio {α : Type} {p : Prog α} (t : ChipTrack)
    (h : (∃ v, p = .ret v) ∨ (∃ e, p = .fail e) ∨ (∃ s, p = .panic s)) (hp : A .panic) :
    RO kind n A (attempt p) t := by
  rcases h with ⟨v, rfl⟩ | ⟨e, rfl⟩ | ⟨s, rfl⟩
  · exact rfl
  · exact rfl
  · exact ⟨rfl, hp⟩

end

end Model.Phy
