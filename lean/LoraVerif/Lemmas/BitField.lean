/-!
# Bit fields of a natural number

A field is the `w` bits from bit `k` up of an `n`-bit word.  The code writes one by `x & !(mask << k) | (v << k)` and tests a
flag by `x & (1 << k)`; the specifications say the same with `/`, `%` and `2 ^ _`.  The two meet bit by bit, here, for every
`n`; the three encodings of a machine word read it off: `Nat` (MAC commands, channel masks: `Lemmas/FieldAlgebra`,
`MacCmdSetAgree`, `JoinWalk`), `Int` under `Rt.andI` / `Rt.orI` (`Lemmas/RtLemmas`: the frame counter, PHY registers, the mask
ties) and `UInt8` (`CodecLemmas.flag_testBit`).
-/
namespace BitField

theorem testBit_of_lt {x n i : Nat} (hx : x < 2 ^ n) (h : n ≤ i) : x.testBit i = false :=
  Nat.testBit_lt_two_pow (Nat.lt_of_lt_of_le hx (Nat.pow_le_pow_right (by decide) h))

theorem shiftLeft_lt {v k w n : Nat} (hv : v < 2 ^ w) (h : k + w ≤ n) : v <<< k < 2 ^ n := by
  rw [Nat.shiftLeft_eq]
  calc v * 2 ^ k < 2 ^ w * 2 ^ k := Nat.mul_lt_mul_of_pos_right hv (Nat.two_pow_pos k)
    _ = 2 ^ (w + k) := (Nat.pow_add 2 w k).symm
    _ ≤ 2 ^ n := Nat.pow_le_pow_right (by decide) (by omega)

theorem testBit_field_write (N lo w v i : Nat) :
    (N % 2 ^ lo + 2 ^ lo * (v % 2 ^ w + 2 ^ w * (N / 2 ^ (lo + w)))).testBit i
      = if i < lo then N.testBit i else if i < lo + w then v.testBit (i - lo) else N.testBit i := by
  rw [Nat.add_comm, Nat.testBit_two_pow_mul_add _ (Nat.mod_lt _ (Nat.two_pow_pos lo)), Nat.add_comm (v % 2 ^ w),
    Nat.testBit_two_pow_mul_add _ (Nat.mod_lt _ (Nat.two_pow_pos w)), Nat.testBit_mod_two_pow, Nat.testBit_mod_two_pow,
    Nat.testBit_div_two_pow]
  split
  · simp [*]
  · split
    · rw [if_pos (by omega)]; simp; omega
    · rw [if_neg (by omega)]; congr 1; omega

theorem testBit_keep_mask {n k w : Nat} (h : k + w ≤ n) (i : Nat) :
    (2 ^ n - 1 - (2 ^ w - 1) <<< k).testBit i = (decide (i < n) && !(decide (k ≤ i) && decide (i < k + w))) := by
  have hlt := shiftLeft_lt (Nat.sub_lt (Nat.two_pow_pos w) (by decide : 0 < 1)) h
  rw [show 2 ^ n - 1 - (2 ^ w - 1) <<< k = 2 ^ n - ((2 ^ w - 1) <<< k + 1) by omega,
    Nat.testBit_two_pow_sub_succ hlt, Nat.testBit_shiftLeft, Nat.testBit_two_pow_sub_one]
  by_cases h1 : k ≤ i <;> by_cases h2 : i < k + w <;> simp [h1, h2] <;> omega

theorem testBit_clear_bit {n j : Nat} (hj : j < n) (i : Nat) : (2 ^ n - 1 - 1 <<< j).testBit i = (decide (i < n) && i != j) := by
  rw [testBit_keep_mask (w := 1) (show j + 1 ≤ n from hj)]
  by_cases e : i = j
  · subst e; simp
  · congr 1
    by_cases h1 : j ≤ i
    · simp [e, h1, show ¬ i < j + 1 by omega]
    · simp [e, h1]

theorem mask_write {n o k w v : Nat} (ho : o < 2 ^ n) (h : k + w ≤ n) (hv : v < 2 ^ w) :
    (o &&& (2 ^ n - 1 - (2 ^ w - 1) <<< k)) ||| (v <<< k) = o % 2 ^ k + 2 ^ k * (v % 2 ^ w + 2 ^ w * (o / 2 ^ (k + w))) := by
  apply Nat.eq_of_testBit_eq; intro i
  rw [testBit_field_write, Nat.testBit_or, Nat.testBit_and, testBit_keep_mask h, Nat.testBit_shiftLeft]
  by_cases h1 : i < k
  · simp [h1, show ¬ k ≤ i by omega]
    intro hi; exact Nat.lt_of_not_le fun hn => by rw [testBit_of_lt ho hn] at hi; cases hi
  · by_cases h2 : i < k + w
    · simp [h1, h2, show k ≤ i by omega]
    · simp [h1, h2, show k ≤ i by omega, testBit_of_lt hv (show w ≤ i - k by omega)]
      intro hi; exact Nat.lt_of_not_le fun hn => by rw [testBit_of_lt ho hn] at hi; cases hi

theorem mask_write_low {n o w v : Nat} (ho : o < 2 ^ n) (h : w ≤ n) (hv : v < 2 ^ w) :
    (o &&& (2 ^ n - 2 ^ w)) ||| v = o / 2 ^ w * 2 ^ w + v := by
  have := mask_write (k := 0) ho (by omega) hv
  rw [Nat.shiftLeft_zero, Nat.shiftLeft_zero, Nat.pow_zero, Nat.mod_one, Nat.zero_add, Nat.one_mul, Nat.zero_add,
    Nat.mod_eq_of_lt hv, show 2 ^ n - 1 - (2 ^ w - 1) = 2 ^ n - 2 ^ w by have := Nat.two_pow_pos w; omega] at this
  rw [this, Nat.mul_comm, Nat.add_comm]

theorem and_two_pow (x k : Nat) : x &&& 2 ^ k = if x.testBit k then 2 ^ k else 0 := by
  apply Nat.eq_of_testBit_eq; intro i
  rw [Nat.testBit_and, Nat.testBit_two_pow]
  by_cases h : k = i
  · subst h; cases hx : x.testBit k <;> simp
  · cases hx : x.testBit k <;> simp [h]

theorem and_two_pow_eq_zero (x k : Nat) : x &&& 2 ^ k = 0 ↔ x.testBit k = false := by
  rw [and_two_pow]; cases x.testBit k <;> simp

end BitField
