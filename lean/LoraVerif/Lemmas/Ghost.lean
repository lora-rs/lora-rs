import LoraVerif.Lemmas.Cycle
import LoraVerif.Lemmas.Trace
/-!
# The reference session tracker and its relation to the MAC state

`Gh = Option (Option Nat)`: `none` — the device has no session (never activated, or joining);
`some last` — a session exists and `last` is the counter of the last downlink the REFERENCE accepted
in it (`none`: none yet).  `ghStep` moves it by events alone (the decoded views of the frames the
event carries, `Spec/Freshness.lean`); nothing of the model enters `ghStep` (the extended tracker
`ghNextC` of `Lemmas/GhostC.lean` also reads the window limits off the model's output).  `GhRel` ties it to the model
state.  `Stepped` lists what one event can do to a tracked device (`step_cases`); a step lemma that has `GhRel` and
`evOk` at hand is a case analysis over it.  The first is `step_ghRel`: every step of every history preserves the tie.
The step lemmas of C05, C08, C12 and C20 go the same way, and those of C07 that compare the steps of two tracked
devices.  Step lemmas stated for an arbitrary state (the session
lemmas of C06, C10, C11) have neither and walk `step` themselves.
-/
namespace Model

abbrev Gh := Option (Option Nat)

/-- the last accepted counter after a window verdict -/
def ghWin (last : Option Nat) : WinRes → Option Nat
  | .accepted N _ _ => some N
  | _ => last

/-- the tracker across one event: a successful activation starts a session, a failed OTAA join leaves none, the
configuration calls keep it -/
def ghStep (gh : Gh) (ev : Ev) : Gh :=
  match ev with
  | .joinAbp _ _ _ => some none
  | .joinOtaa fault rx1 rx2 _ _ =>
    (match joinRes fault rx1 rx2 with
     | some _ => some none
     | none => none)
  | .uplink _ _ _ fault rx1 rx2 mp1 mp2 => gh.map (fun last => ghWin last (upRes last fault rx1 rx2 mp1 mp2))
  | .rxc v _ mp => gh.map (fun last => match specRxc last v mp with | some (N, _) => some N | none => last)
  | .setAdr _ => gh
  | .setDr _ => gh

def ghRun (gh : Gh) (evs : List Ev) : Gh := evs.foldl ghStep gh

/-- the tracker describes the state: no session, or a session whose stored downlink counter is the tracked one -/
def GhRel (m : MacState) (gh : Gh) : Prop :=
  match gh with
  | none => ∀ s, m.st ≠ .joined s
  | some last => ∃ s, m.st = .joined s ∧ s.fcntDown = last ∧ LastOk last

theorem GhRel.none {m : MacState} (h : ∀ s, m.st ≠ .joined s) : GhRel m none := h

theorem GhRel.some {m : MacState} {s : Session} (h : m.st = .joined s) (hl : LastOk s.fcntDown) : GhRel m (some s.fcntDown) :=
  ⟨s, h, rfl, hl⟩

theorem ghRel_init (r : RegionState) (p : Nat) (gain : Int) : GhRel (MacState.init r p gain) none := by
  intro s h; cases h

theorem ghRel_timeout {m : MacState} {last : Option Nat} (h : GhRel m (some last)) : GhRel (timeoutState m) (some last) := by
  obtain ⟨s, hst, hfd, hl⟩ := h
  obtain ⟨s', hst', hfd', _⟩ := timeoutState_session m s hst
  exact ⟨s', hst', hfd'.trans hfd, hl⟩

theorem ghRel_accept {m : MacState} {s : Session} {d : RxData} {N : Nat} {ctx : MacCtx} (hl : LastOk (some N)) :
    GhRel (acceptState m s d N ctx) (some (some N)) := by
  exact ⟨_, acceptState_st m s d N ctx, by rw [acceptFinish_session_eq], hl⟩

/-- the counter of the last accepted downlink after the acts of a receive procedure -/
def ghActs : Option Nat → List Act → Option Nat
  | last, [] => last
  | _, .accC N _ :: rest => ghActs (some N) rest
  | _, .accA N _ _ :: rest => ghActs (some N) rest
  | last, .tmo :: rest => ghActs last rest

theorem ghActs_plainActs (last : Option Nat) (w : WinRes) (fault : Option Nat) :
    ghActs last (plainActs w fault) = ghWin last w := by
  cases w <;> cases fault <;> rfl

theorem acts_ghRel {acts : List Act} {m m' : MacState} {last : Option Nat} (hr : GhRel m (some last))
    (h : Acts m acts m') : GhRel m' (some (ghActs last acts)) := by
  induction acts generalizing m last with
  | nil => cases h; exact hr
  | cons a rest ih =>
    cases a with
    | accC N d =>
      obtain ⟨s, _, hN, h⟩ := h
      exact ih (ghRel_accept fun l e => by cases e; exact hN) h
    | accA N d snr =>
      obtain ⟨s, ctx, _, hN, _, h⟩ := h
      exact ih (ghRel_accept fun l e => by cases e; exact hN) h
    | tmo => exact ih (ghRel_timeout hr) h

theorem Sent.ghRel {σ} {g : Rng σ} {m : MacState} {rs : σ} {s : Session} {data : List Nat} {fport : Nat} {conf : Bool}
    {so : SendOut} {m1 : MacState} {rs' : σ} (hs : Sent g m rs s data fport conf so m1 rs') (hl : LastOk s.fcntDown) :
    GhRel m1 (some s.fcntDown) :=
  ⟨_, hs.st, rfl, hl⟩

/-- **what one event does to a device tracked by `gh`**: the configuration calls; a join procedure that hears
its JoinAccept or does not; a device without a session ignoring a reception and refusing to send; and for a device
with a session the acts the reference decides on, after `send` for an uplink -/
inductive Stepped {σ} (g : Rng σ) (m : MacState) (rs : σ) : Gh → Ev → MacState → σ → Out → Prop
  | joinAbp {gh da nwk app} : Stepped g m rs gh (.joinAbp da nwk app) (macJoinAbp m da nwk app) rs .done
  | setAdr {gh on} : Stepped g m rs gh (.setAdr on) (macSetAdr m on) rs .done
  | setDr {gh dr} : Stepped g m rs gh (.setDr dr) (macSetDatarate m dr) rs .done
  | joined {gh fault rx1 rx2 mp1 mp2 jo m1 o rs' j m'} (hj : macJoinOtaa g m rs = .ok (jo, m1, rs')) (hst : m1.st = .otaa o)
      (hcfg : m1.cfg = m.cfg) (hres : joinRes fault rx1 rx2 = some j) (hacc : otaaAccept m1 j = .ok m') :
      Stepped g m rs gh (.joinOtaa fault rx1 rx2 mp1 mp2) m' rs' (.join jo (if fault.isSome then none else some .joinSuccess))
  | joinFailed {gh fault rx1 rx2 mp1 mp2 jo m1 o rs'} (hj : macJoinOtaa g m rs = .ok (jo, m1, rs')) (hst : m1.st = .otaa o)
      (hcfg : m1.cfg = m.cfg) (hres : joinRes fault rx1 rx2 = none) :
      Stepped g m rs gh (.joinOtaa fault rx1 rx2 mp1 mp2) m1 rs' (.join jo (if fault.isSome then none else some .noJoinAccept))
  | rxcIdle {v snr mp rf} (hst : ∀ s, m.st ≠ .joined s) (hrf : macRxcConfig m = .ok rf) :
      Stepped g m rs none (.rxc v snr mp) m rs (.rxc rf none)
  | rxc {s v snr mp rf m'} (hst : m.st = .joined s) (hl : LastOk s.fcntDown) (hrf : macRxcConfig m = .ok rf)
      (ha : Acts m (rxcActs s.fcntDown v mp) m') :
      Stepped g m rs (some s.fcntDown) (.rxc v snr mp) m' rs (.rxc rf (some (rxcOut s.fcntUp s.fcntDown v mp)))
  | upIdle {data fport conf fault rx1 rx2 mp1 mp2} (hst : ∀ s, m.st ≠ .joined s) :
      Stepped g m rs none (.uplink data fport conf fault rx1 rx2 mp1 mp2) m rs .notJoined
  | up {s data fport conf fault rx1 rx2 mp1 mp2 so m1 rs' m'} (hst : m.st = .joined s) (hl : LastOk s.fcntDown)
      (hs : Sent g m rs s data fport conf so m1 rs')
      (ha : Acts m1 (plainActs (upRes s.fcntDown fault rx1 rx2 mp1 mp2) fault) m') :
      Stepped g m rs (some s.fcntDown) (.uplink data fport conf fault rx1 rx2 mp1 mp2) m' rs'
        (.up so (plainOut s.fcntUp conf (upRes s.fcntDown fault rx1 rx2 mp1 mp2) fault).1
                (plainOut s.fcntUp conf (upRes s.fcntDown fault rx1 rx2 mp1 mp2) fault).2)

theorem step_cases {σ} (g : Rng σ) {m m' : MacState} {rs rs' : σ} {ev : Ev} {out : Out} {gh : Gh}
    (hr : GhRel m gh) (hv : evOk ev = true) (h : step g (m, rs) ev = .ok ((m', rs'), out)) :
    Stepped g m rs gh ev m' rs' out := by
  cases ev with
  | joinAbp da nwk app => cases Except.pure_eq_ok h; exact .joinAbp
  | setAdr on => cases Except.pure_eq_ok h; exact .setAdr
  | setDr dr => cases Except.pure_eq_ok h; exact .setDr
  | joinOtaa fault rx1 rx2 mp1 mp2 =>
    obtain ⟨jo, m1, o, hj, hst1, hcfg, ht⟩ := step_joinOtaa_inv g m m' rs rs' fault rx1 rx2 mp1 mp2 out h
    cases hres : joinRes fault rx1 rx2 with
    | some j => rw [hres] at ht; obtain ⟨hacc, rfl⟩ := ht; exact .joined hj hst1 hcfg hres hacc
    | none => rw [hres] at ht; obtain ⟨rfl, rfl⟩ := ht; exact .joinFailed hj hst1 hcfg hres
  | rxc v snr mp =>
    cases gh with
    | none =>
      obtain ⟨rfl, rfl, rf, hrf, rfl⟩ := step_rxc_notJoined g m m' rs rs' hr v snr mp out h
      exact .rxcIdle hr hrf
    | some last =>
      obtain ⟨s, hst, rfl, hl⟩ := hr
      obtain ⟨rf, hrf, h⟩ := Except.bind_eq_ok h
      obtain ⟨⟨o, m2⟩, hrx, h⟩ := Except.bind_eq_ok h
      cases Except.pure_eq_ok h
      obtain ⟨rfl, ha⟩ := macHandleRxc_acts hst hl hv hrx
      exact .rxc hst hl hrf ha
  | uplink data fport conf fault rx1 rx2 mp1 mp2 =>
    cases gh with
    | none =>
      obtain ⟨rfl, rfl, rfl⟩ := step_uplink_notJoined g m m' rs rs' hr data fport conf fault rx1 rx2 mp1 mp2 out h
      exact .upIdle hr
    | some last =>
      obtain ⟨s, hst, rfl, hl⟩ := hr
      simp only [evOk, Bool.and_eq_true] at hv
      unfold step at h
      obtain ⟨⟨o, m1, rs1⟩, hsend, h⟩ := Except.bind_eq_ok h
      obtain ⟨so, rfl, hs⟩ := macSend_sent hst hsend
      have hl1 : LastOk (sentSession s conf).fcntDown := hl
      cases fault with
      | none =>
        obtain ⟨⟨r, dl, m2⟩, hc, h⟩ := Except.bind_eq_ok h
        cases Except.pure_eq_ok h
        obtain ⟨ho, ha⟩ := classACycle_acts hs.st hl1 hv.1 hv.2 hc
        have e : plainOut s.fcntUp conf (upRes s.fcntDown none rx1 rx2 mp1 mp2) none = (some r, dl) := ho.symm
        simpa only [e] using Stepped.up (fault := none) hst hl hs ha
      | some k =>
        obtain ⟨m2, hc, h⟩ := Except.bind_eq_ok h
        cases Except.pure_eq_ok h
        obtain ⟨ho, ha⟩ := faultedCycle_acts hs.st hl1 hv.1 hv.2 hc
        have e : plainOut s.fcntUp conf (upRes s.fcntDown (some k) rx1 rx2 mp1 mp2) (some k) = _ := ho.symm
        simpa only [e] using Stepped.up (fault := some k) hst hl hs ha

theorem ghActs_rxcActs (last : Option Nat) (v : RxView) (mp : Nat) :
    ghActs last (rxcActs last v mp) = (match specRxc last v mp with | some (N, _) => some N | none => last) := by
  unfold rxcActs
  cases specRxc last v mp <;> rfl

theorem step_ghRel {σ} (g : Rng σ) (m m' : MacState) (rs rs' : σ) (ev : Ev) (out : Out) (gh : Gh)
    (hr : GhRel m gh) (hv : evOk ev = true) (h : step g (m, rs) ev = .ok ((m', rs'), out)) :
    GhRel m' (ghStep gh ev) := by
  cases step_cases g hr hv h with
  | joinAbp => exact .some (s := Session.new _ _ _) rfl nofun
  | setDr | rxcIdle | upIdle => exact hr
  | setAdr =>
    cases gh with
    | none => exact fun s hs => hr s (((macSetAdr_st m _).2 hr) ▸ hs)
    | some last =>
      obtain ⟨s, hst, hfd, hl⟩ := hr
      obtain ⟨cnt, e⟩ := (macSetAdr_st m _).1 s hst
      exact ⟨_, e, hfd, hl⟩
  | joined _ _ _ hres hacc =>
    simp only [ghStep, hres]
    exact .some (otaaAccept_st _ _ _ hacc) nofun
  | joinFailed _ hst1 _ hres =>
    simp only [ghStep, hres]
    exact fun s hs => by rw [hst1] at hs; cases hs
  | rxc _ _ _ ha => simpa only [ghStep, Option.map_some, ghActs_rxcActs] using acts_ghRel hr ha
  | up _ hl hs ha => simpa only [ghStep, Option.map_some, ghActs_plainActs] using acts_ghRel (hs.ghRel hl) ha

theorem ghostAfter_ghStep (gh : Gh) (t : List (Ev × Out)) :
    ghostAfter (fun gh ev _ => ghStep gh ev) gh t = ghRun gh (t.map (·.1)) := by
  induction t generalizing gh with
  | nil => rfl
  | cons x rest ih => exact ih _

theorem chain_ghRel {σ} (g : Rng σ) (ms ms' : MacState × σ) (t : List (Ev × Out)) (gh : Gh) (hr : GhRel ms.1 gh)
    (hv : ∀ x ∈ t, evOk x.1 = true) (h : Chain g ms t ms') : GhRel ms'.1 (ghRun gh (t.map (·.1))) :=
  ghostAfter_ghStep gh t ▸ (chain_traceD g _ (fun _ _ _ => True) GhRel (fun ev => evOk ev = true)
    (fun m s ev m' s' out gh hr hv hs => ⟨trivial, step_ghRel g m m' s s' ev out gh hr hv hs⟩) ms ms' t gh hr hv h).2

end Model
