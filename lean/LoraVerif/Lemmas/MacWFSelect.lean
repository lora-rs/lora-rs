import LoraVerif.Lemmas.MacWFRx
import LoraVerif.Lemmas.JoinWalk
import LoraVerif.Lemmas.Selected
/-!
Channel selection (`select_tx_channel`, dynamic and fixed plans, join and data frames) on a well-formed plan:
everything around the retry loops is total, so the call is walked once for any weakest-precondition predicate, with the
loops' behaviour as hypotheses (`selectTxChannel_wp`).  For every random stream each loop either returns or exhausts its
draw budget: the call never panics (`selectTxChannel_noPanic`); for a suitable constant stream each returns at once: the call
returns (`Lemmas/Accept.lean`).  What a returned selection has done is `Selected` (`Lemmas/Selected.lean`); read from a
well-formed plan, the plan it leaves (fallback re-enabling, join-channel bookkeeping) is well-formed again (`Selected.wf`,
hence `selectTxChannel_safe`) and what is returned is legal in it (`C09.ChannelLegal`, `Selected.legal`).
-/
open Gen.Region Gen.Modulation

namespace Model

theorem usable_tot (p : DynPlan) (hc : p.channels.length = 16) (hm : p.mask.length = 9) (i : Nat) (hi : i < 16) :
    Tot (p.usable i) (fun _ => True) := by
  unfold DynPlan.usable
  refine Tot.bind (isEnabled_tot p.mask i hm (by omega)) (fun b _ => ?_)
  cases b
  · exact Tot.pure trivial
  · simp only [if_true]
    rw [List.getElem?_eq_getElem (by omega)]
    exact Tot.pure trivial

theorem foldlM_setChannel_tot (l : List Nat) (m : Mask) (hm : m.length = 9) (hl : ∀ i ∈ l, i < 72) :
    Tot (l.foldlM (fun m i => m.setChannel i true) m) (fun m' => m'.length = 9) := by
  induction l generalizing m with
  | nil => exact Tot.pure hm
  | cons a rest ih =>
    rw [List.foldlM_cons]
    refine Tot.bind (setChannel_tot m a true hm (hl a List.mem_cons_self)) (fun m' hm' => ?_)
    exact ih m' hm' (fun i hi => hl i (List.mem_cons_of_mem _ hi))

theorem getLast_filter_range (P : Nat → Bool) (n i : Nat) (hi : i < n) (hP : P i = true) :
    ∃ y, ((List.range n).filter P).getLast? = some y ∧ i ≤ y ∧ y < n := by
  induction n with
  | zero => omega
  | succ n ih =>
    rw [List.range_succ, List.filter_append]
    by_cases hn : P n = true
    · refine ⟨n, ?_, by omega, by omega⟩
      simp [hn]
    · have hin : i ≠ n := fun e => hn (e ▸ hP)
      obtain ⟨y, hy, h1, h2⟩ := ih (by omega)
      refine ⟨y, ?_, h1, by omega⟩
      simp [hn, hy]

theorem range_gt (r : RegionId) (p : DynPlan) (h : dynWF r p = true) (i : Nat) (c : Channel)
    (hch : p.channels[i]? = some (some c)) : ∃ n, p.range = .ok n ∧ i < n ∧ n ≤ 16 := by
  obtain ⟨hc, _, _, _⟩ := dynWF_iff.mp h
  have hi : i < p.channels.length := (List.getElem?_eq_some_iff.mp hch).1
  obtain ⟨y, hy, h1, h2⟩ := getLast_filter_range
    (fun i => match p.channels[i]? with | some (some _) => true | _ => false) p.channels.length i hi (by simp only [hch])
  unfold DynPlan.range
  simp only
  generalize hl : (List.range p.channels.length).filter
    (fun i => match p.channels[i]? with | some (some _) => true | _ => false) = idxs
  have hy' : idxs.getLast? = some y := by rw [← hl]; exact hy
  rw [hy']
  exact ⟨y + 1, rfl, by omega, by omega⟩

theorem range_tot (r : RegionId) (p : DynPlan) (h : dynWF r p = true) : Tot p.range (fun n => n ≤ 16) := by
  obtain ⟨c0, hc0⟩ := (dynWF_iff.mp h).2.2.1 0 (numJoinChannels_pos r)
  obtain ⟨n, hn, _, h16⟩ := range_gt r p h 0 c0 hc0
  exact ⟨n, hn, h16⟩

theorem randomInRange_tot {σ} (g : Rng σ) (r : RegionId) (p : DynPlan) (s : σ) (h : dynWF r p = true) :
    Tot (p.randomInRange g s) (fun x => x.1 < 16) := by
  unfold DynPlan.randomInRange
  refine Tot.bind (range_tot r p h) (fun n hn => ?_)
  refine Tot.pure ?_
  simp only
  have h16 : ¬ n > 16 := by omega
  simp only [h16, if_false]
  split
  · exact Nat.lt_of_lt_of_le (Nat.mod_lt _ (by decide)) (by decide)
  · exact Nat.lt_of_lt_of_le (Nat.mod_lt _ (by decide)) (by decide)

theorem dynDataLoop_safe {σ} (g : Rng σ) (r : RegionId) (p : DynPlan) (fuel : Nat) (s : σ) (h : dynWF r p = true) :
    Safe (dynDataLoop g p fuel s) (fun _ => True) := by
  induction fuel generalizing s with
  | zero => exact Safe.hang
  | succ fuel ih =>
    unfold dynDataLoop
    refine Safe.tbind (randomInRange_tot g r p s h) ?_
    intro ⟨i, s1⟩ hi
    simp only at hi ⊢
    obtain ⟨u, hu, _⟩ := usable_tot p (dynWF_iff.mp h).1 (dynWF_iff.mp h).2.1 i hi
    rw [hu]
    cases u with
    | some c => exact Safe.pure trivial
    | none => exact ih s1

theorem dynDataLoop_draw_error {σ} (g : Rng σ) (p : DynPlan) (k : Nat) (s : σ) {e : Fault}
    (h : p.randomInRange g s = .error e) : ∃ e', dynDataLoop g p k s = .error e' := by
  cases k with
  | zero => exact ⟨_, rfl⟩
  | succ k => exact ⟨e, by rw [dynDataLoop, h]; rfl⟩

theorem fixedMaskLoop_safe {σ} (g : Rng σ) (mask : Mask) (bits base fuel : Nat) (s : σ)
    (hm : mask.length = 9) (hb : base + bits ≤ 72) (hbits : 0 < bits) :
    Safe (fixedMaskLoop g mask bits base fuel s) (fun r => r.1 < base + bits) := by
  induction fuel generalizing s with
  | zero => exact Safe.hang
  | succ fuel ih =>
    unfold fixedMaskLoop
    simp only
    have hlt : (draw g s).1 % bits < bits := Nat.mod_lt _ hbits
    refine Safe.tbind (isEnabled_tot mask _ hm (by omega)) (fun b _ => ?_)
    cases b
    · simp only [Bool.false_eq_true, if_false]; exact ih _
    · simp only [if_true]
      exact Safe.pure (by simp only; omega)

theorem entropyLoop_safe {σ} (g : Rng σ) (avail : Mask) (bank fuel e used : Nat) (s : σ)
    (hm : avail.length = 9) (hb : bank ≤ 8) :
    Safe (entropyLoop g avail bank fuel e used s)
      (fun r => r.1 < 72 ∧ r.1 / 8 = bank ∧ avail.isEnabled r.1 = .ok true) := by
  induction fuel generalizing e used s with
  | zero => exact Safe.hang
  | succ fuel ih =>
    unfold entropyLoop
    have hlt : e % 8 < 8 := Nat.mod_lt _ (by decide)
    refine Safe.tbind (isEnabled_tot avail (e % 8 + bank * 8) hm (by omega)).self (fun b hen => ?_)
    cases b
    · simp only [Bool.false_eq_true, if_false]
      split
      · exact ih _ _ _
      · exact ih _ _ _
    · simp only [if_true]
      exact Safe.pure ⟨by simp only; omega, by simp only; omega, hen⟩

/-! `AvailableChannels::get_next` is total around its `entropy` loop, which it enters only when the channel after the
previous one is taken: walked once for a weakest-precondition predicate `W` (`WpRules`), given `W` of that loop
(`Safe` for every generator; `Tot` for a constant one that names a free channel of the bank, `Lemmas/Accept.lean`) -/

theorem availGetNextInner_wp {σ} {W : ∀ {α : Type}, M α → (α → Prop) → Prop} (hW : WpRules W) (g : Rng σ) (avail : Mask)
    (prev : Option Nat) (s : σ) (hm : avail.length = 9)
    (hE : ∀ pv, prev = some pv → W (entropyLoop g avail ((pv + 8) % 72 / 8) loopFuel (draw g s).1 1 (draw g s).2)
      (fun r => r.1 < 72 ∧ r.1 / 8 = (pv + 8) % 72 / 8 ∧ avail.isEnabled r.1 = .ok true)) :
    W (availGetNextInner g avail prev s)
      (fun r => r.1 < 72 ∧ ∀ pv, prev = some pv → pv < 72 → r.1 / 8 = (pv / 8 + 1) % 9 ∧ avail.isEnabled r.1 = .ok true) := by
  unfold availGetNextInner
  cases prev with
  | none =>
    simp only
    refine hW.pure ⟨?_, fun pv e => by cases e⟩
    simp only
    have : (draw g s).1 % 256 % 64 < 64 := Nat.mod_lt _ (by decide)
    omega
  | some previous =>
    simp only
    have hn : (previous + 8) % 72 < 72 := Nat.mod_lt _ (by decide)
    refine hW.bind (hW.tot (isEnabled_tot avail _ hm hn).self) (fun b hen => ?_)
    cases b
    · simp only [Bool.false_eq_true, if_false]
      refine hW.mono (hE previous rfl) (fun r ⟨h1, h2, h3⟩ => ⟨h1, fun pv e hpv => ?_⟩)
      cases e
      exact ⟨by omega, h3⟩
    · simp only [if_true]
      refine hW.pure ⟨hn, fun pv e hpv => ?_⟩
      cases e
      exact ⟨by simp only; omega, hen⟩

theorem availGetNextInner_safe {σ} (g : Rng σ) (avail : Mask) (prev : Option Nat) (s : σ) (hm : avail.length = 9) :
    Safe (availGetNextInner g avail prev s)
      (fun r => r.1 < 72 ∧ ∀ pv, prev = some pv → pv < 72 → r.1 / 8 = (pv / 8 + 1) % 9 ∧ avail.isEnabled r.1 = .ok true) :=
  availGetNextInner_wp .safe g avail prev s hm (fun pv _ => entropyLoop_safe g avail _ _ _ _ _ hm (by omega))

theorem availGetNext_wp {σ} {W : ∀ {α : Type}, M α → (α → Prop) → Prop} (hW : WpRules W) (g : Rng σ) (j : JoinChannels)
    (s : σ) (h : jcWF j = true) (hnb : ¬ Biased j)
    (hE : availIsExhausted j.avail = false → ∀ pv, j.availPrev = some pv →
      W (entropyLoop g j.avail ((pv + 8) % 72 / 8) loopFuel (draw g s).1 1 (draw g s).2)
        (fun r => r.1 < 72 ∧ r.1 / 8 = (pv + 8) % 72 / 8 ∧ j.avail.isEnabled r.1 = .ok true)) :
    W (availGetNext g j s) (fun r => r.1 < 72 ∧ jcWF r.2.1 = true) := by
  obtain ⟨ha, hsb, hav, _⟩ := jcWF_iff.mp h
  unfold availGetNext
  have hbf : ∀ a p, biasFresh { j with avail := a, availPrev := p } = true :=
    fun a p => biasFresh_iff.mpr (fun h1 h2 => absurd ⟨h1, h2⟩ hnb)
  by_cases hex : availIsExhausted j.avail = true
  · simp only [hex, if_true]
    refine hW.bind (availGetNextInner_wp hW g Mask.default none s (by decide) (fun pv e => by cases e)) ?_
    intro ⟨ch, s1⟩ ⟨hch, _⟩
    simp only at hch ⊢
    obtain ⟨a', hs', hl'⟩ := setChannel_tot Mask.default ch false (by decide) hch
    rw [hs']
    simp only [ok_bind]
    exact hW.pure ⟨hch, jcWF_iff.mpr ⟨hl', hsb, avInv_first ch a' hch hs', hbf _ _⟩⟩
  · have hex' : availIsExhausted j.avail = false := by simpa using hex
    simp only [hex, Bool.false_eq_true, if_false]
    refine hW.bind (availGetNextInner_wp hW g j.avail j.availPrev s ha (hE hex')) ?_
    intro ⟨ch, s1⟩ ⟨hch, hnext⟩
    simp only at hch hnext ⊢
    obtain ⟨a', hs', hl'⟩ := setChannel_tot j.avail ch false ha hch
    rw [hs']
    simp only [ok_bind]
    refine hW.pure ⟨hch, jcWF_iff.mpr ⟨hl', hsb, ?_, hbf _ _⟩⟩
    cases hp : j.availPrev with
    | none =>
      rw [hp] at hav
      have hd : j.avail = Mask.default := hav.2.2
      rw [hd] at hs'
      exact avInv_first ch a' hch hs'
    | some pv =>
      rw [hp] at hav
      have hpv : pv < 72 := hav.2.2.1
      obtain ⟨h1, h2⟩ := hnext pv hp hpv
      exact avInv_next j.avail a' pv ch hav hex' hch h1 h2 hs'

theorem availGetNext_safe {σ} (g : Rng σ) (j : JoinChannels) (s : σ) (h : jcWF j = true)
    (hnb : ¬ Biased j) :
    Safe (availGetNext g j s) (fun r => r.1 < 72 ∧ jcWF r.2.1 = true) :=
  availGetNext_wp .safe g j s h hnb
    (fun _ pv _ => entropyLoop_safe g j.avail _ _ _ _ _ (jcWF_iff.mp h).1 (by omega))

/-- a biased join attempt draws once and enters no loop -/
theorem getNextChannel_biased_tot {σ} (g : Rng σ) (j : JoinChannels) (s : σ) (h : jcWF j = true)
    (hb : Biased j) :
    Tot (j.getNextChannel g s) (fun r => r.1 < 72 ∧ jcWF r.2.1 = true) := by
  obtain ⟨ha, hsb, hav, hbf⟩ := jcWF_iff.mp h
  obtain ⟨hfa, hfp⟩ := biasFresh_iff.mp hbf hb.1 hb.2
  obtain ⟨mr, nr, psb, av, avp, pc⟩ := j
  simp only at ha hsb hb hfa hfp
  subst hfa hfp
  cases psb with
  | none => cases hb.1
  | some sb =>
    obtain ⟨hsb1, hsb8⟩ := hsb sb rfl
    have hsb' : ∀ sb', some sb = some sb' → 1 ≤ sb' ∧ sb' ≤ 8 := fun sb' e => by cases e; exact ⟨hsb1, hsb8⟩
    unfold JoinChannels.getNextChannel
    simp only [hb.2, if_true]
    have hlt : (draw g s).1 % 8 < 8 := Nat.mod_lt _ (by decide)
    have hsbm : (sb - 1) % 256 = sb - 1 := Nat.mod_eq_of_lt (by omega)
    have hch : (draw g s).1 % 8 + (sb - 1) % 256 * 8 < 72 := by rw [hsbm]; omega
    have hng : ¬ (draw g s).1 % 8 + (sb - 1) % 256 * 8 > 255 := by omega
    simp only [hng, if_false]
    split
    · rename_i hlast
      obtain ⟨a', hs', hl'⟩ := setChannel_tot Mask.default _ false (by decide) hch
      rw [hs']
      simp only [ok_bind]
      refine Tot.pure ⟨hch, ?_⟩
      refine jcWF_iff.mpr ⟨hl', hsb', avInv_first _ a' hch hs', biasFresh_iff.mpr (fun _ hlt2 => ?_)⟩
      simp only [beq_iff_eq] at hlast
      simp only at hlt2
      omega
    · refine Tot.pure ⟨hch, ?_⟩
      exact jcWF_iff.mpr ⟨ha, hsb', avInv_fresh, biasFresh_iff.mpr (fun _ _ => ⟨rfl, rfl⟩)⟩

theorem getNextChannel_unbiased (j : JoinChannels) (hb : ¬ Biased j)
    {σ} (g : Rng σ) (s : σ) : j.getNextChannel g s = availGetNext g { j with numRetries := j.numRetries + 1 } s := by
  unfold JoinChannels.getNextChannel
  cases hp : j.preferredSubband with
  | none => rfl
  | some sb =>
    have : ¬ j.numRetries < j.maxRetries := fun hh => hb ⟨by rw [hp]; rfl, hh⟩
    simp only [this, if_false]

theorem jcWF_retry {j : JoinChannels} (h : jcWF j = true) (hb : ¬ Biased j) :
    jcWF { j with numRetries := j.numRetries + 1 } = true ∧
      ¬ Biased { j with numRetries := j.numRetries + 1 } := by
  obtain ⟨ha, hsb, hav, _⟩ := jcWF_iff.mp h
  have hnb : ¬ Biased { j with numRetries := j.numRetries + 1 } :=
    fun ⟨h1, h2⟩ => hb ⟨h1, by simp only at h2; omega⟩
  exact ⟨jcWF_iff.mpr ⟨ha, hsb, hav, biasFresh_iff.mpr (fun h1 h2 => absurd ⟨h1, h2⟩ hnb)⟩, hnb⟩

theorem getNextChannel_safe {σ} (g : Rng σ) (j : JoinChannels) (s : σ) (h : jcWF j = true) :
    Safe (j.getNextChannel g s) (fun r => r.1 < 72 ∧ jcWF r.2.1 = true) := by
  by_cases hb : Biased j
  · exact (getNextChannel_biased_tot g j s h hb).safe
  · rw [getNextChannel_unbiased j hb]
    exact availGetNext_safe g _ s (jcWF_retry h hb).1 (jcWF_retry h hb).2

theorem firstDataChannel_wf {σ} (g : Rng σ) (j : JoinChannels) (s : σ) (h : jcWF j = true) :
    jcWF (j.firstDataChannel g s).2.1 = true := by
  obtain ⟨ha, hsb, hav, _⟩ := jcWF_iff.mp h
  unfold JoinChannels.firstDataChannel
  split
  · exact jcWF_iff.mpr ⟨ha, by simp [JoinChannels.clearBias], hav, biasFresh_iff.mpr (fun e => by simp [JoinChannels.clearBias] at e)⟩
  · exact h

theorem setChannel_true_spec (m m' : Mask) (ch : Nat) (hm : m.length = 9) (hch : ch < 72)
    (hs : m.setChannel ch true = .ok m') :
    m'.isEnabled ch = .ok true ∧ ∀ c, c < 72 → m.isEnabled c = .ok true → m'.isEnabled c = .ok true := by
  -- in the context: the `m[ch / 8]` written below find it by assumption
  have hidx : ch / 8 < m.length := by omega
  rw [setChannel_eq m ch true hidx] at hs
  simp only [if_true, Except.ok.injEq] at hs
  subst hs
  have hl : (m.set (ch / 8) (m[ch / 8] ||| 1 <<< (ch % 8))).length = 9 := by simp [hm]
  constructor
  · rw [isEnabled_eq _ ch hl hch, getElem!_pos _ _ (by omega), List.getElem_set_self]
    simp [Nat.testBit_or, Nat.testBit_shiftLeft]
  · intro c hc hcen
    have hci : c / 8 < m.length := by omega
    rw [isEnabled_eq m c hm hc, getElem!_pos m _ hci] at hcen
    have hold := Except.ok.inj hcen
    rw [isEnabled_eq _ c hl hc, getElem!_pos _ _ (by omega)]
    by_cases hcc : c / 8 = ch / 8
    · simp only [hcc, List.getElem_set_self, Nat.testBit_or]
      have : m[ch / 8] = m[c / 8] := by simp [hcc]
      rw [this, hold]; rfl
    · rw [List.getElem_set_ne (Ne.symm hcc), hold]

theorem foldlM_setChannel_enabled (l : List Nat) (m m' : Mask) (hm : m.length = 9) (hl : ∀ i ∈ l, i < 72)
    (hs : l.foldlM (fun m i => m.setChannel i true) m = .ok m') :
    (∀ i ∈ l, m'.isEnabled i = .ok true) ∧ ∀ c, c < 72 → m.isEnabled c = .ok true → m'.isEnabled c = .ok true := by
  induction l generalizing m with
  | nil =>
    simp only [List.foldlM_nil, pure, Except.pure, Except.ok.injEq] at hs
    subst hs
    exact ⟨fun i hi => (by cases hi), fun c _ h => h⟩
  | cons a rest ih =>
    rw [List.foldlM_cons] at hs
    obtain ⟨m1, h1, hs⟩ := Except.bind_eq_ok hs
    have ha := hl a List.mem_cons_self
    have hlen : m1.length = 9 := by
      obtain ⟨x, hx, hxl⟩ := setChannel_tot m a true hm ha
      rw [hx] at h1; cases h1; exact hxl
    obtain ⟨he1, hp1⟩ := setChannel_true_spec m m1 a hm ha h1
    obtain ⟨he2, hp2⟩ := ih m1 hlen (fun i hi => hl i (List.mem_cons_of_mem _ hi)) hs
    constructor
    · intro i hi
      rcases List.mem_cons.mp hi with rfl | hi
      · exact hp2 _ ha he1
      · exact he2 i hi
    · intro c hc hcen
      exact hp2 c hc (hp1 c hc hcen)

/-- probe, then keep or restore: the shape of the three fallbacks of `select_tx_channel` -/
abbrev Fallback {α : Type} (probe : M Bool) (keep : α) (restore : M α) (Q : α → Prop) : Prop :=
  Tot probe (fun b => Tot (if b = true then pure keep else restore) Q)

theorem Fallback.mono {α : Type} {probe : M Bool} {keep : α} {restore : M α} {Q R : α → Prop}
    (h : Fallback probe keep restore Q) (hq : ∀ a, Q a → R a) : Fallback probe keep restore R :=
  Tot.mono h (fun _ h => Tot.mono h hq)

/-- the three fallbacks, with the postcondition left open (`dynFallback`, `fallback500`, `fallback125` state them) -/
abbrev dynProbe (r : RegionId) (p : DynPlan) : (DynPlan → Prop) → Prop :=
  Fallback (anyM (fun i => do pure (← p.usable i).isSome) (List.range 16)) p (do
    let m ← (List.range (numJoinChannels r)).foldlM (fun m i => m.setChannel i true) p.mask
    pure { p with mask := m })

abbrev probe500 (m : Mask) : (Mask → Prop) → Prop :=
  Fallback (anyM (fun i => m.isEnabled i) ((List.range 8).map (· + 64))) m (m.setBank 8 255)

abbrev probe125 (m : Mask) : (Mask → Prop) → Prop :=
  Fallback (anyM (fun i => m.isEnabled i) (List.range 64)) m (setBanks m ((List.range 8).map (fun i => (i, 255))))

/-- the fallback of the dynamic plans: when no channel is usable the default channels are re-enabled,
so afterwards some channel is usable -/
theorem dynFallback (r : RegionId) (p : DynPlan) (h : dynWF r p = true) :
    dynProbe r p (fun p' => dynWF r p' = true ∧ ∃ i c, i < 16 ∧ p'.usable i = .ok (some c)) := by
  obtain ⟨hc, hm, hd, hib⟩ := dynWF_iff.mp h
  obtain ⟨c0, hc0⟩ := hd 0 (numJoinChannels_pos r)
  obtain ⟨ua, hua, _⟩ := anyM_tot (fun i => do pure (← p.usable i).isSome) (List.range 16) (fun i hi =>
    Tot.bind (usable_tot p hc hm i (List.mem_range.mp hi)) (fun _ _ => Tot.pure trivial))
  refine ⟨ua, hua, ?_⟩
  cases ua with
  | true =>
    obtain ⟨i, hi, hu⟩ := anyM_true _ _ hua
    obtain ⟨u, hu1, hu2⟩ := Except.bind_eq_ok hu
    have hu3 := Except.pure_eq_ok hu2
    cases u with
    | none => simp at hu3
    | some c => exact ⟨p, rfl, h, i, c, List.mem_range.mp hi, hu1⟩
  | false =>
    have hl72 : ∀ i ∈ List.range (numJoinChannels r), i < 72 := by
      intro i hi
      have := List.mem_range.mp hi
      have := numJoinChannels_le r
      omega
    obtain ⟨m', hm', hl'⟩ := foldlM_setChannel_tot (List.range (numJoinChannels r)) p.mask hm hl72
    obtain ⟨hen, _⟩ := foldlM_setChannel_enabled _ p.mask m' hm hl72 hm'
    have hen0 := hen 0 (List.mem_range.mpr (numJoinChannels_pos r))
    refine ⟨{ p with mask := m' }, ?_, dynWF_iff.mpr ⟨hc, hl', hd, hib⟩, 0, c0, by decide, ?_⟩
    · simp only [Bool.false_eq_true, if_false, hm', ok_bind]; rfl
    · unfold DynPlan.usable
      simp only [hen0, ok_bind, if_true, hc0]; rfl

/-- when the mask offers no 500 kHz channel they are all re-enabled: afterwards some 3-bit value names an enabled one
(in the shape `draw % bits + base` in which `fixedMaskLoop` tests it, as in `fallback125`) -/
theorem fallback500 (m : Mask) (hm : m.length = 9) :
    probe500 m (fun m' => m'.length = 9 ∧ ∃ v, v < 8 ∧ m'.isEnabled (v % 8 + 64) = .ok true) := by
  obtain ⟨any, hany, _⟩ := anyM_tot (fun i => m.isEnabled i) ((List.range 8).map (· + 64)) (fun i hi => by
    simp only [List.mem_map, List.mem_range] at hi
    obtain ⟨j, hj, rfl⟩ := hi
    exact isEnabled_tot m _ hm (by omega))
  refine ⟨any, hany, ?_⟩
  cases any with
  | true =>
    obtain ⟨i, hi, hen⟩ := anyM_true _ _ hany
    simp only [List.mem_map, List.mem_range] at hi
    obtain ⟨j, hj, rfl⟩ := hi
    exact ⟨m, rfl, hm, j, hj, by rw [Nat.mod_eq_of_lt hj]; exact hen⟩
  | false =>
    have hl : (m.set 8 255).length = 9 := by simp [hm]
    refine ⟨m.set 8 255, setBank_ok m 8 255 (by omega), hl, 0, by decide, ?_⟩
    rw [isEnabled_eq _ _ hl (by decide), getElem!_pos _ _ (by omega), List.getElem_set_self]
    rfl

theorem setBanks_all (m : Mask) (hm : m.length = 9) :
    ∃ a8, setBanks m ((List.range 8).map (fun i => (i, 255))) = .ok [255, 255, 255, 255, 255, 255, 255, 255, a8] := by
  rcases m with _ | ⟨a0, _ | ⟨a1, _ | ⟨a2, _ | ⟨a3, _ | ⟨a4, _ | ⟨a5, _ | ⟨a6, _ | ⟨a7, _ | ⟨a8, _ | ⟨a9, rest⟩⟩⟩⟩⟩⟩⟩⟩⟩⟩ <;>
    simp only [List.length_nil, List.length_cons] at hm <;> try omega
  exact ⟨a8, rfl⟩

/-- when the mask offers no 125 kHz channel they are all re-enabled: afterwards some 6-bit value names an enabled one -/
theorem fallback125 (m : Mask) (hm : m.length = 9) :
    probe125 m (fun m' => m'.length = 9 ∧ ∃ v, v < 64 ∧ m'.isEnabled (v % 64 + 0) = .ok true) := by
  obtain ⟨any, hany, _⟩ := anyM_tot (fun i => m.isEnabled i) (List.range 64) (fun i hi => by
    have := List.mem_range.mp hi
    exact isEnabled_tot m _ hm (by omega))
  refine ⟨any, hany, ?_⟩
  cases any with
  | true =>
    obtain ⟨i, hi, hen⟩ := anyM_true _ _ hany
    have hi' := List.mem_range.mp hi
    exact ⟨m, rfl, hm, i, hi', by rw [Nat.mod_eq_of_lt hi']; exact hen⟩
  | false =>
    obtain ⟨a8, hs⟩ := setBanks_all m hm
    exact ⟨_, hs, rfl, 0, by decide, rfl⟩

/-- a join channel goes with the data rate it mandates: DR0 on a 125 kHz channel, the region's 500 kHz
join rate on channels 64–71; both are defined uplink rates of that bandwidth -/
theorem joinDr_facts (r : RegionId) (hf : r.isFixed = true) (ch : Nat) :
    (∃ d, getDatarate r (joinDr r ch).toInt.toNat = some d) ∧
    (∀ d, getDatarate r (joinDr r ch).toInt.toNat = some d →
      d.bandwidth = if ch < 64 then Bandwidth._125KHz else Bandwidth._500KHz) ∧
    isUplinkDatarate r (joinDr r ch).toInt.toNat = true := by
  unfold joinDr
  cases r <;> simp [RegionId.isFixed] at hf <;> split <;>
    exact ⟨⟨_, rfl⟩, fun d hd => by cases hd; rfl, rfl⟩

theorem unwrapDatarate_some (site : String) (d : Datarate) : unwrapDatarate site (some d) = .ok d := rfl

end Model

namespace C09
open Model

/-- the channel a frame went out on, judged in the plan `rs'` the selection ended with -/
def ChannelLegal (rs' : RegionState) (frame : FrameKind) (tx : TxChannel) : Prop :=
  match rs'.plan with
  | .dyn p => ∃ i c, p.channels[i]? = some (some c) ∧ tx.frequency = c.freq ∧
      (match frame with
       | .join => i < numJoinChannels rs'.id
       | .data => p.mask.isEnabled i = .ok true)
  | .fix p => ∃ ch f, ch < 72 ∧ (uplinkChannels rs'.id)[ch]? = some f ∧ tx.frequency = f.toNat ∧
      tx.datarate.bandwidth = (if ch < 64 then Bandwidth._125KHz else Bandwidth._500KHz) ∧
      (match frame with
       | .join => tx.dr = (if ch < 64 then DR._0 else join500kDr rs'.id)
       | .data => p.mask.isEnabled ch = .ok true)

end C09

namespace Model

theorem FixPick.legal {r : RegionId} {p : FixPlan} {dr : DR} {frame : FrameKind} {dr' : DR} {ch : Nat} {j' : JoinChannels}
    {mask' : Mask} (h : FixPick r p dr frame dr' ch j' mask') (hfx : r.isFixed = true) :
    (∀ d, getDatarate r dr'.toInt.toNat = some d →
      d.bandwidth = if ch < 64 then Bandwidth._125KHz else Bandwidth._500KHz) ∧
    (match frame with
     | .join => dr' = joinDr r ch
     | .data => mask'.isEnabled ch = .ok true) ∧
    (isUplinkDatarate r dr.toInt.toNat = true → isUplinkDatarate r dr'.toInt.toNat = true) := by
  cases h with
  | join hn =>
    obtain ⟨_, j2, j3⟩ := joinDr_facts r hfx ch
    exact ⟨j2, rfl, fun _ => j3⟩
  | biased hb hn hen =>
    obtain ⟨_, j2, j3⟩ := joinDr_facts r hfx ch
    exact ⟨j2, hen, fun _ => j3⟩
  | preferred htr hfst hen hg hbw =>
    refine ⟨fun d hd => ?_, hen, id⟩
    rw [hg] at hd; cases hd
    rw [if_pos hfst.lt]; exact hbw
  | random htr hfst hg hm hen hif =>
    refine ⟨fun d hd => ?_, hen, id⟩
    rw [hg] at hd; cases hd
    split at hif
    · rename_i hbw
      rw [if_neg (by omega)]; exact hbw
    · rename_i hbw
      rw [if_pos hif]
      exact (fixed_bw r hfx _ _ hg).resolve_right hbw

/-- the content of `C09.selectTxChannel_legal`; `ChannelLegal`'s join data rate is `joinDr` written out -/
theorem Selected.legal {rs dr frame tx rs'} (h : Selected rs dr frame tx rs') (hw : regionWF rs = true) :
    getDatarate rs.id tx.dr.toInt.toNat = some tx.datarate ∧ C09.ChannelLegal rs' frame tx ∧
      (isUplinkDatarate rs.id dr.toInt.toNat = true → isUplinkDatarate rs.id tx.dr.toInt.toNat = true) := by
  cases h with
  | dynJoin hp hi hc hd =>
    refine ⟨hd, ?_, fun hu => hu⟩
    unfold C09.ChannelLegal
    simp only [hp]
    exact ⟨_, _, hc, rfl, hi⟩
  | dynData hp hm hen hc hd =>
    refine ⟨hd, ?_, fun hu => hu⟩
    unfold C09.ChannelLegal
    exact ⟨_, _, hc, rfl, hen⟩
  | fix hp hpick hd hf hf1 =>
    obtain ⟨hfx, _, _⟩ := (regionWF_fix hp).mp hw
    obtain ⟨hbw, hfr, hup⟩ := hpick.legal hfx
    refine ⟨hd, ?_, hup⟩
    unfold C09.ChannelLegal
    refine ⟨_, _, ?_, hf, rfl, hbw _ hd, ?_⟩
    · have := (List.getElem?_eq_some_iff.mp hf).1
      rw [uplinkChannels_length] at this; exact this
    · cases frame with
      | join => exact hfr
      | data => exact hfr

theorem JcNext.wf {j : JoinChannels} {ch : Nat} {j' : JoinChannels} (h : JcNext j ch j') (hj : jcWF j = true) :
    ch < 72 ∧ jcWF j' = true := by
  obtain ⟨σ, g, s, s', e⟩ := h
  exact (getNextChannel_safe g j s hj).elim e

theorem JcFirst.wf {j : JoinChannels} {pref : Option Nat} {j' : JoinChannels} (h : JcFirst j pref j') (hj : jcWF j = true) :
    jcWF j' = true := by
  obtain ⟨σ, g, s, _, e⟩ := h
  exact e ▸ firstDataChannel_wf g j s hj

theorem Tried.wf {p : FixPlan} {j0 : JoinChannels} (h : Tried p j0) (hj : jcWF p.jc = true) : jcWF j0 = true := by
  cases h with
  | unbiased _ => exact hj
  | refused _ hn _ => exact (hn.wf hj).2

theorem FixPick.wf {r : RegionId} {p : FixPlan} {dr : DR} {frame : FrameKind} {dr' : DR} {ch : Nat} {j' : JoinChannels}
    {mask' : Mask} (h : FixPick r p dr frame dr' ch j' mask') (hm : p.mask.length = 9) (hj : jcWF p.jc = true) :
    mask'.length = 9 ∧ jcWF j' = true := by
  cases h with
  | join hn => exact ⟨hm, (hn.wf hj).2⟩
  | biased _ hn _ => exact ⟨hm, (hn.wf hj).2⟩
  | preferred ht hf _ _ _ => exact ⟨hm, hf.wf (ht.wf hj)⟩
  | random ht hf _ hmask _ _ =>
    refine ⟨?_, hf.wf (ht.wf hj)⟩
    rcases hmask with rfl | e | e
    · exact hm
    · exact (setBank_tot p.mask 8 255 hm (by decide)).elim e
    · exact (setBanks_range8_tot p.mask (fun _ => 255) hm).elim e

theorem Selected.wf {rs dr frame tx rs'} (h : Selected rs dr frame tx rs') (hw : regionWF rs = true) : regionWF rs' = true := by
  cases h with
  | dynJoin => exact hw
  | @dynData p mask' i c d hp hmask _ _ _ =>
    obtain ⟨hf, hd⟩ := (regionWF_dyn hp).mp hw
    obtain ⟨hc, hm, hdef, hib⟩ := dynWF_iff.mp hd
    refine regionWF_withDyn hf (dynWF_iff.mpr ⟨hc, ?_, hdef, hib⟩)
    rcases hmask with rfl | e
    · exact hm
    · refine (foldlM_setChannel_tot _ p.mask hm (fun i hi => ?_)).elim e
      have := List.mem_range.mp hi
      have := numJoinChannels_le rs.id
      omega
  | @fix p frame dr' ch j' mask' d f f1 hp hpick _ _ _ =>
    obtain ⟨hfx, hm, hjc⟩ := (regionWF_fix hp).mp hw
    exact regionWF_withFix hfx (hpick.wf hm hjc).1 (hpick.wf hm hjc).2

theorem Biased.of_hasBias {j : JoinChannels} (h : j.hasBiasAndNotExhausted = true) : Biased j := by
  unfold JoinChannels.hasBiasAndNotExhausted at h
  simp only [Bool.and_eq_true, decide_eq_true_eq] at h
  exact ⟨h.1.1, h.1.2⟩

/-- `selectTxChannel_wp` is given `W` of each loop on the plan or mask it is entered with — stated as the postcondition of
the fallback that produces that plan or mask, so that the caller may know more of it than that it is well-formed
(`Lemmas/Accept.lean`: that a constant draw names an enabled channel of it).  It carries only what the next look-up needs
(a channel below 72); what the returned values ARE is `Selected`'s business. -/
theorem selectTxChannel_wp {σ} {W : ∀ {α : Type}, M α → (α → Prop) → Prop} (hW : WpRules W)
    (g : Rng σ) (rs : RegionState) (dr : DR) (frame : FrameKind) (s : σ) (h : regionWF rs = true) {dd : Datarate}
    (hdd : getDatarate rs.id dr.toInt.toNat = some dd)
    (hJ : frame = .join → ∀ p, rs.plan = .dyn p → ∀ s,
      W (dynJoinLoop g (numJoinChannels rs.id) loopFuel s) (fun x => x.1 < numJoinChannels rs.id))
    (hD : frame = .data → ∀ p, rs.plan = .dyn p →
      dynProbe rs.id p (fun p' => ∀ s, W (dynDataLoop g p' loopFuel s) (fun _ => True)))
    (hN : frame = .join → ∀ p, rs.plan = .fix p → ∀ s, W (p.jc.getNextChannel g s) (fun x => x.1 < 72))
    (hF5 : frame = .data → (dd.bandwidth == Bandwidth._500KHz) = true → ∀ p, rs.plan = .fix p →
      probe500 p.mask (fun m' => ∀ s, W (fixedMaskLoop g m' 8 64 loopFuel s) (fun x => x.1 < 72)))
    (hF1 : frame = .data → (dd.bandwidth == Bandwidth._500KHz) = false → ∀ p, rs.plan = .fix p →
      probe125 p.mask (fun m' => ∀ s, W (fixedMaskLoop g m' 64 0 loopFuel s) (fun x => x.1 < 72))) :
    W (selectTxChannel g rs dr frame s) (fun _ => True) := by
  have hI : W (indexDatarate rs.id dr.toInt.toNat) (fun o => o = some dd) := by
    rw [indexDatarate_of_get hdd]; exact hW.tot (Tot.ok rfl)
  have hU : ∀ site o, o = some dd → W (unwrapDatarate site o) (fun d => d = dd) := fun site o e => by
    rw [e]; exact hW.tot (Tot.ok rfl)
  unfold selectTxChannel
  cases hp : rs.plan with
  | dyn p =>
    have hw := (regionWF_dyn hp).mp h
    obtain ⟨hc, hm, hd, hib⟩ := dynWF_iff.mp hw.2
    simp only
    refine hW.bind hI (fun drv hg => ?_)
    cases frame with
    | join =>
      simp only
      refine hW.bind (hJ rfl p hp s) ?_
      intro ⟨idx, s1⟩ hidx1
      simp only at hidx1 ⊢
      obtain ⟨c, hc'⟩ := hd idx hidx1
      rw [hc']
      exact hW.bind (hU _ drv hg) (fun d _ => hW.pure trivial)
    | data =>
      simp only
      refine hW.bind (hW.tot (hD rfl p hp)) (fun usableAny hfb => hW.bind (hW.tot hfb) (fun p' hloop => ?_))
      refine hW.bind (hloop s) ?_
      intro ⟨c, s1⟩ _
      exact hW.bind (hU _ drv hg) (fun d _ => hW.pure trivial)
  | fix p =>
    obtain ⟨hfx, hm, hjc⟩ := (regionWF_fix hp).mp h
    simp only
    refine hW.bind (P := fun x => (∃ d, getDatarate rs.id x.1.toInt.toNat = some d) ∧ x.2.1 < 72) ?_ ?_
    · cases frame with
      | join =>
        refine hW.bind (hN rfl p hp s) ?_
        intro ⟨ch, jc', s'⟩ h1
        exact hW.pure ⟨(joinDr_facts rs.id hfx ch).1, h1⟩
      | data =>
        simp only
        refine hW.bind (P := fun x => ∀ ch, x.1 = some ch → ch < 72) ?_ ?_
        · split
          · rename_i hbias
            refine hW.bind (hW.tot (getNextChannel_biased_tot g p.jc s hjc (.of_hasBias hbias))) ?_
            intro ⟨ch, jc', s'⟩ ⟨h1, _⟩
            refine hW.bind (hW.tot (isEnabled_tot p.mask ch hm h1)) (fun en _ => hW.pure (fun ch' e => ?_))
            cases en
            · cases e
            · cases e; exact h1
          · exact hW.pure (fun ch e => by cases e)
        · intro ⟨biased, jc0, s0⟩ hb
          cases biased with
          | some ch => exact hW.pure ⟨(joinDr_facts rs.id hfx ch).1, hb ch rfl⟩
          | none =>
            simp only
            have hfd2 := firstDataChannel_lt g jc0 s0
            generalize JoinChannels.firstDataChannel g jc0 s0 = fd at hfd2 ⊢
            obtain ⟨pref, jcf, sf⟩ := fd
            simp only at hfd2 ⊢
            refine hW.bind hI (fun o ho => hW.bind (hU _ o ho) (fun d0 hd0 => ?_))
            subst hd0
            refine hW.bind (P := fun _ => True) ?_ (fun usePref _ => ?_)
            · cases pref with
              | none => exact hW.pure trivial
              | some ch =>
                exact hW.bind (hW.tot (isEnabled_tot p.mask ch hm (by have := hfd2 ch rfl; omega))) (fun _ _ => hW.pure trivial)
            · split
              · rename_i chp
                exact hW.pure ⟨⟨_, hdd⟩, by have := hfd2 chp rfl; simp only; omega⟩
              · split
                · rename_i hbw
                  refine hW.bind (hW.tot (hF5 rfl hbw p hp)) (fun any500 hfb => hW.bind (hW.tot hfb) (fun mask' hloop => ?_))
                  refine hW.bind (hloop sf) ?_
                  intro ⟨ch, s''⟩ h2
                  exact hW.pure ⟨⟨_, hdd⟩, h2⟩
                · rename_i hbw
                  refine hW.bind (hW.tot (hF1 rfl (by simpa using hbw) p hp)) (fun any125 hfb => hW.bind (hW.tot hfb) (fun mask' hloop => ?_))
                  refine hW.bind (hloop sf) ?_
                  intro ⟨ch, s''⟩ h2
                  exact hW.pure ⟨⟨_, hdd⟩, h2⟩
    · intro ⟨dr', ch, jc', mask', s'⟩ ⟨⟨d', hd'⟩, hch⟩
      simp only at hd' hch ⊢
      rw [indexDatarate_of_get hd']
      simp only [ok_bind, unwrapDatarate_some]
      rw [List.getElem?_eq_getElem (by rw [uplinkChannels_length]; exact hch),
        List.getElem?_eq_getElem (by rw [downlinkChannels_length]; exact Nat.mod_lt _ (by decide))]
      exact hW.pure trivial

theorem selectTxChannel_noPanic {σ} (g : Rng σ) (rs : RegionState) (dr : DR) (frame : FrameKind) (s : σ)
    (h : regionWF rs = true) (hdr : isUplinkDatarate rs.id dr.toInt.toNat = true) :
    Safe (selectTxChannel g rs dr frame s) (fun _ => True) := by
  obtain ⟨dd, hdd, _⟩ := isUplink_get hdr
  refine selectTxChannel_wp .safe g rs dr frame s h hdd (fun _ p _ s => dynJoinLoop_safe g _ _ s) ?_ ?_ ?_ ?_
  · intro _ p hp
    refine (dynFallback rs.id p ((regionWF_dyn hp).mp h).2).mono (fun p' hp' s => ?_)
    exact dynDataLoop_safe g rs.id p' _ s hp'.1
  · intro _ p hp s
    exact (getNextChannel_safe g p.jc s ((regionWF_fix hp).mp h).2.2).mono (fun _ hx => hx.1)
  · intro _ _ p hp
    refine (fallback500 p.mask ((regionWF_fix hp).mp h).2.1).mono (fun m' hm' s => ?_)
    exact fixedMaskLoop_safe g m' 8 64 _ s hm'.1 (by omega) (by omega)
  · intro _ _ p hp
    refine (fallback125 p.mask ((regionWF_fix hp).mp h).2.1).mono (fun m' hm' s => ?_)
    exact (fixedMaskLoop_safe g m' 64 0 _ s hm'.1 (by omega) (by omega)).mono (fun _ hx => by omega)

theorem selectTxChannel_safe {σ} (g : Rng σ) (rs : RegionState) (dr : DR) (frame : FrameKind) (s : σ)
    (h : regionWF rs = true) (hdr : isUplinkDatarate rs.id dr.toInt.toNat = true) :
    Safe (selectTxChannel g rs dr frame s) (fun r => regionWF r.2.1 = true ∧ r.2.1.id = rs.id) :=
  safe_iff.mpr ⟨(selectTxChannel_noPanic g rs dr frame s h hdr).no_panic, fun ⟨tx, rs', s'⟩ e =>
    let hsel := selectTxChannel_selected g rs rs' dr frame s s' tx e
    ⟨hsel.wf h, hsel.id⟩⟩

end Model
