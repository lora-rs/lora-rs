import LoraVerif.Lemmas.AesEval
/-!
# Known answers for the Lean AES-CMAC, short messages

RFC 4493 §4: the subkeys K1, K2 and examples 1–2 (message lengths 0 and 16); examples 3–4 are in `CmacKat2`.
They pin the Lean AES-CMAC that the driver uses; the same function is compared with the `cmac` crate on
≥ 10^4 random inputs in every run.
-/
open Lora
namespace CmacKat

example : (Aes.dbl (Aes.encrypt #v[0x2b, 0x7e, 0x15, 0x16, 0x28, 0xae, 0xd2, 0xa6, 0xab, 0xf7, 0x15, 0x88, 0x09, 0xcf, 0x4f, 0x3c] Block.zero)).toList
    = [0xfb, 0xee, 0xd6, 0x18, 0x35, 0x71, 0x33, 0x66, 0x7c, 0x85, 0xe0, 0x8f, 0x72, 0x36, 0xa8, 0xde] := by
  rw [AesEval.encrypt_eq]; decide +kernel
example : (Aes.dbl (Aes.dbl (Aes.encrypt #v[0x2b, 0x7e, 0x15, 0x16, 0x28, 0xae, 0xd2, 0xa6, 0xab, 0xf7, 0x15, 0x88, 0x09, 0xcf, 0x4f, 0x3c] Block.zero))).toList
    = [0xf7, 0xdd, 0xac, 0x30, 0x6a, 0xe2, 0x66, 0xcc, 0xf9, 0x0b, 0xc1, 0x1e, 0xe4, 0x6d, 0x51, 0x3b] := by
  rw [AesEval.encrypt_eq]; decide +kernel
example : (Aes.cmac #v[0x2b, 0x7e, 0x15, 0x16, 0x28, 0xae, 0xd2, 0xa6, 0xab, 0xf7, 0x15, 0x88, 0x09, 0xcf, 0x4f, 0x3c] []).toList
    = [0xbb, 0x1d, 0x69, 0x29, 0xe9, 0x59, 0x37, 0x28, 0x7f, 0xa3, 0x7d, 0x12, 0x9b, 0x75, 0x67, 0x46] := by
  rw [AesEval.cmac_eq]; decide +kernel
example : (Aes.cmac #v[0x2b, 0x7e, 0x15, 0x16, 0x28, 0xae, 0xd2, 0xa6, 0xab, 0xf7, 0x15, 0x88, 0x09, 0xcf, 0x4f, 0x3c] [0x6b, 0xc1, 0xbe, 0xe2, 0x2e, 0x40, 0x9f, 0x96, 0xe9, 0x3d, 0x7e, 0x11, 0x73, 0x93, 0x17, 0x2a]).toList
    = [0x07, 0x0a, 0x16, 0xb4, 0x6b, 0x4d, 0x41, 0x44, 0xf7, 0x9b, 0xdd, 0x9d, 0xd0, 0x4a, 0x28, 0x7c] := by
  rw [AesEval.cmac_eq]; decide +kernel

end CmacKat
