import LoraVerif.Lemmas.C02Lemmas
/-!
# Lemmas for C02, join frames and classification

What the JoinRequest and JoinAccept parsers and the top-level classification (`phyToSpec`) do on a byte string, in the
specification's words: the structure checks (`checkMhdr_spec`, `validate_ja_structure_spec`, `join_request_cases`,
`ja_cases`), the MIC at the end (`extractMic_eq`) and the CFList of a decrypted JoinAccept (`cfList_eq`).  A field is read by
`field_eq` (`Lemmas/CodecLemmas`), where the ECB layer is too.
-/
open Lora.Codec Lora.CodecLemmas

namespace Lora.C02Lemmas

/-- `check_mhdr(bytes, mtype)` in the specification's words -/
theorem checkMhdr_spec (mhdr : UInt8) (rest : Bytes) (m : UInt8) :
    checkMhdr (mhdr :: rest) m =
      if mhdr.toNat % 4 ≠ 0 then .err .unsupportedMajorVersion
      else if mhdr.toNat / 32 ≠ m.toNat then .err .unexpectedMessageType else .ok () := by
  simp only [checkMhdr, major_iff, ← mtype_shift, ne_eq, UInt8.toNat_inj]

theorem take_drop_seg (l : Bytes) (lo hi : Nat) (h : lo ≤ hi) : (l.take hi).drop lo = (l.drop lo).take (hi - lo) := by
  rw [List.drop_take]

theorem validate_ja_structure_spec (b : Bytes) :
    validateJoinAcceptStructure b = Outcome.ofExcept (Spec.checkJoinAccept b) := by
  cases b with
  | nil => rfl
  | cons mhdr rest =>
    have hl : (rest.length + 1 ≠ 17 ∧ rest.length + 1 ≠ 33) ↔ (rest.length ≠ 16 ∧ rest.length ≠ 32) := by omega
    simp only [validateJoinAcceptStructure, Spec.checkJoinAccept, bind, pure, checkMhdr_spec mhdr rest 1,
      List.length_cons, hl, apply_ite Outcome.ofExcept]
    -- with `bind` pushed into the branches as well, the two chains of decisions coincide
    rw [apply_ite (Outcome.bind · _), apply_ite (Outcome.bind · _)]
    rfl

theorem ja_cases (b : Bytes) (h : Spec.checkJoinAccept b = .ok ()) :
    ∃ mhdr rest, b = mhdr :: rest ∧ (rest.length = 16 ∨ rest.length = 32) := by
  cases b with
  | nil => simp [Spec.checkJoinAccept] at h
  | cons mhdr rest =>
    refine ⟨mhdr, rest, rfl, ?_⟩
    unfold Spec.checkJoinAccept at h
    simp only at h
    split at h; · cases h
    split at h; · cases h
    split at h; · cases h
    omega

theorem clear_length (c : Cipher) (k : Key) (mhdr : UInt8) (rest : Bytes) :
    (Spec.joinAcceptClear c k (mhdr :: rest)).length = rest.length + 1 := by
  simp only [Spec.joinAcceptClear, List.length_cons]
  rw [ecb_length _ _ _ (Nat.mul_div_le ..)]

theorem le3_fromLe (a b c : UInt8) : Spec.le 3 (Spec.fromLe [a, b, c]) = [a, b, c] := le_fromLe [a, b, c]

theorem le2_fromLe (a b : UInt8) : Spec.le 2 (Spec.fromLe [a, b]) = [a, b] := le_fromLe [a, b]

/-- what a classified payload says, via every accessor of its view -/
def phyToSpec : PhyPayload → Outcome Spec.Decoded
  | .joinRequest bytes => (joinRequestView bytes).map fun v => .joinRequest v.toSpec
  | .joinAccept bytes => .ok (.joinAccept bytes)
  | .data p => (p.view).map fun v => .data v.toSpec

theorem shift_lit (x : UInt8) (n : Nat) (hn : n < 8) (h : x.toNat / 32 = n) : x >>> 5 = UInt8.ofNat n := by
  apply UInt8.toNat_inj.mp
  rw [mtype_shift, h]
  simp; omega

theorem extractMic_eq (b : Bytes) (h : 4 ≤ b.length) : extractMic b = .ok (b.drop (b.length - 4)) := by
  unfold extractMic usizeSub
  rw [if_pos h]
  show (slice b (b.length - 4) b.length).bind (arr 4) = _
  rw [field_eq b _ _ 4 (by omega) (Nat.le_refl _), List.take_of_length_le (by rw [List.length_drop]; omega)]

theorem last4_cons (x : UInt8) (p : Bytes) (h : 4 ≤ p.length) :
    (x :: p).drop ((x :: p).length - 4) = p.drop (p.length - 4) := by
  rw [List.length_cons, show p.length + 1 - 4 = p.length - 4 + 1 by omega, List.drop_succ_cons]

/-- **Structure of a JoinRequest.** Model and specification refuse the byte string with the same error,
or it has 23 octets and both accept it. -/
theorem join_request_cases (b : Bytes) :
    (∃ e, parseJoinRequest b = .err e ∧ Spec.decodeJoinRequest b = .error e) ∨
    (b.length = 23 ∧ parseJoinRequest b = .ok b ∧
      Spec.decodeJoinRequest b = .ok
        { joinEui := UInt64.ofNat (Spec.fromLe ((b.drop 1).take 8)), devEui := UInt64.ofNat (Spec.fromLe ((b.drop 9).take 8))
          devNonce := UInt16.ofNat (Spec.fromLe ((b.drop 17).take 2)), mic := b.drop 19 }) := by
  unfold parseJoinRequest Spec.decodeJoinRequest
  cases b with
  | nil => exact .inl ⟨_, rfl, rfl⟩
  | cons mhdr rest =>
    simp only [bind, checkMhdr_spec mhdr rest 0, show (0 : UInt8).toNat = 0 from rfl, List.length_cons]
    by_cases hmaj : mhdr.toNat % 4 ≠ 0
    · exact .inl ⟨.unsupportedMajorVersion, by rw [if_pos hmaj]; rfl, by rw [if_pos hmaj]⟩
    · by_cases ht : mhdr.toNat / 32 ≠ 0
      · exact .inl ⟨.unexpectedMessageType, by rw [if_neg hmaj, if_pos ht]; rfl, by rw [if_neg hmaj, if_pos ht]⟩
      · by_cases hl : rest.length = 22
        · exact .inr ⟨congrArg (· + 1) hl, by rw [if_neg hmaj, if_neg ht, bind_ok, if_pos (congrArg (· + 1) hl)]; rfl,
            by rw [if_neg hmaj, if_neg ht, if_neg fun h => h hl]; rfl⟩
        · exact .inl ⟨.invalidLength, by rw [if_neg hmaj, if_neg ht, bind_ok, if_neg (by omega)],
            by rw [if_neg hmaj, if_neg ht, if_pos hl]⟩

/-- `c_f_list()` of a decrypted JoinAccept reads the 16 octets after RxDelay as the specification does
(type 0: five frequencies, type 1: channel mask, RFU types: none); absent in a 17-octet frame -/
theorem cfList_eq (mhdr : UInt8) (p : Bytes) (hl : p.length = 16 ∨ p.length = 32) :
    ∃ cf, joinAcceptCfList (mhdr :: p) = .ok cf ∧
      cf.map CfListView.toSpec = if p.length = 32 then Spec.decodeCfList ((p.drop 12).take 16) else none := by
  unfold joinAcceptCfList
  rcases hl with hl | hl
  · exact ⟨none, by rw [List.length_cons, hl]; rfl, by rw [hl]; rfl⟩
  · rw [List.length_cons, hl, if_neg (by decide), if_pos rfl]
    have hs : slice (mhdr :: p) 13 29 = .ok ((p.drop 12).take 16) := by
      exact slice_eq _ 13 29 (by decide) (by rw [List.length_cons, hl]; decide)
    obtain ⟨x0, x1, x2, x3, x4, x5, x6, x7, x8, x9, x10, x11, x12, x13, x14, t, hx⟩ :=
      list16 ((p.drop 12).take 16) (by rw [List.length_take, List.length_drop]; omega)
    rw [hs, hx]
    by_cases h0 : t = 0
    · subst h0
      exact ⟨_, by simp only [bind, bind_ok, List.length_cons, List.length_nil, Nat.reduceAdd, Nat.reduceDiv]; rfl, rfl⟩
    · by_cases h1 : t = 1
      · subst h1; exact ⟨_, rfl, rfl⟩
      · refine ⟨none, ?_, ?_⟩
        · simp only [bind, bind_ok, getByte, List.getElem?_cons_succ, List.getElem?_cons_zero, Outcome.ofOption, h0, h1, if_false, pure]
        · simp only [Spec.decodeCfList, List.drop_succ_cons, List.drop_zero, h0, h1, if_false, Option.map_none]

end Lora.C02Lemmas
