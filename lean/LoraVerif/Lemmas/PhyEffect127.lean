import LoraVerif.Lemmas.PhyRegs127
import LoraVerif.Lemmas.Basics
/-!
# SX127x register effects (C13): lora-phy's driver against Semtech's `sx127x.c`

The two drivers factor their register traffic differently (single accesses and re-reads against
burst writes), so the comparison is on the chip-visible effect: the register file after the
operation, `(trace p c).2.1.regs`, for every prior register content.
-/
open Model.Phy Spec.Semtech
namespace C13
open Gen.PhyCodes127

theorem u8_forall (P : UInt8 → Prop) (h : ∀ i : Fin 256, P (UInt8.ofNat i.val)) (x : UInt8) : P x :=
  Lora.uint8_forall P h x

theorem u8_and_or (x y z : UInt8) : (x ||| y) &&& z = (x &&& z) ||| (y &&& z) :=
  UInt8.toBitVec_inj.1 BitVec.and_or_distrib_right

/-- two register files agree under a mask that is 0 outside finitely many addresses as soon as they agree there -/
theorem agree_of_support (mask : Nat → UInt8) (as : List Nat) (L R : Nat → UInt8) (h0 : ∀ a, a ∉ as → mask a = 0)
    (h : ∀ a ∈ as, L a &&& mask a = R a &&& mask a) (a : Nat) : L a &&& mask a = R a &&& mask a := by
  by_cases ha : a ∈ as
  · exact h a ha
  · rw [h0 a ha, UInt8.and_zero, UInt8.and_zero]

/-- A field written by read-modify-write, seen through a mask `m` that the kept part `k` does not meet: the old
content is not seen.  This is why a driver that writes the field absolutely agrees with one that keeps the rest. -/
theorem u8_field_seen (old k v m : UInt8) (h : k &&& m = 0) : (old &&& k ||| v) &&& m = v &&& m := by
  rw [u8_and_or, UInt8.and_assoc, h, UInt8.and_zero, UInt8.zero_or]

/-- clearing a field and then setting all of it is setting it -/
theorem u8_clear_set (old m : UInt8) : old &&& ~~~m ||| m = old ||| m := by
  apply UInt8.toBitVec_inj.1
  simp only [UInt8.toBitVec_and, UInt8.toBitVec_or, UInt8.toBitVec_not]
  ext i hi
  simp
  cases old.toBitVec[i] <;> cases m.toBitVec[i] <;> rfl

/-- Closes a byte identity in `&&&`, `|||`, `~~~`, literals and shifts by literals, for every value of its variables:
as bit vectors (only there does `simp` compute closed masks such as `~~~(7 <<< 4) &&& 0x8f`) the three rewriting
lemmas push every observing mask down to the variables; a kept part seen through a disjoint mask becomes `old &&& 0`. -/
macro "fields" : tactic =>
  `(tactic| (apply UInt8.toBitVec_inj.1; simp [BitVec.and_assoc, BitVec.or_assoc, BitVec.and_or_distrib_right]; done))

/-- run both SX127x drivers one register access at a time (`Lemmas/PhyRegs127.lean`): the register file
afterwards as nested `setAt` over the file before (add `setAt` to evaluate it at an address).  The reference's
register addresses are unfolded here; a caller names the two programs compared and the chip kind. -/
syntax "eff127" ("[" Lean.Parser.Tactic.simpLemma,* "]")? : tactic
macro_rules
  | `(tactic| eff127) => `(tactic| eff127 [])
  | `(tactic| eff127 [$ls,*]) => `(tactic|
  simp [$ls,*, Sx127x.trace_read, Sx127x.trace_write, Sx127x.trace_write_last, Sx127x.trace_writeBuffer, S127.trace_read, S127.trace_write,
    S127.trace_write_last, regAddr, Register.toInt, Plain127, Chip.write127_plain, Chip.read127_plain, Chip.write127_opMode,
    Chip.write127_fifoAddrPtr, Chip.write127_irqFlags,
    byteAt, trace_ite, Prog.bind_assoc, Prog.req, setAt_ne, u8,
    S127.REG_OP_MODE, S127.REG_FRF_MSB, S127.REG_LORA_MODEM_CONFIG_1, S127.REG_LORA_MODEM_CONFIG_2,
    S127.REG_1276_LORA_MODEM_CONFIG_3, S127.REG_LORA_DETECT_OPTIMIZE, S127.REG_LORA_DETECTION_THRESHOLD,
    S127.REG_LORA_SYNC_WORD, S127.REG_FIFO, S127.REG_PA_CONFIG, S127.REG_PA_RAMP, S127.REG_LORA_FIFO_ADDR_PTR,
    S127.REG_LORA_FIFO_TX_BASE_ADDR, S127.REG_LORA_IRQ_FLAGS_MASK, S127.REG_LORA_PREAMBLE_MSB,
    S127.REG_LORA_PAYLOAD_LENGTH, S127.REG_1276_PA_DAC, S127.REG_1272_PA_DAC])

def sfNum127 : SpreadingFactor → Nat
  | ._5 => 5 | ._6 => 6 | ._7 => 7 | ._8 => 8 | ._9 => 9 | ._10 => 10 | ._11 => 11 | ._12 => 12
def crDenom127 : CodingRate → Nat
  | ._4_5 => 5 | ._4_6 => 6 | ._4_7 => 7 | ._4_8 => 8

theorem sf127_code (sf : SpreadingFactor) (h : sf ≠ ._5) :
    spreading_factor_value sf = some (sfNum127 sf : Int) ∧ 6 ≤ sfNum127 sf ∧ sfNum127 sf ≤ 12 ∧ (sf = ._6 ↔ sfNum127 sf = 6) := by
  cases sf <;> first | exact absurd rfl h | decide

theorem cr127_code (cr : CodingRate) :
    coding_rate_denominator_value cr = some (crDenom127 cr : Int) ∧ coding_rate_value cr = some ((crDenom127 cr - 4 : Nat) : Int) ∧
      5 ≤ crDenom127 cr ∧ crDenom127 cr ≤ 8 := by
  cases cr <;> decide

def bw1276Num : Bandwidth → Nat
  | ._7KHz => 0 | ._10KHz => 1 | ._15KHz => 2 | ._20KHz => 3 | ._31KHz => 4 | ._41KHz => 5 | ._62KHz => 6
  | ._125KHz => 7 | ._250KHz => 8 | ._500KHz => 9

theorem bw1276_code (bw : Bandwidth) :
    Sx127x.bandwidthValue .sx1276 bw = some (bw1276Num bw : Int) ∧ S127.bwCode (Sx127x.hzOf bw) = some (bw1276Num bw) ∧
      bw1276Num bw ≤ 9 ∧ (bw = ._500KHz ↔ bw1276Num bw = 9) := by
  cases bw <;> decide

theorem bw1272_code (bw : Bandwidth) (h : Sx127x.hzOf bw ≥ 125000) :
    Sx127x.bandwidthValue .sx1272 bw = some ((bw1276Num bw - 7 : Nat) : Int) ∧ S127.bwCode (Sx127x.hzOf bw) = some (bw1276Num bw) ∧
      7 ≤ bw1276Num bw ∧ bw1276Num bw ≤ 9 := by
  cases bw <;> first | decide | exact absurd h (by decide)

/-- `set_standby`: RegOpMode := LoRa | Standby against the reference's read-modify-write of the mode
bits; the chip keeps its LongRangeMode bit outside sleep — same register file afterwards, whatever
RegOpMode held before -/
theorem sx127x_standby_effect_eq (c : Chip) (hk : c.kind = .sx127x) :
    (trace Sx127x.setStandby c).2.1.regs = (trace S127.setStandby c).2.1.regs := by
  funext a
  eff127 [setAt, Sx127x.setStandby, S127.setStandby, S127.setOpMode, hk]
  split
  · -- the mode bits written are not 0 on either side, so the chip keeps its LongRangeMode bit
    have h : ∀ r : UInt8, r &&& 7 &&& ~~~7 ||| 1 = 1 := fun r => by fields
    simp +decide only [h, Sx127x.opStandby, and_false, if_false]
    rfl
  · rfl

/-- `set_sleep` from an active mode (mode bits ≠ 0: the reference's write of a bare `0` to a chip that
already sleeps would clear LongRangeMode, lora-phy's `0x80` would not) -/
theorem sx127x_sleep_effect_eq (c : Chip) (hk : c.kind = .sx127x) (hm : c.regs 1 &&& 7 ≠ 0) :
    (trace Sx127x.setSleep c).2.1.regs = (trace S127.setSleep c).2.1.regs := by
  funext a
  eff127 [setAt, Sx127x.setSleep, S127.setSleep, S127.setOpMode, hk, intfWrite, Prog.xfer, Chip.transact127, Sx127x.wr_eq]
  split
  · -- the chip is not asleep (`hm`), so it keeps its LongRangeMode bit whatever is written
    have h : ∀ r : UInt8, r &&& 7 &&& ~~~7 = 0 := fun r => by fields
    simp +decide only [h, Sx127x.opSleep, hm, false_and, if_false]
    rfl
  · rfl

/-- lora-phy reduces the two high bits of the count before the cast, the reference masks after it -/
theorem ofNat_mod4 (q : Nat) : UInt8.ofNat (q % 4) = UInt8.ofNat q &&& 3 := by
  apply UInt8.toNat_inj.mp
  rw [UInt8.toNat_and, UInt8.toNat_ofNat', UInt8.toNat_ofNat', show (3 : UInt8).toNat = 2 ^ 2 - 1 from rfl,
    Nat.and_two_pow_sub_one_eq_mod]
  omega

/-- the symbol-timeout program as one step of `eff127`, like `Sx127x.trace_write` for a single register: a caller
(`do_rx`) is run without unfolding it -/
theorem trace_symbolTimeout {α : Type} (c : Chip) (hk : c.kind = .sx127x) (k : Nat) (f : Unit → Prog α) :
    (trace (Prog.bind (Sx127x.setLoraSymbolNumTimeout k) f) c).2 =
      (trace (f ()) ((c.setReg 0x1e ((c.regs 0x1e &&& 0xfc) ||| UInt8.ofNat (min k 1023 / 256 % 4))).setReg 0x1f
        (UInt8.ofNat (min k 1023 % 256)))).2 := by
  eff127 [Sx127x.setLoraSymbolNumTimeout, hk, Sx127x.SX127X_MAX_LORA_SYMB_NUM_TIMEOUT]

theorem trace_symbolTimeout_last (c : Chip) (hk : c.kind = .sx127x) (k : Nat) :
    (trace (Sx127x.setLoraSymbolNumTimeout k) c).2.1 =
      (c.setReg 0x1e ((c.regs 0x1e &&& 0xfc) ||| UInt8.ofNat (min k 1023 / 256 % 4))).setReg 0x1f (UInt8.ofNat (min k 1023 % 256)) := by
  have := trace_symbolTimeout c hk k .ret
  rw [Prog.bind_ret_right] at this
  rw [this]; rfl

theorem sx127x_symbol_timeout_effect_eq (k : Nat) (hk0 : 0 < k) (hk1 : k ≤ 1023) (c : Chip) (hk : c.kind = .sx127x) :
    (trace (Sx127x.setLoraSymbolNumTimeout k) c).2.1.regs = (trace (S127.setLoraSyncTimeout k) c).2.1.regs := by
  funext a
  rw [trace_symbolTimeout_last c hk]
  eff127 [setAt, S127.setLoraSyncTimeout, hk, show k ≠ 0 by omega, show min k 1023 = k by omega]
  rw [ofNat_mod4]; rfl

/-- what the driver writes for EVERY count (clamped to 10 bits): bits 9:8 into RegModemConfig2[1:0] with
bits 7:2 preserved, bits 7:0 into RegSymbTimeoutLsb, nothing else -/
theorem sx127x_symbol_timeout_value (k : Nat) (c : Chip) (hk : c.kind = .sx127x) (a : Nat) :
    (trace (Sx127x.setLoraSymbolNumTimeout k) c).2.1.regs a =
      if a = 0x1f then UInt8.ofNat (min k 1023 % 256)
      else if a = 0x1e then (c.regs 0x1e &&& 0xfc) ||| UInt8.ofNat (min k 1023 / 256 % 4)
      else c.regs a := by
  rw [trace_symbolTimeout_last c hk]; simp [setAt]

/-- the RX start in single mode programs the same symbol timeout as the reference's
`set_lora_sync_timeout` (what the harness compares for its operation `dorx`, harness/src/c13.rs: RegModemConfig2, RegSymbTimeoutLsb) -/
theorem sx127x_rx_single_timeout_effect_eq (cfg : Sx127x.Config) (n : Nat) (h4 : 4 ≤ n) (h1023 : n ≤ 1023) (c : Chip)
    (hk : c.kind = .sx127x) (a : Nat) (ha : a = 0x1e ∨ a = 0x1f) :
    (trace (Sx127x.doRx cfg (.single n)) c).2.1.regs a = (trace (S127.setLoraSyncTimeout n) c).2.1.regs a := by
  -- the reference side is the driver's own timeout program; what `do_rx` does after it leaves the two registers alone
  rw [← sx127x_symbol_timeout_effect_eq n (by omega) h1023 c hk, trace_symbolTimeout_last c hk]
  rcases ha with rfl | rfl <;>
    eff127 [setAt, Sx127x.doRx, trace_symbolTimeout, Sx127x.clearIrqStatus, hk, show max n 4 = n by omega,
      Sx127x.SX127X_MIN_LORA_SYMB_NUM_TIMEOUT]

end C13
