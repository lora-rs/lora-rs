import LoraVerif.Model.Region
import LoraVerif.Lemmas.ExceptLemmas
import LoraVerif.Lemmas.ListLemmas
/-!
# Totality, absence of panics and postconditions on the model monad

Three weakest-precondition style predicates on `M = Except Fault`, with their bind rules — the way the per-handler
lemmas compose into the history invariants (C04, C09).  `ok_bind` is the one equation of `M` they need.  A walk that
holds for all three is written once against `WpRules` (what is total satisfies the predicate; the bind rule) and
instantiated by `WpRules.total`, `.safe`, `.post`.

* `Tot x P`  : `x` RETURNS a value satisfying `P` (no panic, no exhausted retry budget);
* `Safe x P` : `x` does not PANIC, and if it returns, the value satisfies `P` (a retry loop may run
  out of its draw budget: `Fault.hang`);
* `Post x P` : if `x` returns, the value satisfies `P`.
`Tot → Safe → Post`; `Safe` and returning give `Tot` (`Safe.to_tot`).  The model's `anyM` / `allM` are total when their test is.
-/
namespace Model

theorem ok_bind {α β} (a : α) (f : α → M β) : ((Except.ok a : M α) >>= f) = f a := rfl
theorem ok_bind' {α β} (a : α) (f : α → M β) : ((Except.ok a : M α) >>= f) = f a := ok_bind a f

def Tot {α} (x : M α) (P : α → Prop) : Prop := ∃ a, x = .ok a ∧ P a

def Safe {α} (x : M α) (P : α → Prop) : Prop :=
  match x with
  | .ok a => P a
  | .error (.hang _) => True
  | .error (.panic _) => False

theorem Tot.pure {α} {a : α} {P : α → Prop} (h : P a) : Tot (Pure.pure a : M α) P := ⟨a, rfl, h⟩

theorem Tot.ok {α} {a : α} {P : α → Prop} (h : P a) : Tot (Except.ok a : M α) P := ⟨a, rfl, h⟩

theorem Tot.bind {α β} {x : M α} {f : α → M β} {P : α → Prop} {Q : β → Prop}
    (hx : Tot x P) (hf : ∀ a, P a → Tot (f a) Q) : Tot (x >>= f) Q := by
  obtain ⟨a, rfl, ha⟩ := hx
  exact hf a ha

theorem Tot.bind_returns {α β} {x : M α} {f : α → M β} {P : α → Prop}
    (hx : Tot x P) (hf : ∀ a, P a → ∃ r, f a = .ok r) : ∃ r, (x >>= f) = .ok r := by
  obtain ⟨a, rfl, ha⟩ := hx
  exact hf a ha

theorem Tot.ite {α} {c : Prop} [Decidable c] {x y : M α} {P : α → Prop} (hx : Tot x P) (hy : Tot y P) :
    Tot (if c then x else y) P := by
  split <;> assumption

theorem Tot.mono {α} {x : M α} {P Q : α → Prop} (hx : Tot x P) (h : ∀ a, P a → Q a) : Tot x Q := by
  obtain ⟨a, e, ha⟩ := hx
  exact ⟨a, e, h a ha⟩

theorem Tot.and {α} {x : M α} {P Q : α → Prop} (hp : Tot x P) (hq : Tot x Q) : Tot x (fun a => P a ∧ Q a) := by
  obtain ⟨a, e, ha⟩ := hp
  obtain ⟨b, e', hb⟩ := hq
  rw [e] at e'
  cases e'
  exact ⟨a, e, ha, hb⟩

theorem Tot.of_eq {α} {x : M α} {a : α} {P : α → Prop} (e : x = .ok a) (h : P a) : Tot x P := ⟨a, e, h⟩

theorem Tot.returns {α} {x : M α} {P : α → Prop} (h : Tot x P) : ∃ r, x = .ok r := by
  obtain ⟨r, hr, _⟩ := h
  exact ⟨r, hr⟩

/-- the form in which a table look-up is decided to succeed over its whole finite domain -/
theorem Tot.of_isSome {α} {x : M α} (h : x.toOption.isSome = true) : Tot x (fun _ => True) := by
  cases x with
  | ok a => exact ⟨a, rfl, trivial⟩
  | error e => cases h

theorem Tot.self {α} {x : M α} {P : α → Prop} (h : Tot x P) : Tot x (fun a => x = .ok a) := by
  obtain ⟨a, e, _⟩ := h
  exact ⟨a, e, e⟩

theorem Tot.elim {α} {x : M α} {P : α → Prop} {a : α} (hx : Tot x P) (e : x = .ok a) : P a := by
  obtain ⟨b, e', hb⟩ := hx
  rw [e] at e'
  cases e'
  exact hb

theorem Safe.pure {α} {a : α} {P : α → Prop} (h : P a) : Safe (Pure.pure a : M α) P := h

theorem Safe.ok {α} {a : α} {P : α → Prop} (h : P a) : Safe (Except.ok a : M α) P := h

theorem Safe.hang {α} {site : String} {P : α → Prop} : Safe (Model.hang site : M α) P := trivial

theorem Tot.safe {α} {x : M α} {P : α → Prop} (hx : Tot x P) : Safe x P := by
  obtain ⟨a, rfl, ha⟩ := hx
  exact ha

theorem Safe.bind {α β} {x : M α} {f : α → M β} {P : α → Prop} {Q : β → Prop}
    (hx : Safe x P) (hf : ∀ a, P a → Safe (f a) Q) : Safe (x >>= f) Q := by
  cases x with
  | ok a => exact hf a hx
  | error e =>
    cases e with
    | panic s => exact hx.elim
    | hang s => trivial

theorem Safe.tbind {α β} {x : M α} {f : α → M β} {P : α → Prop} {Q : β → Prop}
    (hx : Tot x P) (hf : ∀ a, P a → Safe (f a) Q) : Safe (x >>= f) Q := Safe.bind hx.safe hf

theorem Safe.mono {α} {x : M α} {P Q : α → Prop} (hx : Safe x P) (h : ∀ a, P a → Q a) : Safe x Q := by
  cases x with
  | ok a => exact h a hx
  | error e => cases e <;> exact hx

theorem Safe.elim {α} {x : M α} {P : α → Prop} {a : α} (hx : Safe x P) (e : x = .ok a) : P a := by
  subst e; exact hx

theorem Safe.to_tot {α} {x : M α} {P : α → Prop} (h : Safe x P) (hr : ∃ r, x = .ok r) : Tot x P := by
  obtain ⟨r, hr⟩ := hr
  exact ⟨r, hr, h.elim hr⟩

theorem Safe.no_panic {α} {x : M α} {P : α → Prop} (hx : Safe x P) (site : String) : x ≠ .error (.panic site) := by
  intro e; subst e; exact hx

theorem safe_iff {α} {x : M α} {P : α → Prop} :
    Safe x P ↔ (∀ site, x ≠ .error (.panic site)) ∧ (∀ a, x = .ok a → P a) := by
  constructor
  · intro h; exact ⟨h.no_panic, fun a e => h.elim e⟩
  · intro ⟨h1, h2⟩
    cases x with
    | ok a => exact h2 a rfl
    | error e =>
      cases e with
      | panic s => exact (h1 s rfl).elim
      | hang s => trivial

def Post {α} (x : M α) (P : α → Prop) : Prop := ∀ a, x = .ok a → P a

theorem Post.pure {α} {a : α} {P : α → Prop} (h : P a) : Post (Pure.pure a : M α) P := by
  intro b e; cases e; exact h

theorem Post.bind_eq {α β} {x : M α} {f : α → M β} {Q : β → Prop} (hf : ∀ a, x = .ok a → Post (f a) Q) :
    Post (x >>= f) Q := by
  intro b hb
  obtain ⟨a, ha, hfa⟩ := Except.bind_eq_ok hb
  exact hf a ha b hfa

theorem Post.bind {α β} {x : M α} {f : α → M β} {P : α → Prop} {Q : β → Prop}
    (hx : Post x P) (hf : ∀ a, P a → Post (f a) Q) : Post (x >>= f) Q :=
  Post.bind_eq (fun a e => hf a (hx a e))

theorem Post.skip {α β} {x : M α} {f : α → M β} {Q : β → Prop} (hf : ∀ a, Post (f a) Q) : Post (x >>= f) Q :=
  Post.bind_eq (fun a _ => hf a)

theorem Post.ite {α} {c : Prop} [Decidable c] {x y : M α} {P : α → Prop} (hx : Post x P) (hy : Post y P) :
    Post (if c then x else y) P := by
  split <;> assumption

theorem Safe.post {α} {x : M α} {P : α → Prop} (hx : Safe x P) : Post x P := fun _ e => hx.elim e

theorem Tot.post {α} {x : M α} {P : α → Prop} (hx : Tot x P) : Post x P := hx.safe.post

theorem anyM_tot {α} (f : α → M Bool) (l : List α) (h : ∀ a ∈ l, Tot (f a) (fun _ => True)) :
    Tot (anyM f l) (fun _ => True) := by
  induction l with
  | nil => exact ⟨false, rfl, trivial⟩
  | cons a rest ih =>
    unfold anyM
    refine Tot.bind (h a List.mem_cons_self) ?_
    intro b _
    cases b
    · simp only [Bool.false_eq_true, if_false]
      exact ih (fun a ha => h a (List.mem_cons_of_mem _ ha))
    · exact ⟨true, rfl, trivial⟩

theorem allM_tot {α} (f : α → M Bool) (l : List α) (h : ∀ a ∈ l, Tot (f a) (fun _ => True)) :
    Tot (allM f l) (fun _ => True) := by
  induction l with
  | nil => exact ⟨true, rfl, trivial⟩
  | cons a rest ih =>
    unfold allM
    refine Tot.bind (h a List.mem_cons_self) ?_
    intro b _
    cases b
    · exact ⟨false, rfl, trivial⟩
    · simp only [if_true]
      exact ih (fun a ha => h a (List.mem_cons_of_mem _ ha))

theorem anyM_true {α} (f : α → M Bool) (l : List α) (h : anyM f l = .ok true) : ∃ a ∈ l, f a = .ok true := by
  induction l with
  | nil => simp [anyM] at h
  | cons a rest ih =>
    unfold anyM at h
    obtain ⟨b, hb, h⟩ := Except.bind_eq_ok h
    cases b
    · simp only [Bool.false_eq_true, if_false] at h
      obtain ⟨a', ha', hf⟩ := ih h
      exact ⟨a', List.mem_cons_of_mem _ ha', hf⟩
    · exact ⟨a, List.mem_cons_self, hb⟩

/-- what a walk generic in the weakest-precondition predicate uses (`step_wp`, `selectTxChannel_wp`): it holds of whatever
is total, and has the bind rule -/
structure WpRules (W : ∀ {α : Type}, M α → (α → Prop) → Prop) : Prop where
  tot : ∀ {α : Type} {x : M α} {P : α → Prop}, Tot x P → W x P
  bind : ∀ {α β : Type} {x : M α} {f : α → M β} {P : α → Prop} {Q : β → Prop},
    W x P → (∀ a, P a → W (f a) Q) → W (x >>= f) Q

theorem WpRules.pure {W : ∀ {α : Type}, M α → (α → Prop) → Prop} (hW : WpRules W) {α : Type} {a : α} {P : α → Prop} (h : P a) :
    W (Pure.pure a) P := hW.tot (Tot.pure h)

theorem WpRules.mono {W : ∀ {α : Type}, M α → (α → Prop) → Prop} (hW : WpRules W) {α : Type} {x : M α} {P Q : α → Prop}
    (hx : W x P) (h : ∀ a, P a → Q a) : W x Q := by
  have := hW.bind hx (fun a ha => hW.pure (h a ha))
  rwa [bind_pure] at this

theorem WpRules.safe : WpRules @Safe := ⟨Tot.safe, Safe.bind⟩
theorem WpRules.post : WpRules @Post := ⟨Tot.post, Post.bind⟩
theorem WpRules.total : WpRules @Tot := ⟨id, Tot.bind⟩

end Model
