import LoraVerif.Model.Region
import LoraVerif.Spec.Regional
/-!
# The finite facts about the generated region tables

What `Lemmas/MacWFPlan.lean`, `Props/C10.lean`, `Props/C05Size.lean` and `Props/TieA/RegionDispatch.lean` need of the
generated `get_rx_datarate` and `tx_power_adjust` functions, each evaluated once over the whole finite domain.  For
`get_rx_datarate` the sweep is on the six generated functions themselves: the model reaches them through a dispatch over its
nine `RegionId`s, which is written once (`rxFn`, `rxDatarate_eq`), and the facts about the model are read off the
conjunctions over the six tables (`rxFn_isSome`, `rxFn_rx2`), not evaluated a second time through the dispatch.  For
`tx_power_adjust` the one sweep (`C09.powOk_all`) is on the model's `txPowerAdjust`, through the dispatch.
-/
open Model Gen.Region Spec.Regional

namespace Model

theorem RegionId.mem_all (r : RegionId) : r ∈ RegionId.all := by cases r <;> decide

theorem dr_mem_all (d : DR) : d ∈ DR.all := by cases d <;> decide

theorem window_mem_all (w : Window) : w ∈ Window.all := by cases w <;> decide

/-- a fact about every region and every data rate from one evaluation over the two enumerations (instead of one
elaborated goal per pair) -/
theorem forall_region_dr {p : RegionId → DR → Prop} (h : ∀ r ∈ RegionId.all, ∀ d ∈ DR.all, p r d) (r : RegionId) (d : DR) :
    p r d := h r r.mem_all d (dr_mem_all d)

end Model

namespace C05

/-- the name the specification tables use for a region (the four AS923 groups share their tables) -/
def specName : RegionId → String
  | .AS923_1 | .AS923_2 | .AS923_3 | .AS923_4 => "AS923"
  | r => r.name

end C05

namespace C10

/-- the 3-bit RX1DROffset range -/
def offsets : List Int := [0, 1, 2, 3, 4, 5, 6, 7]

/-- `DR.toInt`, under the name the C10 statements use.  The bounds `drOf d ≤ …` below are the regions' highest uplink data
rates (`Spec.Regional.uplinkMax`), written as literals -/
def drOf (d : DR) : Int := d.toInt

theorem rx1_eu868 : ∀ d ∈ DR.all, ∀ off ∈ offsets, drOf d ≤ 7 →
    (EU868Region.get_rx_datarate d off ._1).map drOf = some (rx1 "EU868" (drOf d) off) := by decide +kernel

theorem rx1_eu433 : ∀ d ∈ DR.all, ∀ off ∈ offsets, drOf d ≤ 7 →
    (EU433Region.get_rx_datarate d off ._1).map drOf = some (rx1 "EU433" (drOf d) off) := by decide +kernel

theorem rx1_us915 : ∀ d ∈ DR.all, ∀ off ∈ offsets, drOf d ≤ 4 →
    (US915Region.get_rx_datarate d off ._1).map drOf = some (rx1 "US915" (drOf d) off) := by decide +kernel

theorem rx1_au915 : ∀ d ∈ DR.all, ∀ off ∈ offsets, drOf d ≤ 6 →
    (AU915Region.get_rx_datarate d off ._1).map drOf = some (rx1 "AU915" (drOf d) off) := by decide +kernel

theorem rx1_as923 : ∀ d ∈ DR.all, ∀ off ∈ offsets, drOf d ≤ 7 →
    (AS923Region.get_rx_datarate d off ._1).map drOf = some (rx1 "AS923" (drOf d) off) := by decide +kernel

/-- IN865, only where the table subtracts: offsets 0..5 and data rates up to 5, stated as the subtraction itself and not
through `rx1 "IN865"`; offsets 6, 7 and DR6, DR7 are left out here -/
theorem rx1_in865_partial : ∀ d ∈ DR.all, ∀ off ∈ ([0, 1, 2, 3, 4, 5] : List Int), drOf d ≤ 5 →
    (IN865Region.get_rx_datarate d off ._1).map drOf = some (max 0 (drOf d - off)) := by decide +kernel

/-- no regional table panics for any data rate and any 3-bit offset, in either window -/
theorem rx_datarate_total : ∀ d ∈ DR.all, ∀ off ∈ offsets, ∀ w ∈ Window.all,
    (EU868Region.get_rx_datarate d off w).isSome ∧ (EU433Region.get_rx_datarate d off w).isSome ∧
    (IN865Region.get_rx_datarate d off w).isSome ∧ (AS923Region.get_rx_datarate d off w).isSome ∧
    (US915Region.get_rx_datarate d off w).isSome ∧ (AU915Region.get_rx_datarate d off w).isSome := by decide +kernel

theorem rx2_default : ∀ d ∈ DR.all, ∀ off ∈ offsets,
    (EU868Region.get_rx_datarate d off ._2).map drOf = some (rx2 "EU868") ∧
    (EU433Region.get_rx_datarate d off ._2).map drOf = some (rx2 "EU433") ∧
    (IN865Region.get_rx_datarate d off ._2).map drOf = some (rx2 "IN865") ∧
    (AS923Region.get_rx_datarate d off ._2).map drOf = some (rx2 "AS923") ∧
    (US915Region.get_rx_datarate d off ._2).map drOf = some (rx2 "US915") ∧
    (AU915Region.get_rx_datarate d off ._2).map drOf = some (rx2 "AU915") := by decide +kernel

end C10

namespace C09

def powOk (r : RegionId) (p : Nat) : Bool :=
  match txPowerAdjust r p with
  | .ok (some v) => decide ((v : Int) ≤ maxEirpDbm r.name)
  | .ok none => true
  | .error _ => false

/-- every `u8` index, by evaluation: the sweep does not depend on how `tx_power_adjust` spells its range check -/
theorem powOk_all : ∀ r ∈ RegionId.all, ∀ p ∈ List.range 256, powOk r p = true := by decide +kernel

end C09

namespace Model

/-- the generated function `rxDatarate` dispatches to -/
def rxFn : RegionId → DR → Int → Window → Option DR
  | .AS923_1 | .AS923_2 | .AS923_3 | .AS923_4 => AS923Region.get_rx_datarate
  | .AU915 => AU915Region.get_rx_datarate
  | .EU868 => EU868Region.get_rx_datarate
  | .EU433 => EU433Region.get_rx_datarate
  | .IN865 => IN865Region.get_rx_datarate
  | .US915 => US915Region.get_rx_datarate

theorem rxDatarate_eq (r : RegionId) (d : DR) (off : Nat) (w : Window) :
    rxDatarate r d off w = ofGen "get_rx_datarate" (rxFn r d off w) := by cases r <;> rfl

theorem natCast_mem_offsets : ∀ off ∈ List.range 8, ((off : Nat) : Int) ∈ C10.offsets := by decide

-- the conjunct of each region is named: left to `assumption`, every goal would unfold all six generated functions
theorem rxFn_isSome (r : RegionId) {d : DR} (hd : d ∈ DR.all) {off : Int} (ho : off ∈ C10.offsets) {w : Window}
    (hw : w ∈ Window.all) : (rxFn r d off w).isSome = true := by
  obtain ⟨h1, h2, h3, h4, h5, h6⟩ := C10.rx_datarate_total d hd off ho w hw
  exact match r with
    | .AS923_1 | .AS923_2 | .AS923_3 | .AS923_4 => h4
    | .AU915 => h6 | .EU868 => h1 | .EU433 => h2 | .IN865 => h3 | .US915 => h5

theorem rxFn_rx2 (r : RegionId) {d : DR} (hd : d ∈ DR.all) {off : Int} (ho : off ∈ C10.offsets) :
    (rxFn r d off ._2).map C10.drOf = some (rx2 (C05.specName r)) := by
  obtain ⟨h1, h2, h3, h4, h5, h6⟩ := C10.rx2_default d hd off ho
  exact match r with
    | .AS923_1 | .AS923_2 | .AS923_3 | .AS923_4 => h4
    | .AU915 => h6 | .EU868 => h1 | .EU433 => h2 | .IN865 => h3 | .US915 => h5

/-- the RX2 default of every region is a data rate its table defines -/
theorem rx2_default_defined (r : RegionId) : (getDatarate r (rx2 (C05.specName r)).toNat).isSome = true := by
  cases r <;> decide

end Model
