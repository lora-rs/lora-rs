import LoraVerif.Rt
import LoraVerif.Lemmas.RtLemmas
import LoraVerif.Gen.PhyArith
import LoraVerif.Spec.SemtechArith
/-! Arithmetic the PHY theorems (C15–C17, C13) share: masks and the `i8` cast of `Rt` on non-negative values as
`/`, `%`; the forms of `Spec.Airtime.ceilDiv` the code computes; `PaTable.lookup` depends on the request only
through its clamp into `[min_dbm, lastMax]`; the three PLL conversions of `Gen.PhyArith` in closed form; and, in the
root namespace, finite-range induction (`forall_int_range`), also over a clamped request (`clamp_idem`, `of_clamp`). -/
namespace Rt

theorem remC_pos {t a b} (ha : 0 ≤ a) (hb : 0 < b) : remC t a b = ck t (a % b) := by
  have : b ≠ 0 := by omega
  simp [remC, this, Int.tmod_eq_emod_of_nonneg ha]

theorem andI_3 {x : Int} (h : 0 ≤ x) : andI x 3 = x % 4 := by
  simpa using andI_lowmask h 2

theorem andI_mask_shr (x : Int) (h : 0 ≤ x) (k : Nat) (m : Nat) :
    (andI x ((m <<< k : Nat) : Int)) / (2 ^ k : Int) = ((x.toNat >>> k &&& m : Nat) : Int) := by
  obtain ⟨n, rfl⟩ := Int.eq_ofNat_of_zero_le h
  rw [andI_ofNat]
  simp only [Int.toNat_natCast]
  have : ((n &&& m <<< k : Nat) : Int) / (2 ^ k : Int) = (((n &&& m <<< k) >>> k : Nat) : Int) := by
    rw [Nat.shiftRight_eq_div_pow]; simp
  rw [this, Nat.shiftRight_and_distrib, Nat.shiftLeft_shiftRight]

theorem andI_byte_shr {x : Int} (h : 0 ≤ x) (k : Nat) :
    andI x ((255 <<< k : Nat) : Int) / (2 ^ k : Int) = x / (2 ^ k : Int) % 256 := by
  rw [andI_mask_shr x h k 255]
  obtain ⟨n, rfl⟩ := Int.eq_ofNat_of_zero_le h
  rw [Int.toNat_natCast, Nat.and_two_pow_sub_one_eq_mod _ 8, Nat.shiftRight_eq_div_pow]
  simp

theorem andI_ff0000_shr {x : Int} (h : 0 ≤ x) : (andI x 0x00FF0000) / 65536 = (x / 65536) % 256 :=
  andI_byte_shr h 16

theorem andI_00ff00_shr {x : Int} (h : 0 ≤ x) : (andI x 0x0000FF00) / 256 = (x / 256) % 256 :=
  andI_byte_shr h 8

theorem andI_nonneg_le {x : Int} (h : 0 ≤ x) (m : Nat) : 0 ≤ andI x (m : Int) ∧ andI x (m : Int) ≤ m := by
  obtain ⟨n, rfl⟩ := Int.eq_ofNat_of_zero_le h
  rw [andI_ofNat]
  exact ⟨Int.natCast_nonneg _, by exact_mod_cast Nat.and_le_right⟩

theorem wrap_i8_byte (b : Int) (h0 : 0 ≤ b) (h1 : b ≤ 255) : wrap .i8 b = if b ≥ 128 then b - 256 else b := by
  simp [wrap, ITy.bits, ITy.signed]; omega

/-- `prior & 0xfc | m`: the two low bits of an octet replaced (`andI_clear_low`, `orI_low` at 2 of 8 bits) -/
theorem or_and_fc (p m : Int) (hp0 : 0 ≤ p) (hp1 : p < 256) (hm0 : 0 ≤ m) (hm1 : m < 4) :
    orI (andI p 0xfc) m = p / 4 * 4 + m := by
  have e : andI p 0xfc = p - p % 4 := andI_clear_low 8 2 (by decide) hp0 hp1
  rw [e, orI_low 2 (by omega) (by show (p - p % 4) % 4 = 0; omega) hm0 hm1]
  omega

end Rt

namespace Spec.Airtime

/-- the exact ceiling is `(num − 1) / d + 1`, the form the code computes for a positive numerator -/
theorem ceilDiv_pos {num d : Int} (hd : 0 < d) : ceilDiv num d = (num - 1) / d + 1 := by
  unfold ceilDiv
  have hdm := Int.mul_ediv_add_emod (num - 1) d
  have hr0 := Int.emod_nonneg (num - 1) (by omega : d ≠ 0)
  have hr1 := Int.emod_lt_of_pos (num - 1) hd
  have := (Int.ediv_emod_unique hd (a := -num) (q := -((num - 1) / d) - 1) (r := d - 1 - (num - 1) % d)).2
    ⟨by rw [Int.mul_sub, Int.mul_neg]; omega, by omega, by omega⟩
  omega

/-- ... and `a / T + (1 if a % T > 0)`, the form `delay_in_symbols` computes -/
theorem ceilDiv_eq_ite {a T : Int} (hT : 0 < T) : a / T + (if a % T > 0 then 1 else 0) = ceilDiv a T := by
  have hdm := Int.mul_ediv_add_emod a T
  have hr0 := Int.emod_nonneg a (by omega : T ≠ 0)
  have hr1 := Int.emod_lt_of_pos a hT
  rw [ceilDiv_pos hT]
  split
  · have := (Int.ediv_emod_unique hT (a := a - 1) (q := a / T) (r := a % T - 1)).2 ⟨by omega, by omega, by omega⟩
    omega
  · have := (Int.ediv_emod_unique hT (a := a - 1) (q := a / T - 1) (r := T - 1)).2
      ⟨by rw [Int.mul_sub]; omega, by omega, by omega⟩
    omega

theorem le_ceilDiv_mul (a : Int) {T : Int} (hT : 0 < T) : a ≤ ceilDiv a T * T := by
  have := Int.ediv_mul_le (-a) (by omega : T ≠ 0)
  unfold ceilDiv
  rw [Int.neg_mul]
  omega

theorem ceilDiv_mono {a b d : Int} (hd : 0 < d) (h : a ≤ b) : ceilDiv a d ≤ ceilDiv b d := by
  unfold ceilDiv
  have := Int.ediv_le_ediv hd (by omega : -b ≤ -a)
  omega

end Spec.Airtime

theorem clamp_idem (lo hi r : Int) : max lo (min hi (max lo (min hi r))) = max lo (min hi r) := by omega

namespace Gen.PhyArith
open Spec.Semtech (clampI)

/-- `max_dbm` of the last row, as `lookup` computes it -/
def lastMax (T : PaTable) : Option Int := do
  let i ← Rt.ck .usize ((Int.ofNat T.entries.length) - 1)
  let e ← Rt.idx T.entries i
  pure e.max_dbm

/-- the generated `PaTable::lookup` depends on the request only through its clamp into
`[min_dbm, last max_dbm]` -/
theorem lookup_clamp (T : PaTable) (req : Int) (mx : Int) (hmx : lastMax T = some mx) :
    T.lookup req = T.lookup (clampI T.min_dbm mx req) := by
  unfold lastMax at hmx
  unfold PaTable.lookup clampI
  cases h1 : Rt.ck .usize ((Int.ofNat T.entries.length) - 1) with
  | none => rw [h1] at hmx; simp at hmx
  | some i =>
    rw [h1] at hmx
    simp only [Option.bind_eq_bind, Option.bind_some] at hmx ⊢
    cases h2 : Rt.idx T.entries i with
    | none => rw [h2] at hmx; simp at hmx
    | some e =>
      rw [h2] at hmx
      have hm : e.max_dbm = mx := by simpa using hmx
      subst hm
      simp only [Option.bind_some, clamp_idem]

open Rt in
/-- `convert_freq_in_hz_to_pll_step` in closed form: below 4.096 GHz none of its checked steps overflows -/
theorem Sx126x.convert_freq_in_hz_to_pll_step_closed (f : Int) (h0 : 0 ≤ f) (h1 : f < 4096000000) :
    Sx126x.convert_freq_in_hz_to_pll_step f = some ((f * 16384 + 7812) / 15625) := by
  unfold Sx126x.convert_freq_in_hz_to_pll_step
  rw [show SX126X_PLL_STEP_SCALED = 15625 by decide, show SX126X_PLL_STEP_SHIFT_AMOUNT = 14 from rfl]
  simp (disch := omega) only [ck_u32, divC_pos, shlC_u32_14, shrC_u32_1, Option.bind_some, Option.bind_eq_bind]
  congr 1
  omega

open Rt in
theorem freq_to_pll_step_closed (f : Int) (h0 : 0 ≤ f) (h1 : f ≤ 4294967295) :
    freq_to_pll_step f = some ((f * 524288 + 16000000) / 32000000) := by
  unfold freq_to_pll_step
  rw [shlC_u64_19 h0 h1]
  rt_simp

open Rt in
theorem pll_step_to_freq_closed (p : Int) (h0 : 0 ≤ p) (h1 : p ≤ 70368744) :
    pll_step_to_freq p = some (p * 32000000 / 524288) := by
  unfold pll_step_to_freq
  simp (disch := omega) only [ck_u64, shrC_u64_19, wrap_id_u32, Option.bind_eq_bind, Option.bind_some, Option.pure_def]

end Gen.PhyArith

/-- A fact about every integer of a range from its `n` instances: the checker for what is finite by nature (a PA
table, a bounded format).  Callers discharge `h` by `decide +kernel`: the kernel evaluates the instance once; plain
`decide` would first evaluate it in the elaborator, at four times the cost. -/
theorem forall_int_range (lo : Int) (n : Nat) (P : Int → Prop) (h : ∀ i : Fin n, P (lo + (i.val : Int))) :
    ∀ k, lo ≤ k → k < lo + n → P k := by
  intro k h1 h2
  have h3 := h ⟨(k - lo).toNat, by omega⟩
  have h4 : lo + (((k - lo).toNat : Nat) : Int) = k := by omega
  simp only [h4] at h3
  exact h3

open Spec.Semtech (clampI) in
theorem of_clamp {P : Int → Prop} (lo hi : Int) (n : Nat) (hn : lo ≤ hi ∧ hi < lo + n)
    (h : ∀ i : Fin n, P (lo + i)) (req : Int) : P (clampI lo hi req) :=
  forall_int_range lo n P h _ (by unfold clampI; omega) (by unfold clampI; omega)

