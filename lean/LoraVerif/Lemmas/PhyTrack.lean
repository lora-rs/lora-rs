import LoraVerif.Lemmas.PhyWp
import LoraVerif.Lemmas.PhyLemmas
/-!
# Tracker predicates for the C14 induction, and `wp` of the `SpiInterface` helpers

`Ext t t'` is what every benign stretch of driver code guarantees: flags stay down, programmed items
only grow, the chip is not newly put to sleep.
-/
namespace Model.Phy

/-- `a ⊆ b` on programmed-item sets -/
def Items.le (a b : Items) : Prop :=
  (a.packetType = true → b.packetType = true) ∧ (a.syncWord = true → b.syncWord = true) ∧
  (a.regulator = true → b.regulator = true) ∧ (a.tcxo = true → b.tcxo = true) ∧
  (a.bufferBase = true → b.bufferBase = true) ∧ (a.modulation = true → b.modulation = true) ∧
  (a.packet = true → b.packet = true) ∧ (a.irq = true → b.irq = true) ∧
  (a.frequency = true → b.frequency = true) ∧ (a.pa = true → b.pa = true)

instance (a b : Items) : Decidable (a.le b) := by unfold Items.le; infer_instance

theorem not_or_eq_true_iff (a b : Bool) : (!a || b) = true ↔ (a = true → b = true) := by
  cases a <;> simp

theorem Items.covers_iff (h need : Items) : h.covers need = true ↔ need.le h := by
  simp only [Items.covers, Items.le, Bool.and_eq_true, not_or_eq_true_iff, and_assoc]

theorem Items.le_refl (a : Items) : a.le a := by simp [Items.le]
theorem Items.le_trans {a b c : Items} (h1 : a.le b) (h2 : b.le c) : a.le c := by
  obtain ⟨a1, a2, a3, a4, a5, a6, a7, a8, a9, a10⟩ := h1
  obtain ⟨b1, b2, b3, b4, b5, b6, b7, b8, b9, b10⟩ := h2
  exact ⟨fun h => b1 (a1 h), fun h => b2 (a2 h), fun h => b3 (a3 h), fun h => b4 (a4 h), fun h => b5 (a5 h),
    fun h => b6 (a6 h), fun h => b7 (a7 h), fun h => b8 (a8 h), fun h => b9 (a9 h), fun h => b10 (a10 h)⟩

theorem Items.none_le (a : Items) : Items.le {} a := by simp [Items.le]

def Items.union (a b : Items) : Items :=
  { packetType := a.packetType || b.packetType, syncWord := a.syncWord || b.syncWord,
    regulator := a.regulator || b.regulator, tcxo := a.tcxo || b.tcxo, bufferBase := a.bufferBase || b.bufferBase,
    modulation := a.modulation || b.modulation, packet := a.packet || b.packet, irq := a.irq || b.irq,
    frequency := a.frequency || b.frequency, pa := a.pa || b.pa }

theorem Items.union_le {a b c : Items} (h1 : a.le c) (h2 : b.le c) : (a.union b).le c := by
  obtain ⟨a1, a2, a3, a4, a5, a6, a7, a8, a9, a10⟩ := h1
  obtain ⟨b1, b2, b3, b4, b5, b6, b7, b8, b9, b10⟩ := h2
  simp only [Items.le, Items.union, Bool.or_eq_true]
  exact ⟨fun h => h.elim a1 b1, fun h => h.elim a2 b2, fun h => h.elim a3 b3, fun h => h.elim a4 b4,
    fun h => h.elim a5 b5, fun h => h.elim a6 b6, fun h => h.elim a7 b7, fun h => h.elim a8 b8,
    fun h => h.elim a9 b9, fun h => h.elim a10 b10⟩

def Items.diff (a b : Items) : Items :=
  { packetType := a.packetType && !b.packetType, syncWord := a.syncWord && !b.syncWord,
    regulator := a.regulator && !b.regulator, tcxo := a.tcxo && !b.tcxo, bufferBase := a.bufferBase && !b.bufferBase,
    modulation := a.modulation && !b.modulation, packet := a.packet && !b.packet, irq := a.irq && !b.irq,
    frequency := a.frequency && !b.frequency, pa := a.pa && !b.pa }

theorem Items.le_union_diff (g g1 : Items) : g.le (g1.union (g.diff g1)) := by
  simp only [Items.le, Items.union, Items.diff]
  refine ⟨?_, ?_, ?_, ?_, ?_, ?_, ?_, ?_, ?_, ?_⟩ <;> intro h <;> simp [h]

theorem Items.le_of_diff {g sb x : Items} (h1 : sb.le x) (h2 : (g.diff sb).le x) : g.le x :=
  Items.le_trans (Items.le_union_diff g sb) (Items.union_le h1 h2)

/-- I1 and I3: no command ever reached a chip that may be asleep, nothing was ever started unprogrammed -/
def Clean (t : ChipTrack) : Prop := t.commandedAsleep = false ∧ t.startedUnprogrammed = false

/-- the chip is certainly awake -/
def Aw (t : ChipTrack) : Prop := t.mode ≠ .sleep ∧ t.mode ≠ .rxDuty

/-- not newly asleep -/
def NNS (t t' : ChipTrack) : Prop := (t'.mode = .sleep → t.mode = .sleep) ∧ (t'.mode = .rxDuty → t.mode = .rxDuty)

def Ext (t t' : ChipTrack) : Prop := Clean t' ∧ t.items.le t'.items ∧ NNS t t'

theorem Ext.refl {t : ChipTrack} (h : Clean t) : Ext t t := ⟨h, Items.le_refl _, fun h => h, fun h => h⟩
theorem Ext.nil {t : ChipTrack} (h : Clean t) : Ext t t ∧ Items.le {} t.items := ⟨.refl h, Items.none_le _⟩
theorem Ext.trans {a b c : ChipTrack} (h1 : Ext a b) (h2 : Ext b c) : Ext a c :=
  ⟨h2.1, Items.le_trans h1.2.1 h2.2.1, fun h => h1.2.2.1 (h2.2.2.1 h), fun h => h1.2.2.2 (h2.2.2.2 h)⟩
theorem Ext.clean {a b : ChipTrack} (h : Ext a b) : Clean b := h.1
theorem Ext.items {a b : ChipTrack} (h : Ext a b) : a.items.le b.items := h.2.1
theorem Ext.aw {a b : ChipTrack} (h : Ext a b) (ha : Aw a) : Aw b :=
  ⟨fun hb => ha.1 (h.2.2.1 hb), fun hb => ha.2 (h.2.2.2 hb)⟩
theorem Ext.le {a b : ChipTrack} (h : Ext a b) {g : Items} (hg : g.le a.items) : g.le b.items := Items.le_trans hg h.2.1

def RxMode.isDuty : RxMode → Bool
  | .dutyCycle _ _ => true
  | _ => false

def RadioMode.isDuty : RadioMode → Bool
  | .receive m => m.isDuty
  | _ => false

def RadioMode.isSingle : RadioMode → Bool
  | .receive (.single _) => true
  | _ => false

/-- what the driver's `radio_mode` must say when the chip may be asleep: the next `ensure_ready`
then is the wake-up -/
def Link (m : RadioMode) (t : ChipTrack) : Prop :=
  (t.mode = .sleep → m = .sleep) ∧ (t.mode = .rxDuty → m = .sleep ∨ m.isDuty = true)

theorem Link.of_aw {m : RadioMode} {t : ChipTrack} (h : Aw t) : Link m t := ⟨fun hs => absurd hs h.1, fun hs => absurd hs h.2⟩
theorem Link.aw {m : RadioMode} {t : ChipTrack} (h : Link m t) (h1 : m ≠ .sleep) (h2 : m.isDuty = false) : Aw t :=
  ⟨fun hs => h1 (h.1 hs), fun hs => (h.2 hs).elim h1 (fun hd => by simp [h2] at hd)⟩
theorem Link.ext {m : RadioMode} {t t' : ChipTrack} (h : Link m t) (he : NNS t t') : Link m t' :=
  ⟨fun hs => h.1 (he.1 hs), fun hs => h.2 (he.2 hs)⟩
theorem Link.sleep (t : ChipTrack) : Link .sleep t := ⟨fun _ => rfl, fun _ => Or.inl rfl⟩

/-- what `do_rx` guarantees: flags down, items kept, and if the chip may now be asleep the driver's mode says so.
`OpsSpec` is older than this name and writes the conjunction out (its text is kept as it is); as an `abbrev` the name
unfolds to that very term, which is how `doRx_spec` meets the field. -/
abbrev RxPost (m : RxMode) (t t' : ChipTrack) : Prop := Clean t' ∧ t.items.le t'.items ∧ Link (.receive m) t'

theorem RxPost.of_ext {m : RxMode} {t t' : ChipTrack} (e : Ext t t') (ha : Aw t) : RxPost m t t' :=
  ⟨e.clean, e.items, Link.of_aw (e.aw ha)⟩

section
variable (kind : Kind) (n : Needs)

theorem trackEv_busy (t : ChipTrack) : trackEv kind n t ⟨.busy, .done⟩ = t := rfl
theorem trackEv_irq (t : ChipTrack) : trackEv kind n t ⟨.irq, .done⟩ = t := rfl
theorem trackEv_rfRx (t : ChipTrack) : trackEv kind n t ⟨.rfRx, .done⟩ = t := rfl
theorem trackEv_rfTx (t : ChipTrack) : trackEv kind n t ⟨.rfTx, .done⟩ = t := rfl
theorem trackEv_rfOff (t : ChipTrack) : trackEv kind n t ⟨.rfOff, .done⟩ = t := rfl

/-- the tracker after an executed SPI transaction writing `w` -/
def spiStep (t : ChipTrack) (w : Bytes) : ChipTrack :=
  match kind with
  | .sx126x => step126 n t w
  | .sx127x => step127 n t w

theorem trackEv_spi (t : ChipTrack) (w : Bytes) (r : Nat) : trackEv kind n t ⟨.spi w r, .done⟩ = spiStep kind n t w := by
  cases kind <;> rfl

/-- the requests the tracker ignores and that can only succeed or fail: the BUSY wait and the RF switch -/
def Io.isPlain : Io → Bool
  | .busy | .rfRx | .rfTx | .rfOff => true
  | _ => false

theorem wp_req_plain (r : Io) (hr : r.isPlain = true := by rfl) (Q : Unit → ChipTrack → Prop) (E) (t) :
    wp kind n (Prog.req r) Q E t ↔ E (.err (errOf r)) t ∧ Q () t := by
  cases r <;> first | exact absurd hr Bool.false_ne_true | simp [Prog.req, wp, Io.isDelay, trackEv]

theorem wp_awaitIrq (Q : Unit → ChipTrack → Prop) (E) (t) :
    wp kind n (Prog.req .irq) Q E t ↔ E (.err .Irq) t ∧ E .dropped t ∧ Q () t := by
  simp [Prog.req, wp, Io.isDelay, trackEv, errOf]

theorem wp_delay (ms : Nat) (Q : Unit → ChipTrack → Prop) (E) (t) :
    wp kind n (Prog.req (.delay ms)) Q E t ↔ Q () t := by
  simp [Prog.req, wp, Io.isDelay, trackEv]

theorem wp_reset (Q : Unit → ChipTrack → Prop) (E) (t : ChipTrack) :
    wp kind n (Prog.req .reset) Q E t ↔ E (.err .Reset) t ∧ Q () { t with mode := .standby, items := {} } := by
  simp [Prog.req, wp, Io.isDelay, trackEv, errOf]

theorem wp_intfWrite (w : Bytes) (Q : Unit → ChipTrack → Prop) (E) (t) :
    wp kind n (intfWrite w) Q E t ↔
      E (.err .SPI) t ∧ E (.err .Busy) (spiStep kind n t w) ∧ Q () (spiStep kind n t w) := by
  simp [intfWrite, Prog.xfer, Prog.req, wp, Io.isDelay, errOf, trackEv_spi, trackEv_busy]

theorem wp_intfWriteSleep (w : Bytes) (Q : Unit → ChipTrack → Prop) (E) (t) :
    wp kind n (intfWrite w true) Q E t ↔ E (.err .SPI) t ∧ Q () (spiStep kind n t w) := by
  simp [intfWrite, Prog.xfer, wp, Io.isDelay, errOf, trackEv_spi]

theorem wp_intfRead (w : Bytes) (r : Nat) (Q : Bytes → ChipTrack → Prop) (E) (t) :
    wp kind n (intfRead w r) Q E t ↔
      E (.err .SPI) t ∧ E (.err .Busy) (spiStep kind n t w) ∧ ∀ bs, Q bs (spiStep kind n t w) := by
  simp [intfRead, Prog.xfer, Prog.req, wp, Io.isDelay, errOf, trackEv_spi, trackEv_busy]
  intro _; constructor
  · intro h; exact ⟨(h []).1, fun bs => (h bs).2⟩
  · intro h bs; exact ⟨h.1, h.2 bs⟩

theorem wp_intfReadWithStatus (w : Bytes) (r : Nat) (Q : UInt8 × Bytes → ChipTrack → Prop) (E) (t)
    (h1 : E (.err .SPI) t) (h2 : E (.err .Busy) (spiStep kind n t w)) (h3 : ∀ x, Q x (spiStep kind n t w)) :
    wp kind n (intfReadWithStatus w r) Q E t := by
  simp [intfReadWithStatus, Prog.xfer, Prog.req, wp, Io.isDelay, errOf, trackEv_spi, trackEv_busy]
  exact ⟨h1, fun bs => ⟨h2, h3 _⟩⟩

end
end Model.Phy
