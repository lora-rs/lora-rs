import LoraVerif.Lemmas.PhyInv
/-!
# Every API program of `LoRa<RK>` preserves the C14 invariant (generic over the radio kind)

One lemma per program of `Model/PhyState.lean`: from `Inv`, under every chip answer, a fault at any
I/O step and a drop at any `await_irq`, it ends in `Inv`; when it reports the radio's own timeout,
driver and chip are in standby (`AbI4`; continuous reception exempt, as coded).
-/
namespace Model.Phy

theorem tx_items {reg tcxo : Bool} {x : Items} (b : (bringUp reg tcxo).le x)
    (g : Items.le { modulation := true, packet := true, frequency := true } x) : (needsFor reg tcxo).tx.le x := by
  simp only [Items.le, bringUp, baseItems, needsFor] at *
  simp_all

theorem rx_cad_items {reg tcxo : Bool} {x : Items} (b : (bringUp reg tcxo).le x)
    (g : Items.le { modulation := true, frequency := true } x) :
    (needsFor reg tcxo).rx.le x ∧ (needsFor reg tcxo).cad.le x := by
  simp only [Items.le, bringUp, baseItems, needsFor] at *
  simp_all

section
variable {kind : Kind} {reg tcxo : Bool} {sb : Items} {Rdy : ChipTrack → Prop} {σ μ : Type} {rk : RadioKindOps σ μ}
variable (S : OpsSpec kind reg tcxo sb Rdy rk)
include S

theorem sleep_inv (warm : Bool) {d : DriverState σ} {t : ChipTrack} (h : Inv reg tcxo sb d t) :
    mwp kind (needsFor reg tcxo) (sleep rk warm)
      (fun _ d' t' => Inv reg tcxo sb d' t') (AbInv reg tcxo sb) d t := by
  unfold sleep
  refine mwp_get ?_
  by_cases hm : d.radioMode = .sleep
  · simp only [ne_eq, hm, not_true_eq_false, if_false]
    exact mwp_pure h
  · simp only [ne_eq, hm, not_false_eq_true, if_true]
    refine mwp_op (S.ensureReady d.radioMode t h.clean h.link) (fun _ t1 h1 => ?_) h.abort
    refine mwp_op (S.setSleep warm t1 h1.1.clean h1.2) (fun _ t2 h2 => ?_)
      (fun a t' h' => ⟨h.ext (h1.1.trans h'.1), h'.2⟩)
    cases warm with
    | true =>
      simp only [Bool.not_true, Bool.false_eq_true, if_false]
      refine mwp_bind (mwp_pure ?_)
      exact mwp_setMode ⟨h2.1, Link.sleep _, fun hc => Items.le_trans (h1.1.le (h.cold hc)) (h2.2 rfl), trivial⟩
    | false =>
      simp only [Bool.not_false, if_true]
      refine mwp_bind (mwp_modify ?_)
      exact mwp_setMode ⟨h2.1, Link.sleep _, fun hc => by simp at hc, trivial⟩

theorem setLoraSyncWord_inv (w : Nat) {d : DriverState σ} {t : ChipTrack} (h : Inv reg tcxo sb d t) :
    mwp kind (needsFor reg tcxo) (setLoraSyncWord rk w)
      (fun _ d' t' => Inv reg tcxo sb d' t') (AbInv reg tcxo sb) d t := by
  unfold setLoraSyncWord
  refine mwp_seq (toStandby_inv S h) fun _ d1 t1 h1 => ?_
  obtain ⟨hd1, e1, a1, s1⟩ := h1
  have i1 : Inv reg tcxo sb d1 t1 := hd1 ▸ h.standby e1 a1 s1
  refine mwp_cfg (S.setLoraSyncWord _) (Ext.nil e1.clean) a1 i1.abort fun _ t2 s2 => ?_
  exact mwp_modify ((i1.ext s2.1).congr rfl rfl)

theorem prepareForTx_inv (m : μ) (pkt : PacketParams) (power : Int) (payload : Bytes)
    {d : DriverState σ} {t : ChipTrack} (h : Inv reg tcxo sb d t) :
    mwp kind (needsFor reg tcxo) (prepareForTx rk m pkt power payload)
      (fun _ d' t' => Inv reg tcxo sb d' t' ∧ d'.radioMode = .transmit) (AbInv reg tcxo sb) d t := by
  unfold prepareForTx
  refine mwp_seq (prepareModem_inv S _ h) fun _ d1 t1 h1 => ?_
  obtain ⟨i1, a1, m1, c1⟩ := h1
  refine mwp_get ?_
  refine mwp_cfg (S.setModulationParams _ _) (Ext.nil i1.clean) a1 i1.abort fun _ t2 s2 => ?_
  refine mwp_cfg (S.setTxPower _ _ _) s2 a1 i1.abort fun _ t3 s3 => ?_
  have i3 := i1.ext s3.1
  refine mwp_seq (toStandby_inv S i3) fun _ d4 t4 h4 => ?_
  obtain ⟨hd4, e4, a4, s4⟩ := h4
  have i4 : Inv reg tcxo sb d4 t4 := hd4 ▸ i3.standby e4 a4 s4
  have c4 : d4.coldStart = false := by rw [hd4]; exact c1
  clear hd4
  by_cases hp : payload.length > 255
  · simp only [hp, if_true]
    exact mwp_throw ⟨i4, rfl⟩
  · simp only [hp, if_false]
    -- the modulation parameters were programmed before the detour through standby
    refine mwp_cfg (S.setPacketParams _) ⟨Ext.refl e4.clean, e4.le s3.2⟩ a4 i4.abort fun _ t5 s5 => ?_
    refine mwp_cfg (S.setChannel _) s5 a4 i4.abort fun _ t6 s6 => ?_
    refine mwp_cfg (S.setPayload _) s6 a4 i4.abort fun _ t7 s7 => ?_
    refine mwp_cfg (S.setIrqParams _) s7 a4 i4.abort fun _ t8 s8 => ?_
    exact mwp_setMode ⟨⟨s8.1.clean, Link.of_aw (s8.1.aw a4), fun hc => s8.1.le (i4.cold hc),
      tx_items (s8.1.le (i4.cold c4)) (Items.le_trans (by decide) s8.2)⟩, rfl⟩

/-- `process_irq_event` whose `Result` is matched: it moves neither the driver's bookkeeping nor the tracker, so
what follows is met once, for its answer or its error; a panic or a dropped future inside it ends the call with the
invariant as it was -/
theorem mwp_processIrq {β : Type} {k : Except RadioError (Option IrqState × Option Bool) → M σ β}
    {Q : β → DriverState σ → ChipTrack → Prop} {ex : Prop} {d : DriverState σ} {t : ChipTrack} (i : Inv reg tcxo sb d t)
    {m : RadioMode} {c : Option Bool} {cl : Bool} (hs : t.mode ≠ .sleep) (hd : t.mode = .rxDuty → m.isSingle = false)
    (hk : ∀ r, mwp kind (needsFor reg tcxo) (k r) Q (AbI4 reg tcxo sb ex) d t) :
    mwp kind (needsFor reg tcxo) (M.attempt (M.call (rk.processIrqEvent m c cl)) >>= k) Q (AbI4 reg tcxo sb ex) d t :=
  mwp_bind (mwp_attempt (mwp_call (wp_mono _ _ _ (S.processIrqEvent m c cl t i.clean hs hd)
    (fun r _ ht => ht ▸ hk (.ok r))
    (fun a _ ht => ht ▸ match a with
      | .err e => hk (.error e)
      | .panic => AbI4.of_infra i rfl
      | .dropped => AbI4.of_infra i rfl))))

theorem txLoop_inv (fuel : Nat) {d : DriverState σ} {t : ChipTrack} (h : Inv reg tcxo sb d t) (hm : d.radioMode = .transmit) :
    mwp kind (needsFor reg tcxo) (txLoop rk fuel) (fun _ d' t' => Inv reg tcxo sb d' t') (AbI4 reg tcxo sb False) d t := by
  have aw : Aw t := h.aw (by simp [hm]) (by simp [hm, RadioMode.isDuty])
  induction fuel with
  | zero => exact mwp_panic (AbI4.of_infra h rfl)
  | succ f ih =>
    unfold txLoop
    refine mwp_bind (mwp_ro (S.awaitIrq t) (fun _ => ?_) (fun a ha => AbI4.of_infra h ha))
    refine mwp_get ?_
    refine mwp_processIrq S h aw.1 (fun hx => absurd hx aw.2) fun r => ?_
    rcases r with e | ⟨st, c⟩
    · exact failToStandby_inv S e h _
    · cases st with
      | none => exact ih
      | some s => exact mwp_setMode (h.standby (Ext.refl h.clean) aw (h.items.sb_le S.sb_le (by simp [hm])))

theorem tx_inv (fuel : Nat) {d : DriverState σ} {t : ChipTrack} (h : Inv reg tcxo sb d t) :
    mwp kind (needsFor reg tcxo) (tx rk fuel) (fun _ d' t' => Inv reg tcxo sb d' t') (AbI4 reg tcxo sb False) d t := by
  unfold tx
  refine mwp_get ?_
  by_cases hm : d.radioMode = .transmit
  · simp only [hm, if_true]
    have aw : Aw t := h.aw (by simp [hm]) (by simp [hm, RadioMode.isDuty])
    refine mwp_op (S.doTx t h.clean aw (h.items_of hm)) (fun _ t1 e1 => ?_)
      (fun a t' h' => AbI4.of_infra (h.ext h'.1) h'.2)
    exact txLoop_inv S fuel (h.ext e1) hm
  · simp only [hm, if_false]
    exact mwp_throw (AbI4.of_infra h rfl)

theorem prepareForRx_inv (mode : RxMode) (m : μ) (pkt : PacketParams)
    {d : DriverState σ} {t : ChipTrack} (h : Inv reg tcxo sb d t) :
    mwp kind (needsFor reg tcxo) (prepareForRx rk mode m pkt)
      (fun _ d' t' => Inv reg tcxo sb d' t' ∧ d'.radioMode = .receive mode) (AbInv reg tcxo sb) d t := by
  unfold prepareForRx
  refine mwp_seq (prepareModem_inv S _ h) fun _ d1 t1 h1 => ?_
  obtain ⟨i1, a1, m1, c1⟩ := h1
  refine mwp_get ?_
  refine mwp_cfg (S.setModulationParams _ _) (Ext.nil i1.clean) a1 i1.abort fun _ t2 s2 => ?_
  refine mwp_cfg (S.setPacketParams _) s2 a1 i1.abort fun _ t3 s3 => ?_
  refine mwp_cfg (S.setChannel _) s3 a1 i1.abort fun _ t4 s4 => ?_
  refine mwp_cfg (S.setIrqParams _) s4 a1 i1.abort fun _ t5 s5 => ?_
  exact mwp_setMode ⟨⟨s5.1.clean, Link.of_aw (s5.1.aw a1), fun hc => s5.1.le (i1.cold hc),
    (rx_cad_items (s5.1.le (i1.cold c1)) (Items.le_trans (by decide) s5.2)).1⟩, rfl⟩

theorem prepareForCad_inv (m : μ) {d : DriverState σ} {t : ChipTrack} (h : Inv reg tcxo sb d t) :
    mwp kind (needsFor reg tcxo) (prepareForCad rk m)
      (fun _ d' t' => Inv reg tcxo sb d' t') (AbInv reg tcxo sb) d t := by
  unfold prepareForCad
  refine mwp_seq (prepareModem_inv S _ h) fun _ d1 t1 h1 => ?_
  obtain ⟨i1, a1, m1, c1⟩ := h1
  refine mwp_get ?_
  refine mwp_cfg (S.setModulationParams _ _) (Ext.nil i1.clean) a1 i1.abort fun _ t2 s2 => ?_
  refine mwp_cfg (S.setChannel _) s2 a1 i1.abort fun _ t3 s3 => ?_
  refine mwp_cfg (S.setIrqParams _) s3 a1 i1.abort fun _ t4 s4 => ?_
  exact mwp_setMode ⟨s4.1.clean, Link.of_aw (s4.1.aw a1), fun hc => s4.1.le (i1.cold hc),
    (rx_cad_items (s4.1.le (i1.cold c1)) (Items.le_trans (by decide) s4.2)).2⟩

theorem startRx_inv {d : DriverState σ} {t : ChipTrack} (h : Inv reg tcxo sb d t) :
    mwp kind (needsFor reg tcxo) (startRx rk)
      (fun _ d' t' => Inv reg tcxo sb d' t' ∧ d' = d) (AbInv reg tcxo sb) d t := by
  unfold startRx
  refine mwp_get ?_
  cases hm : d.radioMode with
  | receive mode =>
    simp only
    refine mwp_op (S.ensureReady _ t h.clean (hm ▸ h.link)) (fun _ t1 h1 => ?_) h.abort
    have i1 := h.ext h1.1
    refine mwp_call (wp_mono _ _ _ (S.doRx mode t1 h1.1.clean h1.2 (hm ▸ i1.link) (h1.1.le (h.items_of hm))) (fun _ t2 h2 => ?_)
      (fun a t' h' => ⟨i1.afterRx hm h'.1, h'.2⟩))
    exact ⟨i1.afterRx hm h2, rfl⟩
  | _ => exact mwp_throw ⟨h, rfl⟩

theorem rxSwitchChannel_inv (freq : Nat) {d : DriverState σ} {t : ChipTrack} (h : Inv reg tcxo sb d t) :
    mwp kind (needsFor reg tcxo) (rxSwitchChannel rk freq)
      (fun _ d' t' => Inv reg tcxo sb d' t') (AbInv reg tcxo sb) d t := by
  unfold rxSwitchChannel
  refine mwp_get ?_
  cases hm : d.radioMode with
  | receive mode =>
    simp only
    refine mwp_op (S.ensureReady _ t h.clean (hm ▸ h.link)) (fun _ t1 h1 => ?_) h.abort
    refine mwp_op (S.setStandby t1 h1.1.clean h1.2) (fun _ t2 h2 => ?_)
      (fun a t' h' => ⟨h.ext (h1.1.trans h'.1), h'.2⟩)
    have e02 := h1.1.trans h2.1
    refine mwp_cfg (S.setChannel _) (Ext.nil e02.clean) h2.2.1 (fun a t' e' => ⟨h.ext (e02.trans e'.1), e'.2⟩)
      fun _ t3 s3 => ?_
    have e03 := e02.trans s3.1
    have i3 := h.ext e03
    have a3 := s3.1.aw h2.2.1
    refine mwp_call (wp_mono _ _ _ (S.doRx mode t3 e03.clean (S.rdy_of_aw _ a3) (Link.of_aw a3) (e03.le (h.items_of hm))) (fun _ t4 h4 => ?_)
      (fun a t' h' => ⟨i3.afterRx hm h'.1, h'.2⟩))
    exact i3.afterRx hm h4
  | _ => exact mwp_throw ⟨h, rfl⟩

theorem completeRxLoop_inv (pkt : PacketParams) (buf : Bytes) (fuel : Nat) {d : DriverState σ} {t : ChipTrack}
    (h : Inv reg tcxo sb d t) {mode : RxMode} (hm : d.radioMode = .receive mode) :
    mwp kind (needsFor reg tcxo) (completeRxLoop rk pkt buf fuel) (fun _ d' t' => Inv reg tcxo sb d' t')
      (AbI4 reg tcxo sb (d.radioMode = .receive .continuous)) d t := by
  have ns : t.mode ≠ .sleep := fun hs => by have := h.link.1 hs; simp [hm] at this
  have nd : t.mode = .rxDuty → d.radioMode.isSingle = false := fun hs => by
    rcases h.link.2 hs with h1 | h1
    · simp [hm] at h1
    · rw [hm] at h1 ⊢; cases mode <;> simp_all [RadioMode.isDuty, RadioMode.isSingle, RxMode.isDuty]
  induction fuel with
  | zero => exact mwp_panic (AbI4.of_infra h rfl)
  | succ f ih =>
    unfold completeRxLoop
    refine mwp_get ?_
    refine mwp_processIrq S h ns nd fun r => ?_
    have waitAgain : mwp kind (needsFor reg tcxo)
        (do M.call rk.awaitIrq; completeRxLoop rk pkt buf f) (fun _ d' t' => Inv reg tcxo sb d' t')
        (AbI4 reg tcxo sb (d.radioMode = .receive .continuous)) d t :=
      mwp_bind (mwp_ro (S.awaitIrq t) (fun _ => ih) (fun a ha => AbI4.of_infra h ha))
    rcases r with e | ⟨st, c⟩
    · refine mwp_get ?_
      by_cases hc : d.radioMode = .receive .continuous
      · simp only [ne_eq, hc, not_true_eq_false, if_false]
        exact mwp_throw ⟨h, fun _ hx => absurd trivial hx⟩
      · simp only [ne_eq, hc, not_false_eq_true, if_true]
        exact mwp_abI4_exempt (failToStandby_inv S e h _)
    · cases st with
      | none => exact waitAgain
      | some s =>
        cases s with
        | preambleReceived => exact waitAgain
        | done =>
          refine mwp_bind (mwp_ro (S.getRxPayload pkt buf t h.clean ns) (fun res => ?_) (fun a ha => AbI4.of_infra h ha))
          refine mwp_bind (mwp_ro (S.getRxPacketStatus t h.clean ns) (fun _ => ?_) (fun a ha => AbI4.of_infra h ha))
          exact mwp_pure h

theorem completeRx_inv (pkt : PacketParams) (buf : Bytes) (fuel : Nat) {d : DriverState σ} {t : ChipTrack}
    (h : Inv reg tcxo sb d t) :
    mwp kind (needsFor reg tcxo) (completeRx rk pkt buf fuel) (fun _ d' t' => Inv reg tcxo sb d' t')
      (AbI4 reg tcxo sb (d.radioMode = .receive .continuous)) d t := by
  unfold completeRx
  refine mwp_get ?_
  cases hm : d.radioMode with
  | receive mode => simp only; exact hm ▸ completeRxLoop_inv S pkt buf fuel h hm
  | _ => exact mwp_throw (AbI4.of_infra h rfl)

theorem rx_inv (pkt : PacketParams) (buf : Bytes) (fuel : Nat) {d : DriverState σ} {t : ChipTrack}
    (h : Inv reg tcxo sb d t) :
    mwp kind (needsFor reg tcxo) (rx rk pkt buf fuel) (fun _ d' t' => Inv reg tcxo sb d' t')
      (AbI4 reg tcxo sb (d.radioMode = .receive .continuous)) d t := by
  unfold rx
  refine mwp_seq (mwp_infra_abI4 (startRx_inv S h)) fun _ d1 t1 h1 => ?_
  obtain ⟨i1, rfl⟩ := h1
  exact completeRx_inv S pkt buf fuel i1

theorem listen_inv (freq : Nat) (m : Except RadioError μ) (hwf : ∀ e, m = .error e → Abort.infra (.err e))
    {d : DriverState σ} {t : ChipTrack} (h : Inv reg tcxo sb d t) :
    mwp kind (needsFor reg tcxo) (listen rk freq m)
      (fun _ d' t' => Inv reg tcxo sb d' t') (AbInv reg tcxo sb) d t := by
  unfold listen
  refine mwp_seq (prepareModem_inv S _ h) fun _ d1 t1 h1 => ?_
  obtain ⟨i1, a1, m1, c1⟩ := h1
  refine mwp_cfg (S.setChannel _) (Ext.nil i1.clean) a1 i1.abort fun _ t2 s2 => ?_
  cases m with
  | error e => exact mwp_throw ⟨i1.ext s2.1, hwf e rfl⟩
  | ok mp =>
    simp only
    refine mwp_get ?_
    refine mwp_cfg (S.setModulationParams _ _) s2 a1 i1.abort fun _ t3 s3 => ?_
    have e13 := s3.1
    have a3 := e13.aw a1
    refine mwp_bind (mwp_setMode ?_)
    have it : (needsFor reg tcxo).rx.le t3.items := (rx_cad_items (e13.le (i1.cold c1)) (Items.le_trans (by decide) s3.2)).1
    have post (t' : ChipTrack) (p : RxPost .continuous t3 t') :
        Inv reg tcxo sb { d1 with radioMode := .listen } t' :=
      ⟨p.1, ⟨fun hs => by have := p.2.2.1 hs; simp at this, fun hs => by
          rcases p.2.2.2 hs with h1 | h1 <;> simp [RadioMode.isDuty, RxMode.isDuty] at h1⟩,
        fun hx => Items.le_trans (e13.le (i1.cold hx)) p.2.1,
        Items.le_trans (e13.le (i1.items.sb_le S.sb_le (by simp [m1]))) p.2.1⟩
    refine mwp_call (wp_mono _ _ _ (S.doRx .continuous t3 e13.clean (S.rdy_of_aw _ a3) (Link.of_aw a3) it) (fun _ t4 h4 => ?_)
      (fun a t' h' => ⟨post t' h'.1, h'.2⟩))
    exact post t4 h4

theorem cad_inv (m : μ) {d : DriverState σ} {t : ChipTrack} (h : Inv reg tcxo sb d t) :
    mwp kind (needsFor reg tcxo) (cad rk m) (fun _ d' t' => Inv reg tcxo sb d' t') (AbI4 reg tcxo sb False) d t := by
  unfold cad
  refine mwp_get ?_
  by_cases hm : d.radioMode = .cad
  · simp only [hm, if_true]
    have aw : Aw t := h.aw (by simp [hm]) (by simp [hm, RadioMode.isDuty])
    refine mwp_op (S.doCad m t h.clean aw (h.items_of hm)) (fun _ t1 e1 => ?_)
      (fun a t' h' => AbI4.of_infra (h.ext h'.1) h'.2)
    have i1 := h.ext e1
    have a1 := e1.aw aw
    refine mwp_bind (mwp_ro (S.awaitIrq t1) (fun _ => ?_) (fun a ha => AbI4.of_infra i1 ha))
    refine mwp_processIrq S i1 a1.1 (fun hx => absurd hx a1.2) fun r => ?_
    rcases r with e | ⟨st, det⟩
    · exact failToStandby_inv S e i1 _
    · cases st with
      | none => exact mwp_panic (AbI4.of_infra i1 rfl)
      | some s =>
        cases s with
        | preambleReceived => exact mwp_panic (AbI4.of_infra i1 rfl)
        | done =>
          refine mwp_op (S.setStandby t1 e1.clean (S.rdy_of_aw _ a1)) (fun _ t2 h2 => ?_)
            (fun a t'' h' => AbI4.of_infra (i1.ext h'.1) h'.2)
          refine mwp_bind (mwp_setMode ?_)
          exact mwp_pure (i1.standby h2.1 h2.2.1 h2.2.2.2)
  · simp only [hm, if_false]
    exact mwp_throw (AbI4.of_infra h rfl)

end
end Model.Phy
