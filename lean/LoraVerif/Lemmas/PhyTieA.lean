import LoraVerif.Lemmas.PhyLemmas
import LoraVerif.Lemmas.RtLemmas
import LoraVerif.RtPhy
import LoraVerif.Gen.PhyErr
/-!
# Tie A for the PHY command encoders: the bridge between the generated encoders and the hand model

The generated encoders (`Gen/PhyEnc*.lean`) are values of `Rt.Phy.IoM`: functions of an abstract
device answering the reads, returning the requests they make.  The hand model (`Model/PhySpi.lean`)
is a `Prog`.  `denote p` is the fault-free run of the program `p` on the wire-level chip in exactly
that shape (the SPI transactions *and* the busy waits / board calls, in order; `none` = the model's
`panic`), `chipDev` is the wire-level chip as a device.
-/
namespace TieA.Phy
open Model.Phy Rt.Phy
abbrev Ev := Rt.Phy.Ev

def toInts (bs : Bytes) : List Int := bs.map (fun b => (b.toNat : Int))
def toBytes (l : List Int) : Bytes := l.map byte

/-- the wire-level chip of `Model/PhyIo.lean` as a device of `Rt.Phy` -/
def chipDev : Dev Chip := fun c w n => (toInts (c.transact (toBytes w) n).1, (c.transact (toBytes w) n).2)

/-- `Gen.PhyErr.RadioError` (regenerated from `mod_params.rs`) ↦ the model's `RadioError` -/
def radioErr : Gen.PhyErr.RadioError → RadioError
  | .SPI => .SPI | .Reset => .Reset | .RfSwitchRx => .RfSwitchRx | .RfSwitchTx => .RfSwitchTx
  | .Busy => .Busy | .Irq => .Irq | .DIO1 => .DIO1
  | .InvalidConfiguration => .InvalidConfiguration | .InvalidRadioMode => .InvalidRadioMode
  | .InvalidSyncWord => .InvalidSyncWord
  | .OpError s => .OpError (byte s)
  | .InvalidBaseAddress a b => .InvalidBaseAddress a.toNat b.toNat
  | .PayloadSizeUnexpected n => .PayloadSizeUnexpected n.toNat
  | .PayloadSizeMismatch a b => .PayloadSizeMismatch a.toNat b.toNat
  | .UnavailableSpreadingFactor => .UnavailableSpreadingFactor
  | .UnavailableBandwidth => .UnavailableBandwidth
  | .InvalidBandwidthForFrequency => .InvalidBandwidthForFrequency
  | .InvalidSF6ExplicitHeaderRequest => .InvalidSF6ExplicitHeaderRequest
  | .InvalidOutputPowerForFrequency => .InvalidOutputPowerForFrequency
  | .TransmitTimeout => .TransmitTimeout | .ReceiveTimeout => .ReceiveTimeout
  | .DutyCycleUnsupported => .DutyCycleUnsupported | .RngUnsupported => .RngUnsupported

def ioName : Io → String
  | .irq => "await_irq" | .rfRx => "enable_rf_switch_rx" | .rfTx => "enable_rf_switch_tx"
  | .rfOff => "disable_rf_switch" | .reset => "reset" | .delay _ => "delay" | .busy => "wait_on_busy"
  | .spi _ _ => "spi"

def evOf : Io → Ev
  | .spi w r => .spi (toInts w) r
  | .busy => .busy
  | io => .iv (ioName io)

/-- the fault-free run of a hand-model program on a wire-level chip, in the shape of `Rt.Phy.IoM` -/
def denote {α : Type} : Prog α → Chip → List Ev → Option (Except RadioError α × Chip × List Ev)
  | .ret a, c, log => some (.ok a, c, log)
  | .fail e, c, log => some (.error e, c, log)
  | .panic _, _, _ => none
  | .io (.spi w r) k, c, log => denote (k (c.transact w r).1) (c.transact w r).2 (log ++ [.spi (toInts w) r])
  | .io req k, c, log => denote (k []) c (log ++ [evOf req])
  | .ioE (.spi w r) k, c, log => denote (k (some (c.transact w r).1)) (c.transact w r).2 (log ++ [.spi (toInts w) r])
  | .ioE req k, c, log => denote (k (some [])) c (log ++ [evOf req])

/-- what a generated action returned, read on the model's side: errors through `radioErr`, values through `f` -/
def view {α β : Type} (f : α → β) : Option (Except Gen.PhyErr.RadioError α × Chip × List Ev) → Option (Except RadioError β × Chip × List Ev)
  | none => none
  | some (.ok a, c, log) => some (.ok (f a), c, log)
  | some (.error e, c, log) => some (.error (radioErr e), c, log)

@[simp] theorem denote_ret {α : Type} (a : α) (c : Chip) (log : List Ev) : denote (.ret a) c log = some (.ok a, c, log) := rfl
@[simp] theorem denote_fail {α : Type} (e : RadioError) (c : Chip) (log : List Ev) : denote (.fail e : Prog α) c log = some (.error e, c, log) := rfl
@[simp] theorem denote_panic {α : Type} (s : String) (c : Chip) (log : List Ev) : denote (.panic s : Prog α) c log = none := rfl
@[simp] theorem denote_spi {α : Type} (w : Bytes) (r : Nat) (k : Bytes → Prog α) (c : Chip) (log : List Ev) :
    denote (.io (.spi w r) k) c log = denote (k (c.transact w r).1) (c.transact w r).2 (log ++ [.spi (toInts w) r]) := rfl
@[simp] theorem denote_busy {α : Type} (k : Bytes → Prog α) (c : Chip) (log : List Ev) :
    denote (.io .busy k) c log = denote (k []) c (log ++ [.busy]) := rfl

/-- the MOSI streams of the SPI transactions among the requests (`Model.Phy.mosi` on `Rt.Phy.Ev`) -/
def mosiOf (evs : List Ev) : List Bytes :=
  evs.filterMap (fun e => match e with
    | .spi w r => some (toBytes w ++ List.replicate r 0)
    | _ => none)

theorem toBytes_toInts (bs : Bytes) : toBytes (toInts bs) = bs := by
  induction bs with
  | nil => rfl
  | cons b t ih =>
    simp only [toBytes, toInts, List.map_cons, List.map_map] at ih ⊢
    rw [ih]; congr 1
    simp [byte]


/-! ## evaluation of `Rt.Phy.IoM` actions, one request at a time -/
section steps
variable {ε σ α β : Type}

theorem bind_def (m : IoM ε σ α) (f : α → IoM ε σ β) : m >>= f = IoM.bind m f := rfl
theorem pure_def (a : α) : (pure a : IoM ε σ α) = IoM.pure a := rfl

@[simp] theorem pure_app (a : α) (dev : Dev σ) (s : σ) (log : List Ev) : (pure a : IoM ε σ α) dev s log = some (.ok a, s, log) := rfl
@[simp] theorem pure_app' (a : α) (dev : Dev σ) (s : σ) (log : List Ev) : (IoM.pure a : IoM ε σ α) dev s log = some (.ok a, s, log) := rfl
@[simp] theorem throw_app (e : ε) (dev : Dev σ) (s : σ) (log : List Ev) : (Rt.Phy.throw e : IoM ε σ α) dev s log = some (.error e, s, log) := rfl
@[simp] theorem panic_app (dev : Dev σ) (s : σ) (log : List Ev) : (Rt.Phy.panic : IoM ε σ α) dev s log = none := rfl
@[simp] theorem ofOpt_some_app (a : α) (dev : Dev σ) (s : σ) (log : List Ev) : (ofOpt (some a) : IoM ε σ α) dev s log = some (.ok a, s, log) := rfl
@[simp] theorem ofOpt_none_app (dev : Dev σ) (s : σ) (log : List Ev) : (ofOpt none : IoM ε σ α) dev s log = none := rfl

@[simp] theorem pure_bind_app (a : α) (f : α → IoM ε σ β) (dev : Dev σ) (s : σ) (log : List Ev) :
    ((pure a : IoM ε σ α) >>= f) dev s log = f a dev s log := rfl
@[simp] theorem throw_bind_app (e : ε) (f : α → IoM ε σ β) (dev : Dev σ) (s : σ) (log : List Ev) :
    ((Rt.Phy.throw e : IoM ε σ α) >>= f) dev s log = some (.error e, s, log) := rfl
@[simp] theorem panic_bind_app (f : α → IoM ε σ β) (dev : Dev σ) (s : σ) (log : List Ev) :
    ((Rt.Phy.panic : IoM ε σ α) >>= f) dev s log = none := rfl
@[simp] theorem ofOpt_some_bind_app (a : α) (f : α → IoM ε σ β) (dev : Dev σ) (s : σ) (log : List Ev) :
    ((ofOpt (some a) : IoM ε σ α) >>= f) dev s log = f a dev s log := rfl
theorem pure_bind_eq (a : α) (f : α → IoM ε σ β) : (pure a : IoM ε σ α) >>= f = f a := rfl
theorem ofOpt_some_bind (a : α) (f : α → IoM ε σ β) : (ofOpt (some a) : IoM ε σ α) >>= f = f a := rfl
@[simp] theorem ofOpt_none_bind_app (f : α → IoM ε σ β) (dev : Dev σ) (s : σ) (log : List Ev) :
    ((ofOpt none : IoM ε σ α) >>= f) dev s log = none := rfl

@[simp] theorem bind_assoc_app {γ : Type} (m : IoM ε σ α) (g : α → IoM ε σ β) (f : β → IoM ε σ γ) :
    (m >>= g) >>= f = m >>= (fun a => g a >>= f) := by
  funext dev s log
  show IoM.bind (IoM.bind m g) f dev s log = IoM.bind m (fun a => IoM.bind (g a) f) dev s log
  simp only [IoM.bind]
  cases h : m dev s log with
  | none => rfl
  | some r =>
    obtain ⟨r, s1, l1⟩ := r
    cases r <;> rfl

/-- `action?; Ok(())` is the action -/
theorem bind_pure_unit (m : IoM ε σ Unit) : (m >>= fun _ => (pure () : IoM ε σ Unit)) = m := by
  funext dev s log
  rw [bind_def]
  simp only [IoM.bind]
  cases h : m dev s log with
  | none => rfl
  | some r =>
    obtain ⟨r, s1, l1⟩ := r
    cases r <;> rfl

@[simp] theorem write_app (w : List Int) (sl : Bool) (dev : Dev σ) (s : σ) (log : List Ev) :
    (Rt.Phy.write w sl : IoM ε σ Unit) dev s log =
      some (.ok (), (dev s w 0).2, log ++ (Ev.spi w 0 :: (if sl then [] else [Ev.busy]))) := by
  cases sl <;> simp [Rt.Phy.write, Rt.Phy.xfer, Rt.Phy.waitOnBusy, bind_def, pure_def, IoM.bind, IoM.pure]
@[simp] theorem write_bind_app (w : List Int) (sl : Bool) (f : Unit → IoM ε σ β) (dev : Dev σ) (s : σ) (log : List Ev) :
    ((Rt.Phy.write w sl : IoM ε σ Unit) >>= f) dev s log =
      f () dev (dev s w 0).2 (log ++ (Ev.spi w 0 :: (if sl then [] else [Ev.busy]))) := by
  rw [bind_def]; simp only [IoM.bind, write_app]
@[simp] theorem writeWithPayload_app (w p : List Int) (sl : Bool) (dev : Dev σ) (s : σ) (log : List Ev) :
    (Rt.Phy.writeWithPayload w p sl : IoM ε σ Unit) dev s log =
      some (.ok (), (dev s (w ++ p) 0).2, log ++ (Ev.spi (w ++ p) 0 :: (if sl then [] else [Ev.busy]))) := by
  cases sl <;> simp [Rt.Phy.writeWithPayload, Rt.Phy.xfer, Rt.Phy.waitOnBusy, bind_def, pure_def, IoM.bind, IoM.pure]
@[simp] theorem writeWithPayload_bind_app (w p : List Int) (sl : Bool) (f : Unit → IoM ε σ β) (dev : Dev σ) (s : σ) (log : List Ev) :
    ((Rt.Phy.writeWithPayload w p sl : IoM ε σ Unit) >>= f) dev s log =
      f () dev (dev s (w ++ p) 0).2 (log ++ (Ev.spi (w ++ p) 0 :: (if sl then [] else [Ev.busy]))) := by
  rw [bind_def]; simp only [IoM.bind, writeWithPayload_app]
@[simp] theorem read_app (w buf : List Int) (dev : Dev σ) (s : σ) (log : List Ev) :
    (Rt.Phy.read w buf : IoM ε σ (List Int)) dev s log =
      some (.ok (fill buf (dev s w buf.length).1), (dev s w buf.length).2, log ++ [Ev.spi w buf.length, Ev.busy]) := by
  simp [Rt.Phy.read, Rt.Phy.xfer, Rt.Phy.waitOnBusy, bind_def, pure_def, IoM.bind, IoM.pure]
@[simp] theorem read_bind_app (w buf : List Int) (f : List Int → IoM ε σ β) (dev : Dev σ) (s : σ) (log : List Ev) :
    ((Rt.Phy.read w buf : IoM ε σ (List Int)) >>= f) dev s log =
      f (fill buf (dev s w buf.length).1) dev (dev s w buf.length).2 (log ++ [Ev.spi w buf.length, Ev.busy]) := by
  rw [bind_def]; simp only [IoM.bind, read_app]

@[simp] theorem ite_app (c : Prop) [Decidable c] (a b : IoM ε σ α) (dev : Dev σ) (s : σ) (log : List Ev) :
    (if c then a else b) dev s log = if c then a dev s log else b dev s log := by
  split <;> rfl
@[simp] theorem ite_bind_app (c : Prop) [Decidable c] (a b : IoM ε σ α) (f : α → IoM ε σ β) (dev : Dev σ) (s : σ) (log : List Ev) :
    ((if c then a else b) >>= f) dev s log = if c then (a >>= f) dev s log else (b >>= f) dev s log := by
  split <;> rfl
end steps

/-! ## the same for the hand model's I/O layer (`Prog.bind` form, the simp-normal form of `>>=`) -/

theorem denote_bind {α β : Type} (p : Prog α) (g : α → Prog β) (c : Chip) (log : List Ev) :
    denote (Prog.bind p g) c log =
      match denote p c log with
      | none => none
      | some (.error e, c1, log1) => some (.error e, c1, log1)
      | some (.ok a, c1, log1) => denote (g a) c1 log1 := by
  induction p generalizing c log with
  | ret a => rfl
  | fail e => rfl
  | panic s => rfl
  | io req k ih | ioE req k ih =>
    cases req <;> simp only [Prog.bind, denote] <;> exact ih _ _ _

/-- the tie is compositional: if `m` is tied to `p` and, for every value, `f a` to `g a`, then `m >>= f` is tied to
`p >>= g` (same requests, same chip, same `Ok` / `Err` / panic) -/
theorem tie_bind {α β α' β' : Type} (va : α → α') (vb : β → β')
    (m : IoM Gen.PhyErr.RadioError Chip α) (f : α → IoM Gen.PhyErr.RadioError Chip β)
    (p : Prog α') (g : α' → Prog β') (c : Chip) (log : List Ev)
    (h1 : view va (m chipDev c log) = denote p c log)
    (h2 : ∀ a c1 log1, view vb (f a chipDev c1 log1) = denote (g (va a)) c1 log1) :
    view vb ((m >>= f) chipDev c log) = denote (Prog.bind p g) c log := by
  rw [denote_bind, ← h1, bind_def]
  simp only [IoM.bind]
  cases h : m chipDev c log with
  | none => rfl
  | some r =>
    obtain ⟨r, c1, l1⟩ := r
    cases r with
    | error e => rfl
    | ok a => exact h2 a c1 l1

theorem denote_intfWrite (w : Bytes) (sl : Bool) (c : Chip) (log : List Ev) :
    denote (intfWrite w sl) c log =
      some (.ok (), (c.transact w 0).2, log ++ (Ev.spi (toInts w) 0 :: (if sl then [] else [Ev.busy]))) := by
  cases sl <;> simp [intfWrite, Prog.xfer, Prog.req, denote, evOf]
theorem denote_intfWrite_bind {β : Type} (w : Bytes) (sl : Bool) (f : Unit → Prog β) (c : Chip) (log : List Ev) :
    denote (Prog.bind (intfWrite w sl) f) c log =
      denote (f ()) (c.transact w 0).2 (log ++ (Ev.spi (toInts w) 0 :: (if sl then [] else [Ev.busy]))) := by
  rw [denote_bind, denote_intfWrite]
theorem denote_intfWriteWithPayload (w p : Bytes) (sl : Bool) (c : Chip) (log : List Ev) :
    denote (intfWriteWithPayload w p sl) c log =
      some (.ok (), (c.transact (w ++ p) 0).2, log ++ (Ev.spi (toInts (w ++ p)) 0 :: (if sl then [] else [Ev.busy]))) :=
  denote_intfWrite (w ++ p) sl c log
theorem denote_intfWriteWithPayload_bind {β : Type} (w p : Bytes) (sl : Bool) (f : Unit → Prog β) (c : Chip) (log : List Ev) :
    denote (Prog.bind (intfWriteWithPayload w p sl) f) c log =
      denote (f ()) (c.transact (w ++ p) 0).2 (log ++ (Ev.spi (toInts (w ++ p)) 0 :: (if sl then [] else [Ev.busy]))) :=
  denote_intfWrite_bind (w ++ p) sl f c log
theorem denote_intfRead (w : Bytes) (n : Nat) (c : Chip) (log : List Ev) :
    denote (intfRead w n) c log = some (.ok (c.transact w n).1, (c.transact w n).2, log ++ [Ev.spi (toInts w) n, Ev.busy]) := by
  simp [intfRead, Prog.xfer, Prog.req, denote, evOf]
theorem denote_intfRead_bind {β : Type} (w : Bytes) (n : Nat) (f : Bytes → Prog β) (c : Chip) (log : List Ev) :
    denote (Prog.bind (intfRead w n) f) c log =
      denote (f (c.transact w n).1) (c.transact w n).2 (log ++ [Ev.spi (toInts w) n, Ev.busy]) := by
  rw [denote_bind, denote_intfRead]
theorem denote_ite {α : Type} (p : Prop) [Decidable p] (a b : Prog α) (c : Chip) (log : List Ev) :
    denote (if p then a else b) c log = if p then denote a c log else denote b c log :=
  apply_ite (denote · c log) _ _ _
theorem prog_bind_ite {α β : Type} (p : Prop) [Decidable p] (a b : Prog α) (f : α → Prog β) :
    Prog.bind (if p then a else b) f = if p then Prog.bind a f else Prog.bind b f :=
  apply_ite (Prog.bind · f) _ _ _

/-! ## data: bytes as `Int` (generated side) and as `UInt8` (model side) -/

@[simp] theorem chipDev_fst (c : Chip) (w : List Int) (n : Nat) : (chipDev c w n).1 = toInts (c.transact (toBytes w) n).1 := rfl
@[simp] theorem chipDev_snd (c : Chip) (w : List Int) (n : Nat) : (chipDev c w n).2 = (c.transact (toBytes w) n).2 := rfl
@[simp] theorem toBytes_nil : toBytes [] = [] := rfl
@[simp] theorem toBytes_cons (a : Int) (l : List Int) : toBytes (a :: l) = byte a :: toBytes l := rfl
@[simp] theorem toBytes_append (a b : List Int) : toBytes (a ++ b) = toBytes a ++ toBytes b := by simp [toBytes]
@[simp] theorem toInts_nil : toInts [] = [] := rfl
@[simp] theorem toInts_cons (a : UInt8) (l : Bytes) : toInts (a :: l) = (a.toNat : Int) :: toInts l := rfl
@[simp] theorem toInts_append (a b : Bytes) : toInts (a ++ b) = toInts a ++ toInts b := by simp [toInts]

theorem byte_toNat (b : UInt8) : byte (b.toNat : Int) = b := by simp [byte]
theorem byte_natCast (n : Nat) : byte (n : Int) = UInt8.ofNat n := by simp [byte]
theorem byte_val {x : Int} (h0 : 0 ≤ x) (h1 : x < 256) : ((byte x).toNat : Int) = x := by
  simp only [byte, UInt8.toNat_ofNat']
  omega
theorem byteAt_lt (bs : Bytes) (i : Nat) : byteAt bs i < 256 := by
  unfold byteAt; split
  · rename_i b _; exact b.toNat_lt
  · omega

/-- the byte the driver takes from a one-byte read buffer is the model's `byteAt · 0` -/
theorem idx_fill_one (bs : Bytes) : Rt.idx (Rt.Phy.fill [0] (toInts bs)) 0 = some ((byteAt bs 0 : Nat) : Int) := by
  cases bs with
  | nil => rfl
  | cons b t => simp [Rt.idx, Rt.Phy.fill, toInts, byteAt]

theorem u8_and_toNat (a b : Nat) (ha : a < 256) (hb : b < 256) : ((UInt8.ofNat a &&& UInt8.ofNat b).toNat : Int) = ((a &&& b : Nat) : Int) := by
  simp only [UInt8.toNat_and, UInt8.toNat_ofNat', Nat.mod_eq_of_lt ha, Nat.mod_eq_of_lt hb]
theorem u8_or_toNat (a b : Nat) (ha : a < 256) (hb : b < 256) : ((UInt8.ofNat a ||| UInt8.ofNat b).toNat : Int) = ((a ||| b : Nat) : Int) := by
  simp only [UInt8.toNat_or, UInt8.toNat_ofNat', Nat.mod_eq_of_lt ha, Nat.mod_eq_of_lt hb]
theorem and_lt_256 (a b : Nat) (hb : b < 256) : a &&& b < 256 := Nat.lt_of_le_of_lt Nat.and_le_right hb
theorem or_lt_256 (a b : Nat) (ha : a < 256) (hb : b < 256) : a ||| b < 256 := Nat.or_lt_two_pow (n := 8) ha hb

theorem byte_ofNat_and (m n : Nat) : UInt8.ofNat (m &&& n) = UInt8.ofNat m &&& UInt8.ofNat n := UInt8.ofNat_and m n
theorem byte_ofNat_or (m n : Nat) : UInt8.ofNat (m ||| n) = UInt8.ofNat m ||| UInt8.ofNat n := UInt8.ofNat_or m n
/-- a byte the driver computes with `&` from a byte it read: as written to the chip -/
theorem byte_andI (a : Nat) (b : Int) (hb : 0 ≤ b) : byte (Rt.andI (a : Int) b) = UInt8.ofNat a &&& byte b := by
  obtain ⟨k, rfl⟩ := Int.eq_ofNat_of_zero_le hb
  simp [Rt.andI_ofNat, byte]
theorem byte_orI (a : Nat) (b : Int) (hb : 0 ≤ b) : byte (Rt.orI (a : Int) b) = UInt8.ofNat a ||| byte b := by
  obtain ⟨k, rfl⟩ := Int.eq_ofNat_of_zero_le hb
  simp [Rt.orI_ofNat, byte]
/-- … and as it appears, an `Int`, in the list of requests -/
theorem u8and_int (a : Nat) (ha : a < 256) (b : UInt8) : ((UInt8.ofNat a &&& b).toNat : Int) = Rt.andI (a : Int) (b.toNat : Int) := by
  rw [Rt.andI_ofNat]; simp only [UInt8.toNat_and, UInt8.toNat_ofNat', Nat.mod_eq_of_lt ha]
theorem u8or_int (a : Nat) (ha : a < 256) (b : UInt8) : ((UInt8.ofNat a ||| b).toNat : Int) = Rt.orI (a : Int) (b.toNat : Int) := by
  rw [Rt.orI_ofNat]; simp only [UInt8.toNat_or, UInt8.toNat_ofNat', Nat.mod_eq_of_lt ha]

/-- `p.clamp(lo, hi)` spelt `p.max(lo).min(hi)` or `p.min(hi).max(lo)`: rewritten to the model's form, so that a
clamp spelt differently in the source is compared as well -/
theorem clamp_spellings (p lo hi : Int) (h : lo ≤ hi) :
    min (max p lo) hi = max lo (min hi p) ∧ max (min p hi) lo = max lo (min hi p) := by omega

@[simp] theorem byteAt_mod (bs : Bytes) (i : Nat) : byteAt bs i % 256 = byteAt bs i := Nat.mod_eq_of_lt (byteAt_lt bs i)

/-- `(x & 0xFF) as u8` of a non-negative value: the low byte -/
theorem wrap_and255_nat (n : Nat) : Rt.wrap .u8 (Rt.andI (n : Int) 255) = ((n % 256 : Nat) : Int) := by
  rw [Rt.andI_255 (Int.natCast_nonneg n), Rt.wrap_id_u8 (by omega) (by omega)]
  omega
theorem wrap_and255_div (n : Nat) (d : Int) (hd : 0 ≤ d := by decide) :
    Rt.wrap .u8 (Rt.andI ((n : Int) / d) 255) = ((n / d.toNat % 256 : Nat) : Int) := by
  obtain ⟨k, rfl⟩ := Int.eq_ofNat_of_zero_le hd
  rw [← wrap_and255_nat]; rfl
theorem natCast_byte_val (n : Nat) : ((UInt8.ofNat n).toNat : Int) = ((n % 256 : Nat) : Int) := by
  simp

theorem u8_ofNat_eq (a b : Nat) (h : a % 256 = b % 256) : UInt8.ofNat a = UInt8.ofNat b := by
  apply UInt8.toNat_inj.mp; simpa using h
theorem ofNat_toNat_mod (n : Nat) : UInt8.ofNat ((n : Int) % 256).toNat = UInt8.ofNat n := by
  apply u8_ofNat_eq; omega
theorem ofNat_toNat_div (n : Nat) (d : Int) (hd : 0 ≤ d := by decide) :
    UInt8.ofNat ((n : Int) / d % 256).toNat = UInt8.ofNat (n / d.toNat) := by
  obtain ⟨k, rfl⟩ := Int.eq_ofNat_of_zero_le hd
  apply u8_ofNat_eq
  rw [← Int.natCast_ediv, Int.toNat_natCast]
  omega

/-! `to_be_bytes` and checked indexing of short lists -/
theorem beBytes_u16 (x : Int) : Rt.Phy.beBytes .u16 x = [x / 256 % 256, x % 256] := by
  simp [Rt.Phy.beBytes, Rt.ITy.bits, List.range, List.range.loop]
theorem beBytes_u32 (x : Int) : Rt.Phy.beBytes .u32 x = [x / 16777216 % 256, x / 65536 % 256, x / 256 % 256, x % 256] := by
  simp [Rt.Phy.beBytes, Rt.ITy.bits, List.range, List.range.loop]
theorem idx_zero {α : Type} (a : α) (l : List α) : Rt.idx (a :: l) 0 = some a := rfl
theorem idx_one {α : Type} (a b : α) (l : List α) : Rt.idx (a :: b :: l) 1 = some b := rfl
theorem idx_two {α : Type} (a b c : α) (l : List α) : Rt.idx (a :: b :: c :: l) 2 = some c := rfl
theorem idx_three {α : Type} (a b c d : α) (l : List α) : Rt.idx (a :: b :: c :: d :: l) 3 = some d := rfl

end TieA.Phy
