import LoraVerif.Lemmas.PhyEffect127
/-!
# SX127x FIFO write: effect of lora-phy's `set_payload` against `sx127x_write_buffer` (C13)

A burst to address 0 does not write a register: each byte goes to the data buffer at the FIFO pointer, which moves on
(`write127_fifo`); both drivers set the pointer to 0 first.
-/
open Model.Phy Spec.Semtech
namespace C13

/-- the data buffer after a FIFO burst starting at pointer `ptr` -/
def fifoWrite (buf : Nat → UInt8) (ptr : Nat) : Bytes → Nat → UInt8
  | [] => buf
  | b :: rest => fifoWrite (setAt buf ptr b) ((ptr + 1) % 256) rest

/-- a burst write to address 0 goes through the FIFO pointer and touches no register -/
theorem write127_fifo (c : Chip) (i : Nat) (data : Bytes) :
    (Chip.write127 c 0 i data).regs = c.regs ∧ (Chip.write127 c 0 i data).buffer = fifoWrite c.buffer c.fifoPtr data ∧
      (Chip.write127 c 0 i data).kind = c.kind := by
  induction data generalizing c i with
  | nil => simp [Chip.write127, fifoWrite]
  | cons b rest ih =>
    simp only [Chip.write127, if_true, fifoWrite]
    obtain ⟨h1, h2, h3⟩ := ih { c with buffer := setAt c.buffer c.fifoPtr b, fifoPtr := (c.fifoPtr + 1) % 256 } (i + 1)
    exact ⟨h1, h2, h3⟩

theorem write127_fifo_kind (c : Chip) (i : Nat) (data : Bytes) : (Chip.write127 c 0 i data).kind = c.kind := (write127_fifo c i data).2.2
theorem write127_fifo_regs (c : Chip) (i : Nat) (data : Bytes) : (Chip.write127 c 0 i data).regs = c.regs := (write127_fifo c i data).1
theorem write127_fifo_buffer (c : Chip) (i : Nat) (data : Bytes) :
    (Chip.write127 c 0 i data).buffer = fifoWrite c.buffer c.fifoPtr data := (write127_fifo c i data).2.1

/-- the reference pushes exactly the payload when the packet parameters carry its length -/
theorem ref_fifo_data (data : Bytes) (hl : data.length ≤ 255) :
    (data ++ List.replicate ((UInt8.ofNat data.length).toNat - data.length) 0).take (UInt8.ofNat data.length).toNat = data := by
  have : (UInt8.ofNat data.length).toNat = data.length := by
    simp [UInt8.toNat_ofNat']; omega
  simp [this]

/-- **SX127x FIFO write.**  For every payload (up to 255 bytes), both variants, every prior chip
content: lora-phy's `set_payload` and the reference's `set_lora_pkt_params(len)` + `write_buffer(0, payload)`
leave the same data buffer (the payload from FIFO address 0), the same RegPayloadLength and the same
RegFifoAddrPtr. -/
theorem sx127x_fifo_write_effect_eq (is1272 : Bool) (data : Bytes) (hl : data.length ≤ 255) (c : Chip) (hk : c.kind = .sx127x) :
    let m := (trace (Sx127x.setPayload data) c).2.1
    let r := (trace (do S127.setLoraPktParams is1272 8 false (UInt8.ofNat data.length) true
                        S127.writeBuffer (UInt8.ofNat data.length) data) c).2.1
    m.buffer = r.buffer ∧ m.buffer = fifoWrite c.buffer 0 data ∧ m.regs 0x22 = r.regs 0x22 ∧ m.regs 0x0d = r.regs 0x0d := by
  have hd := ref_fifo_data data hl
  simp only [UInt8.toNat_ofNat', Nat.reducePow] at hd
  cases is1272 <;>
    eff127 [setAt, Sx127x.setPayload, hk, S127.setLoraPktParams, S127.writeBuffer,
        S127.setStandby, S127.setOpMode,
        write127_fifo_kind, write127_fifo_regs, write127_fifo_buffer, hd]

end C13
