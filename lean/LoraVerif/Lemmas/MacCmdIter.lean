import LoraVerif.Lemmas.MacCmdAccessors
import LoraVerif.Spec.MacCmdSpec
/-! The generic command iterator of `Model/MacCmd.lean`: what `parse_one` and `next` return, the invariant of a drained run,
an induction over the drain of a fixed-length table (`run_ind`) with the specification's splitter as its instance (`run_split`),
and (at the end) the hand-written `len()` helpers `varLen`.  The MAC layer (C08) has a second, smaller model of the downlink
iterator, `Model.parseDownlinkCmds` over `Model.downlinkCmdLen`; the two meet in `Props/TieA/MacCmd.lean` (`cmdLen_lookup`). -/
namespace MacCmd

/-- the `len()` helper of every variable-length entry of `T` returns (does not panic) on a non-empty slice -/
def VlTotal (T : Table) (vl : VarLen) : Prop :=
  ∀ e ∈ T, e.len = none → ∀ rest : Bytes, rest ≠ [] → ∃ n, vl e.payload rest = .ok n

theorem Table.lookup_mem {T : Table} {cid : Nat} {e : Entry} (h : T.lookup cid = some e) : e ∈ T ∧ e.cid = cid := by
  unfold Table.lookup at h
  have h1 := List.mem_of_find?_eq_some h
  have h2 := List.find?_some h
  simp at h2
  exact ⟨h1, h2⟩

theorem Table.lookup_none_of (T : Table) (cid : Nat) (h : cid ∉ T.map (·.cid)) : T.lookup cid = none :=
  List.find?_eq_none.mpr fun e he hc => h (List.mem_map.mpr ⟨e, he, by simpa using hc⟩)

theorem Table.lookup_self {T : Table} (h : (T.map (·.cid)).Nodup) {e : Entry} (he : e ∈ T) : T.lookup e.cid = some e := by
  induction T with
  | nil => cases he
  | cons a T ih =>
    rw [List.map_cons, List.nodup_cons] at h
    unfold Table.lookup
    rcases List.mem_cons.mp he with rfl | he
    · rw [List.find?_cons, beq_self_eq_true]
    · have hne : (a.cid == e.cid) = false :=
        beq_eq_false_iff_ne.mpr fun heq => h.1 (heq ▸ List.mem_map_of_mem he)
      rw [List.find?_cons, hne]
      exact ih h.2 he

/-- what a successful `parse_one` returns -/
structure ParsedShape (T : Table) (vl : VarLen) (data : Bytes) (c : Cmd) (n : Nat) : Prop where
  le : n ≤ data.length
  wire : c.wire = data.take n
  len : c.payload.length + 1 = n
  entry : ∃ e, T.lookup c.cid = some e ∧ c.variant = e.variant ∧ c.payloadTy = e.payload ∧ (∀ l, e.len = some l → n = 1 + l) ∧
    (e.len = none → ∃ rest, rest ≠ [] ∧ vl e.payload rest = .ok c.payload.length)

section
variable {T : Table} {vl : VarLen} {cid : Nat} {rest : Bytes} {e : Entry}

/-- the result of `parse_one` once the payload length `len` is known -/
def parsed (cid : Nat) (e : Entry) (rest : Bytes) (len : Nat) : Except ParseError (Cmd × Nat) :=
  if rest.length < len then .error (.truncated cid)
  else .ok ({ cid := cid, variant := e.variant, payloadTy := e.payload, payload := rest.take len }, 1 + len)

theorem parseOne_unknown (hl : T.lookup cid = none) : parseOne T vl (cid :: rest) = .ok (.error (.unknownCid cid)) := by
  simp only [parseOne, index_cons_zero, Outcome.ok_bind, hl]

theorem parseOne_fixed {len : Nat} (hl : T.lookup cid = some e) (hlen : e.len = some len) :
    parseOne T vl (cid :: rest) = .ok (parsed cid e rest len) := by
  simp only [parseOne, index_cons_zero, Outcome.ok_bind, hl, hlen, parsed, List.length_cons, Nat.add_comm 1, Nat.add_lt_add_iff_right]
  split
  · rfl
  · rw [slice_ok (by omega) (by simp; omega)]; simp

theorem parseOne_var (hl : T.lookup cid = some e) (hlen : e.len = none) :
    parseOne T vl (cid :: rest) =
      if rest = [] then .ok (.error (.truncated cid)) else (vl e.payload rest).bind fun len => .ok (parsed cid e rest len) := by
  simp only [parseOne, index_cons_zero, Outcome.ok_bind, hl, hlen, sliceFrom_ok (show 1 ≤ (cid :: rest).length by simp),
    List.drop_succ_cons, List.drop_zero, List.isEmpty_iff]
  split
  · rfl
  · cases vl e.payload rest with
    | panic s => rfl
    | ok len =>
      simp only [Outcome.ok_bind, Outcome.bind, parsed]
      split
      · rfl
      · rw [slice_ok (by omega) (by omega)]; simp

theorem parseOne_ok_inv {r : Except ParseError (Cmd × Nat)} (h : parseOne T vl (cid :: rest) = .ok r) :
    r = .error (.unknownCid cid) ∨ r = .error (.truncated cid) ∨
    ∃ e len, T.lookup cid = some e ∧ (e.len = some len ∨ e.len = none ∧ rest ≠ [] ∧ vl e.payload rest = .ok len) ∧
      r = parsed cid e rest len := by
  cases hl : T.lookup cid with
  | none => rw [parseOne_unknown hl] at h; cases h; exact .inl rfl
  | some e =>
    refine .inr ?_
    cases hlen : e.len with
    | some len => rw [parseOne_fixed hl hlen] at h; cases h; exact .inr ⟨e, len, rfl, .inl hlen, rfl⟩
    | none =>
      rw [parseOne_var hl hlen] at h
      split at h
      · cases h; exact .inl rfl
      · rename_i hr
        cases hv : vl e.payload rest with
        | panic s => rw [hv] at h; cases h
        | ok len => rw [hv] at h; cases h; exact .inr ⟨e, len, rfl, .inr ⟨hlen, hr, hv⟩, rfl⟩

theorem parsed_ok {len : Nat} {c : Cmd} {n : Nat} (h : parsed cid e rest len = .ok (c, n)) :
    len ≤ rest.length ∧ c = ⟨cid, e.variant, e.payload, rest.take len⟩ ∧ n = 1 + len := by
  unfold parsed at h
  split at h
  · cases h
  · cases h; exact ⟨by omega, rfl, rfl⟩

theorem parsed_error {len : Nat} {er : ParseError} (h : parsed cid e rest len = .error er) : er = .truncated cid := by
  unfold parsed at h
  split at h <;> cases h
  rfl

theorem parseOne_ok_shape {data : Bytes} {c : Cmd} {n : Nat}
    (h : parseOne T vl data = .ok (.ok (c, n))) : ParsedShape T vl data c n := by
  cases data with
  | nil => cases h
  | cons cid rest =>
    obtain h | h | ⟨e, len, he, hlen, h⟩ := parseOne_ok_inv h
    · cases h
    · cases h
    · obtain ⟨hle, rfl, rfl⟩ := parsed_ok h.symm
      have hpl : (rest.take len).length = len := by rw [List.length_take]; omega
      refine ⟨by simp; omega, ?_, by simp only [hpl]; omega, e, he, rfl, rfl, ?_, ?_⟩
      · simp [Cmd.wire, Nat.add_comm 1 len, List.take_succ_cons]
      · intro l hl
        rcases hlen with hlen | ⟨hlen, _⟩ <;> rw [hlen] at hl <;> cases hl
        rfl
      · intro hn
        rcases hlen with hlen | ⟨_, hr, hv⟩
        · rw [hlen] at hn; cases hn
        · exact ⟨rest, hr, by rw [hv, hpl]⟩

/-- `parse_one` does not panic on a non-empty slice (the precondition stated in the trait's doc comment) -/
theorem parseOne_no_panic (hvl : VlTotal T vl) {data : Bytes} (hne : data ≠ []) :
    ∃ r, parseOne T vl data = .ok r := by
  cases data with
  | nil => exact absurd rfl hne
  | cons cid rest =>
    cases hl : T.lookup cid with
    | none => exact ⟨_, parseOne_unknown hl⟩
    | some e =>
      cases hlen : e.len with
      | some len => exact ⟨_, parseOne_fixed hl hlen⟩
      | none =>
        rw [parseOne_var hl hlen]
        split
        · exact ⟨_, rfl⟩
        · rename_i hr
          obtain ⟨n, hn⟩ := hvl e (Table.lookup_mem hl).1 hlen rest hr
          rw [hn]; exact ⟨_, rfl⟩

theorem parseOne_err_cid {data : Bytes} {er : ParseError}
    (h : parseOne T vl data = .ok (.error er)) :
    ∃ cid rest, data = cid :: rest ∧ (er = .unknownCid cid ∨ er = .truncated cid) := by
  cases data with
  | nil => cases h
  | cons cid rest =>
    refine ⟨cid, rest, rfl, ?_⟩
    obtain h | h | ⟨e, len, _, _, h⟩ := parseOne_ok_inv h
    · cases h; exact .inl rfl
    · cases h; exact .inr rfl
    · exact .inr (parsed_error h.symm)
end

/-- the three things `next` can do: stop, yield a whole command and advance past it, yield an error and latch `errored` -/
inductive NextCase (T : Table) (vl : VarLen) (s : Iter) : Option Item × Iter → Prop where
  | done (h : s.errored = true ∨ s.data = []) : NextCase T vl s (none, s)
  | cmd (c : Cmd) (n : Nat) (he : s.errored = false) (sh : ParsedShape T vl s.data c n) :
      NextCase T vl s (some (.cmd c), { s with data := s.data.drop n })
  | err (e : ParseError) (he : s.errored = false) (hd : s.data ≠ []) :
      NextCase T vl s (some (.err e), { s with errored := true })

theorem next_cases {T : Table} {vl : VarLen} (hvl : VlTotal T vl) (s : Iter) :
    ∃ r, next T vl s = .ok r ∧ NextCase T vl s r := by
  unfold next
  split
  · rename_i h
    refine ⟨_, rfl, .done ?_⟩
    simp at h
    exact h
  · rename_i h
    simp at h
    obtain ⟨he, hd⟩ := h
    obtain ⟨r, hr⟩ := parseOne_no_panic hvl hd
    simp only [hr, Outcome.ok_bind]
    match r, hr with
    | .ok (c, n), hr =>
      have sh := parseOne_ok_shape hr
      simp only [sliceFrom_ok sh.le, Outcome.ok_bind]
      exact ⟨_, rfl, .cmd c n he sh⟩
    | .error e, hr => exact ⟨_, rfl, .err e he hd⟩

/-- `next` never lengthens the unread slice (whatever `vl` does) -/
theorem next_len {T : Table} {vl : VarLen} {s s' : Iter} {o : Option Item} (h : next T vl s = .ok (o, s')) :
    s'.data.length ≤ s.data.length := by
  obtain ⟨data, err⟩ := s
  unfold next at h
  by_cases hc : (err || data.isEmpty) = true
  · simp only [hc, if_true, Outcome.ok.injEq, Prod.mk.injEq] at h
    rw [← h.2]; exact Nat.le_refl _
  · simp only [hc, Bool.false_eq_true, if_false] at h
    cases hm : parseOne T vl data with
    | panic s => rw [hm] at h; simp [bind, Outcome.bind] at h
    | ok x =>
      rw [hm] at h
      cases x with
      | error e =>
        simp only [bind, Outcome.bind, Outcome.ok.injEq, Prod.mk.injEq] at h
        rw [← h.2]; exact Nat.le_refl _
      | ok y =>
        obtain ⟨c, k⟩ := y
        simp only [bind, Outcome.bind, sliceFrom] at h
        by_cases hk : k ≤ data.length
        · simp only [hk, if_true, Outcome.ok.injEq, Prod.mk.injEq] at h
          rw [← h.2]; simp only [List.length_drop]; omega
        · simp [hk] at h

theorem runFuel_stop (T : Table) (vl : VarLen) (f : Nat) (s : Iter) (h : (s.errored || s.data.isEmpty) = true) :
    runFuel T vl (f + 1) s = .ok ⟨[], s, false⟩ := by
  simp only [runFuel, next, h, if_true, Outcome.ok_bind]

theorem runFuel_step {T : Table} {vl : VarLen} {f : Nat} {s s' : Iter} {it : Item} {r : Run}
    (h : next T vl s = .ok (some it, s')) (hr : runFuel T vl f s' = .ok r) :
    runFuel T vl (f + 1) s = .ok ⟨it :: r.items, r.final, r.hang⟩ := by
  rw [runFuel, h]
  simp only [Outcome.ok_bind, hr]

theorem runFuel_err (T : Table) (vl : VarLen) (f cid : Nat) (rest : Bytes) (e : ParseError)
    (h : parseOne T vl (cid :: rest) = .ok (.error e)) :
    runFuel T vl (f + 2) ⟨cid :: rest, false⟩ = .ok ⟨[.err e], ⟨cid :: rest, true⟩, false⟩ := by
  have hn : next T vl ⟨cid :: rest, false⟩ = .ok (some (.err e), ⟨cid :: rest, true⟩) := by
    simp only [next, List.isEmpty_cons, Bool.or_self, Bool.false_eq_true, if_false, h, Outcome.ok_bind]
  exact runFuel_step hn (runFuel_stop T vl f _ rfl)

/-- the invariant a drained run satisfies, relative to the state it started from -/
structure RunOk (T : Table) (vl : VarLen) (s : Iter) (r : Run) : Prop where
  /-- `None` was reached within the budget -/
  no_hang : r.hang = false
  /-- whole commands adding up to a prefix: the wire bytes of the yielded items, then the unconsumed rest -/
  prefix_eq : (r.items.map Item.wire).flatten ++ r.final.data = s.data
  /-- every yielded command is a whole command of the table -/
  whole : ∀ c, Item.cmd c ∈ r.items →
      ∃ e, T.lookup c.cid = some e ∧ c.variant = e.variant ∧ c.payloadTy = e.payload ∧
        (∀ l, e.len = some l → c.payload.length = l) ∧
        (e.len = none → ∃ rest, rest ≠ [] ∧ vl e.payload rest = .ok c.payload.length)
  /-- at most one error, and it is the last item -/
  fused : ∀ pre it post, r.items = pre ++ it :: post → it.isErr = true → post = []
  /-- after an error the iterator is in the `errored` state; otherwise it stopped because the input is used up -/
  final_state : (r.final.errored = true ∧ (s.errored = true ∨ ∃ e, r.items.getLast? = some (.err e))) ∨
                (r.final.errored = false ∧ r.final.data = [] ∧ ∀ it ∈ r.items, it.isErr = false)

/-- The budget: `data.len() + 2` calls on a live iterator, one on a fused one (so that the step that yields the error can
recurse with what is left). -/
theorem runFuel_ok {T : Table} {vl : VarLen} (hvl : VlTotal T vl) :
    ∀ (fuel : Nat) (s : Iter), s.data.length + 2 ≤ fuel + (if s.errored then s.data.length + 1 else 0) →
      ∃ r, runFuel T vl fuel s = .ok r ∧ RunOk T vl s r := by
  intro fuel
  induction fuel with
  | zero =>
    intro s h
    split at h <;> omega
  | succ fuel ih =>
    intro s hf
    obtain ⟨r1, hr1, hc⟩ := next_cases hvl s
    simp only [runFuel, hr1, Outcome.ok_bind]
    cases hc with
    | done h =>
      refine ⟨_, rfl, ⟨rfl, by simp, by simp, ?_, ?_⟩⟩
      · intro pre it post hp; simp at hp
      · rcases Bool.eq_false_or_eq_true s.errored with hs | hs
        · exact Or.inl ⟨hs, Or.inl hs⟩
        · refine Or.inr ⟨hs, ?_, by simp⟩
          rcases h with h | h
          · rw [hs] at h; cases h
          · exact h
    | cmd c n he sh =>
      have hlen : (s.data.drop n).length + 2 ≤ fuel + 0 := by
        have := sh.len; have := sh.le
        simp only [he] at hf
        simp only [List.length_drop]
        simp at hf
        omega
      obtain ⟨r, hr, ok⟩ := ih { s with data := s.data.drop n } (by simpa [he] using hlen)
      simp only [hr, Outcome.ok_bind]
      refine ⟨_, rfl, ⟨ok.no_hang, ?_, ?_, ?_, ?_⟩⟩
      · have := ok.prefix_eq
        simp only at this
        simp only [List.map_cons, List.flatten_cons, Item.wire, List.append_assoc, this, sh.wire]
        exact List.take_append_drop n s.data
      · intro c' hc'
        simp only [List.mem_cons] at hc'
        rcases hc' with hc' | hc'
        · cases hc'
          obtain ⟨e, h1, h2, h3, h4, h5⟩ := sh.entry
          refine ⟨e, h1, h2, h3, ?_, h5⟩
          intro l hl; have := h4 l hl; have := sh.len; omega
        · exact ok.whole c' hc'
      · intro pre it post hp hi
        cases pre with
        | nil => simp at hp; obtain ⟨rfl, _⟩ := hp; simp [Item.isErr] at hi
        | cons p pre => simp at hp; exact ok.fused pre it post hp.2 hi
      · rcases ok.final_state with ⟨h1, h2⟩ | ⟨h1, h2, h3⟩
        · refine Or.inl ⟨h1, Or.inr ?_⟩
          rcases h2 with h2 | ⟨e, h2⟩
          · simp [he] at h2
          · refine ⟨e, ?_⟩
            simp only at h2 ⊢
            rw [List.getLast?_cons]
            cases hr' : r.items with
            | nil => simp [hr'] at h2
            | cons a as => rw [hr'] at h2; simp [h2]
        · refine Or.inr ⟨h1, h2, ?_⟩
          intro it hit
          simp only [List.mem_cons] at hit
          rcases hit with rfl | hit
          · rfl
          · exact h3 it hit
    | err e he hd =>
      -- after an error the next call returns `None` at once
      obtain ⟨f, rfl⟩ : ∃ f, fuel = f + 1 := ⟨fuel - 1, by simp [he] at hf; omega⟩
      simp only [runFuel_stop T vl f ⟨s.data, true⟩ rfl, Outcome.ok_bind]
      refine ⟨_, rfl, ⟨rfl, by simp [Item.wire], by simp, ?_, Or.inl ⟨rfl, Or.inr ⟨e, rfl⟩⟩⟩⟩
      intro pre it post hp _
      cases pre with
      | nil => simp at hp; exact hp.2
      | cons p pre => simp at hp

theorem run_ok {T : Table} {vl : VarLen} (hvl : VlTotal T vl) (data : Bytes) :
    ∃ r, run T vl data = .ok r ∧ RunOk T vl { data := data, errored := false } r :=
  runFuel_ok hvl (data.length + 2) { data := data, errored := false } (by simp)

theorem run_payload_isBytes {T : Table} {vl : VarLen} {s : Iter} {r : Run} (ok : RunOk T vl s r) (hb : IsBytes s.data)
    (c : Cmd) (hc : Item.cmd c ∈ r.items) : IsBytes c.payload := by
  rw [← ok.prefix_eq] at hb
  have h1 := (IsBytes.append.mp hb).1
  have h2 := IsBytes.flatten h1 (Item.cmd c).wire (List.mem_map_of_mem hc)
  simp [Item.wire, Cmd.wire] at h2
  exact h2.2

theorem runFuel_mono {T : Table} {vl : VarLen} :
    ∀ (fuel : Nat) (s : Iter) (r : Run), runFuel T vl fuel s = .ok r → r.hang = false →
      ∀ k, runFuel T vl (fuel + k) s = .ok r := by
  intro fuel
  induction fuel with
  | zero => intro s r h hh; simp [runFuel] at h; cases h; simp at hh
  | succ fuel ih =>
    intro s r h hh k
    rw [Nat.add_right_comm]
    simp only [runFuel] at h ⊢
    cases hn : next T vl s with
    | panic m => simp [hn] at h
    | ok p =>
      obtain ⟨o, s'⟩ := p
      simp only [hn, Outcome.ok_bind] at h ⊢
      cases o with
      | none => exact h
      | some it =>
        simp only at h ⊢
        cases hr : runFuel T vl fuel s' with
        | panic m => simp [hr] at h
        | ok r' =>
          simp only [hr, Outcome.ok_bind] at h
          cases h
          simp only at hh
          rw [ih s' r' hr hh k]
          rfl

/-- Induction over the drained iterator of a table of fixed-length rows: the drain of `data` returns, within its budget, and a
relation `M f data r` between the stream, its run and a budget `f ≥ data.len()` (that of the fuel-driven function the run is
compared with) holds if it is preserved by the four ways a step can go — the stream is empty; the first octet is no CID of the
table, or starts a command cut short (one error item, the iterator fused on the unread octets); a whole command, then the
drain of what follows. -/
theorem run_ind {T : Table} {vl : VarLen} (hfix : ∀ e ∈ T, e.len.isSome)
    {M : Nat → Bytes → Run → Prop}
    (hnil : ∀ f, M f [] ⟨[], ⟨[], false⟩, false⟩)
    (hunk : ∀ f cid rest, T.lookup cid = none → M f (cid :: rest) ⟨[.err (.unknownCid cid)], ⟨cid :: rest, true⟩, false⟩)
    (htr : ∀ f cid e n rest, T.lookup cid = some e → e.len = some n → rest.length < n →
      M f (cid :: rest) ⟨[.err (.truncated cid)], ⟨cid :: rest, true⟩, false⟩)
    (hok : ∀ f cid e n rest r, T.lookup cid = some e → e.len = some n → n ≤ rest.length → M f (rest.drop n) r →
      M (f + 1) (cid :: rest) ⟨.cmd ⟨cid, e.variant, e.payload, rest.take n⟩ :: r.items, r.final, r.hang⟩)
    (data : Bytes) : ∃ r, run T vl data = .ok r ∧ r.hang = false ∧ M data.length data r := by
  suffices h : ∀ fuel data f, data.length + 2 ≤ fuel → data.length ≤ f →
      ∃ r, runFuel T vl fuel ⟨data, false⟩ = .ok r ∧ r.hang = false ∧ M f data r from
    h _ data _ (Nat.le_refl _) (Nat.le_refl _)
  intro fuel
  induction fuel with
  | zero => intro _ _ h; omega
  | succ fuel ih =>
    intro data f hf hd
    cases data with
    | nil => exact ⟨_, runFuel_stop T vl fuel _ rfl, rfl, hnil f⟩
    | cons cid rest =>
      simp only [List.length_cons] at hf hd
      obtain ⟨fuel, rfl⟩ : ∃ k, fuel = k + 1 := ⟨fuel - 1, by omega⟩
      cases hlk : T.lookup cid with
      | none => exact ⟨_, runFuel_err T vl fuel cid rest _ (parseOne_unknown hlk), rfl, hunk f cid rest hlk⟩
      | some e =>
        obtain ⟨n, hn⟩ := Option.isSome_iff_exists.mp (hfix e (Table.lookup_mem hlk).1)
        have hp := parseOne_fixed (vl := vl) (rest := rest) hlk hn
        by_cases hl : rest.length < n
        · rw [parsed, if_pos hl] at hp
          exact ⟨_, runFuel_err T vl fuel cid rest _ hp, rfl, htr f cid e n rest hlk hn hl⟩
        · rw [parsed, if_neg hl] at hp
          obtain ⟨f, rfl⟩ : ∃ k, f = k + 1 := ⟨f - 1, by omega⟩
          obtain ⟨r, hr, hh, hM⟩ := ih (rest.drop n) f (by simp only [List.length_drop]; omega) (by simp only [List.length_drop]; omega)
          have hsl : ∀ s, sliceFrom s (cid :: rest) (1 + n) = .ok (rest.drop n) := fun s => by
            rw [sliceFrom_ok (by simp only [List.length_cons]; omega), Nat.add_comm, List.drop_succ_cons]
          have hnx : next T vl ⟨cid :: rest, false⟩ = .ok (some (.cmd ⟨cid, e.variant, e.payload, rest.take n⟩), ⟨rest.drop n, false⟩) := by
            simp only [next, List.isEmpty_cons, Bool.or_self, Bool.false_eq_true, if_false, hp, Outcome.ok_bind, hsl]
          exact ⟨_, runFuel_step hnx hr, hh, hok f cid e n rest r hlk hn (Nat.le_of_not_lt hl) hM⟩

/-- a yielded item in the specification's vocabulary (for a fixed-length row: the payload has the row's length) -/
def Item.spec : Item → Spec.MacCmd.Item
  | .cmd c => .cmd ⟨c.cid, c.variant, .fixed c.payload.length⟩ c.payload
  | .err (.unknownCid c) => .unknown c
  | .err (.truncated c) => .truncated c

/-- the specification's row of a CID is the table's (a table of fixed lengths) -/
def SpecRows (T : Table) (S : List Spec.MacCmd.Cmd) : Prop :=
  ∀ cid, S.find? (fun c => c.cid == cid) = (T.lookup cid).bind fun e => e.len.map fun n => ⟨cid, e.variant, .fixed n⟩

/-- the drain of `data` is the specification's split of it: the same items, the same unread rest -/
theorem run_split {T : Table} {vl : VarLen} {S : List Spec.MacCmd.Cmd} (hfix : ∀ e ∈ T, e.len.isSome) (hS : SpecRows T S)
    (data : Bytes) : ∃ r, run T vl data = .ok r ∧ r.hang = false ∧
      r.items.map Item.spec = (Spec.MacCmd.splitAll S data).1 ∧ r.final.data = (Spec.MacCmd.splitAll S data).2 :=
  run_ind (M := fun f data r => r.items.map Item.spec = (Spec.MacCmd.split S (f + 1) data).1 ∧
      r.final.data = (Spec.MacCmd.split S (f + 1) data).2) hfix (fun _ => ⟨rfl, rfl⟩)
    (fun f cid rest hlk => by simp only [Spec.MacCmd.split, hS cid, hlk]; exact ⟨rfl, rfl⟩)
    (fun f cid e n rest hlk hn hl => by
      simp only [Spec.MacCmd.split, hS cid, hlk, hn, Option.bind_some, Option.map_some, Spec.MacCmd.payloadLen, Nat.not_le.mpr hl,
        if_false]
      exact ⟨rfl, trivial⟩)
    (fun f cid e n rest r hlk hn hle ⟨h1, h2⟩ => by
      simp only [Spec.MacCmd.split, hS cid, hlk, hn, Option.bind_some, Option.map_some, Spec.MacCmd.payloadLen, hle, if_true,
        List.map_cons, h1, h2, Item.spec, List.length_take, Nat.min_eq_left hle, and_self])
    data

theorem varLen_pos {ty : String} {rest : Bytes} {n : Nat} (h : varLen ty rest = .ok n) : 1 ≤ n := by
  unfold varLen at h
  split at h
  · simp at h; omega
  · simp at h; omega
  · simp at h; omega
  · cases rest with
    | nil => simp at h
    | cons x xs => simp at h; omega
  · simp at h

theorem popcount4_le (m : Nat) : popcount4 m ≤ 4 := by unfold popcount4; omega

/-- the payload types whose hand-written `len()` helper `varLen` models -/
def varLenTypes : List String :=
  ["TxFramesCtrlReqPayload", "EchoIncPayloadReqPayload", "EchoIncPayloadAnsPayload", "McGroupStatusAnsPayload"]

theorem varLen_total_of_known {T : Table} (h : ∀ e ∈ T, e.len = none → e.payload ∈ varLenTypes) : VlTotal T varLen := by
  intro e he hl rest hne
  have h := h e he hl
  simp only [varLenTypes, List.mem_cons, List.not_mem_nil, or_false] at h
  rcases h with h | h | h | h <;> rw [h]
  · exact ⟨_, rfl⟩
  · exact ⟨_, rfl⟩
  · exact ⟨_, rfl⟩
  · cases rest with
    | nil => exact absurd rfl hne
    | cons x xs => exact ⟨_, rfl⟩

end MacCmd
