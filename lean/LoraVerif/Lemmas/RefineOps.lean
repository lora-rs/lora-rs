import LoraVerif.Lemmas.RefinePlain
/-!
# Sequences of application calls on the async front-end refine (extended) histories

`asyncOps` runs a list of application calls (`send` / `join` each with the script of radio answers
it meets, ABP activation, the setters) on the async front-end model; `abstractOp` maps each call to
one event; `asyncOps_sim`: the whole session is simulated by `runC` on the mapped list.  With no
frame heard between windows (every script in Class A) the events are those of `Model/History.lean`
and `runC` is `run` (`runC_plain`, `asyncOps_refines_run`).  The session model (`AsyncOp`, `asyncOp`, `asyncOps`) is
defined here, over `asyncSend` / `asyncJoin` of `Model/Device.lean`.
-/
namespace Model

/-- an application call on the async device, with the script the radio answers it with -/
inductive AsyncOp where
  | send (data : List Nat) (port : Nat) (conf : Bool) (script : List ScriptItem)
  | join (script : List ScriptItem)
  | abp (devAddr nwk app : Nat)
  | setAdr (on : Bool)
  | setDr (dr : Nat)
  deriving Repr

/-- the data frame `send` hands to the radio in this state (`Mac::send` builds it before the first
radio call; the `tx` call is logged iff this is `some`) — what `Driver/Dev.lean` prints as `up=` and
the harness compares with the frame the real radio was given -/
def sentFrame {σ} (g : Rng σ) (m : MacState) (data : List Nat) (port : Nat) (conf : Bool) (rs : σ) : Option UplinkDesc :=
  match macSend g m data port conf rs with
  | .ok (some o, _, _) => some o.frame
  | _ => none

/-- what the application (and the radio) see of one call -/
structure OpObs where
  /-- the call's result (`none` for ABP activation and the setters, which cannot fail) -/
  res : Option DevResult
  /-- the data frame handed to the radio -/
  frame : Option UplinkDesc
  deriving Repr

def asyncOp {σ} (g : Rng σ) (cfg : DevCfg) (r : DevRun) (rs : σ) : AsyncOp → M (OpObs × DevRun × σ)
  | .send data port conf script => do
    let (res, r', rs') ← asyncSend g cfg { r with script := script } data port conf rs
    pure ({ res := some res, frame := sentFrame g r.m data port conf rs }, r', rs')
  | .join script => do
    let (res, r', rs') ← asyncJoin g cfg { r with script := script } rs
    pure ({ res := some res, frame := none }, r', rs')
  | .abp da nwk app => pure ({ res := none, frame := none }, { r with m := macJoinAbp r.m da nwk app }, rs)
  | .setAdr on => pure ({ res := none, frame := none }, { r with m := macSetAdr r.m on }, rs)
  | .setDr dr => pure ({ res := none, frame := none }, { r with m := macSetDatarate r.m dr }, rs)

/-- a session: the calls in order (radio/timer calls and the downlink queue accumulate in the `DevRun`) -/
def asyncOps {σ} (g : Rng σ) (cfg : DevCfg) : DevRun → σ → List AsyncOp → M (List OpObs × DevRun × σ)
  | r, rs, [] => pure ([], r, rs)
  | r, rs, op :: rest => do
    let (ob, r, rs) ← asyncOp g cfg r rs op
    let (obs, r, rs) ← asyncOps g cfg r rs rest
    pure (ob :: obs, r, rs)

theorem asyncOps_single {σ} (g : Rng σ) (cfg : DevCfg) (d : DevRun) (rs : σ) (o : AsyncOp) :
    asyncOps g cfg d rs [o] = (asyncOp g cfg d rs o >>= fun x => pure ([x.1], x.2.1, x.2.2)) := by
  simp only [asyncOps]
  cases asyncOp g cfg d rs o with
  | error e => rfl
  | ok x => rfl

def abstractOp (cfg : DevCfg) : AsyncOp → EvC
  | .send data port conf script => abstractSendC cfg script data port conf
  | .join script => abstractJoinC cfg script
  | .abp da nwk app => .base (.joinAbp da nwk app)
  | .setAdr on => .base (.setAdr on)
  | .setDr dr => .base (.setDr dr)

def Out.frame? : Out → Option UplinkDesc
  | .up o _ _ => some o.frame
  | _ => none

/-- observation of a call against the output of its event -/
def ObsRel (ob : OpObs) (oc : OutC) : Prop :=
  (match ob.res with
   | some res => RespRel res oc.out
   | none => oc.out = .done) ∧ ob.frame = oc.out.frame?

theorem stepC_send_frame {σ} (g : Rng σ) (m : MacState) (s : σ) (cfg : DevCfg) (script : List ScriptItem)
    (data : List Nat) (port : Nat) (conf : Bool) (ms' : MacState × σ) (oc : OutC)
    (h : stepC g (m, s) (abstractSendC cfg script data port conf) = .ok (ms', oc)) :
    sentFrame g m data port conf s = oc.out.frame? := by
  obtain ⟨_, _, _, _, _, hs, _⟩ := abstractC_shape cfg script
  rw [hs] at h
  simp only [stepC] at h
  obtain ⟨⟨o, m1, s1⟩, hsend, hk⟩ := Except.bind_eq_ok h
  unfold sentFrame
  rw [hsend]
  cases o with
  | none => cases hk; rfl
  | some o =>
    obtain ⟨⟨fin, heard, m2⟩, _, hk2⟩ := Except.bind_eq_ok hk
    cases fin <;> cases hk2 <;> rfl

structure CallRel {σ} (a : OpObs × DevRun × σ) (b : (MacState × σ) × OutC) : Prop where
  m : a.2.1.m = b.1.1
  rng : a.2.2 = b.1.2
  obs : ObsRel a.1 b.2

theorem asyncOp_simX {σ} {X : Fault → Prop} (hXh : X (.hang "between_windows")) (g : Rng σ) (cfg : DevCfg) (r : DevRun)
    (rs : σ) (op : AsyncOp)
    (hXd : ∀ join second e, startDelay (macRxDelay r.m join second) cfg.txMs cfg.lead = .error e → X e) :
    SimX X (asyncOp g cfg r rs op) (stepC g (r.m, rs) (abstractOp cfg op)) CallRel := by
  cases op with
  | send data port conf script =>
    simp only [asyncOp, abstractOp]
    refine SimX.map_left (f := fun x => (({ res := some x.1, frame := sentFrame g r.m data port conf rs } : OpObs), x.2.1, x.2.2))
      (asyncSend_sim hXh g cfg { r with script := script } data port conf rs (hXd false)) ?_
    intro a b _ hst hrel
    exact ⟨hrel.m, hrel.rng, hrel.resp, stepC_send_frame g r.m rs cfg script data port conf b.1 b.2 hst⟩
  | join script =>
    simp only [asyncOp, abstractOp]
    refine SimX.map_left (f := fun x => (({ res := some x.1, frame := none } : OpObs), x.2.1, x.2.2))
      (asyncJoin_sim hXh g cfg { r with script := script } rs (hXd true)) ?_
    intro a b _ hst hrel
    obtain ⟨jo, resp, hout⟩ := abstractJoinC_out g _ b.1 cfg script b.2 hst
    exact ⟨hrel.m, hrel.rng, hrel.resp, by rw [hout]; rfl⟩
  | abp da nwk app | setAdr on | setDr dr => exact ⟨_, rfl, rfl, rfl, rfl, rfl⟩

theorem asyncOp_sim {σ} (g : Rng σ) (cfg : DevCfg) (r : DevRun) (rs : σ) (op : AsyncOp) :
    SimX Extra (asyncOp g cfg r rs op) (stepC g (r.m, rs) (abstractOp cfg op)) CallRel :=
  asyncOp_simX extra_hang g cfg r rs op (fun _ _ e he => startDelay_extra _ _ _ e he)

inductive AllRel {α β : Type} (R : α → β → Prop) : List α → List β → Prop
  | nil : AllRel R [] []
  | cons {a : α} {b : β} {as : List α} {bs : List β} : R a b → AllRel R as bs → AllRel R (a :: as) (b :: bs)

theorem AllRel.length {α β : Type} {R : α → β → Prop} {l1 : List α} {l2 : List β} (h : AllRel R l1 l2) :
    l1.length = l2.length := by
  induction h with
  | nil => rfl
  | cons _ _ ih => simp [ih]

structure SessRel {σ} (a : List OpObs × DevRun × σ) (b : (MacState × σ) × List OutC) : Prop where
  m : a.2.1.m = b.1.1
  rng : a.2.2 = b.1.2
  obs : AllRel ObsRel a.1 b.2

/-- sessions, for any set `X` of front-end failures and any invariant `I` of the history's steps that
confines the failures of the timer arithmetic to `X` -/
theorem asyncOps_simX {σ} {X : Fault → Prop} (hXh : X (.hang "between_windows")) (g : Rng σ) (cfg : DevCfg)
    (I : MacState → Prop)
    (hstep : ∀ m s ev ms' oc, I m → stepC g (m, s) ev = .ok (ms', oc) → I ms'.1)
    (hX : ∀ m join second e, I m → startDelay (macRxDelay m join second) cfg.txMs cfg.lead = .error e → X e)
    (r : DevRun) (rs : σ) (ops : List AsyncOp) (hI : I r.m) :
    SimX X (asyncOps g cfg r rs ops) (runC g (r.m, rs) (ops.map (abstractOp cfg))) SessRel := by
  induction ops generalizing r rs with
  | nil => exact SimX.pure ⟨rfl, rfl, .nil⟩
  | cons op rest ih =>
    unfold asyncOps
    simp only [List.map_cons, runC]
    refine SimX.bind_eq (asyncOp_simX hXh g cfg r rs op (fun join second e he => hX r.m join second e hI he)) ?_
    intro ⟨ob, r1, rs1⟩ ⟨⟨m1, s1⟩, oc⟩ _ hst hrel
    have hm : r1.m = m1 := hrel.m
    have hr : rs1 = s1 := hrel.rng
    subst hm hr
    refine SimX.bind (ih r1 rs1 (hstep r.m rs _ _ oc hI hst)) ?_
    intro ⟨obs, r2, rs2⟩ ⟨ms2, ocs⟩ hrel2
    exact SimX.pure ⟨hrel2.m, hrel2.rng, .cons hrel.obs hrel2.obs⟩

/-- **every session of the async front-end is simulated by the extended history of its calls** -/
theorem asyncOps_sim {σ} (g : Rng σ) (cfg : DevCfg) (r : DevRun) (rs : σ) (ops : List AsyncOp) :
    SimX Extra (asyncOps g cfg r rs ops) (runC g (r.m, rs) (ops.map (abstractOp cfg))) SessRel :=
  asyncOps_simX extra_hang g cfg (fun _ => True) (fun _ _ _ _ _ _ _ => trivial)
    (fun _ _ _ e _ he => startDelay_extra _ _ _ e he) r rs ops trivial

/-- the extended history of a session of the async front-end -/
def abstractSessionC (cfg : DevCfg) (ops : List AsyncOp) : List EvC := ops.map (abstractOp cfg)

/-- **every session of the async front-end (either class, any script) that returns IS a run of the
extended history of its calls**: same final MAC state and generator state, and the outputs are, call by
call, the front-end's answers and the frames it handed to the radio -/
theorem asyncOps_runC {σ} (g : Rng σ) (cfg : DevCfg) (d : DevRun) (rs : σ) (ops : List AsyncOp)
    (obs : List OpObs) (d' : DevRun) (rs' : σ) (h : asyncOps g cfg d rs ops = .ok (obs, d', rs')) :
    ∃ ocs, runC g (d.m, rs) (abstractSessionC cfg ops) = .ok ((d'.m, rs'), ocs) ∧ AllRel ObsRel obs ocs := by
  obtain ⟨⟨⟨m', s'⟩, ocs⟩, hrun, hrel⟩ := (asyncOps_sim g cfg d rs ops).elim_ok h
  obtain rfl : d'.m = m' := hrel.m
  obtain rfl : rs' = s' := hrel.rng
  exact ⟨ocs, hrun, hrel.obs⟩

/-- no frame is heard between windows in any call of the session -/
def AsyncOp.plain (cfg : DevCfg) : AsyncOp → Bool
  | .send _ _ _ script => plainScript cfg script
  | .join script => plainScript cfg script
  | _ => true

theorem abstractOp_plain (cfg : DevCfg) (op : AsyncOp) : (abstractOp cfg op).plain = op.plain cfg := by
  cases op with
  | send data port conf script => exact abstractSendC_plain cfg script data port conf
  | join script | abp da nwk app | setAdr on | setDr dr => rfl

/-- `abstractAsync` call by call, in the states the history reaches -/
def abstractSession {σ} (g : Rng σ) (cfg : DevCfg) (m : MacState) (rs : σ) (ops : List AsyncOp) : List Ev :=
  plainRun g (m, rs) (ops.map (abstractOp cfg))

/-- **every session of the async front-end in which no frame is heard between windows (every
session of a Class A device) refines `Model.run`**: if the session returns, the history
`abstractSession` returns the same MAC and generator state, and its outputs are, call by call, the
front-end's answers and the frames it handed to the radio. -/
theorem asyncOps_refines_run {σ} (g : Rng σ) (cfg : DevCfg) (r : DevRun) (rs : σ) (ops : List AsyncOp)
    (hp : ∀ op ∈ ops, op.plain cfg = true) (obs : List OpObs) (r' : DevRun) (rs' : σ)
    (h : asyncOps g cfg r rs ops = .ok (obs, r', rs')) :
    ∃ outs, run g (r.m, rs) (abstractSession g cfg r.m rs ops) = .ok ((r'.m, rs'), outs) ∧
      AllRel (fun ob out => ObsRel ob { out := out }) obs outs := by
  obtain ⟨ocs, hrun, hobs⟩ := asyncOps_runC g cfg r rs ops obs r' rs' h
  have hpl : ∀ ev ∈ ops.map (abstractOp cfg), ev.plain = true := by
    intro ev hev
    obtain ⟨op, hop, rfl⟩ := List.mem_map.mp hev
    rw [abstractOp_plain]; exact hp op hop
  refine ⟨ocs.map (fun x : OutC => x.out), runC_plain g (r.m, rs) _ _ hpl ocs hrun, ?_⟩
  clear hrun h
  induction hobs with
  | nil => exact .nil
  | cons hab _ ih => exact .cons hab ih

def ScriptItem.wf : ScriptItem → Bool
  | .frame _ v => viewWF v
  | _ => true

def scriptWF (s : List ScriptItem) : Bool := s.all ScriptItem.wf

/-- the application-side contract of a call (as `validEv`), plus the representation facts of the
decoded views the script contains -/
def AsyncOp.valid (r : RegionId) : AsyncOp → Bool
  | .send data port _ script => (port != 0 || data.isEmpty) && decide (data.length ≤ 222) && scriptWF script
  | .join script => scriptWF script
  | .abp _ _ _ => true
  | .setAdr _ => true
  | .setDr dr => isUplinkDatarate r dr

theorem scriptWF_eq (s : List ScriptItem) : scriptWF s = s.all (ScriptItem.allView viewWF) := by
  unfold scriptWF
  congr 1

theorem rxWF_eq (f : Option (RxView × Int)) : rxWF f = rxAll viewWF f := by
  rcases f with _ | ⟨v, snr⟩ <;> rfl

theorem abstractOp_valid (cfg : DevCfg) (r : RegionId) (op : AsyncOp) (h : op.valid r = true) :
    validEvC r (abstractOp cfg op) = true := by
  cases op with
  | send data port conf script =>
    simp only [AsyncOp.valid, Bool.and_eq_true, scriptWF_eq] at h
    obtain ⟨⟨h0, hl⟩, hs⟩ := h
    obtain ⟨_, _, _, _, _, he, _, hP⟩ := abstractC_shape cfg script
    obtain ⟨h1, h2, h3, h4⟩ := hP viewWF hs
    simp only [abstractOp, he, validEvC, h0, hl, csWF, rxWF_eq, h1, h2, h3, h4, Bool.and_self]
  | join script =>
    obtain ⟨_, _, _, _, _, _, he, hP⟩ := abstractC_shape cfg script
    obtain ⟨h1, h2, h3, h4⟩ := hP viewWF (by rw [← scriptWF_eq]; exact h)
    simp only [abstractOp, he, validEvC, csWF, rxWF_eq, h1, h2, h3, h4, Bool.and_self]
  | abp da nwk app | setAdr on => rfl
  | setDr dr => exact h

theorem abstractSessionC_valid (cfg : DevCfg) (r : RegionId) (ops : List AsyncOp) (hv : ∀ op ∈ ops, op.valid r = true) :
    ∀ ev ∈ abstractSessionC cfg ops, validEvC r ev = true :=
  List.forall_mem_map.mpr fun op hop => abstractOp_valid cfg r op (hv op hop)

/-- the RX1 / RX2 frames of an event of `Model/History.lean` -/
def Ev.rxs : Ev → List (Option (RxView × Int))
  | .uplink _ _ _ _ rx1 rx2 _ _ => [rx1, rx2]
  | .joinOtaa _ rx1 rx2 _ _ => [rx1, rx2]
  | _ => []

def AsyncOp.allView (P : RxView → Bool) : AsyncOp → Bool
  | .send _ _ _ script => script.all (ScriptItem.allView P)
  | .join script => script.all (ScriptItem.allView P)
  | _ => true

theorem plainOf_uplinkC_rxs {σ} (g : Rng σ) (m : MacState) (s : σ) (cc : Bool) (d : List Nat) (p : Nat) (c : Bool)
    (fault : Option FaultPos) (c1 c2 : List (RxView × Int)) (rx1 rx2 : Option (RxView × Int)) :
    (plainOf g m s (.uplinkC cc d p c fault c1 rx1 c2 rx2)).rxs = [rx1, rx2] := by
  simp only [plainOf]
  split <;> rfl

theorem plainOf_joinC_rxs {σ} (g : Rng σ) (m : MacState) (s : σ) (cc : Bool)
    (fault : Option FaultPos) (c1 c2 : List (RxView × Int)) (rx1 rx2 : Option (RxView × Int)) :
    (plainOf g m s (.joinC cc fault c1 rx1 c2 rx2)).rxs = [rx1, rx2] := by
  simp only [plainOf]
  split <;> rfl

theorem plainOf_abstractOp_rxs {σ} (g : Rng σ) (cfg : DevCfg) (P : RxView → Bool) (op : AsyncOp) (h : op.allView P = true)
    (m : MacState) (s : σ) : ∀ f ∈ (plainOf g m s (abstractOp cfg op)).rxs, rxAll P f = true := by
  intro f hf
  cases op with
  | send data port conf script =>
    obtain ⟨_, _, _, _, _, he, _, hP⟩ := abstractC_shape cfg script
    simp only [abstractOp, he, plainOf_uplinkC_rxs, List.mem_cons, List.not_mem_nil, or_false] at hf
    rcases hf with rfl | rfl
    · exact (hP P h).2.1
    · exact (hP P h).2.2.2
  | join script =>
    obtain ⟨_, _, _, _, _, _, he, hP⟩ := abstractC_shape cfg script
    simp only [abstractOp, he, plainOf_joinC_rxs, List.mem_cons, List.not_mem_nil, or_false] at hf
    rcases hf with rfl | rfl
    · exact (hP P h).2.1
    · exact (hP P h).2.2.2
  | abp da nwk app | setAdr on | setDr dr => simp [abstractOp, plainOf, Ev.rxs] at hf

theorem plainRun_all {σ} (g : Rng σ) (Q : Ev → Prop) (evs : List EvC) (h : ∀ ev ∈ evs, ∀ m s, Q (plainOf g m s ev))
    (ms : MacState × σ) : ∀ e ∈ plainRun g ms evs, Q e := by
  induction evs generalizing ms with
  | nil => intro e he; cases he
  | cons ev rest ih =>
    intro e he
    simp only [plainRun, List.mem_cons] at he
    rcases he with rfl | he
    · exact h ev List.mem_cons_self _ _
    · split at he
      · exact ih (fun ev' hev => h ev' (List.mem_cons_of_mem _ hev)) _ e he
      · cases he

end Model
