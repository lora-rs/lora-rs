import LoraVerif.Lemmas.RxForm
import LoraVerif.Lemmas.HandleCmds
/-!
# What `handle_downlink_macs` does: the answers to a command stream and their effects

About `handleCmds` of `Model/Mac.lean` alone, no history.  Each command on its own (the answer queue
`push_*`, then `rxParamSetup_*`, `linkAdr_*`, `dlChannel_*`, `newChannel_*`: acknowledged ⇒ exactly the
commanded effect, rejected ⇒ nothing changed); then a whole stream as one relation (`Answers`:
`handleCmds_sem`, by the equations of `Lemmas/HandleCmds.lean`; `handleCmds_answers`: the queue afterwards is the old one
plus the whole answers that fit 15 bytes, `fit` / `wires` / `pushAll_spec`, only trailing answers are lost; `accept_answers`
for both streams of an accepted frame; `retainSticky_spec`: what `clear_mac_commands` keeps of whole answers, `Whole`).
What else is needed of a stream is read off `Answers`: the form of the answers (`Shape`), and that
the channel plan changes by the moves of `PlanMove` only (`Answers.plan`), the configuration by those
of `CfgMove` (`Answers.cfgs`).
The names are those of property C08 (`Props/C08.lean`), which these theorems are the first half of.
-/
open Model

namespace C08

theorem push_length_le (c : MacCtx) (cid : Nat) (p : List Nat) (h : c.pending.length ≤ 15) :
    (c.push cid p).pending.length ≤ 15 := by
  unfold MacCtx.push
  split
  · exact h
  · split
    · simp only [List.length_append, List.length_cons]; omega
    · exact h

theorem push_whole_or_nothing (c : MacCtx) (cid : Nat) (p : List Nat) :
    (c.push cid p).pending = c.pending ++ cid :: p ∨ (c.push cid p).pending = c.pending := by
  unfold MacCtx.push
  split
  · exact Or.inr rfl
  · split
    · exact Or.inl rfl
    · exact Or.inr rfl

/-- once an answer has been dropped, every later answer of the downlink is dropped too:
only trailing answers are lost -/
theorem push_after_full (c : MacCtx) (cid : Nat) (p : List Nat) (h : c.full = true) :
    c.push cid p = c := by
  unfold MacCtx.push; simp [h]

/-- an answer is dropped only when it does not fit the 15-byte limit, and dropping sets the flag -/
theorem push_drop_iff (c : MacCtx) (cid : Nat) (p : List Nat) (h : c.full = false) :
    ((c.push cid p).pending = c.pending ++ cid :: p ∧ (c.push cid p).full = false ∧ c.pending.length + 1 + p.length ≤ 15)
    ∨ ((c.push cid p).pending = c.pending ∧ (c.push cid p).full = true ∧ 15 < c.pending.length + 1 + p.length) := by
  unfold MacCtx.push
  simp only [h]
  by_cases hf : c.pending.length + p.length < 15
  · simp [hf]; omega
  · simp [hf]; omega

theorem push_prefix (c : MacCtx) (cid : Nat) (p : List Nat) : c.pending <+: (c.push cid p).pending := by
  rcases push_whole_or_nothing c cid p with h | h <;> rw [h]
  · exact List.prefix_append _ _
  · exact List.prefix_refl _

theorem devStatusMargin_lt (snr : Int) : devStatusMargin snr < 256 := by
  unfold devStatusMargin
  split
  · omega
  · omega

/-- the status byte of an answer with three acknowledge bits -/
theorem ack3 (a b c : Bool) {n : Nat} (h : n = (if a then 1 else 0) + (if b then 2 else 0) + (if c then 4 else 0)) :
    n ≤ 7 ∧ (n = 7 ↔ a = true ∧ b = true ∧ c = true) ∧ (a = false → n % 2 = 0) ∧ (b = false → n / 2 % 2 = 0) ∧
      (c = false → n / 4 = 0) := by
  subst h; cases a <;> cases b <;> cases c <;> decide

theorem rxParamSetup_spec (cfg : Config) (r : RegionId) (dl f : Nat) :
    ∃ b : Bool, (b = false ↔ dl % 16 ≠ 15 ∧ getDatarate r (dl % 16) = none) ∧
      (rxParamSetup cfg r dl f).1 = (if frequencyValid r f then 1 else 0) + (if b then 2 else 0) +
        (if decide ((dl / 16) % 8 ≤ maxRx1DrOffset r) then 4 else 0) ∧
      (rxParamSetup cfg r dl f).2 = if frequencyValid r f = true ∧ b = true ∧ (dl / 16) % 8 ≤ maxRx1DrOffset r then
        { cfg with rx2DataRate := (if dl % 16 == 15 then cfg.rx2DataRate else some (dl % 16)),
                   rx2Frequency := some f, rx1DrOffset := (dl / 16) % 8 } else cfg := by
  unfold rxParamSetup rx1DrOffsetValidate
  refine ⟨dl % 16 == 15 || (getDatarate r (dl % 16)).isSome, ?_, ?_⟩
  · cases getDatarate r (dl % 16) <;> simp
  · cases hf : frequencyValid r f <;> by_cases h15 : (dl % 16 == 15) = true <;> cases hg : (getDatarate r (dl % 16)).isSome <;>
      by_cases ho : (dl / 16) % 8 ≤ maxRx1DrOffset r <;> simp [h15, ho, hg]

/-- full acknowledgement (0b111) ⇒ RX1 offset, RX2 data rate and RX2 frequency are exactly the commanded ones -/
theorem rxParamSetup_ack (cfg : Config) (r : RegionId) (dl f : Nat) (h : (rxParamSetup cfg r dl f).1 = 7) :
    (rxParamSetup cfg r dl f).2 =
      { cfg with rx2DataRate := (if dl % 16 == 15 then cfg.rx2DataRate else some (dl % 16)),
                 rx2Frequency := some f, rx1DrOffset := (dl / 16) % 8 } := by
  obtain ⟨b, _, ha, hc⟩ := rxParamSetup_spec cfg r dl f
  obtain ⟨h1, h2, h3⟩ := (ack3 _ _ _ ha).2.1.mp h
  rw [hc, if_pos ⟨h1, h2, of_decide_eq_true h3⟩]

/-- any rejection ⇒ the configuration is unchanged -/
theorem rxParamSetup_nak (cfg : Config) (r : RegionId) (dl f : Nat) (h : (rxParamSetup cfg r dl f).1 ≠ 7) :
    (rxParamSetup cfg r dl f).2 = cfg := by
  obtain ⟨b, _, ha, hc⟩ := rxParamSetup_spec cfg r dl f
  rw [hc, if_neg fun hh => h ((ack3 _ _ _ ha).2.1.mpr ⟨hh.1, hh.2.1, decide_eq_true hh.2.2⟩)]

/-- invalid fields are rejected bit by bit: out-of-band frequency, undefined RX2 data rate, too large offset -/
theorem rxParamSetup_rejects (cfg : Config) (r : RegionId) (dl f : Nat) :
    (frequencyValid r f = false → (rxParamSetup cfg r dl f).1 % 2 = 0) ∧
    ((dl % 16 ≠ 15 ∧ getDatarate r (dl % 16) = none) → (rxParamSetup cfg r dl f).1 / 2 % 2 = 0) ∧
    (maxRx1DrOffset r < (dl / 16) % 8 → (rxParamSetup cfg r dl f).1 / 4 = 0) := by
  obtain ⟨b, hb, ha, _⟩ := rxParamSetup_spec cfg r dl f
  obtain ⟨_, _, r1, r2, r3⟩ := ack3 _ _ _ ha
  exact ⟨r1, fun h => r2 (hb.mpr h), fun h => r3 (decide_eq_false (Nat.not_le.mpr h))⟩

theorem rxParamSetup_le (cfg : Config) (r : RegionId) (dl f : Nat) : (rxParamSetup cfg r dl f).1 ≤ 7 := by
  obtain ⟨b, _, ha, _⟩ := rxParamSetup_spec cfg r dl f
  exact (ack3 _ _ _ ha).1

theorem linkAdr_spec (cfg : Config) (region : RegionState) (mask : Mask) (rfu : Bool) (drRaw pwRaw : Nat)
    (ans : Nat) (cfg' : Config) (region' : RegionState)
    (h : linkAdrDecide cfg region mask rfu drRaw pwRaw = .ok (ans, cfg', region')) :
    ∃ pw cm, linkAdrPw cfg region.id pwRaw = .ok pw ∧
      linkAdrCmAck region mask rfu (linkAdrDr cfg region.id drRaw) = .ok cm ∧
      ans = (if cm then 1 else 0) + (if (linkAdrDr cfg region.id drRaw).isSome then 2 else 0) + (if pw.isSome then 4 else 0) ∧
      (ans = 7 → ∃ d p, linkAdrDr cfg region.id drRaw = some d ∧ pw = some p ∧
        cfg' = { cfg with dataRate := d, txPower := p } ∧ region' = channelMaskSet region mask) ∧
      (ans ≠ 7 → cfg' = cfg ∧ region' = region) := by
  unfold linkAdrDecide at h
  obtain ⟨pw, hpw, h⟩ := Except.bind_eq_ok h
  obtain ⟨cm, hcm, h⟩ := Except.bind_eq_ok h
  refine ⟨pw, cm, hpw, hcm, ?_⟩
  cases cm <;> cases hd : linkAdrDr cfg region.id drRaw <;> cases pw <;> simp only [hd] at h <;>
    cases Except.pure_eq_ok h <;> simp

/-- **atomicity of a LinkADRReq block.** Full acknowledgement (0b111) ⇒ data rate, TX power and
channel mask are exactly the commanded ones and nothing else changes; any rejection ⇒ configuration
and channel plan are unchanged. -/
theorem linkAdr_atomic (cfg : Config) (region : RegionState) (mask : Mask) (rfu : Bool) (drRaw pwRaw : Nat)
    (ans : Nat) (cfg' : Config) (region' : RegionState)
    (h : linkAdrDecide cfg region mask rfu drRaw pwRaw = .ok (ans, cfg', region')) :
    (ans = 7 → ∃ d p, linkAdrDr cfg region.id drRaw = some d ∧ linkAdrPw cfg region.id pwRaw = .ok (some p) ∧
        cfg' = { cfg with dataRate := d, txPower := p } ∧ region' = channelMaskSet region mask)
    ∧ (ans ≠ 7 → cfg' = cfg ∧ region' = region) := by
  obtain ⟨pw, cm, hpw, _, _, h7, hn⟩ := linkAdr_spec _ _ _ _ _ _ _ _ _ h
  refine ⟨fun ha => ?_, hn⟩
  obtain ⟨d, p, hd, rfl, e⟩ := h7 ha
  exact ⟨d, p, hd, hpw, e⟩

/-- the commanded data rate: 15 = keep, otherwise the value itself, and only if the region defines it -/
theorem linkAdrDr_spec (cfg : Config) (r : RegionId) (drRaw d : Nat) (h : linkAdrDr cfg r drRaw = some d) :
    (drRaw = 15 ∧ d = cfg.dataRate) ∨ (drRaw ≠ 15 ∧ d = drRaw ∧ isUplinkDatarate r drRaw) := by
  unfold linkAdrDr at h
  by_cases h15 : (drRaw == 15) = true
  · simp [h15] at h; left; simp_all
  · simp only [h15, if_false, Bool.false_eq_true] at h
    by_cases hg : isUplinkDatarate r drRaw = true
    · simp [hg] at h; right; simp_all
    · simp [hg] at h

/-- an RFU ChMaskCntl, an undefined data rate and an undefined power index are each refused -/
theorem linkAdr_rejects (cfg : Config) (region : RegionState) (mask : Mask) (rfu : Bool) (drRaw pwRaw : Nat)
    (ans : Nat) (cfg' : Config) (region' : RegionState)
    (h : linkAdrDecide cfg region mask rfu drRaw pwRaw = .ok (ans, cfg', region')) :
    (rfu = true → ans % 2 = 0)
    ∧ ((drRaw ≠ 15 ∧ isUplinkDatarate region.id drRaw = false) → ans / 2 % 2 = 0)
    ∧ ((pwRaw ≠ 15 ∧ txPowerAdjust region.id pwRaw = .ok none) → ans / 4 = 0) := by
  obtain ⟨pw, cm, hpw, hcm, hans, _⟩ := linkAdr_spec _ _ _ _ _ _ _ _ _ h
  obtain ⟨_, _, r1, r2, r3⟩ := ack3 _ _ _ hans
  refine ⟨fun hr => r1 ?_, fun ⟨h15, hg⟩ => r2 ?_, fun ⟨h15, hg⟩ => r3 ?_⟩
  · unfold linkAdrCmAck at hcm
    obtain ⟨_, _, hcm⟩ := Except.bind_eq_ok hcm
    rw [if_pos hr] at hcm
    exact (Except.pure_eq_ok hcm).symm
  · unfold linkAdrDr
    simp [h15, hg]
  · unfold linkAdrPw at hpw
    simp only [beq_iff_eq, h15, if_false, hg, bind, Except.bind] at hpw
    rw [← Except.pure_eq_ok hpw]; rfl

theorem linkAdr_le (cfg : Config) (region : RegionState) (mask : Mask) (rfu : Bool) (drRaw pwRaw : Nat)
    (ans : Nat) (cfg' : Config) (region' : RegionState)
    (h : linkAdrDecide cfg region mask rfu drRaw pwRaw = .ok (ans, cfg', region')) : ans ≤ 7 := by
  obtain ⟨pw, cm, _, _, hans, _⟩ := linkAdr_spec _ _ _ _ _ _ _ _ _ h
  exact (ack3 _ _ _ hans).1

def wire (a : Nat × List Nat) : List Nat := a.1 :: a.2

/-- a list of whole answers: every payload has the length the uplink command table gives its CID -/
def Whole (as : List (Nat × List Nat)) : Prop := ∀ a ∈ as, uplinkCmdLen a.1 = some a.2.length

/-- `clear_mac_commands(true)` keeps exactly the sticky answers, in order, and drops all others -/
theorem retainSticky_spec (as : List (Nat × List Nat)) (h : Whole as) (fuel : Nat)
    (hf : (as.map wire).flatten.length < fuel) :
    retainSticky fuel (as.map wire).flatten = ((as.filter (fun a => isSticky a.1)).map wire).flatten := by
  induction as generalizing fuel with
  | nil => cases fuel <;> simp [retainSticky]
  | cons a rest ih =>
    obtain ⟨cid, p⟩ := a
    have hlen : uplinkCmdLen cid = some p.length := h (cid, p) (List.mem_cons_self)
    have hrest : Whole rest := fun b hb => h b (List.mem_cons_of_mem _ hb)
    cases fuel with
    | zero => simp at hf
    | succ fuel =>
      simp only [List.map_cons, List.flatten_cons, wire, List.cons_append, retainSticky, hlen]
      have hnl : ¬ (p ++ (rest.map wire).flatten).length < p.length := by simp
      simp only [hnl, if_false, List.take_left', List.drop_left', List.filter_cons]
      have hf' : (rest.map wire).flatten.length < fuel := by
        simp only [List.map_cons, List.flatten_cons, wire, List.length_cons, List.length_append] at hf
        omega
      rw [ih hrest fuel hf']
      split <;> simp_all [wire]

/-- the channel after an acknowledged DlChannelReq -/
def withDl (c : Channel) (freq : Nat) : Channel := { c with dlFreq := if freq == c.freq then none else some freq }

def setSlot (rs : RegionState) (p : DynPlan) (index : Nat) (slot : Option Channel) (m : Mask) : RegionState :=
  { rs with plan := .dyn { channels := p.channels.set index slot, mask := m } }

/-- the last two conjuncts of `dlChannel_atomic` / `newChannel_atomic` in a refused branch, where the second
answer bit is `false` and the plan is returned as it was -/
theorem nak_unchanged {α : Type} {P : Prop} (a : Bool) (x : α) : ((a && false) = false → x = x) ∧ ((a && false) = true → P) :=
  ⟨fun _ => rfl, fun h => by simp at h⟩

/-- **DlChannelReq.** The frequency bit of the answer is the band check; unless both bits are set
the channel plan is unchanged; when both are set, channel `index` existed, was enabled, and is the
only thing that changed: its RX1 frequency is now the requested one (a request naming the uplink
frequency itself drops the separate downlink frequency, which is the same frequency), mask and all
other channels are untouched. -/
theorem dlChannel_atomic (rs rs' : RegionState) (index freq : Nat) (a b : Bool)
    (h : channelDlUpdate rs index freq = .ok ((a, b), rs')) :
    a = frequencyValid rs.id freq
    ∧ ((a && b) = false → rs' = rs)
    ∧ ((a && b) = true → ∃ p c, rs.plan = .dyn p ∧ index < 16 ∧ p.channels[index]? = some (some c) ∧ c.freq ≠ 0 ∧
        p.mask.isEnabled index = .ok true ∧ rs' = setSlot rs p index (some (withDl c freq)) p.mask) := by
  unfold channelDlUpdate at h
  cases hp : rs.plan with
  | fix q => simp [hp, Model.panic] at h
  | dyn p =>
    simp only [hp] at h
    split at h
    · cases Except.pure_eq_ok h; exact ⟨rfl, nak_unchanged _ _⟩
    · rename_i hidx
      obtain ⟨en, hen, h⟩ := Except.bind_eq_ok h
      split at h
      · simp [Model.panic] at h
      · rename_i slot hslot
        split at h
        · rename_i c
          split at h
          · rename_i hf
            split at h
            · rename_i hfv
              cases Except.pure_eq_ok h
              refine ⟨rfl, by simp [hfv], fun _ => ⟨p, c, rfl, by omega, hslot, by simpa using hf, hen, rfl⟩⟩
            · rename_i hfv
              cases Except.pure_eq_ok h
              have : frequencyValid rs.id freq = false := by simpa using hfv
              simp [this]
          · cases Except.pure_eq_ok h; exact ⟨rfl, nak_unchanged _ _⟩
        · cases Except.pure_eq_ok h; exact ⟨rfl, nak_unchanged _ _⟩

/-- after an acknowledged DlChannelReq the channel's RX1 frequency is the requested frequency -/
theorem dlChannel_rx1 (c : Channel) (freq : Nat) : (withDl c freq).dlFreq.getD (withDl c freq).freq = freq := by
  unfold withDl
  by_cases h : freq = c.freq <;> simp [h]

/-- **NewChannelReq.** Default (join) channels and indices ≥ 16 are refused with both bits clear;
unless both bits are set nothing changes; when both are set the slot `index` holds exactly the
commanded channel (or is removed for frequency 0), its mask bit follows, and every other slot is
untouched. -/
theorem newChannel_atomic (rs rs' : RegionState) (index freq : Nat) (dr : Option Nat) (a b : Bool)
    (h : handleNewChannel rs index freq dr = .ok ((a, b), rs')) :
    ((index < numJoinChannels rs.id ∨ index ≥ 16) → a = false ∧ b = false)
    ∧ ((a && b) = false → rs' = rs)
    ∧ ((a && b) = true → ∃ p m, rs.plan = .dyn p ∧ numJoinChannels rs.id ≤ index ∧ index < 16 ∧
        ((freq = 0 ∧ p.mask.setChannel index false = .ok m ∧ rs' = setSlot rs p index none m)
         ∨ (freq ≠ 0 ∧ frequencyValid rs.id freq = true ∧ ∃ r, dr = some r ∧ p.mask.setChannel index true = .ok m ∧
            rs' = setSlot rs p index (some { freq := freq, drRange := r, dlFreq := none }) m))) := by
  unfold handleNewChannel at h
  cases hp : rs.plan with
  | fix q => simp [hp, Model.panic] at h
  | dyn p =>
    simp only [hp] at h
    split at h
    · cases Except.pure_eq_ok h; exact ⟨fun _ => ⟨rfl, rfl⟩, nak_unchanged _ _⟩
    · rename_i h1
      split at h
      · cases Except.pure_eq_ok h; exact ⟨fun _ => ⟨rfl, rfl⟩, nak_unchanged _ _⟩
      · rename_i h2
        split at h
        · rename_i hf0
          obtain ⟨m, hm, h⟩ := Except.bind_eq_ok h
          cases Except.pure_eq_ok h
          refine ⟨by omega, by simp, fun _ => ⟨p, m, rfl, by omega, by omega, Or.inl ⟨by simpa using hf0, hm, rfl⟩⟩⟩
        · rename_i hf0
          have hfne : freq ≠ 0 := by simpa using hf0
          cases dr with
          | none =>
            cases Except.pure_eq_ok h
            exact ⟨by omega, nak_unchanged _ _⟩
          | some r =>
            simp only at h
            obtain ⟨sup, hsup, h⟩ := Except.bind_eq_ok h
            split at h
            · rename_i hboth
              obtain ⟨m, hm, h⟩ := Except.bind_eq_ok h
              cases Except.pure_eq_ok h
              have hb : frequencyValid rs.id freq = true ∧ b = true := by simpa using hboth
              refine ⟨by omega, by simp [hb.1, hb.2], fun _ => ⟨p, m, rfl, by omega, by omega, Or.inr ⟨hfne, hb.1, r, rfl, hm, rfl⟩⟩⟩
            · rename_i hboth
              cases Except.pure_eq_ok h
              refine ⟨by omega, by simp, fun hh => absurd hh hboth⟩

/-- a LinkADRReq block applied to the working copy of the channel mask: every command of the block
updates it; a ChMaskCntl the region does not define marks the whole block -/
def blockMask (region : RegionState) : Mask → Bool → List (List Nat) → M (Mask × Bool)
  | mask, rfu, [] => pure (mask, rfu)
  | mask, rfu, p :: ps => do
    let b3 ← byteAt p 3
    let b1 ← byteAt p 1
    let b2 ← byteAt p 2
    let upd ← channelMaskUpdate region mask ((b3 / 16) % 8) b1 b2
    match upd with
    | some m => blockMask region m rfu ps
    | none => blockMask region mask true ps

def startsAdr : List (Nat × List Nat) → Bool
  | (0x03, _) :: _ => true
  | _ => false

theorem startsAdr_eq : startsAdr = TieA.Macs.startsAdr := rfl

theorem startsAdr_cons {cid : Nat} {p : List Nat} {rest : List (Nat × List Nat)} (h : startsAdr ((cid, p) :: rest) = true) :
    cid = 3 := by
  unfold startsAdr at h
  split at h
  · rename_i heq; simp only [List.cons.injEq, Prod.mk.injEq] at heq; exact heq.1.1
  · cases h

theorem startsAdr_false {l : List (Nat × List Nat)} (h : ∀ c ∈ l, c.1 ≠ 3) : startsAdr l = false := by
  cases hs : startsAdr l with
  | false => rfl
  | true =>
    cases l with
    | nil => cases hs
    | cons x rest => exact absurd (startsAdr_cons (cid := x.1) (p := x.2) hs) (h x List.mem_cons_self)

theorem startsAdr_run (ps : List (List Nat)) (p : List Nat) (rest : List (Nat × List Nat)) :
    startsAdr ((ps ++ [p]).map (fun q => ((0x03 : Nat), q)) ++ rest) = true := by
  cases ps <;> rfl

/-- the model's handling of a maximal run of LinkADRReq commands: fold the masks, decide once (with
DataRate_TXPower of the LAST command), answer every command of the run with that decision, go on with
a fresh working copy -/
theorem handleCmds_adr_run (snr : Int) (ps : List (List Nat)) (p : List Nat) (rest : List (Nat × List Nat)) (c : MacCtx)
    (mask : Mask) (rfu : Bool) (nAdr : Nat) (hr : startsAdr rest = false) :
    handleCmds snr ((ps ++ [p]).map (fun q => (0x03, q)) ++ rest) c mask rfu nAdr =
      (blockMask c.region mask rfu (ps ++ [p]) >>= fun mr =>
        finishLinkAdrBlock c mr.1 mr.2 (nAdr + ps.length + 1) p >>= fun c1 =>
          handleCmds snr rest c1 (channelMaskGet c1.region) false 0) := by
  -- by `handleCmds_adr_cons`; both sides then read the same three bytes and update the mask: compare what follows
  induction ps generalizing mask rfu nAdr with
  | nil =>
    simp only [List.nil_append, List.map_cons, List.map_nil, List.cons_append, List.length_nil, Nat.add_zero]
    rw [TieA.Macs.handleCmds_adr_cons, ← startsAdr_eq, hr, TieA.Macs.adrStepModel, blockMask]
    simp only [bind_assoc]
    refine bind_congr fun b3 => bind_congr fun b1 => bind_congr fun b2 => bind_congr fun upd => ?_
    cases upd <;> simp only [blockMask, pure_bind, bind_assoc, Bool.false_eq_true, if_false]
  | cons q ps ih =>
    simp only [List.cons_append, List.map_cons, List.length_cons]
    rw [TieA.Macs.handleCmds_adr_cons, ← startsAdr_eq, startsAdr_run, TieA.Macs.adrStepModel, blockMask]
    simp only [bind_assoc]
    refine bind_congr fun b3 => bind_congr fun b1 => bind_congr fun b2 => bind_congr fun upd => ?_
    have hn : nAdr + 1 + ps.length + 1 = nAdr + (ps.length + 1) + 1 := by omega
    cases upd <;> simp only [pure_bind, if_true] <;> rw [← hn, ← ih]

abbrev Cmd := Nat × List Nat
abbrev Ans := Nat × List Nat
/-- configuration, channel plan, and the working copy of the channel mask LinkADRReq blocks start
from (`region.channel_mask_get()` at the start of the downlink and again after each block) -/
abbrev St := Config × RegionState × Mask

/-- the requests this device handles (and answers) in region `r`; everything else is skipped -/
def handled (r : RegionId) (cid : Nat) : Bool :=
  cid == 0x03 || cid == 0x05 || cid == 0x06 || cid == 0x08 || ((cid == 0x07 || cid == 0x0A) && !r.isFixed)

/-- RXParamSetupReq with answer `ans`: acknowledged ⇒ exactly the commanded RX1 offset, RX2 data rate
and RX2 frequency; any rejection ⇒ nothing changed; invalid fields are rejected bit by bit -/
def RxParamOutcome (st : St) (p : List Nat) (ans : Nat) (st' : St) : Prop :=
  ∃ dl f, byteAt p 0 = .ok dl ∧ freq24 p 1 = .ok f ∧ st'.2 = st.2 ∧
    (ans = 7 → st'.1 = { st.1 with rx2DataRate := (if dl % 16 == 15 then st.1.rx2DataRate else some (dl % 16)),
                                    rx2Frequency := some f, rx1DrOffset := (dl / 16) % 8 }) ∧
    (ans ≠ 7 → st'.1 = st.1) ∧
    (frequencyValid st.2.1.id f = false → ans % 2 = 0) ∧
    ((dl % 16 ≠ 15 ∧ getDatarate st.2.1.id (dl % 16) = none) → ans / 2 % 2 = 0) ∧
    (maxRx1DrOffset st.2.1.id < (dl / 16) % 8 → ans / 4 = 0) ∧ ans ≤ 7

/-- RXTimingSetupReq: always accepted, the delay is the commanded one -/
def RxTimingOutcome (st : St) (p : List Nat) (st' : St) : Prop :=
  ∃ b d, byteAt p 0 = .ok b ∧ delToDelayMs (b % 16) = .ok d ∧ st' = ({ st.1 with rx1Delay := d }, st.2)

/-- NewChannelReq (dynamic plans): see `newChannel_atomic` -/
def NewChannelOutcome (st : St) (p : List Nat) (ans : Nat) (st' : St) : Prop :=
  ∃ idx f r a b, byteAt p 0 = .ok idx ∧ freq24 p 1 = .ok f ∧ byteAt p 4 = .ok r ∧
    ans = (if a then 1 else 0) + (if b then 2 else 0) ∧ st'.1 = st.1 ∧ st'.2.2 = st.2.2 ∧
    ((idx < numJoinChannels st.2.1.id ∨ idx ≥ 16) → a = false ∧ b = false) ∧
    ((a && b) = false → st'.2.1 = st.2.1) ∧
    ((a && b) = true → ∃ pl m, st.2.1.plan = .dyn pl ∧ numJoinChannels st.2.1.id ≤ idx ∧ idx < 16 ∧
      ((f = 0 ∧ pl.mask.setChannel idx false = .ok m ∧ st'.2.1 = setSlot st.2.1 pl idx none m)
       ∨ (f ≠ 0 ∧ frequencyValid st.2.1.id f = true ∧ r % 16 ≤ r / 16 ∧ pl.mask.setChannel idx true = .ok m ∧
          st'.2.1 = setSlot st.2.1 pl idx (some { freq := f, drRange := r, dlFreq := none }) m)))

/-- DlChannelReq (dynamic plans): see `dlChannel_atomic` -/
def DlChannelOutcome (st : St) (p : List Nat) (ans : Nat) (st' : St) : Prop :=
  ∃ idx f a b, byteAt p 0 = .ok idx ∧ freq24 p 1 = .ok f ∧
    ans = (if a then 1 else 0) + (if b then 2 else 0) ∧ st'.1 = st.1 ∧ st'.2.2 = st.2.2 ∧
    a = frequencyValid st.2.1.id f ∧
    ((a && b) = false → st'.2.1 = st.2.1) ∧
    ((a && b) = true → ∃ pl c, st.2.1.plan = .dyn pl ∧ idx < 16 ∧ pl.channels[idx]? = some (some c) ∧ c.freq ≠ 0 ∧
        pl.mask.isEnabled idx = .ok true ∧ st'.2.1 = setSlot st.2.1 pl idx (some (withDl c f)) pl.mask)

/-- a LinkADRReq block (`ps`: the payloads of its commands, `last` the final one): ONE decision
`ans` for the whole block; fully acknowledged ⇒ data rate and TX power are those of the LAST command,
the channel mask is the working copy after all commands of the block; any rejection ⇒ nothing changed;
an undefined ChMaskCntl, data rate or power index is refused -/
def LinkAdrOutcome (st : St) (ps : List (List Nat)) (last : List Nat) (ans : Nat) (st' : St) : Prop :=
  ∃ mask rfu b0, blockMask st.2.1 st.2.2 false ps = .ok (mask, rfu) ∧ byteAt last 0 = .ok b0 ∧
    (ans = 7 → ∃ d pw, linkAdrDr st.1 st.2.1.id (b0 / 16) = some d ∧ linkAdrPw st.1 st.2.1.id (b0 % 16) = .ok (some pw) ∧
        st'.1 = { st.1 with dataRate := d, txPower := pw } ∧ st'.2.1 = channelMaskSet st.2.1 mask) ∧
    (ans ≠ 7 → st'.1 = st.1 ∧ st'.2.1 = st.2.1) ∧
    st'.2.2 = channelMaskGet st'.2.1 ∧
    (rfu = true → ans % 2 = 0) ∧
    ((b0 / 16 ≠ 15 ∧ isUplinkDatarate st.2.1.id (b0 / 16) = false) → ans / 2 % 2 = 0) ∧
    ((b0 % 16 ≠ 15 ∧ txPowerAdjust st.2.1.id (b0 % 16) = .ok none) → ans / 4 = 0) ∧ ans ≤ 7

/-- **the answers to a downlink's command stream, and what the stream did**: one answer per handled
request, in request order; a LinkADRReq block is answered with identical copies (one per command);
each answer goes with the outcome the property demands (acknowledged ⇒ took effect exactly,
rejected ⇒ changed nothing) -/
inductive Answers (snr : Int) : List Cmd → St → List Ans → St → Prop
  | nil (st : St) : Answers snr [] st [] st
  | skip (cid : Nat) (p : List Nat) (rest : List Cmd) (st : St) (as : List Ans) (st' : St)
      (h : handled st.2.1.id cid = false) (hr : Answers snr rest st as st') : Answers snr ((cid, p) :: rest) st as st'
  | devStatus (p : List Nat) (rest : List Cmd) (st : St) (as : List Ans) (st' : St)
      (hr : Answers snr rest st as st') : Answers snr ((0x06, p) :: rest) st ((0x06, [255, devStatusMargin snr]) :: as) st'
  | rxParam (p : List Nat) (rest : List Cmd) (st : St) (ans : Nat) (st1 : St) (as : List Ans) (st' : St)
      (h : RxParamOutcome st p ans st1) (hr : Answers snr rest st1 as st') :
      Answers snr ((0x05, p) :: rest) st ((0x05, [ans]) :: as) st'
  | rxTiming (p : List Nat) (rest : List Cmd) (st st1 : St) (as : List Ans) (st' : St)
      (h : RxTimingOutcome st p st1) (hr : Answers snr rest st1 as st') :
      Answers snr ((0x08, p) :: rest) st ((0x08, []) :: as) st'
  | newChannel (p : List Nat) (rest : List Cmd) (st : St) (ans : Nat) (st1 : St) (as : List Ans) (st' : St)
      (hf : st.2.1.id.isFixed = false) (h : NewChannelOutcome st p ans st1) (hr : Answers snr rest st1 as st') :
      Answers snr ((0x07, p) :: rest) st ((0x07, [ans]) :: as) st'
  | dlChannel (p : List Nat) (rest : List Cmd) (st : St) (ans : Nat) (st1 : St) (as : List Ans) (st' : St)
      (hf : st.2.1.id.isFixed = false) (h : DlChannelOutcome st p ans st1) (hr : Answers snr rest st1 as st') :
      Answers snr ((0x0A, p) :: rest) st ((0x0A, [ans]) :: as) st'
  | linkAdr (ps : List (List Nat)) (p : List Nat) (rest : List Cmd) (st : St) (ans : Nat) (st1 : St) (as : List Ans) (st' : St)
      (hrest : startsAdr rest = false) (h : LinkAdrOutcome st (ps ++ [p]) p ans st1) (hr : Answers snr rest st1 as st') :
      Answers snr ((ps ++ [p]).map (fun q => (0x03, q)) ++ rest) st (List.replicate (ps.length + 1) (0x03, [ans]) ++ as) st'

def pushAll (c : MacCtx) (as : List Ans) : MacCtx := as.foldl (fun c a => c.push a.1 a.2) c

theorem pushAll_cfg (c : MacCtx) (as : List Ans) : (pushAll c as).cfg = c.cfg ∧ (pushAll c as).region = c.region :=
  TieA.Macs.foldl_push_cfg id as c

theorem adr_split (cmds : List Cmd) (h : startsAdr cmds = true) :
    ∃ ps p rest, cmds = (ps ++ [p]).map (fun q => ((0x03 : Nat), q)) ++ rest ∧ startsAdr rest = false := by
  induction cmds with
  | nil => simp [startsAdr] at h
  | cons x rest ih =>
    obtain ⟨cid, q⟩ := x
    cases startsAdr_cons h
    by_cases hr : startsAdr rest = true
    · obtain ⟨ps, p, rest', e, hr'⟩ := ih hr
      exact ⟨q :: ps, p, rest', by rw [e]; rfl, hr'⟩
    · exact ⟨[], q, rest, rfl, by simpa using hr⟩

def ctxSt (c : MacCtx) (mask : Mask) : St := (c.cfg, c.region, mask)

theorem pushAll_cons (c : MacCtx) (a : Ans) (as : List Ans) : pushAll c (a :: as) = pushAll (c.push a.1 a.2) as := rfl

theorem pushAll_append (c : MacCtx) (as bs : List Ans) : pushAll c (as ++ bs) = pushAll (pushAll c as) bs := by
  simp [pushAll, List.foldl_append]

theorem pushAll_replicate (c : MacCtx) (n : Nat) (cid : Nat) (pl : List Nat) :
    (List.range n).foldl (fun c _ => c.push cid pl) c = pushAll c (List.replicate n (cid, pl)) := by
  induction n generalizing c with
  | zero => rfl
  | succ n ih => rw [TieA.Macs.foldl_range_succ, ih, List.replicate_succ, pushAll_cons]

/-- the part of a context that `push` reads and writes: handlers change configuration and channel plan
beside it, never the queue except by `push` -/
def queue (c : MacCtx) : List Nat × Bool := (c.pending, c.full)

theorem push_queue {c d : MacCtx} (h : queue c = queue d) (cid : Nat) (p : List Nat) :
    queue (c.push cid p) = queue (d.push cid p) := by
  obtain ⟨hp, hf⟩ := Prod.mk.inj h
  unfold MacCtx.push
  rw [hp, hf]
  split
  · exact h
  · split <;> rfl

theorem pushAll_queue {c d : MacCtx} (h : queue c = queue d) (as : List Ans) : queue (pushAll c as) = queue (pushAll d as) := by
  induction as generalizing c d with
  | nil => exact h
  | cons a rest ih => exact ih (push_queue h a.1 a.2)

theorem ctxSt_push (c : MacCtx) (cid : Nat) (p : List Nat) (mask : Mask) : ctxSt (c.push cid p) mask = ctxSt c mask := by
  unfold ctxSt; rw [(TieA.Macs.push_cfg c cid p).1, (TieA.Macs.push_cfg c cid p).2]

theorem rxParam_outcome (cfg : Config) (rs : RegionState) (mask : Mask) (p : List Nat) (dl f : Nat)
    (hdl : byteAt p 0 = .ok dl) (hf : freq24 p 1 = .ok f) :
    RxParamOutcome (cfg, rs, mask) p (rxParamSetup cfg rs.id dl f).1 ((rxParamSetup cfg rs.id dl f).2, rs, mask) :=
  ⟨dl, f, hdl, hf, rfl, rxParamSetup_ack cfg rs.id dl f, rxParamSetup_nak cfg rs.id dl f,
    (rxParamSetup_rejects cfg rs.id dl f).1, (rxParamSetup_rejects cfg rs.id dl f).2.1, (rxParamSetup_rejects cfg rs.id dl f).2.2,
    rxParamSetup_le cfg rs.id dl f⟩

theorem newChannel_outcome (cfg : Config) (rs rs1 : RegionState) (mask : Mask) (p : List Nat) (idx f r : Nat) (a b : Bool)
    (hidx : byteAt p 0 = .ok idx) (hf : freq24 p 1 = .ok f) (hr : byteAt p 4 = .ok r)
    (h : handleNewChannel rs idx f (if r / 16 < r % 16 then none else some r) = .ok ((a, b), rs1)) :
    NewChannelOutcome (cfg, rs, mask) p ((if a then 1 else 0) + (if b then 2 else 0)) (cfg, rs1, mask) := by
  obtain ⟨n1, n2, n3⟩ := newChannel_atomic rs rs1 idx f _ a b h
  refine ⟨idx, f, r, a, b, hidx, hf, hr, rfl, rfl, rfl, n1, n2, fun hab => ?_⟩
  obtain ⟨pl, m, hpl, h1, h2, h3⟩ := n3 hab
  refine ⟨pl, m, hpl, h1, h2, h3.imp id fun ⟨fne, hfv, r', hr', hm, e⟩ => ?_⟩
  split at hr'
  · cases hr'
  · cases hr'; exact ⟨fne, hfv, by omega, hm, e⟩

theorem dlChannel_outcome (cfg : Config) (rs rs1 : RegionState) (mask : Mask) (p : List Nat) (idx f : Nat) (a b : Bool)
    (hidx : byteAt p 0 = .ok idx) (hf : freq24 p 1 = .ok f) (h : channelDlUpdate rs idx f = .ok ((a, b), rs1)) :
    DlChannelOutcome (cfg, rs, mask) p ((if a then 1 else 0) + (if b then 2 else 0)) (cfg, rs1, mask) :=
  ⟨idx, f, a, b, hidx, hf, rfl, rfl, rfl, dlChannel_atomic rs rs1 idx f a b h⟩

theorem linkAdr_outcome (cfg cfg1 : Config) (rs rs1 : RegionState) (m0 mk : Mask) (rfu : Bool) (ps : List (List Nat))
    (last : List Nat) (b0 ans : Nat) (hbm : blockMask rs m0 false ps = .ok (mk, rfu)) (hb0 : byteAt last 0 = .ok b0)
    (h : linkAdrDecide cfg rs mk rfu (b0 / 16) (b0 % 16) = .ok (ans, cfg1, rs1)) :
    LinkAdrOutcome (cfg, rs, m0) ps last ans (cfg1, rs1, channelMaskGet rs1) :=
  ⟨mk, rfu, b0, hbm, hb0, (linkAdr_atomic _ _ _ _ _ _ _ _ _ h).1, (linkAdr_atomic _ _ _ _ _ _ _ _ _ h).2, rfl,
    (linkAdr_rejects _ _ _ _ _ _ _ _ _ h).1, (linkAdr_rejects _ _ _ _ _ _ _ _ _ h).2.1, (linkAdr_rejects _ _ _ _ _ _ _ _ _ h).2.2,
    linkAdr_le _ _ _ _ _ _ _ _ _ h⟩

/-- one command other than LinkADRReq (`TieA.Macs.stepModel`): the answer it queues (none if it is skipped), and
`Answers` of the stream it heads from `Answers` of the rest -/
theorem stepModel_answers (snr : Int) (cid : Nat) (p : List Nat) (c c1 : MacCtx) (mask : Mask) (h3 : cid ≠ 3)
    (h : TieA.Macs.stepModel snr (cid, p) c = .ok c1) :
    ∃ ab, queue c1 = queue (pushAll c ab) ∧ ∀ {rest as st'}, Answers snr rest (ctxSt c1 mask) as st' →
      Answers snr ((cid, p) :: rest) (ctxSt c mask) (ab ++ as) st' := by
  unfold TieA.Macs.stepModel at h
  split at h
  case h_1 heq =>
    cases heq; cases Except.pure_eq_ok h
    exact ⟨[_], rfl, fun ha => .devStatus p _ _ _ _ (by rwa [ctxSt_push] at ha)⟩
  case h_2 heq =>
    cases heq
    obtain ⟨b, hb, h⟩ := Except.bind_eq_ok h
    obtain ⟨d, hd, h⟩ := Except.bind_eq_ok h
    cases Except.pure_eq_ok h
    exact ⟨[_], push_queue (by rfl) _ _, fun ha => .rxTiming p _ _ _ _ _ ⟨b, d, hb, hd, rfl⟩ (by rwa [ctxSt_push] at ha)⟩
  case h_3 heq =>
    cases heq
    obtain ⟨dl, hdl, h⟩ := Except.bind_eq_ok h
    obtain ⟨f, hf24, h⟩ := Except.bind_eq_ok h
    cases Except.pure_eq_ok h
    exact ⟨[_], push_queue (by rfl) _ _, fun ha => .rxParam p _ _ _ _ _ _ (rxParam_outcome _ _ mask p dl f hdl hf24)
      (by rwa [ctxSt_push] at ha)⟩
  case h_4 heq =>
    cases heq
    split at h
    · rename_i hfix
      cases Except.pure_eq_ok h
      exact ⟨[], rfl, fun ha => .skip _ p _ _ _ _ (by simp [handled, ctxSt, hfix]) ha⟩
    · rename_i hfix
      obtain ⟨idx, hidx, h⟩ := Except.bind_eq_ok h
      obtain ⟨f, hf24, h⟩ := Except.bind_eq_ok h
      obtain ⟨r, hr, h⟩ := Except.bind_eq_ok h
      obtain ⟨⟨⟨a, b⟩, rs1⟩, hnc, h⟩ := Except.bind_eq_ok h
      cases Except.pure_eq_ok h
      exact ⟨[_], push_queue (by rfl) _ _, fun ha => .newChannel p _ _ _ _ _ _ (by simpa [ctxSt] using hfix)
        (newChannel_outcome _ _ rs1 mask p idx f r a b hidx hf24 hr hnc) (by rwa [ctxSt_push] at ha)⟩
  case h_5 heq =>
    cases heq
    split at h
    · rename_i hfix
      cases Except.pure_eq_ok h
      exact ⟨[], rfl, fun ha => .skip _ p _ _ _ _ (by simp [handled, ctxSt, hfix]) ha⟩
    · rename_i hfix
      obtain ⟨idx, hidx, h⟩ := Except.bind_eq_ok h
      obtain ⟨f, hf24, h⟩ := Except.bind_eq_ok h
      obtain ⟨⟨⟨a, b⟩, rs1⟩, hdc, h⟩ := Except.bind_eq_ok h
      cases Except.pure_eq_ok h
      exact ⟨[_], push_queue (by rfl) _ _, fun ha => .dlChannel p _ _ _ _ _ _ (by simpa [ctxSt] using hfix)
        (dlChannel_outcome _ _ rs1 mask p idx f a b hidx hf24 hdc) (by rwa [ctxSt_push] at ha)⟩
  case h_6 h6 h8 h5 h7 hA heq =>
    cases heq; cases Except.pure_eq_ok h
    exact ⟨[], rfl, fun ha => .skip cid p _ _ _ _ (by simp_all [handled]) ha⟩

/-- **what `handleCmds` does, command by command**: the answers with their outcomes (`Answers`), and a
queue that is the old one with these answers pushed.  By induction on a bound for the length, since a
LinkADRReq block takes several commands at once (`handleCmds_adr_run`). -/
theorem handleCmds_sem (snr : Int) (n : Nat) : ∀ (cmds : List Cmd), cmds.length < n → ∀ (c c' : MacCtx) (mask : Mask),
    handleCmds snr cmds c mask false 0 = .ok c' →
    ∃ as mask', Answers snr cmds (ctxSt c mask) as (ctxSt c' mask') ∧ queue c' = queue (pushAll c as) := by
  induction n with
  | zero => intro cmds hlen; exact absurd hlen (Nat.not_lt_zero _)
  | succ n ih =>
    intro cmds hlen c c' mask h
    cases cmds with
    | nil => cases h; exact ⟨[], mask, .nil _, rfl⟩
    | cons x rest =>
      obtain ⟨cid, p⟩ := x
      by_cases h3 : cid = 3
      · subst h3
        obtain ⟨ps, pl, rest', e, hr'⟩ := adr_split ((3, p) :: rest) rfl
        rw [e, handleCmds_adr_run snr ps pl rest' c mask false 0 hr'] at h
        obtain ⟨⟨mk, rfu⟩, hbm, h⟩ := Except.bind_eq_ok h
        obtain ⟨c1, hfin, h⟩ := Except.bind_eq_ok h
        have hlen' : rest'.length < n := by
          have := congrArg List.length e
          simp only [List.length_cons, List.length_append, List.length_map, List.length_nil] at this hlen
          omega
        obtain ⟨as, mask', ha, hq⟩ := ih rest' hlen' c1 c' _ h
        unfold finishLinkAdrBlock at hfin
        obtain ⟨b0, hb0, hfin⟩ := Except.bind_eq_ok hfin
        obtain ⟨⟨ans, cfg1, rs1⟩, hdec, hfin⟩ := Except.bind_eq_ok hfin
        cases Except.pure_eq_ok hfin
        simp only [Nat.zero_add, pushAll_replicate] at ha hq
        simp only [ctxSt, pushAll_cfg] at ha
        rw [e]
        refine ⟨_, mask', .linkAdr ps pl rest' _ ans _ as _ hr' (linkAdr_outcome c.cfg cfg1 c.region rs1 mask mk rfu _ pl b0 ans hbm hb0 hdec) ha, ?_⟩
        rw [pushAll_append]
        exact hq.trans (pushAll_queue (pushAll_queue (by rfl) _) as)
      · rw [TieA.Macs.handleCmds_cons snr (cid, p) rest c mask false 0 h3] at h
        obtain ⟨c1, h1, h⟩ := Except.bind_eq_ok h
        obtain ⟨ab, hq1, hans⟩ := stepModel_answers snr cid p c c1 mask h3 h1
        obtain ⟨as, mask', ha, hq⟩ := ih rest (Nat.lt_of_succ_lt_succ hlen) c1 c' mask h
        exact ⟨ab ++ as, mask', hans ha, by rw [pushAll_append]; exact hq.trans (pushAll_queue hq1 as)⟩

/-- the parsed command stream of a byte string (FOpts or a port-0 payload) -/
def cmdsOf (bytes : List Nat) : List Cmd := parseDownlinkCmds (bytes.length + 1) bytes

/-- queueing whole answers greedily into `room` bytes: after the first answer that does not fit,
nothing is queued any more — only trailing answers are lost -/
def fit : Nat → List Ans → List Ans
  | _, [] => []
  | room, a :: as => if a.2.length + 1 ≤ room then a :: fit (room - (a.2.length + 1)) as else []

def wires (as : List Ans) : List Nat := (as.map wire).flatten

theorem pushAll_full (c : MacCtx) (as : List Ans) (h : c.full = true) : pushAll c as = c := by
  induction as with
  | nil => rfl
  | cons a rest ih => rw [pushAll_cons, push_after_full c a.1 a.2 h, ih]

theorem pushAll_spec (c : MacCtx) (as : List Ans) (h : c.full = false) :
    (pushAll c as).pending = c.pending ++ wires (fit (15 - c.pending.length) as) ∧
    ((pushAll c as).full = true ↔ fit (15 - c.pending.length) as ≠ as) := by
  induction as generalizing c with
  | nil => simp [pushAll, fit, wires, h]
  | cons a rest ih =>
    obtain ⟨cid, pl⟩ := a
    rw [pushAll_cons]
    rcases push_drop_iff c cid pl h with ⟨hp, hf, hfit⟩ | ⟨hp, hf, hnofit⟩
    · have hcond : pl.length + 1 ≤ 15 - c.pending.length := by omega
      obtain ⟨ih1, ih2⟩ := ih (c.push cid pl) hf
      have hroom : 15 - (c.push cid pl).pending.length = 15 - c.pending.length - (pl.length + 1) := by
        rw [hp]; simp only [List.length_append, List.length_cons]; omega
      rw [hroom] at ih1 ih2
      simp only [fit, hcond, if_true]
      constructor
      · rw [ih1, hp]; simp [wires, wire]
      · rw [ih2]; simp
    · have hcond : ¬ pl.length + 1 ≤ 15 - c.pending.length := by omega
      rw [pushAll_full _ _ hf]
      simp only [fit, hcond, if_false]
      exact ⟨by rw [hp]; simp [wires], by simp [hf]⟩

theorem fit_prefix (room : Nat) (as : List Ans) : fit room as <+: as := by
  induction as generalizing room with
  | nil => exact List.prefix_refl _
  | cons a rest ih =>
    unfold fit
    split
    · exact (List.prefix_cons_inj a).mpr (ih _)
    · exact List.nil_prefix

theorem wires_fit_le (room : Nat) (as : List Ans) : (wires (fit room as)).length ≤ room := by
  induction as generalizing room with
  | nil => simp [fit, wires]
  | cons a rest ih =>
    unfold fit
    split
    · rename_i h
      have := ih (room - (a.2.length + 1))
      simp only [wires, List.map_cons, List.flatten_cons, List.length_append, wire, List.length_cons] at this ⊢
      omega
    · simp [wires]

theorem handleDownlinkMacs_sem (snr : Int) (bytes : List Nat) (c c' : MacCtx) (h : handleDownlinkMacs snr bytes c = .ok c') :
    ∃ as mask', Answers snr (cmdsOf bytes) (ctxSt c (channelMaskGet c.region)) as (ctxSt c' mask') ∧
      queue c' = queue (pushAll c as) :=
  handleCmds_sem snr _ _ (Nat.lt_succ_self _) c c' _ h

/-- **the answers to a whole downlink command stream** (`handle_downlink_macs` on FOpts or on a
port-0 payload): there is a list `as` of answers as `Answers` describes them, and the pending queue after
the stream is the old queue followed by exactly the whole answers of the longest prefix of `as` that fits
the 15-byte limit (`fit`): cut only where the limit is reached, and nothing later is kept. -/
theorem handleCmds_answers (snr : Int) (bytes : List Nat) (c c' : MacCtx) (hfull : c.full = false)
    (h : handleDownlinkMacs snr bytes c = .ok c') :
    ∃ as mask', Answers snr (cmdsOf bytes) (c.cfg, c.region, channelMaskGet c.region) as (c'.cfg, c'.region, mask') ∧
      c'.pending = c.pending ++ wires (fit (15 - c.pending.length) as) ∧
      (c'.full = true ↔ fit (15 - c.pending.length) as ≠ as) := by
  obtain ⟨as, mask', ha, hq⟩ := handleDownlinkMacs_sem snr bytes c c' h
  obtain ⟨hp, hf⟩ := Prod.mk.inj hq
  obtain ⟨s1, s2⟩ := pushAll_spec c as hfull
  exact ⟨as, mask', ha, hp.trans s1, by rw [hf, s2]⟩

/-- once the queue is closed (an earlier answer of this downlink did not fit) the stream still takes
effect but queues nothing -/
theorem handleCmds_answers_full (snr : Int) (bytes : List Nat) (c c' : MacCtx) (hfull : c.full = true)
    (h : handleDownlinkMacs snr bytes c = .ok c') :
    ∃ as mask', Answers snr (cmdsOf bytes) (c.cfg, c.region, channelMaskGet c.region) as (c'.cfg, c'.region, mask') ∧
      c'.pending = c.pending ∧ c'.full = true := by
  obtain ⟨as, mask', ha, hq⟩ := handleDownlinkMacs_sem snr bytes c c' h
  rw [pushAll_full c as hfull] at hq
  exact ⟨as, mask', ha, (Prod.mk.inj hq).1, (Prod.mk.inj hq).2.trans hfull⟩

theorem fit_append_of_all (room : Nat) (as bs : List Ans) (h : fit room as = as) :
    fit room (as ++ bs) = as ++ fit (room - (wires as).length) bs := by
  induction as generalizing room with
  | nil => simp [wires]
  | cons a rest ih =>
    unfold fit at h
    split at h
    · rename_i hc
      simp only [List.cons.injEq, true_and] at h
      simp only [List.cons_append, fit, hc, if_true, ih _ h, wires, List.map_cons, List.flatten_cons, List.length_append, wire,
        List.length_cons]
      congr 2
      simp only [wires] at *
      congr 1
      omega
    · cases h

theorem fit_append_of_cut (room : Nat) (as bs : List Ans) (h : fit room as ≠ as) : fit room (as ++ bs) = fit room as := by
  induction as generalizing room with
  | nil => exact absurd rfl h
  | cons a rest ih =>
    simp only [List.cons_append, fit] at h ⊢
    split
    · rename_i hc
      simp only [hc, if_true, ne_eq, List.cons.injEq, true_and] at h
      rw [ih _ h]
    · rfl

/-- **both command streams of a frame accepted in a Class A window** (FOpts, then the FRMPayload when
it is on port 0): the queue left for the next uplink is exactly the whole answers of the longest
prefix of all answers, in request order, that fits 15 bytes — answers pending from before are gone -/
theorem accept_answers (pending : List Nat) (cfg : Config) (region : RegionState) (d : RxData) (snr : Int) (ctx : MacCtx)
    (h : acceptCmds pending cfg region d snr false = .ok ctx) :
    ∃ as1 as2 cfg1 rg1 m1,
      Answers snr (cmdsOf d.fopts) (cfg, region, channelMaskGet region) as1 (cfg1, rg1, m1) ∧
      (if d.fport = some 0 then ∃ m2, Answers snr (cmdsOf d.payload) (cfg1, rg1, channelMaskGet rg1) as2 (ctx.cfg, ctx.region, m2)
       else as2 = [] ∧ ctx.cfg = cfg1 ∧ ctx.region = rg1) ∧
      ctx.pending = wires (fit 15 (as1 ++ as2)) := by
  unfold acceptCmds at h
  simp only [Bool.false_eq_true, if_false] at h
  obtain ⟨c1, h1, h⟩ := Except.bind_eq_ok h
  obtain ⟨as1, m1, ha1, hp1, hf1⟩ := handleCmds_answers snr d.fopts _ c1 rfl h1
  simp only [List.length_nil, Nat.sub_zero, List.nil_append] at hp1 hf1
  by_cases hport : d.fport = some 0
  · have hb : (d.fport == some 0) = true := by simp [hport]
    simp only [hb, if_true] at h
    cases hfull : c1.full with
    | false =>
      obtain ⟨as2, m2, ha2, hp2, _⟩ := handleCmds_answers snr d.payload c1 ctx hfull h
      have hall : fit 15 as1 = as1 := by
        by_cases hq : fit 15 as1 = as1
        · exact hq
        · have := hf1.mpr hq; rw [hfull] at this; cases this
      refine ⟨as1, as2, c1.cfg, c1.region, m1, ha1, by simp only [hport, if_true]; exact ⟨m2, ha2⟩, ?_⟩
      rw [hp2, hp1, fit_append_of_all 15 as1 as2 hall, hall]
      simp [wires]
    | true =>
      obtain ⟨as2, m2, ha2, hp2, _⟩ := handleCmds_answers_full snr d.payload c1 ctx hfull h
      refine ⟨as1, as2, c1.cfg, c1.region, m1, ha1, by simp only [hport, if_true]; exact ⟨m2, ha2⟩, ?_⟩
      rw [hp2, hp1, fit_append_of_cut 15 as1 as2 (hf1.mp hfull)]
  · have hb : (d.fport == some 0) = false := by simp [hport]
    simp only [hb, Bool.false_eq_true, if_false] at h
    cases Except.pure_eq_ok h
    exact ⟨as1, [], ctx.cfg, ctx.region, m1, ha1, by rw [if_neg hport]; exact ⟨rfl, rfl, rfl⟩, by simpa using hp1⟩

/-- the part of `Answers` that does not mention the device state -/
inductive Shape (r : RegionId) (snr : Int) : List Cmd → List Ans → Prop
  | nil : Shape r snr [] []
  | skip (cid : Nat) (p : List Nat) (rest : List Cmd) (as : List Ans) (h : handled r cid = false) (hr : Shape r snr rest as) :
      Shape r snr ((cid, p) :: rest) as
  | devStatus (p : List Nat) (rest : List Cmd) (as : List Ans) (hr : Shape r snr rest as) :
      Shape r snr ((0x06, p) :: rest) ((0x06, [255, devStatusMargin snr]) :: as)
  | rxTiming (p : List Nat) (rest : List Cmd) (as : List Ans) (hr : Shape r snr rest as) :
      Shape r snr ((0x08, p) :: rest) ((0x08, []) :: as)
  | status (cid : Nat) (p : List Nat) (rest : List Cmd) (ans : Nat) (as : List Ans)
      (hc : cid = 0x05 ∨ ((cid = 0x07 ∨ cid = 0x0A) ∧ r.isFixed = false)) (hr : Shape r snr rest as) :
      Shape r snr ((cid, p) :: rest) ((cid, [ans]) :: as)
  | linkAdr (ps : List (List Nat)) (p : List Nat) (rest : List Cmd) (ans : Nat) (as : List Ans)
      (hrest : startsAdr rest = false) (hr : Shape r snr rest as) :
      Shape r snr ((ps ++ [p]).map (fun q => (0x03, q)) ++ rest) (List.replicate (ps.length + 1) (0x03, [ans]) ++ as)

theorem channelMaskSet_id (rs : RegionState) (m : Mask) : (channelMaskSet rs m).id = rs.id := by
  unfold channelMaskSet; split <;> rfl

/-- the ways an answered command leaves the channel plan: as it was, one slot and the mask of a dynamic
plan replaced (NewChannelReq, DlChannelReq), or the channel mask set (LinkADRReq) -/
inductive PlanMove (rs : RegionState) : RegionState → Prop
  | same : PlanMove rs rs
  | slot (p : DynPlan) (i : Nat) (sl : Option Channel) (m : Mask) (h : rs.plan = .dyn p) : PlanMove rs (setSlot rs p i sl m)
  | mask (m : Mask) : PlanMove rs (channelMaskSet rs m)

theorem PlanMove.id {rs rs1 : RegionState} (h : PlanMove rs rs1) : rs1.id = rs.id := by
  cases h with
  | same => rfl
  | slot => rfl
  | mask m => exact channelMaskSet_id rs m

theorem NewChannelOutcome.plan {st st1 : St} {p : List Nat} {ans : Nat} (h : NewChannelOutcome st p ans st1) :
    PlanMove st.2.1 st1.2.1 := by
  obtain ⟨idx, f, r, a, b, _, _, _, _, _, _, _, hno, hyes⟩ := h
  cases hab : (a && b) with
  | false => exact hno hab ▸ .same
  | true =>
    obtain ⟨pl, m, hpl, _, _, hh⟩ := hyes hab
    rcases hh with ⟨_, _, e⟩ | ⟨_, _, _, _, e⟩ <;> exact e ▸ .slot pl _ _ _ hpl

theorem DlChannelOutcome.plan {st st1 : St} {p : List Nat} {ans : Nat} (h : DlChannelOutcome st p ans st1) :
    PlanMove st.2.1 st1.2.1 := by
  obtain ⟨idx, f, a, b, _, _, _, _, _, _, hno, hyes⟩ := h
  cases hab : (a && b) with
  | false => exact hno hab ▸ .same
  | true =>
    obtain ⟨pl, c, hpl, _, _, _, _, e⟩ := hyes hab
    exact e ▸ .slot pl _ _ _ hpl

theorem LinkAdrOutcome.plan {st st1 : St} {ps : List (List Nat)} {p : List Nat} {ans : Nat} (h : LinkAdrOutcome st ps p ans st1) :
    PlanMove st.2.1 st1.2.1 := by
  obtain ⟨mask, rfu, b0, _, _, h7, hn, _⟩ := h
  by_cases ha : ans = 7
  · obtain ⟨d, pw, _, _, _, e⟩ := h7 ha
    exact e ▸ .mask mask
  · exact (hn ha).2 ▸ .same

/-- **a downlink's commands change the channel plan by these moves only**: a reflexive, transitive
relation that every move respects holds between the plan before the stream and the plan after it -/
theorem Answers.plan {R : RegionState → RegionState → Prop} (refl : ∀ rs, R rs rs) (trans : ∀ {a b c}, R a b → R b c → R a c)
    (move : ∀ {rs rs1}, PlanMove rs rs1 → R rs rs1) {snr : Int} {cmds : List Cmd} {st st' : St} {as : List Ans}
    (h : Answers snr cmds st as st') : R st.2.1 st'.2.1 := by
  induction h with
  | nil st => exact refl _
  | skip cid p rest st as st' _ _ ih => exact ih
  | devStatus p rest st as st' _ ih => exact ih
  | rxParam p rest st ans st1 as st' ho _ ih =>
    obtain ⟨dl, f, _, _, e, _⟩ := ho
    exact e ▸ ih
  | rxTiming p rest st st1 as st' ho _ ih =>
    obtain ⟨b, d, _, _, e⟩ := ho
    subst e
    exact ih
  | newChannel p rest st ans st1 as st' _ ho _ ih => exact trans (move ho.plan) ih
  | dlChannel p rest st ans st1 as st' _ ho _ ih => exact trans (move ho.plan) ih
  | linkAdr ps p rest st ans st1 as st' _ ho _ ih => exact trans (move ho.plan) ih

/-- the ways an answered command leaves the configuration: as it was, or with the fields of ONE command
written — RXParamSetupReq: RX2 data rate, RX2 frequency, RX1 offset; RXTimingSetupReq: a delay of the
generated table; a LinkADRReq block: data rate and TX power.  The index is `true` for the move of such a block
(`startsAdr blk` in `Answers.cfgs`), so that "no LinkADRReq in the stream" rules out a new data rate -/
inductive CfgMove (cfg : Config) : Bool → Config → Prop
  | same (adr : Bool) : CfgMove cfg adr cfg
  | rxParam (dr2 : Option Nat) (f off : Nat) :
      CfgMove cfg false { cfg with rx2DataRate := dr2, rx2Frequency := some f, rx1DrOffset := off }
  | rxTiming (b d : Nat) (h : delToDelayMs (b % 16) = .ok d) : CfgMove cfg false { cfg with rx1Delay := d }
  | linkAdr (d : Nat) (pw : Option Nat) : CfgMove cfg true { cfg with dataRate := d, txPower := pw }

/-- **a downlink's commands change the configuration by these moves only**, block by block (`blk`: one
command, or a whole run of LinkADRReq): what holds of no commands and is kept when a block with its
move is put in front holds of the stream -/
theorem Answers.cfgs {snr : Int} {Q : List Cmd → Config → Config → Prop} (nil : ∀ c, Q [] c c)
    (cons : ∀ {blk rest cfg cfg1 cfg'}, CfgMove cfg (startsAdr blk) cfg1 → Q rest cfg1 cfg' → Q (blk ++ rest) cfg cfg')
    {cmds : List Cmd} {st st' : St} {as : List Ans} (h : Answers snr cmds st as st') : Q cmds st.1 st'.1 := by
  induction h with
  | nil st => exact nil _
  | skip cid p rest st as st' _ _ ih => exact cons (blk := [(cid, p)]) (.same _) ih
  | devStatus p rest st as st' _ ih => exact cons (blk := [(6, p)]) (.same _) ih
  | rxParam p rest st ans st1 as st' ho _ ih =>
    obtain ⟨dl, f, _, _, _, h7, hn, _⟩ := ho
    refine cons (blk := [(5, p)]) ?_ ih
    by_cases ha : ans = 7
    · exact h7 ha ▸ .rxParam _ f _
    · exact hn ha ▸ .same _
  | rxTiming p rest st st1 as st' ho _ ih =>
    obtain ⟨b, d, _, hd, rfl⟩ := ho
    exact cons (blk := [(8, p)]) (.rxTiming b d hd) ih
  | newChannel p rest st ans st1 as st' _ ho _ ih =>
    obtain ⟨_, _, _, _, _, _, _, _, _, e, _⟩ := ho
    exact cons (blk := [(7, p)]) (e ▸ .same _) ih
  | dlChannel p rest st ans st1 as st' _ ho _ ih =>
    obtain ⟨_, _, _, _, _, _, _, e, _⟩ := ho
    exact cons (blk := [(10, p)]) (e ▸ .same _) ih
  | linkAdr ps p rest st ans st1 as st' _ ho _ ih =>
    obtain ⟨_, _, _, _, _, h7, hn, _⟩ := ho
    refine cons (blk := (ps ++ [p]).map (fun q => (3, q))) ?_ ih
    rw [← List.append_nil (List.map _ _), startsAdr_run]
    by_cases ha : ans = 7
    · obtain ⟨d, pw, _, _, e, _⟩ := h7 ha
      exact e ▸ .linkAdr d pw
    · exact (hn ha).1 ▸ .same _

/-- `Answers.plan` for both command streams of an accepted frame -/
theorem acceptCmds_plan {R : RegionState → RegionState → Prop} (refl : ∀ rs, R rs rs) (trans : ∀ {a b c}, R a b → R b c → R a c)
    (move : ∀ {rs rs1}, PlanMove rs rs1 → R rs rs1) {pending : List Nat} {cfg : Config} {region : RegionState} {d : RxData}
    {snr : Int} {ctx : MacCtx} (h : acceptCmds pending cfg region d snr false = .ok ctx) : R region ctx.region := by
  obtain ⟨as1, as2, cfg1, rg1, m1, ha1, ha2, _⟩ := accept_answers pending cfg region d snr ctx h
  have h1 := ha1.plan refl trans move
  split at ha2
  · obtain ⟨m2, ha2⟩ := ha2
    exact trans h1 (ha2.plan refl trans move)
  · exact ha2.2.2 ▸ h1

theorem acceptCmds_region_id (pending : List Nat) (cfg : Config) (region : RegionState) (d : RxData) (snr : Int) (ctx : MacCtx)
    (h : acceptCmds pending cfg region d snr false = .ok ctx) : ctx.region.id = region.id :=
  acceptCmds_plan (R := fun a b => b.id = a.id) (fun _ => rfl) (fun h1 h2 => h2.trans h1) PlanMove.id h

theorem Answers.shape {snr : Int} {cmds : List Cmd} {st st' : St} {as : List Ans} (h : Answers snr cmds st as st') :
    Shape st.2.1.id snr cmds as ∧ st'.2.1.id = st.2.1.id := by
  refine ⟨?_, h.plan (R := fun a b => b.id = a.id) (fun _ => rfl) (fun h1 h2 => h2.trans h1) PlanMove.id⟩
  induction h with
  | nil st => exact .nil
  | skip cid p rest st as st' hh _ ih => exact .skip cid p rest as hh ih
  | devStatus p rest st as st' _ ih => exact .devStatus p rest as ih
  | rxParam p rest st ans st1 as st' ho _ ih =>
    obtain ⟨dl, f, _, _, e, _⟩ := ho
    exact .status 5 p rest ans as (Or.inl rfl) (e ▸ ih)
  | rxTiming p rest st st1 as st' ho _ ih =>
    obtain ⟨b, d, _, _, e⟩ := ho
    subst e
    exact .rxTiming p rest as ih
  | newChannel p rest st ans st1 as st' hf ho _ ih => exact .status 7 p rest ans as (Or.inr ⟨Or.inl rfl, hf⟩) (ho.plan.id ▸ ih)
  | dlChannel p rest st ans st1 as st' hf ho _ ih => exact .status 10 p rest ans as (Or.inr ⟨Or.inr rfl, hf⟩) (ho.plan.id ▸ ih)
  | linkAdr ps p rest st ans st1 as st' hrest ho _ ih => exact .linkAdr ps p rest ans as hrest (ho.plan.id ▸ ih)

theorem whole_append {as bs : List Ans} (ha : Whole as) (hb : Whole bs) : Whole (as ++ bs) := by
  intro a h
  rcases List.mem_append.mp h with h | h
  · exact ha a h
  · exact hb a h

theorem whole_cons {a : Ans} {as : List Ans} (h : uplinkCmdLen a.1 = some a.2.length) (ha : Whole as) : Whole (a :: as) := by
  intro b hb
  rcases List.mem_cons.mp hb with rfl | hb
  · exact h
  · exact ha b hb

theorem whole_filter {as : List Ans} (h : Whole as) (f : Ans → Bool) : Whole (as.filter f) :=
  fun a ha => h a (List.mem_filter.mp ha).1

theorem whole_prefix {as bs : List Ans} (h : Whole bs) (hp : as <+: bs) : Whole as :=
  fun a ha => h a (hp.subset ha)

theorem Shape.whole {r : RegionId} {snr : Int} {cmds : List Cmd} {as : List Ans} (h : Shape r snr cmds as) : Whole as := by
  induction h with
  | nil => intro a ha; cases ha
  | skip cid p rest as _ _ ih => exact ih
  | devStatus p rest as _ ih => exact whole_cons rfl ih
  | rxTiming p rest as _ ih => exact whole_cons rfl ih
  | status cid p rest ans as hc _ ih => rcases hc with rfl | ⟨rfl | rfl, _⟩ <;> exact whole_cons rfl ih
  | linkAdr ps p rest ans as _ _ ih => exact whole_append (fun a ha => by rw [List.eq_of_mem_replicate ha]; rfl) ih

def cfg0 : Config :=
  { dataRate := 0, rx1Delay := 1000, txPower := none, rx1DrOffset := 0, rx2DataRate := none, rx2Frequency := none, adrEnabled := true }
example : (rxParamSetup cfg0 .EU868 0x23 869525000).1 = 7 := by decide
example : (rxParamSetup cfg0 .EU868 0x7F 1000).1 = 2 := by decide
example : (linkAdrDecide cfg0 (RegionState.init .EU868) [7, 0, 255, 255, 255, 255, 255, 255, 255] false 5 1).toOption.map (·.1) = some 7 := by decide
example : ((channelDlUpdate (RegionState.init .EU868) 0 867100000).toOption.map (·.1)) = some (true, true) := by decide
example : ((handleNewChannel (RegionState.init .EU868) 4 867300000 (some 0x50)).toOption.map (·.1)) = some (true, true) := by decide
example : ((handleNewChannel (RegionState.init .EU868) 1 867300000 (some 0x50)).toOption.map (·.1)) = some (false, false) := by decide
example : retainSticky 16 [0x03, 7, 0x05, 7, 0x06, 255, 0, 0x08, 0x0A, 3] = [0x05, 7, 0x08, 0x0A, 3] := by decide
example : fit 15 [(5, [7]), (6, [255, 5])] = [(5, [7]), (6, [255, 5])] := by decide
example : fit 4 [(5, [7]), (6, [255, 5]), (8, [])] = [(5, [7])] := by decide

end C08

#print axioms C08.push_length_le
#print axioms C08.push_whole_or_nothing
#print axioms C08.push_after_full
#print axioms C08.push_drop_iff
#print axioms C08.rxParamSetup_ack
#print axioms C08.rxParamSetup_nak
#print axioms C08.rxParamSetup_rejects
#print axioms C08.linkAdr_atomic
#print axioms C08.linkAdr_rejects
#print axioms C08.linkAdrDr_spec
#print axioms C08.retainSticky_spec
#print axioms C08.dlChannel_atomic
#print axioms C08.dlChannel_rx1
#print axioms C08.newChannel_atomic
#print axioms C08.handleCmds_adr_run
#print axioms C08.handleCmds_answers
#print axioms C08.handleCmds_answers_full
#print axioms C08.accept_answers
#print axioms C08.Answers.shape
