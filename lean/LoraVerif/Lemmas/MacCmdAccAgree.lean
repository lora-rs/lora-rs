import LoraVerif.Lemmas.MacCmdAccessors
import LoraVerif.Lemmas.FieldAlgebra
/-!
# The model's accessors compute the specification's field values (`AccAgree`), per payload type

For every payload type and every payload of octets at least as long as the table's length: the accessor list of
`Model/MacCmdFields.lean` (the code's bit slicing) equals `Spec.MacCmd.dec*` (fields as bit ranges of the
little-endian payload value); the items of a McGroupStatusAns for up to four of them.  The one exception is
`DeviceTimeAnsPayload::seconds` (known finding).  Hence no accessor panics (`accessors_ok`).
-/
-- the per-type statements keep the octet bounds of all their octets, also those the proof does not need
set_option linter.unusedVariables false
namespace MacCmd

def ofSpec : Spec.MacCmd.Val → Val
  | .n v => .n v | .i v => .i v | .b v => .b v | .hex v => .hex v | .err e => .err e | .none => .none | .items l => .items l

/-- the model's accessor list agrees with the specification's field values (and no accessor panics) -/
def AccAgree (m : List (String × Outcome Val)) (s : List (String × Spec.MacCmd.Val)) : Prop :=
  m = s.map (fun e => (e.1, Outcome.ok (ofSpec e.2)))

theorem drFrom_eq (v : Nat) : drFrom v = .ok (v % 16) := by
  have := Nat.mod_lt v (show 16 > 0 by omega)
  simp [drFrom, and15]; omega

theorem and4_ne (x : Nat) : (x &&& 4 != 0) = decide (x / 4 % 2 = 1) := bit_eq x 2
theorem margin6_eq : ∀ b, b < 256 → margin6 b = Spec.MacCmd.signed 6 (b % 64) := by decide +kernel
theorem maxEirp_eq : ∀ m, m < 16 → maxEirpTable[m]? = some (Spec.MacCmd.eirpDbm.getD m 0) := by decide
theorem periodicity_eq : ∀ v, v < 11 → v ≠ 0 → periodicityTable[v - 1]? = some (Spec.MacCmd.periodicitySeconds.getD (v - 1) 0) := by decide
theorem popcount4_eq : ∀ m, m < 16 → popcount4 m = Spec.MacCmd.bitsSet 4 m := by decide
theorem dutyBits_eq (raw : Nat) (h : raw < 16) : dutyCycleBits raw = .ok (2 ^ 23 * (127 - raw)) := by
  simp [dutyCycleBits, show raw < 32 by omega, Nat.shiftLeft_eq, Nat.mul_comm]

/-! Every accessor is a bit slice of one or a few octets; the specification's `field` of a list of octets `< 256` is
brought to that form by the cons equations of `Lemmas/FieldAlgebra` (a local simp set for this file).  The statements are
about any payload of octets that reaches as far as the accessors do: what follows the command's own octets is not looked at
by either side.  The per-type statements `acc_*` on a payload of exactly the table's length are instances. -/
section
open Spec.MacCmd (field_cons_add8 field_cons_low field_cons_wide)
attribute [local simp] AccAgree ofSpec index field_cons_add8 field_cons_low field_cons_wide and15 and7 and3
  Nat.shiftRight_eq_div_pow Nat.mod_eq_of_lt
theorem accLinkCheckAns_agree {p : Bytes} (h : 2 ≤ p.length) (hb : IsBytes p) :
    AccAgree (accLinkCheckAns p) (Spec.MacCmd.decLinkCheckAns p) := by
  obtain _ | ⟨b0, _ | ⟨b1, rest⟩⟩ := p <;> simp at h
  simp at hb
  simp [accLinkCheckAns, Spec.MacCmd.decLinkCheckAns, hb]

theorem acc_LinkCheckAns (b0 b1 : Nat) (h0 : b0 < 256) (h1 : b1 < 256) :
    AccAgree (accLinkCheckAns [b0, b1]) (Spec.MacCmd.decLinkCheckAns [b0, b1]) :=
  accLinkCheckAns_agree (by simp) (by simp [*])

theorem accLinkADRReq_agree {p : Bytes} (h : 4 ≤ p.length) (hb : IsBytes p) :
    AccAgree (accLinkADRReq p) (Spec.MacCmd.decLinkADRReq p) := by
  obtain _ | ⟨b0, _ | ⟨b1, _ | ⟨b2, _ | ⟨b3, rest⟩⟩⟩⟩ := p <;> simp at h
  simp at hb
  simp [accLinkADRReq, Spec.MacCmd.decLinkADRReq, slice, channelMask2, drFrom_eq, Spec.MacCmd.octets, hb]

theorem acc_LinkADRReq (b0 b1 b2 b3 : Nat) (h0 : b0 < 256) (h1 : b1 < 256) (h2 : b2 < 256) (h3 : b3 < 256) :
    AccAgree (accLinkADRReq [b0, b1, b2, b3]) (Spec.MacCmd.decLinkADRReq [b0, b1, b2, b3]) :=
  accLinkADRReq_agree (by simp) (by simp [*])

theorem accDutyCycleReq_agree {p : Bytes} (h : 1 ≤ p.length) (hb : IsBytes p) :
    AccAgree (accDutyCycleReq p) (Spec.MacCmd.decDutyCycleReq p) := by
  obtain _ | ⟨b0, rest⟩ := p <;> simp at h
  simp [accDutyCycleReq, Spec.MacCmd.decDutyCycleReq, dutyBits_eq (b0 % 16) (Nat.mod_lt _ (by decide))]

theorem acc_DutyCycleReq (b0 : Nat) (h0 : b0 < 256) :
    AccAgree (accDutyCycleReq [b0]) (Spec.MacCmd.decDutyCycleReq [b0]) :=
  accDutyCycleReq_agree (by simp) (by simp [*])

theorem accRXParamSetupReq_agree {p : Bytes} (h : 4 ≤ p.length) (hb : IsBytes p) :
    AccAgree (accRXParamSetupReq p) (Spec.MacCmd.decRXParamSetupReq p) := by
  obtain _ | ⟨b0, _ | ⟨b1, _ | ⟨b2, _ | ⟨b3, rest⟩⟩⟩⟩ := p <;> simp at h
  simp at hb
  simp [accRXParamSetupReq, Spec.MacCmd.decRXParamSetupReq, sliceFrom, drFrom_eq, frequencyValue_eq b1 b2 b3 hb.2.1 hb.2.2.1 hb.2.2.2.1, hb]

theorem acc_RXParamSetupReq (b0 b1 b2 b3 : Nat) (h0 : b0 < 256) (h1 : b1 < 256) (h2 : b2 < 256) (h3 : b3 < 256) :
    AccAgree (accRXParamSetupReq [b0, b1, b2, b3]) (Spec.MacCmd.decRXParamSetupReq [b0, b1, b2, b3]) :=
  accRXParamSetupReq_agree (by simp) (by simp [*])

theorem accNewChannelReq_agree {p : Bytes} (h : 5 ≤ p.length) (hb : IsBytes p) :
    AccAgree (accNewChannelReq p) (Spec.MacCmd.decNewChannelReq p) := by
  obtain _ | ⟨b0, _ | ⟨b1, _ | ⟨b2, _ | ⟨b3, _ | ⟨b4, rest⟩⟩⟩⟩⟩ := p <;> simp at h
  simp at hb
  have q4 : b4 / 16 < 16 := by omega
  simp [accNewChannelReq, Spec.MacCmd.decNewChannelReq, slice, frequencyValue_eq b1 b2 b3 hb.2.1 hb.2.2.1 hb.2.2.2.1, hb, q4]
  by_cases h : b4 / 16 < b4 % 16 <;> simp [h]

theorem acc_NewChannelReq (b0 b1 b2 b3 b4 : Nat) (h0 : b0 < 256) (h1 : b1 < 256) (h2 : b2 < 256) (h3 : b3 < 256) (h4 : b4 < 256) :
    AccAgree (accNewChannelReq [b0, b1, b2, b3, b4]) (Spec.MacCmd.decNewChannelReq [b0, b1, b2, b3, b4]) :=
  accNewChannelReq_agree (by simp) (by simp [*])

theorem accRXTimingSetupReq_agree {p : Bytes} (h : 1 ≤ p.length) (hb : IsBytes p) :
    AccAgree (accRXTimingSetupReq p) (Spec.MacCmd.decRXTimingSetupReq p) := by
  obtain _ | ⟨b0, rest⟩ := p <;> simp at h
  simp [accRXTimingSetupReq, Spec.MacCmd.decRXTimingSetupReq]

theorem acc_RXTimingSetupReq (b0 : Nat) (h0 : b0 < 256) :
    AccAgree (accRXTimingSetupReq [b0]) (Spec.MacCmd.decRXTimingSetupReq [b0]) :=
  accRXTimingSetupReq_agree (by simp) (by simp [*])

theorem accTXParamSetupReq_agree {p : Bytes} (h : 1 ≤ p.length) (hb : IsBytes p) :
    AccAgree (accTXParamSetupReq p) (Spec.MacCmd.decTXParamSetupReq p) := by
  obtain _ | ⟨b0, rest⟩ := p <;> simp at h
  simp [accTXParamSetupReq, Spec.MacCmd.decTXParamSetupReq, bit_eq, maxEirp_eq (b0 % 16) (Nat.mod_lt _ (by decide))]

theorem acc_TXParamSetupReq (b0 : Nat) (h0 : b0 < 256) :
    AccAgree (accTXParamSetupReq [b0]) (Spec.MacCmd.decTXParamSetupReq [b0]) :=
  accTXParamSetupReq_agree (by simp) (by simp [*])

theorem accDlChannelReq_agree {p : Bytes} (h : 4 ≤ p.length) (hb : IsBytes p) :
    AccAgree (accDlChannelReq p) (Spec.MacCmd.decDlChannelReq p) := by
  obtain _ | ⟨b0, _ | ⟨b1, _ | ⟨b2, _ | ⟨b3, rest⟩⟩⟩⟩ := p <;> simp at h
  simp at hb
  simp [accDlChannelReq, Spec.MacCmd.decDlChannelReq, slice, frequencyValue_eq b1 b2 b3 hb.2.1 hb.2.2.1 hb.2.2.2.1, hb]

theorem acc_DlChannelReq (b0 b1 b2 b3 : Nat) (h0 : b0 < 256) (h1 : b1 < 256) (h2 : b2 < 256) (h3 : b3 < 256) :
    AccAgree (accDlChannelReq [b0, b1, b2, b3]) (Spec.MacCmd.decDlChannelReq [b0, b1, b2, b3]) :=
  accDlChannelReq_agree (by simp) (by simp [*])

theorem accLinkADRAns_agree {p : Bytes} (h : 1 ≤ p.length) (hb : IsBytes p) :
    AccAgree (accLinkADRAns p) (Spec.MacCmd.decLinkADRAns p) := by
  obtain _ | ⟨b0, rest⟩ := p <;> simp at h
  simp at hb
  simp [accLinkADRAns, Spec.MacCmd.decLinkADRAns, bit_eq, Bool.beq_eq_decide_eq, hb]

theorem acc_LinkADRAns (b0 : Nat) (h0 : b0 < 256) :
    AccAgree (accLinkADRAns [b0]) (Spec.MacCmd.decLinkADRAns [b0]) :=
  accLinkADRAns_agree (by simp) (by simp [*])

theorem accRXParamSetupAns_agree {p : Bytes} (h : 1 ≤ p.length) (hb : IsBytes p) :
    AccAgree (accRXParamSetupAns p) (Spec.MacCmd.decRXParamSetupAns p) := by
  obtain _ | ⟨b0, rest⟩ := p <;> simp at h
  simp at hb
  simp [accRXParamSetupAns, Spec.MacCmd.decRXParamSetupAns, bit_eq, Bool.beq_eq_decide_eq, hb]

theorem acc_RXParamSetupAns (b0 : Nat) (h0 : b0 < 256) :
    AccAgree (accRXParamSetupAns [b0]) (Spec.MacCmd.decRXParamSetupAns [b0]) :=
  accRXParamSetupAns_agree (by simp) (by simp [*])

theorem accDevStatusAns_agree {p : Bytes} (h : 2 ≤ p.length) (hb : IsBytes p) :
    AccAgree (accDevStatusAns p) (Spec.MacCmd.decDevStatusAns p) := by
  obtain _ | ⟨b0, _ | ⟨b1, rest⟩⟩ := p <;> simp at h
  simp at hb
  simp [accDevStatusAns, Spec.MacCmd.decDevStatusAns, margin6_eq b1 hb.2.1, hb]

theorem acc_DevStatusAns (b0 b1 : Nat) (h0 : b0 < 256) (h1 : b1 < 256) :
    AccAgree (accDevStatusAns [b0, b1]) (Spec.MacCmd.decDevStatusAns [b0, b1]) :=
  accDevStatusAns_agree (by simp) (by simp [*])

theorem accNewChannelAns_agree {p : Bytes} (h : 1 ≤ p.length) (hb : IsBytes p) :
    AccAgree (accNewChannelAns p) (Spec.MacCmd.decNewChannelAns p) := by
  obtain _ | ⟨b0, rest⟩ := p <;> simp at h
  simp at hb
  simp [accNewChannelAns, Spec.MacCmd.decNewChannelAns, bit_eq, Bool.beq_eq_decide_eq, hb]

theorem acc_NewChannelAns (b0 : Nat) (h0 : b0 < 256) :
    AccAgree (accNewChannelAns [b0]) (Spec.MacCmd.decNewChannelAns [b0]) :=
  accNewChannelAns_agree (by simp) (by simp [*])

theorem accDlChannelAns_agree {p : Bytes} (h : 1 ≤ p.length) (hb : IsBytes p) :
    AccAgree (accDlChannelAns p) (Spec.MacCmd.decDlChannelAns p) := by
  obtain _ | ⟨b0, rest⟩ := p <;> simp at h
  simp [accDlChannelAns, Spec.MacCmd.decDlChannelAns, bit_eq, Bool.beq_eq_decide_eq]

theorem acc_DlChannelAns (b0 : Nat) (h0 : b0 < 256) :
    AccAgree (accDlChannelAns [b0]) (Spec.MacCmd.decDlChannelAns [b0]) :=
  accDlChannelAns_agree (by simp) (by simp [*])

theorem accAdrBitChangeReq_agree {p : Bytes} (h : 1 ≤ p.length) (hb : IsBytes p) :
    AccAgree (accAdrBitChangeReq p) (Spec.MacCmd.decAdrBitChangeReq p) := by
  obtain _ | ⟨b0, rest⟩ := p <;> simp at h
  simp at hb
  simp [accAdrBitChangeReq, Spec.MacCmd.decAdrBitChangeReq, hb]
  by_cases e0 : b0 = 0 <;> by_cases e1 : b0 = 1 <;> simp [e0, e1]

theorem acc_AdrBitChangeReq (b0 : Nat) (h0 : b0 < 256) :
    AccAgree (accAdrBitChangeReq [b0]) (Spec.MacCmd.decAdrBitChangeReq [b0]) :=
  accAdrBitChangeReq_agree (by simp) (by simp [*])

theorem accMcGroupStatusReq_agree {p : Bytes} (h : 1 ≤ p.length) (hb : IsBytes p) :
    AccAgree (accMcGroupStatusReq p) (Spec.MacCmd.decMcGroupStatusReq p) := by
  obtain _ | ⟨b0, rest⟩ := p <;> simp at h
  simp [accMcGroupStatusReq, Spec.MacCmd.decMcGroupStatusReq]

theorem acc_McGroupStatusReq (b0 : Nat) (h0 : b0 < 256) :
    AccAgree (accMcGroupStatusReq [b0]) (Spec.MacCmd.decMcGroupStatusReq [b0]) :=
  accMcGroupStatusReq_agree (by simp) (by simp [*])

theorem accMcGroupDeleteReq_agree {p : Bytes} (h : 1 ≤ p.length) (hb : IsBytes p) :
    AccAgree (accMcGroupDeleteReq p) (Spec.MacCmd.decMcGroupDeleteReq p) := by
  obtain _ | ⟨b0, rest⟩ := p <;> simp at h
  simp [accMcGroupDeleteReq, Spec.MacCmd.decMcGroupDeleteReq]

theorem acc_McGroupDeleteReq (b0 : Nat) (h0 : b0 < 256) :
    AccAgree (accMcGroupDeleteReq [b0]) (Spec.MacCmd.decMcGroupDeleteReq [b0]) :=
  accMcGroupDeleteReq_agree (by simp) (by simp [*])

theorem accPackageVersionAns_agree {p : Bytes} (h : 2 ≤ p.length) (hb : IsBytes p) :
    AccAgree (accPackageVersionAns p) (Spec.MacCmd.decPackageVersionAns p) := by
  obtain _ | ⟨b0, _ | ⟨b1, rest⟩⟩ := p <;> simp at h
  simp at hb
  simp [accPackageVersionAns, Spec.MacCmd.decPackageVersionAns, hb]

theorem acc_PackageVersionAns (b0 b1 : Nat) (h0 : b0 < 256) (h1 : b1 < 256) :
    AccAgree (accPackageVersionAns [b0, b1]) (Spec.MacCmd.decPackageVersionAns [b0, b1]) :=
  accPackageVersionAns_agree (by simp) (by simp [*])

theorem accMcGroupSetupAns_agree {p : Bytes} (h : 1 ≤ p.length) (hb : IsBytes p) :
    AccAgree (accMcGroupSetupAns p) (Spec.MacCmd.decMcGroupSetupAns p) := by
  obtain _ | ⟨b0, rest⟩ := p <;> simp at h
  simp [accMcGroupSetupAns, Spec.MacCmd.decMcGroupSetupAns]

theorem acc_McGroupSetupAns (b0 : Nat) (h0 : b0 < 256) :
    AccAgree (accMcGroupSetupAns [b0]) (Spec.MacCmd.decMcGroupSetupAns [b0]) :=
  accMcGroupSetupAns_agree (by simp) (by simp [*])

theorem accMcGroupDeleteAns_agree {p : Bytes} (h : 1 ≤ p.length) (hb : IsBytes p) :
    AccAgree (accMcGroupDeleteAns p) (Spec.MacCmd.decMcGroupDeleteAns p) := by
  obtain _ | ⟨b0, rest⟩ := p <;> simp at h
  simp [accMcGroupDeleteAns, Spec.MacCmd.decMcGroupDeleteAns, and4_ne]

theorem acc_McGroupDeleteAns (b0 : Nat) (h0 : b0 < 256) :
    AccAgree (accMcGroupDeleteAns [b0]) (Spec.MacCmd.decMcGroupDeleteAns [b0]) :=
  accMcGroupDeleteAns_agree (by simp) (by simp [*])

theorem acc_DeviceTimeAns_partial (b0 b1 b2 b3 b4 : Nat) (h0 : b0 < 256) (h1 : b1 < 256) (h2 : b2 < 256) (h3 : b3 < 256) (h4 : b4 < 256) :
    AccAgree (accDeviceTimeAns [b0, b1, b2, b3, b4]).tail (Spec.MacCmd.decDeviceTimeAns [b0, b1, b2, b3, b4]).tail := by
  simp [accDeviceTimeAns, Spec.MacCmd.decDeviceTimeAns, ckU32_ok (show 3906250 * b4 < 4294967296 by omega), *]

theorem acc_DeviceTimeAns_seconds (b0 b1 b2 b3 b4 : Nat) :
    (accDeviceTimeAns [b0, b1, b2, b3, b4]).head? = some ("seconds", .ok (.n (b3 + 256 * b2 + 65536 * b1 + 16777216 * b0))) := by
  simp [accDeviceTimeAns, index]

theorem dec_DeviceTimeAns_seconds (b0 b1 b2 b3 b4 : Nat) (h0 : b0 < 256) (h1 : b1 < 256) (h2 : b2 < 256) (h3 : b3 < 256) :
    (Spec.MacCmd.decDeviceTimeAns [b0, b1, b2, b3, b4]).head? = some ("seconds", .n (b0 + 256 * b1 + 65536 * b2 + 16777216 * b3)) := by
  simp [Spec.MacCmd.decDeviceTimeAns, *]
  omega

theorem accTxPeriodicityChangeReq_agree {p : Bytes} (h : 1 ≤ p.length) (hb : IsBytes p) :
    AccAgree (accTxPeriodicityChangeReq p) (Spec.MacCmd.decTxPeriodicityChangeReq p) := by
  obtain _ | ⟨b0, rest⟩ := p <;> simp at h
  simp at hb
  simp only [accTxPeriodicityChangeReq, Spec.MacCmd.decTxPeriodicityChangeReq, AccAgree, index, List.getElem?_cons_zero,
    Outcome.ok_bind, Spec.MacCmd.field_cons_low b0 rest 0 8 (by decide), Nat.pow_zero, Nat.div_one, List.map_cons, List.map_nil]
  rw [show b0 % 2 ^ 8 = b0 from Nat.mod_eq_of_lt hb.1]
  by_cases hgt : b0 > 10
  · have : ¬ b0 = 0 := by omega
    have h2 : ¬ b0 ≤ 10 := by omega
    simp [hgt, this, h2, ofSpec]
  · by_cases hz : b0 = 0
    · simp [hz, ofSpec]
    · have hle : b0 ≤ 10 := by omega
      simp [hgt, hz, hle, ofSpec, periodicity_eq b0 (by omega) hz]

theorem acc_TxPeriodicityChangeReq (b0 : Nat) (h0 : b0 < 256) :
    AccAgree (accTxPeriodicityChangeReq [b0]) (Spec.MacCmd.decTxPeriodicityChangeReq [b0]) :=
  accTxPeriodicityChangeReq_agree (by simp) (by simp [*])

theorem acc_TxFramesCtrlReq (b0 : Nat) (rest : Bytes) (h0 : b0 < 256) :
    AccAgree (accTxFramesCtrlReq (b0 :: rest)) (Spec.MacCmd.decTxFramesCtrlReq (b0 :: rest)) := by
  have hmax : max 1 (rest.length + 1) = rest.length + 1 := by omega
  have hf : Spec.MacCmd.field (b0 :: rest) 0 8 = b0 := by
    simp [Spec.MacCmd.field, Spec.MacCmd.leValue]; omega
  simp only [accTxFramesCtrlReq, Spec.MacCmd.decTxFramesCtrlReq, AccAgree, index, List.getElem?_cons_zero, Outcome.ok_bind,
    List.length_cons, hmax, hf, List.map_cons, List.map_nil, ofSpec]
  by_cases e0 : b0 = 0 <;> by_cases e1 : b0 = 1 <;> by_cases e2 : b0 = 2 <;> simp [e0, e1, e2]

theorem acc_EchoIncPayloadReq (p : Bytes) (hne : p ≠ []) :
    AccAgree (accEchoIncPayloadReq p) (Spec.MacCmd.decEchoIncPayloadReq p) := by
  obtain ⟨x, xs, rfl⟩ := List.exists_cons_of_ne_nil hne
  have hmax : max 1 (xs.length + 1) = xs.length + 1 := by omega
  simp [accEchoIncPayloadReq, Spec.MacCmd.decEchoIncPayloadReq, AccAgree, slice, hmax, ofSpec]

theorem acc_EchoIncPayloadAns (p : Bytes) (hne : p ≠ []) :
    AccAgree (accEchoIncPayloadAns p) (Spec.MacCmd.decEchoIncPayloadAns p) := by
  obtain ⟨x, xs, rfl⟩ := List.exists_cons_of_ne_nil hne
  have hmax : max 1 (xs.length + 1) = xs.length + 1 := by omega
  simp [accEchoIncPayloadAns, Spec.MacCmd.decEchoIncPayloadAns, AccAgree, hmax, ofSpec]

end

theorem u32FromLe_eq {s : String} {d : Bytes} (h : d.length = 4) : u32FromLe s d = .ok (Spec.MacCmd.leValue d) := by
  rw [u32FromLe, exact_ok h, Outcome.ok_bind]
  obtain _ | ⟨a, _ | ⟨b, _ | ⟨c, _ | ⟨e, _ | ⟨_, _⟩⟩⟩⟩⟩ := d <;> simp at h
  simp only [Spec.MacCmd.leValue]
  congr 1; omega

theorem slice_octets {s : String} {p : Bytes} (a n : Nat) (h : a + n ≤ p.length) :
    slice s p a (a + n) = .ok (Spec.MacCmd.octets p a n) := by
  rw [slice_ok (Nat.le_add_right a n) h, Nat.add_sub_cancel_left]; rfl

theorem octets_length {p : Bytes} {a n : Nat} (h : a + n ≤ p.length) : (Spec.MacCmd.octets p a n).length = n := by
  rw [Spec.MacCmd.octets, List.length_take, List.length_drop]; omega

theorem accMcGroupSetupReq_agree (cph : Cipher) {p : Bytes} (hl : 29 ≤ p.length) :
    AccAgree (accMcGroupSetupReq cph p) (Spec.MacCmd.decMcGroupSetupReq cph.enc p) := by
  obtain ⟨b0, rest, rfl⟩ : ∃ b0 rest, p = b0 :: rest := by cases p <;> simp at hl ⊢
  have h1 : 1 + 4 ≤ (b0 :: rest).length := by omega
  have h2 : 5 + 16 ≤ (b0 :: rest).length := by omega
  have h3 : 21 + 4 ≤ (b0 :: rest).length := by omega
  have h4 : 25 + 4 ≤ (b0 :: rest).length := by omega
  simp only [accMcGroupSetupReq, Spec.MacCmd.decMcGroupSetupReq, AccAgree, index_cons_zero, Outcome.ok_bind,
    slice_octets 1 4 h1, slice_octets 5 16 h2, slice_octets 21 4 h3, slice_octets 25 4 h4,
    exact_ok (octets_length h1), exact_ok (octets_length h2), octets_length h2, if_true, Cipher.encryptBlock, u32FromLe_eq (octets_length h3),
    u32FromLe_eq (octets_length h4), Spec.MacCmd.field_cons_low b0 rest 0 2 (by decide), and3, Nat.pow_zero, Nat.div_one,
    List.map_cons, List.map_nil, ofSpec]

theorem groupItems_eq (data : Bytes) : ∀ (fuel pos : Nat), pos ≤ data.length →
    groupItems fuel data pos = .ok (Spec.MacCmd.groupItems fuel (data.drop pos))
  | 0, _, _ => rfl
  | fuel + 1, pos, h => by
    rw [groupItems, Spec.MacCmd.groupItems, List.length_drop]
    by_cases hlt : pos + 5 > data.length
    · rw [if_pos hlt, if_pos (by omega)]
    · rw [if_neg hlt, if_neg (by omega), slice_ok (by omega) (by omega), Outcome.ok_bind,
        groupItems_eq data fuel (pos + 5) (by omega), List.drop_drop]
      have hl : 5 ≤ (data.drop pos).length := by rw [List.length_drop]; omega
      generalize data.drop pos = d at hl
      obtain _ | ⟨x0, _ | ⟨x1, _ | ⟨x2, _ | ⟨x3, _ | ⟨x4, r⟩⟩⟩⟩⟩ := d <;> simp at hl
      simp [index, slice, exact_ok, Spec.MacCmd.octets, show pos + 5 - pos = 5 by omega]

theorem accMcGroupStatusAns_agree (b0 : Nat) (rest : Bytes) (hl : rest.length < 25) :
    AccAgree (accMcGroupStatusAns (b0 :: rest)) (Spec.MacCmd.decMcGroupStatusAns (b0 :: rest)) := by
  have hm : b0 % 16 < 16 := Nat.mod_lt _ (by decide)
  simp only [accMcGroupStatusAns, Spec.MacCmd.decMcGroupStatusAns, AccAgree, index_cons_zero, Outcome.ok_bind,
    sliceFrom_ok (show 1 ≤ (b0 :: rest).length by simp), List.drop_succ_cons, List.drop_zero,
    groupItems_eq rest _ 0 (Nat.zero_le _), Spec.MacCmd.groupItems_fuel (rest.length + 1) 4 rest (by omega) (by omega),
    Spec.MacCmd.field_cons_low b0 rest 0 4 (by decide), Spec.MacCmd.field_cons_low b0 rest 4 3 (by decide),
    mcGroupStatusRequiredLen, and15, and7, Nat.shiftRight_eq_div_pow, popcount4_eq _ hm, Nat.pow_zero, Nat.div_one,
    List.map_cons, List.map_nil, ofSpec, Nat.mul_comm 5]

theorem acc_McGroupSetupReq (cph : Cipher) (b0 b1 b2 b3 b4 b5 b6 b7 b8 b9 b10 b11 b12 b13 b14 b15 b16 b17 b18 b19 b20 b21 b22 b23 b24 b25 b26 b27 b28 : Nat) (h0 : b0 < 256)
    (hb : ∀ x ∈ [b0, b1, b2, b3, b4, b5, b6, b7, b8, b9, b10, b11, b12, b13, b14, b15, b16, b17, b18, b19, b20, b21, b22, b23, b24, b25, b26, b27, b28], x < 256) :
    AccAgree (accMcGroupSetupReq cph [b0, b1, b2, b3, b4, b5, b6, b7, b8, b9, b10, b11, b12, b13, b14, b15, b16, b17, b18, b19, b20, b21, b22, b23, b24, b25, b26, b27, b28]) (Spec.MacCmd.decMcGroupSetupReq cph.enc [b0, b1, b2, b3, b4, b5, b6, b7, b8, b9, b10, b11, b12, b13, b14, b15, b16, b17, b18, b19, b20, b21, b22, b23, b24, b25, b26, b27, b28]) :=
  accMcGroupSetupReq_agree cph (Nat.le_refl 29)

theorem acc_McGroupStatusAns_0 (b0 : Nat) (h0 : b0 < 256) :
    AccAgree (accMcGroupStatusAns [b0]) (Spec.MacCmd.decMcGroupStatusAns [b0]) :=
  accMcGroupStatusAns_agree b0 _ (by simp)

theorem acc_McGroupStatusAns_1 (b0 x0 x1 x2 x3 x4 : Nat) (h0 : b0 < 256) :
    AccAgree (accMcGroupStatusAns [b0, x0, x1, x2, x3, x4]) (Spec.MacCmd.decMcGroupStatusAns [b0, x0, x1, x2, x3, x4]) :=
  accMcGroupStatusAns_agree b0 _ (by simp)

theorem acc_McGroupStatusAns_2 (b0 x0 x1 x2 x3 x4 x5 x6 x7 x8 x9 : Nat) (h0 : b0 < 256) :
    AccAgree (accMcGroupStatusAns [b0, x0, x1, x2, x3, x4, x5, x6, x7, x8, x9]) (Spec.MacCmd.decMcGroupStatusAns [b0, x0, x1, x2, x3, x4, x5, x6, x7, x8, x9]) :=
  accMcGroupStatusAns_agree b0 _ (by simp)

theorem acc_McGroupStatusAns_3 (b0 x0 x1 x2 x3 x4 x5 x6 x7 x8 x9 x10 x11 x12 x13 x14 : Nat) (h0 : b0 < 256) :
    AccAgree (accMcGroupStatusAns [b0, x0, x1, x2, x3, x4, x5, x6, x7, x8, x9, x10, x11, x12, x13, x14]) (Spec.MacCmd.decMcGroupStatusAns [b0, x0, x1, x2, x3, x4, x5, x6, x7, x8, x9, x10, x11, x12, x13, x14]) :=
  accMcGroupStatusAns_agree b0 _ (by simp)

theorem acc_McGroupStatusAns_4 (b0 x0 x1 x2 x3 x4 x5 x6 x7 x8 x9 x10 x11 x12 x13 x14 x15 x16 x17 x18 x19 : Nat) (h0 : b0 < 256) :
    AccAgree (accMcGroupStatusAns [b0, x0, x1, x2, x3, x4, x5, x6, x7, x8, x9, x10, x11, x12, x13, x14, x15, x16, x17, x18, x19]) (Spec.MacCmd.decMcGroupStatusAns [b0, x0, x1, x2, x3, x4, x5, x6, x7, x8, x9, x10, x11, x12, x13, x14, x15, x16, x17, x18, x19]) :=
  accMcGroupStatusAns_agree b0 _ (by simp)

/-! ## No accessor panics

An accessor list that agrees with the specification's values consists of returned values, so on a payload of octets that
reaches as far as the accessors do (`need`) no accessor panics; the generated tables give every payload type at least that
length (`C03.accessor_reach_within_len`).  `DeviceTimeAnsPayload::seconds` differs from the specification (known finding)
and is looked at directly. -/

theorem AccAgree.allOk {m : List (String × Outcome Val)} {s : List (String × Spec.MacCmd.Val)} (h : AccAgree m s) : AllOk m := by
  intro a ha
  rw [h, List.mem_map] at ha
  obtain ⟨e, _, rfl⟩ := ha
  rfl

theorem accDeviceTimeAns_ok {p : Bytes} (h : 5 ≤ p.length) (hb : IsBytes p) : AllOk (accDeviceTimeAns p) := by
  rcases p with _ | ⟨a0, _ | ⟨a1, _ | ⟨a2, _ | ⟨a3, _ | ⟨a4, rest⟩⟩⟩⟩⟩ <;> simp at h
  simp at hb
  obtain ⟨h0, h1, h2, h3, h4, _⟩ := hb
  simp [AllOk, accDeviceTimeAns, index]
  simp (disch := omega) [ckU32_ok]

/-- the items iterator stops by itself, however long the payload: no bound on the number of items as in
`accMcGroupStatusAns_agree` -/
theorem accMcGroupStatusAns_ok {p : Bytes} (h : 1 ≤ p.length) : AllOk (accMcGroupStatusAns p) := by
  rcases p with _ | ⟨a0, rest⟩ <;> simp at h
  simp [AllOk, accMcGroupStatusAns, index, sliceFrom, groupItems_eq rest _ 0 (Nat.zero_le _)]

/-- the number of payload octets the accessors of a payload type reach: a lower bound on the payload, where `C19.arity` is the
exact length of a fixed-length payload -/
def need : String → Nat
  | "LinkCheckAnsPayload" => 2
  | "LinkADRReqPayload" => 4
  | "DutyCycleReqPayload" => 1
  | "RXParamSetupReqPayload" => 4
  | "NewChannelReqPayload" => 5
  | "RXTimingSetupReqPayload" => 1
  | "TXParamSetupReqPayload" => 1
  | "DlChannelReqPayload" => 4
  | "DeviceTimeAnsPayload" => 5
  | "LinkADRAnsPayload" => 1
  | "RXParamSetupAnsPayload" => 1
  | "DevStatusAnsPayload" => 2
  | "NewChannelAnsPayload" => 1
  | "DlChannelAnsPayload" => 1
  | "AdrBitChangeReqPayload" => 1
  | "TxPeriodicityChangeReqPayload" => 1
  | "TxFramesCtrlReqPayload" => 1
  | "EchoIncPayloadReqPayload" => 1
  | "EchoIncPayloadAnsPayload" => 0
  | "McGroupStatusReqPayload" => 1
  | "McGroupSetupReqPayload" => 29
  | "McGroupDeleteReqPayload" => 1
  | "PackageVersionAnsPayload" => 2
  | "McGroupStatusAnsPayload" => 1
  | "McGroupSetupAnsPayload" => 1
  | "McGroupDeleteAnsPayload" => 1
  | _ => 0

/-- One bullet per arm of `accessors`, in its order; a new payload type also enters `need` above and `C19.arity`. -/
theorem accessors_ok (cph : Cipher) (ty : String) (p : Bytes) (h : need ty ≤ p.length) (hb : IsBytes p) :
    AllOk (accessors cph ty p) := by
  unfold accessors
  split
  · exact (accLinkCheckAns_agree h hb).allOk
  · exact (accLinkADRReq_agree h hb).allOk
  · exact (accDutyCycleReq_agree h hb).allOk
  · exact (accRXParamSetupReq_agree h hb).allOk
  · exact (accNewChannelReq_agree h hb).allOk
  · exact (accRXTimingSetupReq_agree h hb).allOk
  · exact (accTXParamSetupReq_agree h hb).allOk
  · exact (accDlChannelReq_agree h hb).allOk
  · exact accDeviceTimeAns_ok h hb
  · exact (accLinkADRAns_agree h hb).allOk
  · exact (accRXParamSetupAns_agree h hb).allOk
  · exact (accDevStatusAns_agree h hb).allOk
  · exact (accNewChannelAns_agree h hb).allOk
  · exact (accDlChannelAns_agree h hb).allOk
  · exact (accAdrBitChangeReq_agree h hb).allOk
  · exact (accTxPeriodicityChangeReq_agree h hb).allOk
  · obtain _ | ⟨b0, rest⟩ := p
    · cases h
    · exact (acc_TxFramesCtrlReq b0 rest (hb b0 (by simp))).allOk
  · exact (acc_EchoIncPayloadReq p (by rintro rfl; cases h)).allOk
  · simp [AllOk, accEchoIncPayloadAns]
  · exact (accMcGroupStatusReq_agree h hb).allOk
  · exact (accMcGroupSetupReq_agree cph h).allOk
  · exact (accMcGroupDeleteReq_agree h hb).allOk
  · exact (accPackageVersionAns_agree h hb).allOk
  · exact accMcGroupStatusAns_ok h
  · exact (accMcGroupSetupAns_agree h hb).allOk
  · exact (accMcGroupDeleteAns_agree h hb).allOk
  · intro a ha; simp at ha

end MacCmd
