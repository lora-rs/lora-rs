import LoraVerif.Model.Mac
/-!
# `Session::handle_rx` as a decision followed by the effect of the accepted frame

`sessionHandleRx_eq`: the size test, then the counter reconstruction filtered by the MIC, and for an accepted frame the MAC
commands (`acceptCmds`) followed by the bookkeeping (`acceptFinish`).  Rejected frames visibly never reach a handler, and a
statement about every returning `sessionHandleRx` needs to look at `acceptCmds` only (`Lemmas/MacWFRx.lean`,
`Lemmas/DelayInv.lean`).  `Lemmas/Cycle.lean` puts the reference's acceptance rule in place of the filter.
`rx2Complete_eq`: the other way out of a receive procedure, `Session::rx2_complete`, as one triple; whatever is said of its
response, its session or its configuration is read off that.
-/
namespace Model

/-- MAC command handling of an accepted frame (`ig`: Class C reception, commands ignored) -/
def acceptCmds (pending : List Nat) (cfg : Config) (region : RegionState) (d : RxData) (snr : Int) (ig : Bool) : M MacCtx :=
  if ig then pure { cfg := cfg, region := region, pending := pending }
  else do
    let ctx ← handleDownlinkMacs snr d.fopts { cfg := cfg, region := region, pending := [] }
    if d.fport == some 0 then handleDownlinkMacs snr d.payload ctx else pure ctx

/-- what an accepted frame delivers to the application -/
def deliver (d : RxData) : Option (Nat × List Nat) :=
  match d.fport with
  | some p => if p > 0 then some (p, d.payload) else none
  | none => none

/-- bookkeeping of an accepted frame: counter remembered, ADR count restarted, answers queued, ACK
owed if confirmed; reported unless the uplink counter space is exhausted -/
def acceptFinish (s : Session) (d : RxData) (fcnt : Nat) (ctx : MacCtx) : RxOut × Session × Config × RegionState :=
  let s : Session := { s with fcntDown := some fcnt, adrAckCnt := 0, pending := ctx.pending, ackOwed := s.ackOwed || d.confirmed }
  if s.fcntUp == 0xFFFFFFFF then ({ resp := .sessionExpired, downlink := none }, s, ctx.cfg, ctx.region)
  else ({ resp := .downlinkReceived fcnt, downlink := deliver d }, { s with fcntUp := s.fcntUp + 1 }, ctx.cfg, ctx.region)

/-- the uplink counter after a frame was accepted or `rx2_complete` ran: it stops at the last value -/
def bumpFu (fu : Nat) : Nat := if fu = 0xFFFFFFFF then fu else fu + 1

/-- what an accepted frame reports when the uplink counter stands at `fu` -/
def accOut (fu N : Nat) (d : RxData) : RxOut :=
  if fu = 0xFFFFFFFF then { resp := .sessionExpired, downlink := none }
  else { resp := .downlinkReceived N, downlink := deliver d }

/-- the report for a frame that is not acted upon -/
def noUp : RxOut := { resp := .noUpdate, downlink := none }

theorem acceptFinish_eq (s : Session) (d : RxData) (N : Nat) (ctx : MacCtx) :
    acceptFinish s d N ctx =
      (accOut s.fcntUp N d,
       { s with fcntDown := some N, adrAckCnt := 0, pending := ctx.pending, ackOwed := s.ackOwed || d.confirmed,
                fcntUp := bumpFu s.fcntUp }, ctx.cfg, ctx.region) := by
  unfold acceptFinish accOut bumpFu
  by_cases hx : s.fcntUp = 0xFFFFFFFF <;> simp [hx]

/-- response of `rx2_complete` when the uplink counter is `fu` -/
def tmoResp (fu : Nat) (conf : Bool) : Response :=
  if fu = 0xFFFFFFFF then .sessionExpired else if conf then .noAck else .rxComplete

theorem nextLower_lt {r : RegionId} {cur c : Nat} (h : nextLowerDatarate r cur = some c) : c < cur := by
  unfold nextLowerDatarate at h
  have := List.mem_of_find?_eq_some h
  simp only [List.mem_reverse, List.mem_range] at this
  exact this

theorem adr_limit : Gen.Session.ADR_ACK_LIMIT.toNat = 64 := by decide
theorem adr_delay : Gen.Session.ADR_ACK_DELAY.toNat = 32 := by decide

/-- the ADR back-off of `rx2_complete` when the ADR acknowledgement count has reached `cnt`: from ADR_ACK_LIMIT +
ADR_ACK_DELAY on, every ADR_ACK_DELAY uplinks, one data rate down where the region has a lower one -/
def backoffCfg (r : RegionId) (cfg : Config) (cnt : Nat) : Config :=
  if cfg.adrEnabled = true ∧ cnt ≥ Gen.Session.ADR_ACK_LIMIT.toNat + Gen.Session.ADR_ACK_DELAY.toNat ∧
      (cnt - Gen.Session.ADR_ACK_LIMIT.toNat) % Gen.Session.ADR_ACK_DELAY.toNat = 0 then
    match nextLowerDatarate r cfg.dataRate with
    | some dr => { cfg with dataRate := dr }
    | none => cfg
  else cfg

/-- `Session::rx2_complete` in closed form: at the last uplink counter nothing moves; otherwise the counter advances, the
ADR count with it (saturating) while ADR is on, and the configuration backs off -/
theorem rx2Complete_eq (s : Session) (cfg : Config) (r : RegionId) :
    rx2Complete s cfg r =
      (tmoResp s.fcntUp s.confirmed,
       { s with fcntUp := bumpFu s.fcntUp,
                adrAckCnt := if s.fcntUp ≠ 0xFFFFFFFF ∧ cfg.adrEnabled = true then min (s.adrAckCnt + 1) 0xFFFFFFFF
                             else s.adrAckCnt },
       if s.fcntUp = 0xFFFFFFFF then cfg else backoffCfg r cfg (min (s.adrAckCnt + 1) 0xFFFFFFFF)) := by
  unfold rx2Complete tmoResp bumpFu backoffCfg
  by_cases hx : s.fcntUp = 0xFFFFFFFF
  · rw [if_pos (beq_iff_eq.mpr hx), if_pos hx, if_pos hx, if_pos hx, if_neg (fun h => h.1 hx)]
  · rw [if_neg (mt beq_iff_eq.mp hx), if_neg hx, if_neg hx, if_neg hx]
    by_cases hadr : cfg.adrEnabled = true
    · by_cases h1 : min (s.adrAckCnt + 1) 0xFFFFFFFF ≥ Gen.Session.ADR_ACK_LIMIT.toNat + Gen.Session.ADR_ACK_DELAY.toNat
      · by_cases h2 : (min (s.adrAckCnt + 1) 0xFFFFFFFF - Gen.Session.ADR_ACK_LIMIT.toNat) % Gen.Session.ADR_ACK_DELAY.toNat = 0
        · simp only [hadr, if_true, ge_iff_le, h1, h2, BEq.rfl, ne_eq, hx, not_false_eq_true, and_self]
          cases nextLowerDatarate r cfg.dataRate <;> rfl
        · simp only [hadr, if_true, if_false, ge_iff_le, h1, h2, beq_iff_eq, ne_eq, hx, not_false_eq_true, and_self, and_false]
      · simp only [hadr, if_true, if_false, ge_iff_le, h1, ne_eq, hx, not_false_eq_true, and_self, and_false, false_and]
    · simp only [hadr, Bool.false_eq_true, if_false, and_false, false_and]

theorem sessionHandleRx_eq (s : Session) (cfg : Config) (region : RegionState) (d : RxData) (mp : Nat) (snr : Int) (ig : Bool) :
    sessionHandleRx s cfg region d mp snr ig =
      if d.len > mp + 5 then
        pure (if ig then (noUp, s, cfg, region)
              else ({ resp := (rx2Complete s cfg region.id).1, downlink := none }, (rx2Complete s cfg region.id).2.1,
                    (rx2Complete s cfg region.id).2.2, region))
      else match (nextFcntDown s.fcntDown d.fcnt16).filter (d.micFcnt == some ·) with
        | some N => acceptCmds s.pending cfg region d snr ig >>= fun ctx => pure (acceptFinish s d N ctx)
        | none => pure (noUp, s, cfg, region) := by
  unfold sessionHandleRx
  split
  · cases ig <;> rfl
  · cases nextFcntDown s.fcntDown d.fcnt16 with
    | none => rfl
    | some N =>
      by_cases hm : d.micFcnt = some N
      · simp only [Option.filter, hm, bne_self_eq_false, beq_self_eq_true, Bool.false_eq_true, if_false, if_true, acceptFinish]
        -- the model sets the ACK flag by an `if` on `d.confirmed`, `acceptFinish` by `||`
        cases ig <;> simp only [acceptCmds, Bool.false_eq_true, if_false, if_true]
        all_goals
          refine bind_congr fun ctx => ?_
          cases d.confirmed <;> simp only [Bool.false_eq_true, if_false, if_true, Bool.or_false, Bool.or_true] <;> (split <;> rfl)
      · simp only [Option.filter, beq_false_of_ne hm, bne, Bool.not_false, if_true, Bool.false_eq_true, if_false]
        rfl

theorem accOut_cases (fu N : Nat) (d : RxData) :
    (accOut fu N d = { resp := .downlinkReceived N, downlink := deliver d } ∧ fu ≠ 0xFFFFFFFF)
    ∨ (accOut fu N d = { resp := .sessionExpired, downlink := none } ∧ fu = 0xFFFFFFFF) := by
  unfold accOut
  by_cases h : fu = 0xFFFFFFFF
  · exact .inr ⟨if_pos h, h⟩
  · exact .inl ⟨if_neg h, h⟩

theorem accOut_ne_noUpdate (fu N : Nat) (d : RxData) : ((accOut fu N d).resp == Response.noUpdate) = false := by
  unfold accOut; split <;> rfl

theorem tmoResp_ne_noUpdate (fu : Nat) (conf : Bool) : (tmoResp fu conf == Response.noUpdate) = false := by
  unfold tmoResp; cases conf <;> split <;> rfl

theorem bumpFu_max {fu : Nat} (h : fu = 0xFFFFFFFF) : bumpFu fu = 0xFFFFFFFF := by
  unfold bumpFu; rw [if_pos h]; exact h

theorem bumpFu_lt {fu : Nat} (h : fu < 4294967296) : bumpFu fu < 4294967296 := by
  unfold bumpFu; split <;> omega

/-- an accepted frame is answered `SessionExpired` exactly at the last counter -/
theorem accOut_exp {fu N : Nat} {d : RxData} : (accOut fu N d).resp = .sessionExpired ↔ fu = 0xFFFFFFFF := by
  unfold accOut
  split
  · exact ⟨fun _ => ‹_›, fun _ => rfl⟩
  · exact ⟨nofun, fun h => absurd h ‹_›⟩

/-- … and so is `rx2_complete` -/
theorem tmoResp_exp {fu : Nat} {conf : Bool} : tmoResp fu conf = .sessionExpired ↔ fu = 0xFFFFFFFF := by
  unfold tmoResp
  split
  · exact ⟨fun _ => ‹_›, fun _ => rfl⟩
  · exact ⟨fun h => (by cases conf <;> cases h), fun h => absurd h ‹_›⟩

theorem rx2Complete_shape (s : Session) (cfg : Config) (r : RegionId) :
    ((rx2Complete s cfg r).2.2 = cfg ∨
      ∃ d, nextLowerDatarate r cfg.dataRate = some d ∧ (rx2Complete s cfg r).2.2 = { cfg with dataRate := d }) ∧
    (rx2Complete s cfg r).2.1.pending = s.pending := by
  rw [rx2Complete_eq]
  refine ⟨?_, rfl⟩
  show (if _ then _ else _) = _ ∨ _
  unfold backoffCfg
  split
  · exact .inl rfl
  · split
    · cases hn : nextLowerDatarate r cfg.dataRate with
      | none => exact .inl rfl
      | some d => exact .inr ⟨d, rfl, rfl⟩
    · exact .inl rfl

/-- `Mac::set_adr`: switching ADR off restarts the ADR acknowledgement count of the session -/
theorem macSetAdr_eq (m : MacState) (on : Bool) :
    macSetAdr m on =
      { m with cfg := { m.cfg with adrEnabled := on },
               st := match m.st with
                 | .joined s => .joined { s with adrAckCnt := if on then s.adrAckCnt else 0 }
                 | st => st } := by
  unfold macSetAdr
  cases m.st <;> cases on <;> rfl

end Model
