import LoraVerif.Model.MacCmdFields
import LoraVerif.Lemmas.BitField
/-! What the lemmas on the command model start from: a checked access in range returns the element or slice, octet lists
(`IsBytes`), accessor lists none of which panicked (`AllOk`), `Frequency::value` on octets. -/
namespace MacCmd

@[simp] theorem index_cons_zero (s : String) (x : Nat) (xs : Bytes) : index s (x :: xs) 0 = .ok x := rfl
@[simp] theorem index_nil (s : String) (i : Nat) : index s [] i = .panic s := rfl

theorem index_ok {s : String} {d : Bytes} {i : Nat} (h : i < d.length) : index s d i = .ok d[i] := by
  simp [index, h]

theorem slice_ok {s : String} {d : Bytes} {a b : Nat} (h1 : a ≤ b) (h2 : b ≤ d.length) :
    slice s d a b = .ok ((d.drop a).take (b - a)) := by
  simp [slice, h1, h2]

theorem sliceFrom_ok {s : String} {d : Bytes} {a : Nat} (h : a ≤ d.length) : sliceFrom s d a = .ok (d.drop a) := by
  simp [sliceFrom, h]

/-- `slice.try_into().unwrap()` on a slice of the length asked for -/
theorem exact_ok {s : String} {n : Nat} {d : Bytes} (h : d.length = n) : exact s n d = .ok d := by simp [exact, h]

def IsBytes (d : Bytes) : Prop := ∀ x ∈ d, x < 256
/-- every accessor of the list returned: none panicked -/
def AllOk (l : List (String × Outcome Val)) : Prop := ∀ a ∈ l, a.2.isOk = true

@[simp] theorem isBytes_cons (a : Nat) (d : Bytes) : IsBytes (a :: d) ↔ a < 256 ∧ IsBytes d := List.forall_mem_cons
@[simp] theorem isBytes_nil : IsBytes [] := fun _ h => nomatch h
theorem IsBytes.append {a b : Bytes} : IsBytes (a ++ b) ↔ IsBytes a ∧ IsBytes b := List.forall_mem_append
theorem IsBytes.flatten {l : List Bytes} (h : IsBytes l.flatten) : ∀ x ∈ l, IsBytes x := by
  intro x hx y hy
  exact h y (List.mem_flatten.mpr ⟨x, hx, hy⟩)

theorem ckU32_ok {s : String} {v : Nat} (h : v < 4294967296) : ckU32 s v = .ok v := by simp [ckU32, h]

/-- `Frequency::value` of three octets: no `u32` step overflows (the largest value is `100 * (2^24 - 1)`) -/
theorem frequencyValue_eq (b0 b1 b2 : Nat) (h0 : b0 < 256) (h1 : b1 < 256) (h2 : b2 < 256) (rest : Bytes) :
    frequencyValue (b0 :: b1 :: b2 :: rest) = .ok (100 * (b0 + 256 * (b1 + 256 * b2))) := by
  have e : (b2 <<< 16) + (b1 <<< 8) = 256 * (b1 + 256 * b2) := by
    rw [Nat.shiftLeft_eq, Nat.shiftLeft_eq]; omega
  simp only [frequencyValue, index, List.getElem?_cons_zero, List.getElem?_cons_succ, Outcome.ok_bind, e]
  rw [ckU32_ok (by omega), Outcome.ok_bind, ckU32_ok (by omega), Outcome.ok_bind, ckU32_ok (by omega),
    Nat.add_comm]

/-! the code's low masks and its flag test, in the specification's `%` and `/` -/
theorem and15 (x : Nat) : x &&& 15 = x % 16 := Nat.and_two_pow_sub_one_eq_mod x 4
theorem and7 (x : Nat) : x &&& 7 = x % 8 := Nat.and_two_pow_sub_one_eq_mod x 3
theorem and3 (x : Nat) : x &&& 3 = x % 4 := Nat.and_two_pow_sub_one_eq_mod x 2
theorem and1 (x : Nat) : x &&& 1 = x % 2 := Nat.and_two_pow_sub_one_eq_mod x 1


/-- the code's `x & (1 << k) != 0` is bit `k` of `x` -/
theorem bit_eq (x k : Nat) : bit x k = decide (x / 2 ^ k % 2 = 1) := by
  rw [bit, Nat.one_shiftLeft, BitField.and_two_pow, ← Nat.testBit_eq_decide_div_mod_eq]
  cases x.testBit k <;> simp

end MacCmd
