import LoraVerif.Lemmas.PhyLemmas
/-!
# Register accesses of the two SX127x drivers, as the wire-level chip sees them

Both drivers — lora-phy's, modelled as `Sx127x.*`, and Semtech's reference, transcribed as `S127.*` (likewise
`Sx126x.*` / `S126.*`) — are straight-line sequences of register reads and writes.  For the registers that are
plain memory to the chip, a write is `Chip.setReg` and a read returns `c.regs a`; the equations below
let `simp` run such a program one access at a time without unfolding the chip.
-/
namespace Model.Phy
open Spec.Semtech Gen.PhyCodes127

/-- registers with no side effect on a write: not the FIFO, RegOpMode, RegFifoAddrPtr, RegIrqFlags -/
abbrev Plain127 (a : Nat) : Prop := a % 128 ≠ 0 ∧ a % 128 ≠ 1 ∧ a % 128 ≠ 13 ∧ a % 128 ≠ 18

def Chip.setReg (c : Chip) (a : Nat) (v : UInt8) : Chip := { c with regs := setAt c.regs a v }

/- not by `rfl`: `simp` discharges the side condition `(c.setReg ..).kind = .sx127x` of the access lemmas through
this equation and has to produce a proof of it, which a definitional unfolding does not give it -/
@[simp] theorem Chip.setReg_kind (c : Chip) (a : Nat) (v : UInt8) : (c.setReg a v).kind = c.kind := by cases c; rfl
@[simp] theorem Chip.setReg_regs (c : Chip) (a : Nat) (v : UInt8) : (c.setReg a v).regs = setAt c.regs a v := rfl
@[simp] theorem Chip.setReg_buffer (c : Chip) (a : Nat) (v : UInt8) : (c.setReg a v).buffer = c.buffer := rfl
@[simp] theorem Chip.setReg_fifoPtr (c : Chip) (a : Nat) (v : UInt8) : (c.setReg a v).fifoPtr = c.fifoPtr := rfl

@[simp] theorem setAt_eq (f : Nat → UInt8) (a : Nat) (v : UInt8) : setAt f a v a = v := by simp [setAt]
theorem setAt_ne (f : Nat → UInt8) {a x : Nat} (v : UInt8) (h : x ≠ a) : setAt f a v x = f x := by simp [setAt, h]

theorem Chip.write127_plain (c : Chip) (addr i : Nat) (b : UInt8) (rest : Bytes) (h0 : addr ≠ 0) (h : Plain127 (addr + i)) :
    c.write127 addr i (b :: rest) = (c.setReg ((addr + i) % 128) b).write127 addr (i + 1) rest := by
  obtain ⟨_, h1, h13, h18⟩ := h
  simp [Chip.write127, h0, h1, h13, h18, Chip.setReg]

/-- RegOpMode: the LongRangeMode bit follows the written value only from sleep to sleep -/
theorem Chip.write127_opMode (c : Chip) (b : UInt8) :
    c.write127 1 0 [b] =
      c.setReg 1 (if c.regs 1 &&& 7 = 0 ∧ b &&& 7 = 0 then b else (c.regs 1 &&& 0x80) ||| (b &&& 0x7f)) := by
  simp [Chip.write127, Chip.setReg]

/-- RegFifoAddrPtr also moves the FIFO pointer; RegIrqFlags is write-one-to-clear and holds nothing -/
theorem Chip.write127_fifoAddrPtr (c : Chip) (b : UInt8) : c.write127 13 0 [b] = { c.setReg 13 b with fifoPtr := b.toNat } := by
  simp [Chip.write127, Chip.setReg]
theorem Chip.write127_irqFlags (c : Chip) (b : UInt8) : c.write127 18 0 [b] = c := by
  simp [Chip.write127]

/-- all registers but the FIFO, RegFifoAddrPtr and RegIrqFlags answer a read with their content -/
theorem Chip.read127_plain (c : Chip) (addr i n : Nat) (h0 : addr ≠ 0) (h13 : (addr + i) % 128 ≠ 13) (h18 : (addr + i) % 128 ≠ 18) :
    c.read127 addr i (n + 1) = (c.regs ((addr + i) % 128) :: (c.read127 addr (i + 1) n).1, (c.read127 addr (i + 1) n).2) := by
  simp [Chip.read127, h0, h13, h18]

theorem Chip.transact127 (c : Chip) (hk : c.kind = .sx127x) (a0 : UInt8) (w : Bytes) (r : Nat) :
    c.transact (a0 :: w) r =
      if a0.toNat ≥ 128 then (List.replicate r 0, c.write127 (a0.toNat % 128) 0 w) else c.read127 (a0.toNat % 128) 0 r := by
  simp [Chip.transact, hk]

@[simp] theorem Chip.write127_nil (c : Chip) (addr i : Nat) : c.write127 addr i [] = c := rfl
@[simp] theorem Chip.read127_zero (c : Chip) (addr i : Nat) : c.read127 addr i 0 = ([], c) := rfl

abbrev regAddr (r : Register) : Nat := (Register.toInt r).toNat

theorem Sx127x.wr_eq (r : Register) : Sx127x.wr r = UInt8.ofNat (regAddr r + 128) := by cases r <;> rfl
theorem Sx127x.rd_eq (r : Register) : Sx127x.rd r = UInt8.ofNat (regAddr r) := by cases r <;> rfl
theorem regAddr_lt (r : Register) : regAddr r < 128 := by cases r <;> decide

theorem Sx127x.opSleep : byte (LoRaMode.value .Sleep) = 0x80 := by decide
theorem Sx127x.opStandby : byte (LoRaMode.value .Standby) = 0x81 := by decide
theorem Sx127x.wrOpMode : Sx127x.wr .RegOpMode = 0x81 := by decide

section
variable {α : Type} (c : Chip) (hk : c.kind = .sx127x)
include hk

theorem Sx127x.trace_writeBuffer (r : Register) (buf : Bytes) (k : Unit → Prog α) :
    (trace (Prog.bind (Sx127x.writeBuffer r buf) k) c).2 = (trace (k ()) (c.write127 (regAddr r) 0 buf)).2 := by
  have := regAddr_lt r
  simp [Sx127x.writeBuffer, intfWriteWithPayload, Prog.xfer, Prog.req, Chip.transact127 c hk, Sx127x.wr_eq,
    show (regAddr r + 128) % 256 = regAddr r + 128 by omega, show (regAddr r + 128) % 128 = regAddr r by omega]

theorem Sx127x.trace_write (r : Register) (v : UInt8) (k : Unit → Prog α) :
    (trace (Prog.bind (Sx127x.writeRegister r v) k) c).2 = (trace (k ()) (c.write127 (regAddr r) 0 [v])).2 :=
  Sx127x.trace_writeBuffer c hk r [v] k

theorem Sx127x.trace_write_last (r : Register) (v : UInt8) :
    (trace (Sx127x.writeRegister r v) c).2 = (c.write127 (regAddr r) 0 [v], .ok ()) := by
  simpa [Prog.bind_ret_right] using Sx127x.trace_write c hk r v .ret

theorem Sx127x.trace_read (r : Register) (k : UInt8 → Prog α) :
    (trace (Prog.bind (Sx127x.readRegister r) k) c).2 =
      (trace (k (UInt8.ofNat (byteAt (c.read127 (regAddr r) 0 1).1 0))) (c.read127 (regAddr r) 0 1).2).2 := by
  have := regAddr_lt r
  simp [Sx127x.readRegister, intfRead, Prog.xfer, Prog.req, Chip.transact127 c hk, Sx127x.rd_eq,
    show regAddr r % 256 = regAddr r by omega, show ¬ 128 ≤ regAddr r by omega, Nat.mod_eq_of_lt this]

theorem S127.trace_write (a : Nat) (ha : a < 128) (vs : Bytes) (k : Unit → Prog α) :
    (trace (Prog.bind (S127.writeRegister a vs) k) c).2 = (trace (k ()) (c.write127 a 0 vs)).2 := by
  have e : (u8 a ||| 0x80).toNat = a + 128 := by
    simp only [u8, UInt8.toNat_or, UInt8.toNat_ofNat', UInt8.reduceToNat]
    rw [Nat.or_comm, show a % 256 % 2 ^ 8 = a by omega]
    have : 128 + a = 128 ||| a := Nat.two_pow_add_eq_or_of_lt (i := 7) ha 1
    omega
  simp [S127.writeRegister, halWrite, Prog.xfer, Chip.transact127 c hk, e, show (a + 128) % 128 = a by omega]

theorem S127.trace_write_last (a : Nat) (ha : a < 128) (vs : Bytes) :
    (trace (S127.writeRegister a vs) c).2 = (c.write127 a 0 vs, .ok ()) := by
  simpa [Prog.bind_ret_right] using S127.trace_write c hk a ha vs .ret

theorem S127.trace_read (a : Nat) (ha : a < 128) (n : Nat) (k : Bytes → Prog α) :
    (trace (Prog.bind (S127.readRegister a n) k) c).2 = (trace (k (c.read127 a 0 n).1) (c.read127 a 0 n).2).2 := by
  have e : (u8 a &&& 0x7F).toNat = a := by
    simp only [u8, UInt8.toNat_and, UInt8.toNat_ofNat', UInt8.reduceToNat]
    rw [show a % 256 % 2 ^ 8 = a by omega, show (127 : Nat) = 2 ^ 7 - 1 from rfl, Nat.and_two_pow_sub_one_eq_mod]
    omega
  simp [S127.readRegister, halRead, Prog.xfer, Chip.transact127 c hk, e, show ¬ 128 ≤ a by omega, Nat.mod_eq_of_lt ha]

end

/-! ## `Sx1276::set_modulation_params` in sequence

The variant's program is four read-modify-writes followed by the two errata blocks.  The pieces get names here,
so that a proof about the whole program steps through the fields with the errata blocks still folded and
then treats each block by itself. -/
namespace Sx127x

/-- SF, BW, CR and the LDRO flag into RegModemConfig2 / 1 / 1 / 3 -/
def modFields1276 (sf bw crd : Int) (ldro : UInt8) : Prog Unit := do
  let c2 ← readRegister .RegModemConfig2
  writeRegister .RegModemConfig2 ((c2 &&& 0x0f) ||| (UInt8.ofNat ((sf.toNat * 16) % 256) &&& 0xf0))
  let c1 ← readRegister .RegModemConfig1
  writeRegister .RegModemConfig1 ((c1 &&& 0x0f) ||| UInt8.ofNat ((bw.toNat * 16) % 256))
  let c1 ← readRegister .RegModemConfig1
  writeRegister .RegModemConfig1 ((c1 &&& 0xf1) ||| UInt8.ofNat (((crd.toNat - 4) * 2) % 256))
  let c3 ← readRegister .RegModemConfig3
  writeRegister .RegModemConfig3 ((c3 &&& 0xf3) ||| (if ldro != 0 then 0x08 else 0x00))

/-- errata 2.1, on silicon 0x12 only: the 500 kHz optimisation registers -/
def errata21 (quirk : Bool) (bw : Bandwidth) (f : Nat) : Prog Unit :=
  if quirk then
    if bw = ._500KHz ∧ 862000000 ≤ f ∧ f ≤ 1020000000 then do
      writeRegister .RegHighBwOptimize1 0x02
      writeRegister .RegHighBwOptimize2 0x64
    else if bw = ._500KHz ∧ 410000000 ≤ f ∧ f ≤ 525000000 then do
      writeRegister .RegHighBwOptimize1 0x02
      writeRegister .RegHighBwOptimize2 0x7f
    else writeRegister .RegHighBwOptimize1 0x03
  else pure ()

/-- errata 2.3: AutomaticIFOn (RegDetectionOptimize bit 7) and the IF frequency -/
def errata23 (bw : Bandwidth) : Prog Unit := do
  let det ← readRegister .RegDetectionOptimize
  if bw = ._500KHz then writeRegister .RegDetectionOptimize (det ||| 0x80)
  else if hzOf bw ≥ 62500 then
    writeRegister .RegDetectionOptimize (det &&& 0x7f)
    writeRegister .RegIfFreq1 0x40
    writeRegister .RegIfFreq2 0x00
  else pure ()

theorem variantSetModulationParams_1276 (cfg : Config) (hc : cfg.chip = .sx1276) (d : Data) (m : ModulationParams) :
    variantSetModulationParams cfg d m = (do
      let bw ← errOr .UnavailableBandwidth (bandwidthValue .sx1276 m.bw)
      let sf ← errOr .UnavailableSpreadingFactor (spreading_factor_value m.sf)
      let crd ← errOr .InvalidConfiguration (coding_rate_denominator_value m.cr)
      modFields1276 sf bw crd m.ldro
      errata21 d.sensitivityQuirk m.bw m.freq
      errata23 m.bw) := by
  simp only [variantSetModulationParams, hc, modFields1276, errata21, bind_eq, Prog.bind_assoc]
  cases d.sensitivityQuirk
  · rfl
  · by_cases h1 : m.bw = ._500KHz ∧ 862000000 ≤ m.freq ∧ m.freq ≤ 1020000000
    · simp only [if_pos h1]; rfl
    · by_cases h2 : m.bw = ._500KHz ∧ 410000000 ≤ m.freq ∧ m.freq ≤ 525000000
      · simp only [if_neg h1, if_pos h2]; rfl
      · simp only [if_neg h1, if_neg h2]; rfl

end Sx127x

end Model.Phy
