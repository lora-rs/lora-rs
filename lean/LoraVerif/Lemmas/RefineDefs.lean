import LoraVerif.Model.HistoryC
import LoraVerif.Model.NbDevice
/-!
# Refinement of the history semantics by the device front-ends: definitions

* the abstraction functions from a script of radio answers to history events
  (`parseWin`, `abstractSendC`, `abstractJoinC`) — purely syntactic — and that a predicate on the frames of
  the script carries over to the frames of the event (`abstractC_shape`);
* `SimX X x y R`: the front-end computation `x` is simulated by the history computation `y`:
  if `x` returns, `y` returns a related value; if `x` fails, either `y` fails in the same way or the
  failure is one of the front-end's own (`Extra`: the `u32` arithmetic of the window timers, the
  model's bound on the frames heard in one `between_windows`).
-/
namespace Model

/-- the answer to the next radio call (`ok` once the script is exhausted) -/
def nextItem : List ScriptItem → ScriptItem × List ScriptItem
  | [] => (.ok, [])
  | i :: rest => (i, rest)

def ScriptItem.isErr : ScriptItem → Bool
  | .err => true
  | _ => false

/-- the frames `rx_continuous` hears before the timer wins (the item that ends the listening — `ok`
or an error, which the code swallows — is consumed), and the rest of the script -/
def leadFrames : List ScriptItem → List (RxView × Int) × List ScriptItem
  | [] => ([], [])
  | .frame snr v :: rest => ((v, snr) :: (leadFrames rest).1, (leadFrames rest).2)
  | .ok :: rest => ([], rest)
  | .err :: rest => ([], rest)

/-- `between_windows` read off the script: (radio error at its first call, frames heard, rest) -/
def parseBetween (cc : Bool) (s : List ScriptItem) : Bool × List (RxView × Int) × List ScriptItem :=
  if (nextItem s).1.isErr then (true, [], (nextItem s).2)
  else if cc then (false, leadFrames (nextItem s).2) else (false, [], (nextItem s).2)

/-- what the script makes of one receive window with what precedes it -/
structure WinAbs where
  /-- Class C frames heard while waiting for the window -/
  cs : List (RxView × Int)
  /-- a radio error before the window was served -/
  errBefore : Bool
  /-- heard in the window -/
  f : Option (RxView × Int)
  /-- a radio error in `window_complete` -/
  errAfter : Bool
  deriving Repr

def ScriptItem.frame? : ScriptItem → Option (RxView × Int)
  | .frame snr v => some (v, snr)
  | _ => none

/-- `setup_rx`, `rx_single`, `window_complete` read off the script -/
def parseListen (cs : List (RxView × Int)) (s : List ScriptItem) : WinAbs × List ScriptItem :=
  if (nextItem s).1.isErr then ({ cs := cs, errBefore := true, f := none, errAfter := false }, (nextItem s).2)
  else if (nextItem (nextItem s).2).1.isErr then
    ({ cs := cs, errBefore := true, f := none, errAfter := false }, (nextItem (nextItem s).2).2)
  else
    ({ cs := cs, errBefore := false, f := (nextItem (nextItem s).2).1.frame?,
       errAfter := (nextItem (nextItem (nextItem s).2).2).1.isErr }, (nextItem (nextItem (nextItem s).2).2).2)

def parseWin (cc : Bool) (s : List ScriptItem) : WinAbs × List ScriptItem :=
  if (parseBetween cc s).1 then ({ cs := [], errBefore := true, f := none, errAfter := false }, (parseBetween cc s).2.2)
  else parseListen (parseBetween cc s).2.1 (parseBetween cc s).2.2

/-- the fault position the two windows' errors amount to (the first one in program order) -/
def faultOf (w1 w2 : WinAbs) : Option FaultPos :=
  if w1.errBefore then some .before1
  else if w1.errAfter then some .close1
  else if w2.errBefore then some .before2
  else if w2.errAfter then some .close2
  else none

def abstractSendC (cfg : DevCfg) (script : List ScriptItem) (data : List Nat) (port : Nat) (conf : Bool) : EvC :=
  if (nextItem script).1.isErr then .uplinkC cfg.classC data port conf (some .tx) [] none [] none
  else
    let w1 := parseWin cfg.classC (nextItem script).2
    let w2 := parseWin cfg.classC w1.2
    .uplinkC cfg.classC data port conf (faultOf w1.1 w2.1) w1.1.cs w1.1.f w2.1.cs w2.1.f

def abstractJoinC (cfg : DevCfg) (script : List ScriptItem) : EvC :=
  if (nextItem script).1.isErr then .joinC cfg.classC (some .tx) [] none [] none
  else
    let w1 := parseWin cfg.classC (nextItem script).2
    let w2 := parseWin cfg.classC w1.2
    .joinC cfg.classC (faultOf w1.1 w2.1) w1.1.cs w1.1.f w2.1.cs w2.1.f

def ScriptItem.allView (P : RxView → Bool) : ScriptItem → Bool
  | .frame _ v => P v
  | _ => true

def rxAll (P : RxView → Bool) : Option (RxView × Int) → Bool
  | some (v, _) => P v
  | none => true

theorem nextItem_all (P : RxView → Bool) {s : List ScriptItem} (h : s.all (ScriptItem.allView P) = true) :
    (nextItem s).1.allView P = true ∧ (nextItem s).2.all (ScriptItem.allView P) = true := by
  cases s with
  | nil => exact ⟨rfl, rfl⟩
  | cons i rest =>
    simp only [List.all_cons, Bool.and_eq_true] at h
    exact ⟨h.1, h.2⟩

theorem leadFrames_all (P : RxView → Bool) {s : List ScriptItem} (h : s.all (ScriptItem.allView P) = true) :
    (leadFrames s).1.all (fun c => P c.1) = true ∧ (leadFrames s).2.all (ScriptItem.allView P) = true := by
  induction s with
  | nil => exact ⟨rfl, rfl⟩
  | cons i rest ih =>
    simp only [List.all_cons, Bool.and_eq_true] at h
    cases i with
    | ok | err => exact ⟨rfl, h.2⟩
    | frame snr v =>
      simp only [leadFrames, List.all_cons, Bool.and_eq_true]
      exact ⟨⟨h.1, (ih h.2).1⟩, (ih h.2).2⟩

theorem leadFrames_cs_all (P : RxView → Bool) {s : List ScriptItem} (h : s.all (ScriptItem.allView P) = true) :
    (leadFrames s).1.all (fun c => P c.1) = true :=
  (leadFrames_all P h).1

theorem frame?_all (P : RxView → Bool) {i : ScriptItem} (h : i.allView P = true) : rxAll P i.frame? = true := by
  cases i <;> first | rfl | exact h

theorem parseWin_allView (P : RxView → Bool) (cc : Bool) {s : List ScriptItem} (h : s.all (ScriptItem.allView P) = true) :
    (parseWin cc s).1.cs.all (fun c => P c.1) = true ∧ rxAll P (parseWin cc s).1.f = true ∧
      (parseWin cc s).2.all (ScriptItem.allView P) = true := by
  have hb : (parseBetween cc s).2.1.all (fun c => P c.1) = true ∧ (parseBetween cc s).2.2.all (ScriptItem.allView P) = true := by
    unfold parseBetween
    split
    · exact ⟨rfl, (nextItem_all P h).2⟩
    · split
      · exact leadFrames_all P (nextItem_all P h).2
      · exact ⟨rfl, (nextItem_all P h).2⟩
  unfold parseWin
  split
  · exact ⟨rfl, rfl, hb.2⟩
  · unfold parseListen
    have h1 := nextItem_all P hb.2
    have h2 := nextItem_all P h1.2
    have h3 := nextItem_all P h2.2
    split
    · exact ⟨hb.1, rfl, h1.2⟩
    · split
      · exact ⟨hb.1, rfl, h2.2⟩
      · exact ⟨hb.1, frame?_all P h2.1, h3.2⟩

theorem parseWin_all (P : RxView → Bool) (cc : Bool) {s : List ScriptItem} (h : s.all (ScriptItem.allView P) = true) :
    rxAll P (parseWin cc s).1.f = true ∧ (parseWin cc s).2.all (ScriptItem.allView P) = true :=
  (parseWin_allView P cc h).2

/-- `send` and `join` under the same script yield events with the same fault position and frames -/
theorem abstractC_shape (cfg : DevCfg) (script : List ScriptItem) : ∃ fault c1 rx1 c2 rx2,
    (∀ data port conf, abstractSendC cfg script data port conf = .uplinkC cfg.classC data port conf fault c1 rx1 c2 rx2) ∧
    abstractJoinC cfg script = .joinC cfg.classC fault c1 rx1 c2 rx2 ∧
    ∀ P, script.all (ScriptItem.allView P) = true →
      c1.all (fun c => P c.1) = true ∧ rxAll P rx1 = true ∧ c2.all (fun c => P c.1) = true ∧ rxAll P rx2 = true := by
  unfold abstractSendC abstractJoinC
  split
  · exact ⟨_, _, _, _, _, fun _ _ _ => rfl, rfl, fun P _ => ⟨rfl, rfl, rfl, rfl⟩⟩
  · refine ⟨_, _, _, _, _, fun _ _ _ => rfl, rfl, fun P h => ?_⟩
    have hw1 := parseWin_allView P cfg.classC (nextItem_all P h).2
    have hw2 := parseWin_allView P cfg.classC hw1.2.2
    exact ⟨hw1.1, hw1.2.1, hw2.1, hw2.2.1⟩

/-- `let _ = dl.push(..)` on a queue of capacity `cap` (most recent first) -/
def pushDl (cap : Nat) (q : List (Nat × List Nat)) (o : RxOut) : List (Nat × List Nat) :=
  match o.downlink with
  | some d => if q.length < cap then d :: q else q
  | none => q

def pushDls (cap : Nat) (q : List (Nat × List Nat)) (os : List RxOut) : List (Nat × List Nat) := os.foldl (pushDl cap) q

/-- failures of the front-end that are not failures of the MAC: the `u32` arithmetic
`delay + tx_ms − lead` of the window timers, and the model's bound (64) on the number of frames heard
in ONE `between_windows` -/
def Extra : Fault → Prop
  | .panic s => s = "rx start delay overflow" ∨ s = "rx start delay underflow"
  | .hang s => s = "between_windows"

/-- simulation up to the front-end's own failures `X` (`Extra`, or a sharper set) -/
def SimX {α β} (X : Fault → Prop) (x : M α) (y : M β) (R : α → β → Prop) : Prop :=
  match x with
  | .ok a => ∃ b, y = .ok b ∧ R a b
  | .error e => X e ∨ y = .error e

theorem SimX.pure {X : Fault → Prop} {α β} {a : α} {b : β} {R : α → β → Prop} (h : R a b) : SimX X (Pure.pure a : M α) (Pure.pure b : M β) R :=
  ⟨b, rfl, h⟩

theorem SimX.ok {X : Fault → Prop} {α β} {a : α} {b : β} {R : α → β → Prop} (h : R a b) : SimX X (Except.ok a : M α) (Except.ok b : M β) R :=
  ⟨b, rfl, h⟩

variable {X : Fault → Prop} {α β γ δ} {x : M α} {y : M β}

theorem SimX.bind_eq {f : α → M γ} {k : β → M δ} {R : α → β → Prop} {Q : γ → δ → Prop}
    (h : SimX X x y R) (hf : ∀ a b, x = .ok a → y = .ok b → R a b → SimX X (f a) (k b) Q) : SimX X (x >>= f) (y >>= k) Q := by
  cases x with
  | ok a =>
    obtain ⟨b, rfl, hr⟩ := h
    exact hf a b rfl rfl hr
  | error e =>
    rcases h with h | rfl
    · exact Or.inl h
    · exact Or.inr rfl

theorem SimX.bind {f : α → M γ} {k : β → M δ} {R : α → β → Prop} {Q : γ → δ → Prop}
    (h : SimX X x y R) (hf : ∀ a b, R a b → SimX X (f a) (k b) Q) : SimX X (x >>= f) (y >>= k) Q :=
  h.bind_eq fun a b _ _ => hf a b

theorem SimX.same (x : M α) {f : α → M γ} {k : α → M δ} {Q : γ → δ → Prop}
    (hf : ∀ a, x = .ok a → SimX X (f a) (k a) Q) : SimX X (x >>= f) (x >>= k) Q := by
  cases x with
  | ok a => exact hf a rfl
  | error e => exact Or.inr rfl

/-- a computation only the front-end performs, which can only fail in the front-end's own ways -/
theorem SimX.extra {f : α → M γ} {y : M δ} {Q : γ → δ → Prop}
    (hx : ∀ e, x = .error e → X e) (hf : ∀ a, x = .ok a → SimX X (f a) y Q) : SimX X (x >>= f) y Q := by
  cases x with
  | ok a => exact hf a rfl
  | error e => exact Or.inl (hx e rfl)

theorem SimX.map_right {g : β → δ} {R : α → β → Prop} {Q : α → δ → Prop}
    (h : SimX X x y R) (hq : ∀ a b, R a b → Q a (g b)) : SimX X x (y >>= fun b => Pure.pure (g b)) Q := by
  cases x with
  | ok a =>
    obtain ⟨b, rfl, hr⟩ := h
    exact ⟨g b, rfl, hq a b hr⟩
  | error e =>
    rcases h with h | rfl
    · exact Or.inl h
    · exact Or.inr rfl

theorem SimX.map_left {f : α → γ} {R : α → β → Prop} {Q : γ → β → Prop}
    (h : SimX X x y R) (hq : ∀ a b, x = .ok a → y = .ok b → R a b → Q (f a) b) :
    SimX X (x >>= fun a => Pure.pure (f a)) y Q := by
  cases x with
  | ok a =>
    obtain ⟨b, rfl, hr⟩ := h
    exact ⟨b, rfl, hq a b rfl rfl hr⟩
  | error e => exact h

theorem SimX.of_pure {b : β} {b' : δ} {R : α → β → Prop} {Q : α → δ → Prop}
    (h : SimX X x (Pure.pure b : M β) R) (hq : ∀ a, R a b → Q a b') : SimX X x (Pure.pure b' : M δ) Q := by
  cases x with
  | ok a =>
    obtain ⟨b0, e, hr⟩ := h
    cases e
    exact ⟨b', rfl, hq a hr⟩
  | error e =>
    rcases h with h | h
    · exact Or.inl h
    · cases h

theorem SimX.mono {R Q : α → β → Prop} (h : SimX X x y R) (hq : ∀ a b, R a b → Q a b) : SimX X x y Q := by
  cases x with
  | ok a =>
    obtain ⟨b, e, hr⟩ := h
    exact ⟨b, e, hq a b hr⟩
  | error e => exact h

theorem SimX.elim_ok {R : α → β → Prop} {a : α} (h : SimX X x y R) (e : x = .ok a) :
    ∃ b, y = .ok b ∧ R a b := by
  subst e; exact h

theorem SimX.elim_error {R : α → β → Prop} {f : Fault} (h : SimX X x y R) (e : x = .error f) :
    X f ∨ y = .error f := by
  subst e; exact h

end Model
