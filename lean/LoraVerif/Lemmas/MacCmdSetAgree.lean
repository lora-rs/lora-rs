import LoraVerif.Model.MacCmdCreators
import LoraVerif.Lemmas.MacCmdAccessors
import LoraVerif.Lemmas.FieldAlgebra
/-!
# The model's setters compute the specification's field update (`SetAgree`), per setter

For every fixed-length command and every setter the crate offers: on a creator whose payload octets are
`< 256`, the setter as coded (`Model/MacCmdCreators.lean`: masks, shifts, `copy_from_slice`) returns without
panic, gives the verdict the specification's policy gives (refusal of out-of-range values for the fallible
setters) and leaves exactly the payload `Spec.MacCmd.applySetter` describes (the field replaced, every other
bit kept).

The setters are built from a handful of primitives (`setRaw`, `setFlag`, `setLowNibbleChecked`, `setBytes`,
`copyInto ∘ toLeBytes`, two `modByte`s on `data[1]`); each primitive is shown once, for any payload, to perform the
specification's write of the field it addresses.  A per-setter statement puts two things together: the table
`Spec.MacCmd.fieldSetters` sends command and setter to `applyField lo w policy` (`SetAgree.of_layout`, the look-up evaluated by
the kernel), and the creator's `match` on the setter leads to the primitive that performs that write (unfolded when the
primitive's theorem is applied).
-/
-- the per-setter statements keep the octet bounds of all their octets, also those the proof does not need; those on the 12- and
-- 29-octet payloads give the payload as `pre ++ mid ++ post` (the octets before the field, the field's, those after it) with
-- `post` by its length: the proofs use only that this is a list of octets long enough, so `hpl` and `hpre` go unused
set_option linter.unusedVariables false
namespace MacCmd
open Spec.MacCmd (setField setFieldBytes applyField leValue)

def toSpecRes : SetRes → Option String
  | .ok => none
  | .err e => some e

/-- the model setter and the specification's setter agree: same verdict, same payload afterwards, no panic -/
def SetAgree (m : Outcome (SetRes × Creator)) (cid : Nat) (s : Option (Option String × Bytes)) : Prop :=
  ∃ r p', m = .ok (r, { data := cid :: p', count := 0 }) ∧ s = some (toSpecRes r, p')

/-- a setter of the specification's table: it is enough to agree with the write of the table's field -/
theorem SetAgree.of_layout {m : Outcome (SetRes × Creator)} {cid : Nat} {name setter : String} {lo w : Nat} {pol : Spec.MacCmd.Policy}
    {wrap : Bytes → Bytes} {p : Bytes} {a : Spec.MacCmd.Arg}
    (h : Spec.MacCmd.layout name setter = some (lo, w, pol)) (hm : SetAgree m cid (applyField lo w pol p a)) :
    SetAgree m cid (Spec.MacCmd.applySetter wrap name p setter a) :=
  Spec.MacCmd.applySetter_of_layout h wrap p a ▸ hm

/-! The code's mask-and-or on one octet is the specification's field write on that octet. -/

/-- clear the bits of the field `[k, k + w)`, or the value in: `BitField.mask_write` on an octet -/
theorem octet_write {o k w v : Nat} (ho : o < 256) (h : k + w ≤ 8) (hv : v < 2 ^ w) :
    (o &&& (255 - (2 ^ w - 1) <<< k)) ||| (v <<< k) = setField o k w v :=
  BitField.mask_write (n := 8) ho h hv

/-- `data[1] &= !low; data[1] |= v` -/
theorem pat_low {o w v : Nat} (ho : o < 256) (hw : w ≤ 8) (hv : v < 2 ^ w) : (o &&& (255 - (2 ^ w - 1))) ||| v = setField o 0 w v :=
  octet_write (k := 0) ho (by omega) hv

theorem pat_hi (o : Nat) (ho : o < 256) (v : Nat) (hv : v < 16) : (o &&& 15) ||| ((v <<< 4) % 256) = setField o 4 4 v :=
  (Nat.mod_eq_of_lt (BitField.shiftLeft_lt (n := 8) (k := 4) (w := 4) hv (by decide))).symm ▸ octet_write (k := 4) (w := 4) ho (by decide) hv

theorem pat_flag (k : Nat) (hk : k < 8) (o : Nat) (ho : o < 256) (v : Nat) (hv : v < 2) :
    (o &&& (255 - (1 <<< k))) ||| ((v <<< k) % 256) = setField o k 1 v :=
  (Nat.mod_eq_of_lt (BitField.shiftLeft_lt (n := 8) (k := k) (w := 1) hv (by omega))).symm ▸ octet_write (w := 1) ho (by omega) hv

theorem pat_and251 (o : Nat) (ho : o < 256) : o &&& 251 = setField o 2 1 0 := by
  simpa using octet_write (k := 2) (w := 1) (v := 0) ho (by decide) (by decide)

/-- `data[i] |= 1 << m`: sets bit `m`, of any number -/
theorem or_two_pow (o m : Nat) : o ||| 2 ^ m = setField o m 1 1 := by
  apply Nat.eq_of_testBit_eq; intro i
  rw [Spec.MacCmd.testBit_setField, Nat.testBit_or, Nat.testBit_two_pow]
  by_cases h1 : i < m
  · simp [h1, show m ≠ i by omega]
  · by_cases h2 : i = m
    · subst h2; simp
    · simp [h1, show ¬ i < m + 1 by omega, show m ≠ i by omega]

theorem pat_or4 (o : Nat) : o ||| 4 = setField o 2 1 1 := or_two_pow o 2

/-- the specification leaves the payload alone when the bit is set already -/
theorem pat_orbit (o m : Nat) : o ||| (1 <<< m) = if o / 2 ^ m % 2 = 1 then o else setField o m 1 1 := by
  rw [Nat.one_shiftLeft]
  split
  · rename_i h
    apply Nat.eq_of_testBit_eq; intro i
    rw [Nat.testBit_or, Nat.testBit_two_pow]
    by_cases e : m = i
    · subst e; simp [Nat.testBit_eq_decide_div_mod_eq, h]
    · simp [e]
  · exact or_two_pow o m

theorem toLeBytes_eq (n v : Nat) : toLeBytes n v = Spec.MacCmd.toLe n v := by
  induction n generalizing v with
  | zero => rfl
  | succ n ih => simp [toLeBytes, Spec.MacCmd.toLe, ih]

theorem modByte_one (s : String) (cid b : Nat) (rest : Bytes) (f : Nat → Nat) :
    modByte s (cid :: b :: rest) 1 f = .ok (cid :: f b :: rest) := rfl

theorem copyInto_succ (s : String) (cid : Nat) (p src : Bytes) (i n : Nat) (hn : src.length = n) (h : i + n ≤ p.length) :
    copyInto s (cid :: p) (i + 1) (i + n + 1) src = .ok (cid :: (p.take i ++ src ++ p.drop (i + n))) := by
  have : n = i + n + 1 - (i + 1) := by omega
  simp [copyInto, hn, ← this]; omega

section
variable {cid b v k w i n : Nat} {rest p src : Bytes} {m : Outcome (SetRes × Creator)}

theorem agree_head (h : k + w ≤ 8) (hp : IsBytes (b :: rest))
    (hm : m = .ok (.ok, ⟨cid :: setField b k w v :: rest, 0⟩)) : SetAgree m cid (applyField k w .mask (b :: rest) (.n v)) :=
  ⟨.ok, _, hm, by
    rw [isBytes_cons] at hp
    simp only [applyField, toSpecRes, Spec.MacCmd.setFieldBytes_cons_low b rest k w v h hp.1 hp.2]⟩

theorem agree_head_checked {e : String} (h : k + w ≤ 8) (hp : IsBytes (b :: rest))
    (hr : ¬ v < 2 ^ w → m = .ok (.err e, ⟨cid :: b :: rest, 0⟩))
    (ho : v < 2 ^ w → m = .ok (.ok, ⟨cid :: setField b k w v :: rest, 0⟩)) :
    SetAgree m cid (applyField k w (.refuse e) (b :: rest) (.n v)) := by
  rw [isBytes_cons] at hp
  by_cases hv : v < 2 ^ w
  · exact ⟨.ok, _, ho hv, by
      simp only [applyField, hv, if_true, toSpecRes, Spec.MacCmd.setFieldBytes_cons_low b rest k w v h hp.1 hp.2]⟩
  · exact ⟨.err e, _, hr hv, by simp only [applyField, hv, if_false, toSpecRes]⟩

theorem setFlag_agree (hp : IsBytes (b :: rest)) (hk : k < 8) (hv : v < 2) :
    SetAgree (setFlag ⟨cid :: b :: rest, 0⟩ k (.n v)) cid (applyField k 1 .mask (b :: rest) (.n v)) :=
  agree_head (by omega) hp (by
    simp only [setFlag, modByte_one, Outcome.ok_bind, okD, pat_flag k hk b ((isBytes_cons _ _).mp hp).1 v hv])

theorem setLowNibbleChecked_agree {e : String} (hp : IsBytes (b :: rest)) :
    SetAgree (setLowNibbleChecked ⟨cid :: b :: rest, 0⟩ e (.n v)) cid (applyField 0 4 (.refuse e) (b :: rest) (.n v)) :=
  agree_head_checked (by decide) hp
    (fun h => by simp only [setLowNibbleChecked, show v > 15 by omega, if_true, refuse])
    (fun h => by
      simp only [setLowNibbleChecked, show ¬ v > 15 by omega, if_false, modByte_one, Outcome.ok_bind, okD,
        (pat_low (w := 4) ((isBytes_cons _ _).mp hp).1 (by decide) h : b &&& 240 ||| v = setField b 0 4 v)])

/-- `data[1] &= 0b1111_1100; data[1] |= v & 0b11`, the McGroupIDHeader setter of four creators -/
theorem groupIdHeader_agree {s1 s2 : String} (hp : IsBytes (b :: rest))
    (hm : m = (do
      let d ← modByte s1 (cid :: b :: rest) 1 (· &&& 252)
      let d ← modByte s2 d 1 (· ||| (v &&& 3))
      okD ⟨cid :: b :: rest, 0⟩ d)) :
    SetAgree m cid (applyField 0 2 .mask (b :: rest) (.n v)) :=
  agree_head (by decide) hp (by
    simp only [hm, modByte_one, Outcome.ok_bind, okD, and3, (pat_low (w := 2) ((isBytes_cons _ _).mp hp).1 (by decide) (Nat.mod_lt v (by decide)) : b &&& 252 ||| v % 4 = setField b 0 2 (v % 4)),
      Spec.MacCmd.setField_mod b 0 2 v])

theorem splice_agree (hn : src.length = n) (hp : IsBytes p) (hs : IsBytes src) (h : i + n ≤ p.length)
    (hm : m = .ok (.ok, ⟨cid :: (p.take i ++ src ++ p.drop (i + n)), 0⟩)) :
    SetAgree m cid (applyField (8 * i) (8 * n) .mask p (.bytes src)) := by
  subst hn
  exact ⟨.ok, _, hm, by simp only [applyField, toSpecRes, Spec.MacCmd.setFieldBytes_splice p src i hp hs h]⟩

theorem setBytes_agree (hn : src.length = n) (hp : IsBytes p) (hs : IsBytes src) (h : i + n ≤ p.length) :
    SetAgree (setBytes ⟨cid :: p, 0⟩ (i + 1) (i + n + 1) (.bytes src)) cid (applyField (8 * i) (8 * n) .mask p (.bytes src)) :=
  splice_agree hn hp hs h (by simp only [setBytes, copyInto_succ _ _ _ _ _ _ hn h, Outcome.ok_bind, okD])

/-- `data[i + 1 .. i + n + 1].copy_from_slice(&v.to_le_bytes())` -/
theorem copyLe_agree {s : String} (hp : IsBytes p) (h : i + n ≤ p.length) (hv : v < 256 ^ n)
    (hm : m = (do let d ← copyInto s (cid :: p) (i + 1) (i + n + 1) (toLeBytes n v); okD ⟨cid :: p, 0⟩ d)) :
    SetAgree m cid (applyField (8 * i) (8 * n) .mask p (.n v)) := by
  have := splice_agree (cid := cid) (m := m) (Spec.MacCmd.toLe_length n v) hp (Spec.MacCmd.toLe_isBytes n v) h (by
    rw [hm, toLeBytes_eq, copyInto_succ _ _ _ _ _ _ (Spec.MacCmd.toLe_length n v) h]; rfl)
  simpa only [applyField, Spec.MacCmd.leValue_toLe_lt n v hv] using this

/-- a setter that stores `v as u8` in payload octet `i` -/
theorem octet_agree (hp : IsBytes p) (hi : i < p.length) (hm : m = .ok (.ok, ⟨cid :: p.set i (v % 256), 0⟩)) :
    SetAgree m cid (applyField (8 * i) 8 .mask p (.n v)) := by
  have := splice_agree (cid := cid) (m := m) (src := [v % 256]) (n := 1) rfl hp (by simp [IsBytes]; omega) hi
    (by simp [hm, List.set_eq_take_append_cons_drop, hi])
  simpa only [applyField, leValue, Nat.mul_zero, Nat.add_zero, Nat.mul_one, Spec.MacCmd.setFieldBytes_mod p (8 * i) 8 v] using this

theorem setRaw_agree (hp : IsBytes p) (hi : i < p.length) (hv : v < 256) :
    SetAgree (setRaw ⟨cid :: p, 0⟩ (i + 1) (.n v)) cid (applyField (8 * i) 8 .mask p (.n v)) :=
  octet_agree hp hi (by simp [setRaw, setByte, hi, okD, Nat.mod_eq_of_lt hv])
end

theorem set_LinkCheckAns_set_margin (wrap : Bytes → Bytes) (cid b0 b1 v : Nat) (h0 : b0 < 256) (h1 : b1 < 256) (hv : v < 256) :
    SetAgree (setLinkCheckAns { data := cid :: [b0, b1], count := 0 } "set_margin" (.n v)) cid
      (Spec.MacCmd.applySetter wrap "LinkCheckAns" [b0, b1] "set_margin" (.n v)) :=
  .of_layout (by decide +kernel) (setRaw_agree (i := 0) (by simp [*]) (by simp) hv)

theorem set_LinkCheckAns_set_gateway_count (wrap : Bytes → Bytes) (cid b0 b1 v : Nat) (h0 : b0 < 256) (h1 : b1 < 256) (hv : v < 256) :
    SetAgree (setLinkCheckAns { data := cid :: [b0, b1], count := 0 } "set_gateway_count" (.n v)) cid
      (Spec.MacCmd.applySetter wrap "LinkCheckAns" [b0, b1] "set_gateway_count" (.n v)) :=
  .of_layout (by decide +kernel) (setRaw_agree (i := 1) (by simp [*]) (by simp) hv)

theorem set_LinkADRReq_set_data_rate (wrap : Bytes → Bytes) (cid b0 b1 b2 b3 v : Nat) (h0 : b0 < 256) (h1 : b1 < 256) (h2 : b2 < 256) (h3 : b3 < 256) (hv : v < 256) :
    SetAgree (setLinkADRReq { data := cid :: [b0, b1, b2, b3], count := 0 } "set_data_rate" (.n v)) cid
      (Spec.MacCmd.applySetter wrap "LinkADRReq" [b0, b1, b2, b3] "set_data_rate" (.n v)) :=
  .of_layout (by decide +kernel) (agree_head_checked (e := "InvalidDataRate") (k := 4) (w := 4) (by decide) (by simp [*])
    (fun h => by simp only [setLinkADRReq, show v > 15 by omega, if_true, refuse])
    (fun h => by simp only [setLinkADRReq, show ¬ v > 15 by omega, if_false, modByte_one, Outcome.ok_bind, okD, pat_hi b0 h0 v h]))

theorem set_LinkADRReq_set_tx_power (wrap : Bytes → Bytes) (cid b0 b1 b2 b3 v : Nat) (h0 : b0 < 256) (h1 : b1 < 256) (h2 : b2 < 256) (h3 : b3 < 256) (hv : v < 256) :
    SetAgree (setLinkADRReq { data := cid :: [b0, b1, b2, b3], count := 0 } "set_tx_power" (.n v)) cid
      (Spec.MacCmd.applySetter wrap "LinkADRReq" [b0, b1, b2, b3] "set_tx_power" (.n v)) :=
  .of_layout (by decide +kernel) (agree_head_checked (e := "InvalidTxPower") (k := 0) (w := 4) (by decide) (by simp [*])
    (fun h => by simp only [setLinkADRReq, show v > 15 by omega, if_true, refuse])
    (fun h => by
      simp only [setLinkADRReq, show ¬ v > 15 by omega, if_false, modByte_one, Outcome.ok_bind, okD, and15, Nat.mod_eq_of_lt h,
        (pat_low (w := 4) h0 (by decide) h : b0 &&& 240 ||| v = setField b0 0 4 v)]))

theorem set_LinkADRReq_set_channel_mask (wrap : Bytes → Bytes) (cid b0 b1 b2 b3 c0 c1 : Nat) (h0 : b0 < 256) (h1 : b1 < 256) (h2 : b2 < 256) (h3 : b3 < 256) (g0 : c0 < 256) (g1 : c1 < 256) :
    SetAgree (setLinkADRReq { data := cid :: [b0, b1, b2, b3], count := 0 } "set_channel_mask" (.bytes [c0, c1])) cid
      (Spec.MacCmd.applySetter wrap "LinkADRReq" [b0, b1, b2, b3] "set_channel_mask" (.bytes [c0, c1])) :=
  .of_layout (by decide +kernel) (splice_agree (i := 1) (n := 2) rfl (by simp [*]) (by simp [*]) (by simp) rfl)

theorem set_LinkADRReq_set_redundancy (wrap : Bytes → Bytes) (cid b0 b1 b2 b3 v : Nat) (h0 : b0 < 256) (h1 : b1 < 256) (h2 : b2 < 256) (h3 : b3 < 256) (hv : v < 256) :
    SetAgree (setLinkADRReq { data := cid :: [b0, b1, b2, b3], count := 0 } "set_redundancy" (.n v)) cid
      (Spec.MacCmd.applySetter wrap "LinkADRReq" [b0, b1, b2, b3] "set_redundancy" (.n v)) :=
  .of_layout (by decide +kernel) (setRaw_agree (i := 3) (by simp [*]) (by simp) hv)

theorem set_LinkADRAns_set_channel_mask_ack (wrap : Bytes → Bytes) (cid b0 v : Nat) (h0 : b0 < 256) (hv : v < 2) :
    SetAgree (setLinkADRAns { data := cid :: [b0], count := 0 } "set_channel_mask_ack" (.n v)) cid
      (Spec.MacCmd.applySetter wrap "LinkADRAns" [b0] "set_channel_mask_ack" (.n v)) :=
  .of_layout (by decide +kernel) (setFlag_agree (by simp [*]) (by decide) hv)

theorem set_LinkADRAns_set_data_rate_ack (wrap : Bytes → Bytes) (cid b0 v : Nat) (h0 : b0 < 256) (hv : v < 2) :
    SetAgree (setLinkADRAns { data := cid :: [b0], count := 0 } "set_data_rate_ack" (.n v)) cid
      (Spec.MacCmd.applySetter wrap "LinkADRAns" [b0] "set_data_rate_ack" (.n v)) :=
  .of_layout (by decide +kernel) (setFlag_agree (by simp [*]) (by decide) hv)

theorem set_LinkADRAns_set_tx_power_ack (wrap : Bytes → Bytes) (cid b0 v : Nat) (h0 : b0 < 256) (hv : v < 2) :
    SetAgree (setLinkADRAns { data := cid :: [b0], count := 0 } "set_tx_power_ack" (.n v)) cid
      (Spec.MacCmd.applySetter wrap "LinkADRAns" [b0] "set_tx_power_ack" (.n v)) :=
  .of_layout (by decide +kernel) (setFlag_agree (by simp [*]) (by decide) hv)

theorem set_RXParamSetupAns_set_channel_ack (wrap : Bytes → Bytes) (cid b0 v : Nat) (h0 : b0 < 256) (hv : v < 2) :
    SetAgree (setRXParamSetupAns { data := cid :: [b0], count := 0 } "set_channel_ack" (.n v)) cid
      (Spec.MacCmd.applySetter wrap "RXParamSetupAns" [b0] "set_channel_ack" (.n v)) :=
  .of_layout (by decide +kernel) (setFlag_agree (by simp [*]) (by decide) hv)

theorem set_RXParamSetupAns_set_rx2_data_rate_ack (wrap : Bytes → Bytes) (cid b0 v : Nat) (h0 : b0 < 256) (hv : v < 2) :
    SetAgree (setRXParamSetupAns { data := cid :: [b0], count := 0 } "set_rx2_data_rate_ack" (.n v)) cid
      (Spec.MacCmd.applySetter wrap "RXParamSetupAns" [b0] "set_rx2_data_rate_ack" (.n v)) :=
  .of_layout (by decide +kernel) (setFlag_agree (by simp [*]) (by decide) hv)

theorem set_RXParamSetupAns_set_rx1_data_rate_offset_ack (wrap : Bytes → Bytes) (cid b0 v : Nat) (h0 : b0 < 256) (hv : v < 2) :
    SetAgree (setRXParamSetupAns { data := cid :: [b0], count := 0 } "set_rx1_data_rate_offset_ack" (.n v)) cid
      (Spec.MacCmd.applySetter wrap "RXParamSetupAns" [b0] "set_rx1_data_rate_offset_ack" (.n v)) :=
  .of_layout (by decide +kernel) (setFlag_agree (by simp [*]) (by decide) hv)

theorem set_NewChannelAns_set_channel_frequency_ack (wrap : Bytes → Bytes) (cid b0 v : Nat) (h0 : b0 < 256) (hv : v < 2) :
    SetAgree (setNewChannelAns { data := cid :: [b0], count := 0 } "set_channel_frequency_ack" (.n v)) cid
      (Spec.MacCmd.applySetter wrap "NewChannelAns" [b0] "set_channel_frequency_ack" (.n v)) :=
  .of_layout (by decide +kernel) (setFlag_agree (by simp [*]) (by decide) hv)

theorem set_NewChannelAns_set_data_rate_range_ack (wrap : Bytes → Bytes) (cid b0 v : Nat) (h0 : b0 < 256) (hv : v < 2) :
    SetAgree (setNewChannelAns { data := cid :: [b0], count := 0 } "set_data_rate_range_ack" (.n v)) cid
      (Spec.MacCmd.applySetter wrap "NewChannelAns" [b0] "set_data_rate_range_ack" (.n v)) :=
  .of_layout (by decide +kernel) (setFlag_agree (by simp [*]) (by decide) hv)

theorem set_DlChannelAns_set_channel_frequency_ack (wrap : Bytes → Bytes) (cid b0 v : Nat) (h0 : b0 < 256) (hv : v < 2) :
    SetAgree (setDlChannelAns { data := cid :: [b0], count := 0 } "set_channel_frequency_ack" (.n v)) cid
      (Spec.MacCmd.applySetter wrap "DlChannelAns" [b0] "set_channel_frequency_ack" (.n v)) :=
  .of_layout (by decide +kernel) (setFlag_agree (by simp [*]) (by decide) hv)

theorem set_DlChannelAns_set_uplink_frequency_exists_ack (wrap : Bytes → Bytes) (cid b0 v : Nat) (h0 : b0 < 256) (hv : v < 2) :
    SetAgree (setDlChannelAns { data := cid :: [b0], count := 0 } "set_uplink_frequency_exists_ack" (.n v)) cid
      (Spec.MacCmd.applySetter wrap "DlChannelAns" [b0] "set_uplink_frequency_exists_ack" (.n v)) :=
  .of_layout (by decide +kernel) (setFlag_agree (by simp [*]) (by decide) hv)

theorem set_TXParamSetupReq_set_downlink_dwell_time (wrap : Bytes → Bytes) (cid b0 v : Nat) (h0 : b0 < 256) (hv : v < 2) :
    SetAgree (setTXParamSetupReq { data := cid :: [b0], count := 0 } "set_downlink_dwell_time" (.n v)) cid
      (Spec.MacCmd.applySetter wrap "TXParamSetupReq" [b0] "set_downlink_dwell_time" (.n v)) :=
  .of_layout (by decide +kernel) (setFlag_agree (by simp [*]) (by decide) hv)

theorem set_TXParamSetupReq_set_uplink_dwell_time (wrap : Bytes → Bytes) (cid b0 v : Nat) (h0 : b0 < 256) (hv : v < 2) :
    SetAgree (setTXParamSetupReq { data := cid :: [b0], count := 0 } "set_uplink_dwell_time" (.n v)) cid
      (Spec.MacCmd.applySetter wrap "TXParamSetupReq" [b0] "set_uplink_dwell_time" (.n v)) :=
  .of_layout (by decide +kernel) (setFlag_agree (by simp [*]) (by decide) hv)

theorem set_TXParamSetupReq_set_max_eirp (wrap : Bytes → Bytes) (cid b0 v : Nat) (h0 : b0 < 256) (hv : v < 256) :
    SetAgree (setTXParamSetupReq { data := cid :: [b0], count := 0 } "set_max_eirp" (.n v)) cid
      (Spec.MacCmd.applySetter wrap "TXParamSetupReq" [b0] "set_max_eirp" (.n v)) :=
  .of_layout (by decide +kernel) (setLowNibbleChecked_agree (by simp [*]))

theorem set_DutyCycleReq_set_max_duty_cycle (wrap : Bytes → Bytes) (cid b0 v : Nat) (h0 : b0 < 256) (hv : v < 256) :
    SetAgree (setDutyCycleReq { data := cid :: [b0], count := 0 } "set_max_duty_cycle" (.n v)) cid
      (Spec.MacCmd.applySetter wrap "DutyCycleReq" [b0] "set_max_duty_cycle" (.n v)) :=
  .of_layout (by decide +kernel) (setLowNibbleChecked_agree (by simp [*]))

theorem set_RXTimingSetupReq_set_delay (wrap : Bytes → Bytes) (cid b0 v : Nat) (h0 : b0 < 256) (hv : v < 256) :
    SetAgree (setRXTimingSetupReq { data := cid :: [b0], count := 0 } "set_delay" (.n v)) cid
      (Spec.MacCmd.applySetter wrap "RXTimingSetupReq" [b0] "set_delay" (.n v)) :=
  .of_layout (by decide +kernel) (setLowNibbleChecked_agree (by simp [*]))

theorem set_RXParamSetupReq_set_dl_settings (wrap : Bytes → Bytes) (cid b0 b1 b2 b3 v : Nat) (h0 : b0 < 256) (h1 : b1 < 256) (h2 : b2 < 256) (h3 : b3 < 256) (hv : v < 256) :
    SetAgree (setRXParamSetupReq { data := cid :: [b0, b1, b2, b3], count := 0 } "set_dl_settings" (.n v)) cid
      (Spec.MacCmd.applySetter wrap "RXParamSetupReq" [b0, b1, b2, b3] "set_dl_settings" (.n v)) :=
  .of_layout (by decide +kernel) (setRaw_agree (i := 0) (by simp [*]) (by simp) hv)

theorem set_RXParamSetupReq_set_frequency (wrap : Bytes → Bytes) (cid b0 b1 b2 b3 c0 c1 c2 : Nat) (h0 : b0 < 256) (h1 : b1 < 256) (h2 : b2 < 256) (h3 : b3 < 256) (g0 : c0 < 256) (g1 : c1 < 256) (g2 : c2 < 256) :
    SetAgree (setRXParamSetupReq { data := cid :: [b0, b1, b2, b3], count := 0 } "set_frequency" (.bytes [c0, c1, c2])) cid
      (Spec.MacCmd.applySetter wrap "RXParamSetupReq" [b0, b1, b2, b3] "set_frequency" (.bytes [c0, c1, c2])) :=
  .of_layout (by decide +kernel) (setBytes_agree (i := 1) (n := 3) rfl (by simp [*]) (by simp [*]) (by simp))

theorem set_DevStatusAns_set_battery (wrap : Bytes → Bytes) (cid b0 b1 v : Nat) (h0 : b0 < 256) (h1 : b1 < 256) (hv : v < 256) :
    SetAgree (setDevStatusAns { data := cid :: [b0, b1], count := 0 } "set_battery" (.n v)) cid
      (Spec.MacCmd.applySetter wrap "DevStatusAns" [b0, b1] "set_battery" (.n v)) :=
  .of_layout (by decide +kernel) (setRaw_agree (i := 0) (by simp [*]) (by simp) hv)

theorem set_NewChannelReq_set_channel_index (wrap : Bytes → Bytes) (cid b0 b1 b2 b3 b4 v : Nat) (h0 : b0 < 256) (h1 : b1 < 256) (h2 : b2 < 256) (h3 : b3 < 256) (h4 : b4 < 256) (hv : v < 256) :
    SetAgree (setNewChannelReq { data := cid :: [b0, b1, b2, b3, b4], count := 0 } "set_channel_index" (.n v)) cid
      (Spec.MacCmd.applySetter wrap "NewChannelReq" [b0, b1, b2, b3, b4] "set_channel_index" (.n v)) :=
  .of_layout (by decide +kernel) (setRaw_agree (i := 0) (by simp [*]) (by simp) hv)

theorem set_NewChannelReq_set_frequency (wrap : Bytes → Bytes) (cid b0 b1 b2 b3 b4 c0 c1 c2 : Nat) (h0 : b0 < 256) (h1 : b1 < 256) (h2 : b2 < 256) (h3 : b3 < 256) (h4 : b4 < 256) (g0 : c0 < 256) (g1 : c1 < 256) (g2 : c2 < 256) :
    SetAgree (setNewChannelReq { data := cid :: [b0, b1, b2, b3, b4], count := 0 } "set_frequency" (.bytes [c0, c1, c2])) cid
      (Spec.MacCmd.applySetter wrap "NewChannelReq" [b0, b1, b2, b3, b4] "set_frequency" (.bytes [c0, c1, c2])) :=
  .of_layout (by decide +kernel) (setBytes_agree (i := 1) (n := 3) rfl (by simp [*]) (by simp [*]) (by simp))

theorem set_NewChannelReq_set_data_rate_range (wrap : Bytes → Bytes) (cid b0 b1 b2 b3 b4 v : Nat) (h0 : b0 < 256) (h1 : b1 < 256) (h2 : b2 < 256) (h3 : b3 < 256) (h4 : b4 < 256) (hv : v < 256) :
    SetAgree (setNewChannelReq { data := cid :: [b0, b1, b2, b3, b4], count := 0 } "set_data_rate_range" (.n v)) cid
      (Spec.MacCmd.applySetter wrap "NewChannelReq" [b0, b1, b2, b3, b4] "set_data_rate_range" (.n v)) :=
  .of_layout (by decide +kernel) (setRaw_agree (i := 4) (by simp [*]) (by simp) hv)

theorem set_DlChannelReq_set_channel_index (wrap : Bytes → Bytes) (cid b0 b1 b2 b3 v : Nat) (h0 : b0 < 256) (h1 : b1 < 256) (h2 : b2 < 256) (h3 : b3 < 256) (hv : v < 256) :
    SetAgree (setDlChannelReq { data := cid :: [b0, b1, b2, b3], count := 0 } "set_channel_index" (.n v)) cid
      (Spec.MacCmd.applySetter wrap "DlChannelReq" [b0, b1, b2, b3] "set_channel_index" (.n v)) :=
  .of_layout (by decide +kernel) (setRaw_agree (i := 0) (by simp [*]) (by simp) hv)

theorem set_DlChannelReq_set_frequency (wrap : Bytes → Bytes) (cid b0 b1 b2 b3 c0 c1 c2 : Nat) (h0 : b0 < 256) (h1 : b1 < 256) (h2 : b2 < 256) (h3 : b3 < 256) (g0 : c0 < 256) (g1 : c1 < 256) (g2 : c2 < 256) :
    SetAgree (setDlChannelReq { data := cid :: [b0, b1, b2, b3], count := 0 } "set_frequency" (.bytes [c0, c1, c2])) cid
      (Spec.MacCmd.applySetter wrap "DlChannelReq" [b0, b1, b2, b3] "set_frequency" (.bytes [c0, c1, c2])) :=
  .of_layout (by decide +kernel) (setBytes_agree (i := 1) (n := 3) rfl (by simp [*]) (by simp [*]) (by simp))

theorem set_DeviceTimeAns_set_seconds (wrap : Bytes → Bytes) (cid b0 b1 b2 b3 b4 v : Nat) (h0 : b0 < 256) (h1 : b1 < 256) (h2 : b2 < 256) (h3 : b3 < 256) (h4 : b4 < 256) (hv : v < 4294967296) :
    SetAgree (setDeviceTimeAns { data := cid :: [b0, b1, b2, b3, b4], count := 0 } "set_seconds" (.n v)) cid
      (Spec.MacCmd.applySetter wrap "DeviceTimeAns" [b0, b1, b2, b3, b4] "set_seconds" (.n v)) :=
  .of_layout (by decide +kernel) (copyLe_agree (i := 0) (n := 4) (by simp [*]) (by simp) hv rfl)

theorem set_RxAppCntAns_set_rx_app_cnt (wrap : Bytes → Bytes) (cid b0 b1 v : Nat) (h0 : b0 < 256) (h1 : b1 < 256) (hv : v < 65536) :
    SetAgree (setRxAppCntAns { data := cid :: [b0, b1], count := 0 } "set_rx_app_cnt" (.n v)) cid
      (Spec.MacCmd.applySetter wrap "RxAppCntAns" [b0, b1] "set_rx_app_cnt" (.n v)) :=
  .of_layout (by decide +kernel) (copyLe_agree (i := 0) (n := 2) (by simp [*]) (by simp) hv rfl)

theorem set_PackageVersionAns_package_identifier (wrap : Bytes → Bytes) (cid b0 b1 v : Nat) (h0 : b0 < 256) (h1 : b1 < 256) (hv : v < 256) :
    SetAgree (setPackageVersionAns { data := cid :: [b0, b1], count := 0 } "package_identifier" (.n v)) cid
      (Spec.MacCmd.applySetter wrap "PackageVersionAns" [b0, b1] "package_identifier" (.n v)) :=
  .of_layout (by decide +kernel) (setRaw_agree (i := 0) (by simp [*]) (by simp) hv)

theorem set_PackageVersionAns_package_version (wrap : Bytes → Bytes) (cid b0 b1 v : Nat) (h0 : b0 < 256) (h1 : b1 < 256) (hv : v < 256) :
    SetAgree (setPackageVersionAns { data := cid :: [b0, b1], count := 0 } "package_version" (.n v)) cid
      (Spec.MacCmd.applySetter wrap "PackageVersionAns" [b0, b1] "package_version" (.n v)) :=
  .of_layout (by decide +kernel) (setRaw_agree (i := 1) (by simp [*]) (by simp) hv)

theorem set_McGroupStatusReq_req_group_mask (wrap : Bytes → Bytes) (cid b0 v : Nat) (h0 : b0 < 256) (hv : v < 256) :
    SetAgree (setMcGroupStatusReq { data := cid :: [b0], count := 0 } "req_group_mask" (.n v)) cid
      (Spec.MacCmd.applySetter wrap "McGroupStatusReq" [b0] "req_group_mask" (.n v)) :=
  .of_layout (by decide +kernel) (agree_head (k := 0) (w := 4) (by decide) (by simp [*]) (by
    simp only [setMcGroupStatusReq, modByte_one, Outcome.ok_bind, okD, and15, (pat_low (w := 4) h0 (by decide) (Nat.mod_lt v (by decide)) : b0 &&& 240 ||| v % 16 = setField b0 0 4 (v % 16)),
      Spec.MacCmd.setField_mod b0 0 4 v]))

theorem set_McGroupSetupAns_mc_group_id_header (wrap : Bytes → Bytes) (cid b0 v : Nat) (h0 : b0 < 256) (hv : v < 256) :
    SetAgree (setMcGroupSetupAns { data := cid :: [b0], count := 0 } "mc_group_id_header" (.n v)) cid
      (Spec.MacCmd.applySetter wrap "McGroupSetupAns" [b0] "mc_group_id_header" (.n v)) :=
  .of_layout (by decide +kernel) (groupIdHeader_agree (by simp [*]) rfl)

theorem set_McGroupDeleteReq_mc_group_id_header (wrap : Bytes → Bytes) (cid b0 v : Nat) (h0 : b0 < 256) (hv : v < 256) :
    SetAgree (setMcGroupDeleteReq { data := cid :: [b0], count := 0 } "mc_group_id_header" (.n v)) cid
      (Spec.MacCmd.applySetter wrap "McGroupDeleteReq" [b0] "mc_group_id_header" (.n v)) :=
  .of_layout (by decide +kernel) (groupIdHeader_agree (by simp [*]) rfl)

theorem set_McGroupDeleteAns_mc_group_id_header (wrap : Bytes → Bytes) (cid b0 v : Nat) (h0 : b0 < 256) (hv : v < 256) :
    SetAgree (setMcGroupDeleteAns { data := cid :: [b0], count := 0 } "mc_group_id_header" (.n v)) cid
      (Spec.MacCmd.applySetter wrap "McGroupDeleteAns" [b0] "mc_group_id_header" (.n v)) :=
  .of_layout (by decide +kernel) (groupIdHeader_agree (by simp [*]) rfl)

theorem set_DutVersionsAns_set_versions_raw (wrap : Bytes → Bytes) (cid m0 m1 m2 m3 m4 m5 m6 m7 m8 m9 m10 m11 : Nat) (post : Bytes) (hpl : post.length = 0) (src : Bytes) (hs : src.length = 12) (hsb : ∀ x ∈ src, x < 256)
    (hpre : ∀ x ∈ [], x < 256) (hmid : ∀ x ∈ [m0, m1, m2, m3, m4, m5, m6, m7, m8, m9, m10, m11], x < 256) (hpost : ∀ x ∈ post, x < 256) :
    SetAgree (setDutVersionsAns { data := cid :: ([] ++ [m0, m1, m2, m3, m4, m5, m6, m7, m8, m9, m10, m11] ++ post), count := 0 } "set_versions_raw" (.bytes src)) cid
      (Spec.MacCmd.applySetter wrap "DutVersionsAns" ([] ++ [m0, m1, m2, m3, m4, m5, m6, m7, m8, m9, m10, m11] ++ post) "set_versions_raw" (.bytes src)) :=
  .of_layout (by decide +kernel) (setBytes_agree (i := 0) (n := 12) hs (IsBytes.append.mpr ⟨IsBytes.append.mpr ⟨hpre, hmid⟩, hpost⟩) hsb (by simp))

theorem set_McGroupSetupReq_mc_group_id_header (cph : Cipher) (cid m0 : Nat) (post : Bytes) (hpl : post.length = 28) (v : Nat) (hv : v < 256)
    (hpre : ∀ x ∈ [], x < 256) (hmid : ∀ x ∈ [m0], x < 256) (hpost : ∀ x ∈ post, x < 256) :
    SetAgree (setMcGroupSetupReq cph { data := cid :: ([] ++ [m0] ++ post), count := 0 } "mc_group_id_header" (.n v)) cid
      (Spec.MacCmd.applySetter cph.dec "McGroupSetupReq" ([] ++ [m0] ++ post) "mc_group_id_header" (.n v)) :=
  .of_layout (by decide +kernel) (groupIdHeader_agree ((isBytes_cons _ _).mpr ⟨hmid m0 (by simp), hpost⟩) rfl)

theorem set_McGroupSetupReq_mc_addr (cph : Cipher) (cid a0 m0 m1 m2 m3 : Nat) (post : Bytes) (hpl : post.length = 24) (src : Bytes) (hs : src.length = 4) (hsb : ∀ x ∈ src, x < 256)
    (hpre : ∀ x ∈ [a0], x < 256) (hmid : ∀ x ∈ [m0, m1, m2, m3], x < 256) (hpost : ∀ x ∈ post, x < 256) :
    SetAgree (setMcGroupSetupReq cph { data := cid :: ([a0] ++ [m0, m1, m2, m3] ++ post), count := 0 } "mc_addr" (.bytes src)) cid
      (Spec.MacCmd.applySetter cph.dec "McGroupSetupReq" ([a0] ++ [m0, m1, m2, m3] ++ post) "mc_addr" (.bytes src)) :=
  .of_layout (by decide +kernel) (setBytes_agree (i := 1) (n := 4) hs (IsBytes.append.mpr ⟨IsBytes.append.mpr ⟨hpre, hmid⟩, hpost⟩) hsb (by simp))

theorem set_McGroupSetupReq_mc_key (cph : Cipher) (cid a0 a1 a2 a3 a4 m0 m1 m2 m3 m4 m5 m6 m7 m8 m9 m10 m11 m12 m13 m14 m15 : Nat) (post : Bytes) (hpl : post.length = 8) (k : Bytes) (hk : k.length = 16) (hd : (cph.dec k).length = 16) (hdb : ∀ x ∈ cph.dec k, x < 256)
    (hpre : ∀ x ∈ [a0, a1, a2, a3, a4], x < 256) (hmid : ∀ x ∈ [m0, m1, m2, m3, m4, m5, m6, m7, m8, m9, m10, m11, m12, m13, m14, m15], x < 256) (hpost : ∀ x ∈ post, x < 256) :
    SetAgree (setMcGroupSetupReq cph { data := cid :: ([a0, a1, a2, a3, a4] ++ [m0, m1, m2, m3, m4, m5, m6, m7, m8, m9, m10, m11, m12, m13, m14, m15] ++ post), count := 0 } "mc_key" (.bytes k)) cid
      (Spec.MacCmd.applySetter cph.dec "McGroupSetupReq" ([a0, a1, a2, a3, a4] ++ [m0, m1, m2, m3, m4, m5, m6, m7, m8, m9, m10, m11, m12, m13, m14, m15] ++ post) "mc_key" (.bytes k)) :=
  splice_agree (i := 5) (n := 16) hd (IsBytes.append.mpr ⟨IsBytes.append.mpr ⟨hpre, hmid⟩, hpost⟩) hdb (by simp) (by
    simp [setMcGroupSetupReq, copyInto, slice, Cipher.decryptBlock, okD, hk, hd])

theorem set_McGroupSetupReq_min_mc_fcount (cph : Cipher) (cid a0 a1 a2 a3 a4 a5 a6 a7 a8 a9 a10 a11 a12 a13 a14 a15 a16 a17 a18 a19 a20 m0 m1 m2 m3 : Nat) (post : Bytes) (hpl : post.length = 4) (v : Nat) (hv : v < 4294967296)
    (hpre : ∀ x ∈ [a0, a1, a2, a3, a4, a5, a6, a7, a8, a9, a10, a11, a12, a13, a14, a15, a16, a17, a18, a19, a20], x < 256) (hmid : ∀ x ∈ [m0, m1, m2, m3], x < 256) (hpost : ∀ x ∈ post, x < 256) :
    SetAgree (setMcGroupSetupReq cph { data := cid :: ([a0, a1, a2, a3, a4, a5, a6, a7, a8, a9, a10, a11, a12, a13, a14, a15, a16, a17, a18, a19, a20] ++ [m0, m1, m2, m3] ++ post), count := 0 } "min_mc_fcount" (.n v)) cid
      (Spec.MacCmd.applySetter cph.dec "McGroupSetupReq" ([a0, a1, a2, a3, a4, a5, a6, a7, a8, a9, a10, a11, a12, a13, a14, a15, a16, a17, a18, a19, a20] ++ [m0, m1, m2, m3] ++ post) "min_mc_fcount" (.n v)) :=
  .of_layout (by decide +kernel) (copyLe_agree (i := 21) (n := 4) (IsBytes.append.mpr ⟨IsBytes.append.mpr ⟨hpre, hmid⟩, hpost⟩) (by simp) hv rfl)

theorem set_McGroupSetupReq_max_mc_fcount (cph : Cipher) (cid a0 a1 a2 a3 a4 a5 a6 a7 a8 a9 a10 a11 a12 a13 a14 a15 a16 a17 a18 a19 a20 a21 a22 a23 a24 m0 m1 m2 m3 : Nat) (post : Bytes) (hpl : post.length = 0) (v : Nat) (hv : v < 4294967296)
    (hpre : ∀ x ∈ [a0, a1, a2, a3, a4, a5, a6, a7, a8, a9, a10, a11, a12, a13, a14, a15, a16, a17, a18, a19, a20, a21, a22, a23, a24], x < 256) (hmid : ∀ x ∈ [m0, m1, m2, m3], x < 256) (hpost : ∀ x ∈ post, x < 256) :
    SetAgree (setMcGroupSetupReq cph { data := cid :: ([a0, a1, a2, a3, a4, a5, a6, a7, a8, a9, a10, a11, a12, a13, a14, a15, a16, a17, a18, a19, a20, a21, a22, a23, a24] ++ [m0, m1, m2, m3] ++ post), count := 0 } "max_mc_fcount" (.n v)) cid
      (Spec.MacCmd.applySetter cph.dec "McGroupSetupReq" ([a0, a1, a2, a3, a4, a5, a6, a7, a8, a9, a10, a11, a12, a13, a14, a15, a16, a17, a18, a19, a20, a21, a22, a23, a24] ++ [m0, m1, m2, m3] ++ post) "max_mc_fcount" (.n v)) :=
  .of_layout (by decide +kernel) (copyLe_agree (i := 25) (n := 4) (IsBytes.append.mpr ⟨IsBytes.append.mpr ⟨hpre, hmid⟩, hpost⟩) (by simp) hv rfl)

theorem set_DevStatusAns_set_margin (wrap : Bytes → Bytes) (cid b0 b1 : Nat) (m : Int) (h0 : b0 < 256) (h1 : b1 < 64) :
    SetAgree (setDevStatusAns { data := cid :: [b0, b1], count := 0 } "set_margin" (.i m)) cid
      (Spec.MacCmd.applySetter wrap "DevStatusAns" [b0, b1] "set_margin" (.i m)) := by
  by_cases hr : -32 ≤ m ∧ m ≤ 31
  · refine ⟨.ok, [b0, (m % 64).toNat], ?_, ?_⟩
    · simp [setDevStatusAns, hr, setByte, okD, Nat.shiftRight_eq_div_pow]
      omega
    · have e : setField b1 0 6 (m % 64).toNat = (m % 64).toNat := by simp [setField]; omega
      simp only [Spec.MacCmd.applySetter, hr, and_self, if_true, toSpecRes,
        Spec.MacCmd.setFieldBytes_cons_add8 b0 _ 0 6 _ h0, Spec.MacCmd.setFieldBytes_cons_low b1 [] 0 6 _ (by decide) (by omega) (by simp), e]
  · exact ⟨.err "MarginOutOfRange", [b0, b1], by simp [setDevStatusAns, hr, refuse], by simp [Spec.MacCmd.applySetter, hr, toSpecRes]⟩

theorem set_DeviceTimeAns_set_nano_seconds (wrap : Bytes → Bytes) (cid b0 b1 b2 b3 b4 v : Nat)
    (h0 : b0 < 256) (h1 : b1 < 256) (h2 : b2 < 256) (h3 : b3 < 256) (h4 : b4 < 256) :
    SetAgree (setDeviceTimeAns { data := cid :: [b0, b1, b2, b3, b4], count := 0 } "set_nano_seconds" (.n v)) cid
      (Spec.MacCmd.applySetter wrap "DeviceTimeAns" [b0, b1, b2, b3, b4] "set_nano_seconds" (.n v)) := by
  by_cases hr : v ≤ 1000000000
  · rw [show Spec.MacCmd.applySetter wrap "DeviceTimeAns" [b0, b1, b2, b3, b4] "set_nano_seconds" (.n v)
        = applyField 32 8 .mask [b0, b1, b2, b3, b4] (.n (v / 3906250)) from if_pos hr]
    exact octet_agree (i := 4) (by simp [*]) (by simp) (by simp [setDeviceTimeAns, show ¬ v > 1000000000 by omega, setByte, okD])
  · exact ⟨.err "NanoSecondsOutOfRange", [b0, b1, b2, b3, b4], by simp [setDeviceTimeAns, show v > 1000000000 by omega, refuse],
      by simp [Spec.MacCmd.applySetter, hr, toSpecRes]⟩

theorem set_McGroupStatusReq_req_group (wrap : Bytes → Bytes) (cid b0 v : Nat) (h0 : b0 < 256) :
    SetAgree (setMcGroupStatusReq { data := cid :: [b0], count := 0 } "req_group" (.n v)) cid
      (Spec.MacCmd.applySetter wrap "McGroupStatusReq" [b0] "req_group" (.n v)) := by
  have hm : v % 4 < 4 := Nat.mod_lt _ (by decide)
  have hk : v % 4 + 1 ≤ 8 := by omega
  refine ⟨.ok, [if b0 / 2 ^ (v % 4) % 2 = 1 then b0 else setField b0 (v % 4) 1 1],
    by simp only [setMcGroupStatusReq, modByte_one, Outcome.ok_bind, okD, and3, pat_orbit b0 _], ?_⟩
  simp only [Spec.MacCmd.applySetter, Spec.MacCmd.field_cons_low b0 [] (v % 4) 1 hk, Nat.pow_one,
    Spec.MacCmd.setFieldBytes_cons_low b0 [] (v % 4) 1 1 hk h0 (by simp), toSpecRes]
  split <;> simp [*]

theorem set_McGroupDeleteAns_mc_group_undefined (wrap : Bytes → Bytes) (cid b0 v : Nat) (h0 : b0 < 256) (hv : v < 2) :
    SetAgree (setMcGroupDeleteAns { data := cid :: [b0], count := 0 } "mc_group_undefined" (.n v)) cid
      (Spec.MacCmd.applySetter wrap "McGroupDeleteAns" [b0] "mc_group_undefined" (.n v)) := by
  refine .of_layout (by decide +kernel) (agree_head (k := 2) (w := 1) (by decide) (by simp [*]) ?_)
  obtain rfl | rfl : v = 0 ∨ v = 1 := by omega
  · simp [setMcGroupDeleteAns, modByte_one, okD, pat_and251 b0 h0]
  · simp [setMcGroupDeleteAns, modByte_one, okD, pat_or4 b0]

end MacCmd
