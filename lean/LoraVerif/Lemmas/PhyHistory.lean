import LoraVerif.Lemmas.PhyApi
/-!
# One API call / one adapter call preserves the invariant, in terms of `apiStep` / `adapterStep`

The per-program lemmas of `Lemmas/PhyApi.lean`, dispatched over the API alphabet and restated on the
interpreter level: fresh transcript, the call's environment (interrupt outcomes, fault, drop)
installed, the tracker fed with the call's transcript.
-/
namespace Model.Phy

/-- hypotheses on the parameters of a call: the `Err` that `listen` forwards when
`create_modulation_params` failed is not a TX/RX timeout report (it never is: that function returns
`Unavailable…` / `Invalid…` errors only) -/
def ApiCall.wf {μ : Type} : ApiCall μ → Prop
  | .listen _ (.error e) => Abort.infra (.err e)
  | _ => True

/-- the outcome is the radio's own failure report -/
def Out.timeout {α : Type} : Out α → Bool
  | .err .TransmitTimeout => true
  | .err .ReceiveTimeout => true
  | _ => false

section
variable {kind : Kind} {reg tcxo : Bool} {sb : Items} {Rdy : ChipTrack → Prop} {σ μ : Type} {rk : RadioKindOps σ μ}
variable (S : OpsSpec kind reg tcxo sb Rdy rk)
include S

theorem apiProg_inv (c : ApiCall μ) (hwf : c.wf) {d : DriverState σ} {t : ChipTrack} (h : Inv reg tcxo sb d t) :
    mwp kind (needsFor reg tcxo) (apiProg rk c) (fun _ d' t' => Inv reg tcxo sb d' t')
      (AbI4 reg tcxo sb (d.radioMode = .receive .continuous)) d t := by
  cases c with
  | init => exact mwp_seq (mwp_infra_abI4 (init_inv S h.clean)) fun _ _ _ hq => mwp_pure hq
  | sleep warm => exact mwp_seq (mwp_infra_abI4 (sleep_inv S warm h)) fun _ _ _ hq => mwp_pure hq
  | prepareForTx m pkt power payload =>
    exact mwp_seq (mwp_infra_abI4 (prepareForTx_inv S m pkt power payload h)) fun _ _ _ hq => mwp_pure hq.1
  | tx => exact mwp_seq (mwp_abI4_exempt (tx_inv S _ h)) fun _ _ _ hq => mwp_pure hq
  | prepareForRx mode m pkt =>
    exact mwp_seq (mwp_infra_abI4 (prepareForRx_inv S mode m pkt h)) fun _ _ _ hq => mwp_pure hq.1
  | startRx => exact mwp_seq (mwp_infra_abI4 (startRx_inv S h)) fun _ _ _ hq => mwp_pure hq.1
  | completeRx pkt k => exact mwp_seq (completeRx_inv S pkt _ _ h) fun _ _ _ hq => mwp_pure hq
  | rx pkt k => exact mwp_seq (rx_inv S pkt _ _ h) fun _ _ _ hq => mwp_pure hq
  | rxSwitchChannel f => exact mwp_seq (mwp_infra_abI4 (rxSwitchChannel_inv S f h)) fun _ _ _ hq => mwp_pure hq
  | listen f m =>
    have hw : ∀ e, m = .error e → Abort.infra (.err e) := by
      intro e he; subst he; exact hwf
    exact mwp_seq (mwp_infra_abI4 (listen_inv S f m hw h)) fun _ _ _ hq => mwp_pure hq
  | prepareForCad m => exact mwp_seq (mwp_infra_abI4 (prepareForCad_inv S m h)) fun _ _ _ hq => mwp_pure hq
  | cad m => exact mwp_seq (mwp_abI4_exempt (cad_inv S m h)) fun _ _ _ hq => mwp_pure hq
  | setLoraSyncWord w => exact mwp_seq (mwp_infra_abI4 (setLoraSyncWord_inv S w h)) fun _ _ _ hq => mwp_pure hq

/-- **One API call.**  From a state satisfying the invariant, for every call (with well-formed
parameters), every chip content, every interrupt outcome, a fault at any I/O step and a drop at any
`await_irq`: the invariant holds afterwards for the tracker fed with the call's transcript, and if
the call reports the radio's own timeout (and was not a continuous reception) driver and chip are in
standby. -/
theorem apiStep_inv (c : ApiCall μ) (hwf : c.wf) (env : Env) (d : DriverState σ) (w : World) (t : ChipTrack)
    (h : Inv reg tcxo sb d t) :
    Inv reg tcxo sb (apiStep rk c env (d, w)).2.1 (track kind (needsFor reg tcxo) t (apiStep rk c env (d, w)).2.2.log) ∧
    ((apiStep rk c env (d, w)).1.timeout = true → d.radioMode ≠ .receive .continuous →
      (apiStep rk c env (d, w)).2.1.radioMode = .standby ∧
      (track kind (needsFor reg tcxo) t (apiStep rk c env (d, w)).2.2.log).mode = .standby) := by
  have key := apiProg_inv S c hwf h t
    { chip := { w.chip with irqScript := env.irq, irqDefault := env.irqDefault }, log := [], step := 0,
      fault := env.fault, pendAt := env.pendAt } rfl
  unfold apiStep
  simp only
  generalize apiProg rk c (d, _) = r at key
  obtain ⟨o, d', w'⟩ := r
  cases o with
  | ok a => exact ⟨key, fun ht => by simp [Out.timeout] at ht⟩
  | err e =>
    refine ⟨key.1, fun ht hc => key.2 ?_ hc⟩
    cases e <;> simp_all [Out.timeout, Abort.timeout]
  | panic s => exact ⟨key.1, fun ht => by simp [Out.timeout] at ht⟩
  | dropped => exact ⟨key.1, fun ht => by simp [Out.timeout] at ht⟩

/-- the adapter reports the radio's own failure: an `Err(Transmit/ReceiveTimeout)`, or `RxTimeout` -/
def adapterTimeout : Out (AdapterResult × AdapterState) → Bool
  | .err .TransmitTimeout => true
  | .err .ReceiveTimeout => true
  | .ok (.rxTimeout, _) => true
  | _ => false

theorem adapterProg_inv (a : AdapterState) (c : AdapterCall μ) {d : DriverState σ} {t : ChipTrack} (h : Inv reg tcxo sb d t) :
    mwp kind (needsFor reg tcxo) (adapterProg rk a c)
      (fun r d' t' => Inv reg tcxo sb d' t' ∧
        (r.1 = .rxTimeout → d.radioMode ≠ .receive .continuous → d'.radioMode = .standby ∧ t'.mode = .standby))
      (AbI4 reg tcxo sb (d.radioMode = .receive .continuous)) d t := by
  cases c with
  | tx m pkt power payload =>
    refine mwp_seq (mwp_infra_abI4 (prepareForTx_inv S m pkt power payload h)) fun _ d1 t1 h1 => ?_
    exact mwp_seq (mwp_abI4_exempt (tx_inv S _ h1.1)) fun _ _ _ hq => mwp_pure ⟨hq, fun hx => by simp at hx⟩
  | setupRx mode m pkt =>
    exact mwp_seq (mwp_infra_abI4 (prepareForRx_inv S mode m pkt h)) fun _ _ _ hq => mwp_pure ⟨hq.1, fun hx => by simp at hx⟩
  | rxSingle k =>
    unfold adapterProg
    cases a.rxPkt with
    | none => exact mwp_pure ⟨h, fun hx => by simp at hx⟩
    | some pkt =>
      simp only
      refine mwp_bind (mwp_attempt (mwp_mono (rx_inv S pkt _ _ h) (fun r d1 t1 hq => ?_) (fun ab d1 t1 he => ?_)))
      · exact mwp_pure ⟨hq, fun hx => by simp at hx⟩
      · cases ab with
        | err e =>
          by_cases hto : e = .ReceiveTimeout
          · subst hto
            exact mwp_pure ⟨he.1, fun _ hc => he.2 rfl hc⟩
          · have : mwp kind (needsFor reg tcxo) (M.throw e : M σ (AdapterResult × AdapterState))
                (fun r d' t' => Inv reg tcxo sb d' t' ∧
                  (r.1 = .rxTimeout → d.radioMode ≠ .receive .continuous → d'.radioMode = .standby ∧ t'.mode = .standby))
                (AbI4 reg tcxo sb (d.radioMode = .receive .continuous)) d1 t1 := mwp_throw he
            cases e <;> first | exact this | exact absurd rfl hto
        | panic => exact he
        | dropped => exact he
  | rxContinuous k =>
    unfold adapterProg
    cases a.rxPkt with
    | none => exact mwp_pure ⟨h, fun hx => by simp at hx⟩
    | some pkt =>
      simp only
      exact mwp_seq (rx_inv S pkt _ _ h) fun _ _ _ hq => mwp_pure ⟨hq, fun hx => by simp at hx⟩
  | lowPower =>
    exact mwp_seq (mwp_infra_abI4 (sleep_inv S false h)) fun _ _ _ hq => mwp_pure ⟨hq, fun hx => by simp at hx⟩

/-- **One adapter call** (`LorawanRadio::tx / setup_rx / rx_single / rx_continuous / low_power`). -/
theorem adapterStep_inv (a : AdapterState) (c : AdapterCall μ) (env : Env) (d : DriverState σ) (w : World) (t : ChipTrack)
    (h : Inv reg tcxo sb d t) :
    Inv reg tcxo sb (adapterStep rk a c env (d, w)).2.1 (track kind (needsFor reg tcxo) t (adapterStep rk a c env (d, w)).2.2.log) ∧
    (adapterTimeout (adapterStep rk a c env (d, w)).1 = true → d.radioMode ≠ .receive .continuous →
      (adapterStep rk a c env (d, w)).2.1.radioMode = .standby ∧
      (track kind (needsFor reg tcxo) t (adapterStep rk a c env (d, w)).2.2.log).mode = .standby) := by
  have key := adapterProg_inv S a c h t
    { chip := { w.chip with irqScript := env.irq, irqDefault := env.irqDefault }, log := [], step := 0,
      fault := env.fault, pendAt := env.pendAt } rfl
  unfold adapterStep
  simp only
  generalize adapterProg rk a c (d, _) = r at key
  obtain ⟨o, d', w'⟩ := r
  cases o with
  | ok r =>
    refine ⟨key.1, fun ht hc => key.2 ?_ hc⟩
    obtain ⟨r1, r2⟩ := r
    cases r1 <;> simp_all [adapterTimeout]
  | err e =>
    refine ⟨key.1, fun ht hc => key.2 ?_ hc⟩
    cases e <;> simp_all [adapterTimeout, Abort.timeout]
  | panic s => exact ⟨key.1, fun ht => by simp [adapterTimeout] at ht⟩
  | dropped => exact ⟨key.1, fun ht => by simp [adapterTimeout] at ht⟩

end
end Model.Phy
