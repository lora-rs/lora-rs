import LoraVerif.Lemmas.PhyEffect127
/-!
# SX127x packet parameters and IRQ mask: register effect against `sx127x_set_lora_pkt_params` /
`sx127x_set_irq_mask` (C13)

Both packet-parameter programs are run once per chip and header mode; then the five compared registers of the two
register files are closed one by one (`pkt_mask_close`).
-/
open Model.Phy Spec.Semtech
namespace C13
open Gen.PhyCodes127

/-- the compared bits of a packet-parameter effect (= `eff_mask("pktparams", a)`): preamble, header
type and CRC bits, and — in implicit-header mode, the only one in which lora-phy writes it — the
payload length -/
def pktMask (implicit : Bool) (a : Nat) : UInt8 :=
  if a = 0x1d ∨ a = 0x1e ∨ a = 0x20 ∨ a = 0x21 then 0xff else if a = 0x22 then (if implicit then 0xff else 0) else 0

theorem pkt_mask_close (imp : Bool) (L R : Nat → UInt8) (h29 : L 29 = R 29) (h30 : L 30 = R 30) (h32 : L 32 = R 32)
    (h33 : L 33 = R 33) (h34 : imp = true → L 34 = R 34) (a : Nat) :
    L a &&& pktMask imp a = R a &&& pktMask imp a := by
  refine agree_of_support (pktMask imp) [29, 30, 32, 33, 34] L R (fun a ha => ?_) (fun a ha => ?_) a
  · simp at ha; simp [pktMask, ha]
  · simp at ha; rcases ha with rfl | rfl | rfl | rfl | rfl <;> simp [pktMask, *]
    cases imp <;> simp [h34]

/-- **SX127x packet parameters**, both variants: every preamble length, header mode, payload length,
CRC and IQ flag, every prior register content. -/
theorem sx127x_packet_params_effect_eq (cfg : Sx127x.Config) (p : PacketParams) (c : Chip) (hk : c.kind = .sx127x) (a : Nat) :
    (trace (Sx127x.setPacketParams cfg p) c).2.1.regs a &&& pktMask p.implicitHeader a =
      (trace (S127.setLoraPktParams (cfg.chip == .sx1272) p.preambleLength p.implicitHeader (UInt8.ofNat p.payloadLength) p.crcOn) c).2.1.regs a
        &&& pktMask p.implicitHeader a := by
  cases hc : cfg.chip <;> cases hi : p.implicitHeader <;>
  · -- both programs once, then the five compared registers of the register files they leave
    eff127 [Sx127x.setPacketParams, Sx127x.variantSetPacketParams, hc, S127.setLoraPktParams, S127.setStandby, S127.setOpMode, hk, hi, hi8, lo8, b2u]
    revert a
    apply pkt_mask_close <;> simp [setAt]
    -- lora-phy sets a flag with `c ||| bit`, the reference clears the bit first
    all_goals cases p.crcOn <;> first | rfl | fields | (simp [u8_clear_set] <;> rfl)

/-- the `SX127X_IRQ_*` set the reference is given for each driver mode -/
def refIrqOf : Option RadioMode → Nat
  | some .transmit => 0x0001                       -- TX_DONE
  | some (.receive _) => 0x0002 ||| 0x0200 ||| 0x0040 ||| 0x0010   -- RX_DONE | TIMEOUT | CRC_ERROR | HEADER_VALID
  | some .cad => 0x0080 ||| 0x0100                 -- CAD_DONE | CAD_DETECTED
  | _ => 0

/-- **SX127x IRQ mask**: for every mode lora-phy's `set_irq_params` leaves in RegIrqFlagsMask what
`sx127x_set_irq_mask` computes for the corresponding interrupt set (the DIO mapping that lora-phy
programs alongside belongs to the reference's `set_tx` / `set_rx`) -/
theorem sx127x_irq_mask_effect_eq (mode : Option RadioMode) (c : Chip) (hk : c.kind = .sx127x) :
    (trace (Sx127x.setIrqParams mode) c).2.1.regs 0x11 = (trace (S127.setIrqMask (refIrqOf mode)) c).2.1.regs 0x11 := by
  rcases mode with _ | m
  rotate_left; cases m
  all_goals
    eff127 [setAt, Sx127x.setIrqParams, Sx127x.clearIrqStatus, S127.setIrqMask, refIrqOf, hk, Sx127x.v8, IrqMask.value, IrqMask.toInt]
  all_goals decide

end C13
