import LoraVerif.Model.Aes
/-!
# The Lean AES in a form the kernel evaluates quickly

Every known answer (`AesKat`, `CmacKat`, `CmacKat2`, `C01Vectors`, `C02Vectors`) is a kernel evaluation
of `Model/Aes.lean`, and what such an evaluation costs is the table lookup `Aes.sub x`: the kernel
indexes the 256-entry array literal by walking a list, some hundred cells per lookup, two hundred
lookups per block; after that, `s[i]` on a `Block`, again unfolded down to a list walk.  So the two
tables are packed into one number each, where an entry is fetched by a shift (one step of the kernel's
arithmetic); a block is taken apart once per operation (`withCells`); and the cipher of `Model/Aes.lean`
is written a second time over these, generic in the two S-boxes: at `Aes.sub`, `Aes.invSub` it is the
model (`encryptWith_eq`, `schedule_eq`, …), at `subN`, `invSubN` it is what the known answers
evaluate (`encrypt_eq`, `decrypt_eq`, `cmac_eq`, `aes_eq`).
-/
namespace Lora.AesEval
open Lora.Aes

/-- the bytes of `l` as base-256 digits, `l[0]` lowest -/
def pack : List UInt8 → Nat
  | [] => 0
  | b :: l => pack l * 256 + b.toNat

theorem pack_lookup : ∀ (l : List UInt8) (i : Nat) (h : i < l.length), UInt8.ofNat (pack l >>> (8 * i)) = l[i]
  | b :: l, 0, _ => by simp [pack, UInt8.ofNat, BitVec.ofNat, Fin.ofNat]
  | b :: l, i + 1, h => by
    have hb := b.toNat_lt
    rw [pack, show 8 * (i + 1) = 8 + 8 * i by omega, Nat.shiftRight_add, Nat.shiftRight_eq_div_pow _ 8,
      show (pack l * 256 + b.toNat) / 2 ^ 8 = pack l by omega]
    exact pack_lookup l i (Nat.lt_of_succ_lt_succ h)

theorem lookup (t : Vector UInt8 256) (x : UInt8) :
    t[x.toNat]'x.toNat_lt = .ofNat (pack t.toList >>> (8 * x.toNat)) := by
  rw [pack_lookup _ _ (by simpa using x.toNat_lt), Vector.getElem_toList]

def subN (x : UInt8) : UInt8 := .ofNat (pack sboxT.toList >>> (8 * x.toNat))
def invSubN (x : UInt8) : UInt8 := .ofNat (pack invSboxT.toList >>> (8 * x.toNat))

theorem sub_eq : sub = subN := funext (lookup sboxT)
theorem invSub_eq : invSub = invSubN := funext (lookup invSboxT)

/-! ## Blocks read by one pattern match -/

/-- the sixteen cells of `s` handed to `k` -/
def withCells {α} (s : Block)
    (k : UInt8 → UInt8 → UInt8 → UInt8 → UInt8 → UInt8 → UInt8 → UInt8 → UInt8 → UInt8 → UInt8 → UInt8 → UInt8 → UInt8 → UInt8 → UInt8 → α) : α :=
  match s with
  | ⟨⟨[x0, x1, x2, x3, x4, x5, x6, x7, x8, x9, x10, x11, x12, x13, x14, x15]⟩, _⟩ =>
    k x0 x1 x2 x3 x4 x5 x6 x7 x8 x9 x10 x11 x12 x13 x14 x15
  | _ => k 0 0 0 0 0 0 0 0 0 0 0 0 0 0 0 0

theorem block_cases {P : Block → Prop}
    (h : ∀ x0 x1 x2 x3 x4 x5 x6 x7 x8 x9 x10 x11 x12 x13 x14 x15 : UInt8,
      P #v[x0, x1, x2, x3, x4, x5, x6, x7, x8, x9, x10, x11, x12, x13, x14, x15]) (s : Block) : P s := by
  obtain ⟨⟨l⟩, hl⟩ := s
  match l, hl with
  | [x0, x1, x2, x3, x4, x5, x6, x7, x8, x9, x10, x11, x12, x13, x14, x15], _ => exact h ..

theorem withCells_eq {α} (s : Block)
    (k : UInt8 → UInt8 → UInt8 → UInt8 → UInt8 → UInt8 → UInt8 → UInt8 → UInt8 → UInt8 → UInt8 → UInt8 → UInt8 → UInt8 → UInt8 → UInt8 → α) :
    withCells s k = k s[0] s[1] s[2] s[3] s[4] s[5] s[6] s[7] s[8] s[9] s[10] s[11] s[12] s[13] s[14] s[15] := by
  induction s using block_cases; rfl

/-! ## The cipher over arbitrary S-boxes `S`, `Si`

The definitions of `Model/Aes.lean` with `S` for `sub`, `Si` for `invSub`, and the cells bound by
`withCells` where the model writes `s[i]`. -/

def xorB (a b : Block) : Block :=
  withCells a fun a0 a1 a2 a3 a4 a5 a6 a7 a8 a9 a10 a11 a12 a13 a14 a15 =>
  withCells b fun b0 b1 b2 b3 b4 b5 b6 b7 b8 b9 b10 b11 b12 b13 b14 b15 =>
  #v[a0 ^^^ b0, a1 ^^^ b1, a2 ^^^ b2, a3 ^^^ b3, a4 ^^^ b4, a5 ^^^ b5, a6 ^^^ b6, a7 ^^^ b7, a8 ^^^ b8, a9 ^^^ b9, a10 ^^^ b10, a11 ^^^ b11, a12 ^^^ b12, a13 ^^^ b13, a14 ^^^ b14, a15 ^^^ b15]

def shiftRows (s : Block) : Block :=
  withCells s fun s0 s1 s2 s3 s4 s5 s6 s7 s8 s9 s10 s11 s12 s13 s14 s15 =>
  #v[s0, s5, s10, s15, s4, s9, s14, s3, s8, s13, s2, s7, s12, s1, s6, s11]

def invShiftRows (s : Block) : Block :=
  withCells s fun s0 s1 s2 s3 s4 s5 s6 s7 s8 s9 s10 s11 s12 s13 s14 s15 =>
  #v[s0, s13, s10, s7, s4, s1, s14, s11, s8, s5, s2, s15, s12, s9, s6, s3]

/-- the shape of `mixColumns` and `invMixColumns`: `f` on each column and its three rotations -/
def cols (f : UInt8 → UInt8 → UInt8 → UInt8 → UInt8) (s : Block) : Block :=
  withCells s fun s0 s1 s2 s3 s4 s5 s6 s7 s8 s9 s10 s11 s12 s13 s14 s15 =>
  #v[f s0 s1 s2 s3, f s1 s2 s3 s0, f s2 s3 s0 s1, f s3 s0 s1 s2,
     f s4 s5 s6 s7, f s5 s6 s7 s4, f s6 s7 s4 s5, f s7 s4 s5 s6,
     f s8 s9 s10 s11, f s9 s10 s11 s8, f s10 s11 s8 s9, f s11 s8 s9 s10,
     f s12 s13 s14 s15, f s13 s14 s15 s12, f s14 s15 s12 s13, f s15 s12 s13 s14]

theorem xorB_eq : Aes.xorB = xorB := by
  funext a b; rw [xorB, withCells_eq a]; simp only [withCells_eq b]; rfl
theorem shiftRows_eq : Aes.shiftRows = shiftRows := by funext s; rw [shiftRows, withCells_eq]; rfl
theorem invShiftRows_eq : Aes.invShiftRows = invShiftRows := by funext s; rw [invShiftRows, withCells_eq]; rfl
theorem mixColumns_eq : Aes.mixColumns = cols mc := by funext s; rw [cols, withCells_eq]; rfl
theorem invMixColumns_eq : Aes.invMixColumns = cols imc := by funext s; rw [cols, withCells_eq]; rfl

section
variable (S Si : UInt8 → UInt8)

def subBytes (s : Block) : Block :=
  withCells s fun s0 s1 s2 s3 s4 s5 s6 s7 s8 s9 s10 s11 s12 s13 s14 s15 =>
  #v[S s0, S s1, S s2, S s3, S s4, S s5, S s6, S s7, S s8, S s9, S s10, S s11, S s12, S s13, S s14, S s15]

def nextKey (k : Block) (rc : UInt8) : Block :=
  withCells k fun k0 k1 k2 k3 k4 k5 k6 k7 k8 k9 k10 k11 k12 k13 k14 k15 =>
  let w0 := S k13 ^^^ rc ^^^ k0
  let w1 := S k14 ^^^ k1
  let w2 := S k15 ^^^ k2
  let w3 := S k12 ^^^ k3
  let w4 := w0 ^^^ k4
  let w5 := w1 ^^^ k5
  let w6 := w2 ^^^ k6
  let w7 := w3 ^^^ k7
  let w8 := w4 ^^^ k8
  let w9 := w5 ^^^ k9
  let w10 := w6 ^^^ k10
  let w11 := w7 ^^^ k11
  #v[w0, w1, w2, w3, w4, w5, w6, w7, w8, w9, w10, w11, w8 ^^^ k12, w9 ^^^ k13, w10 ^^^ k14, w11 ^^^ k15]

def expand : Block → List UInt8 → List Block
  | _, [] => []
  | k, rc :: rcs => let k' := nextKey S k rc; k' :: expand k' rcs

def schedule (k : Block) : Schedule :=
  let mids := expand S k [0x01, 0x02, 0x04, 0x08, 0x10, 0x20, 0x40, 0x80, 0x1b]
  let k9 := match mids.getLast? with | some x => x | none => k
  { first := k, mids := mids, last := nextKey S k9 0x36 }

def encRound (s k : Block) : Block := xorB (cols mc (shiftRows (subBytes S s))) k
def decRound (k s : Block) : Block := subBytes Si (invShiftRows (cols imc (xorB s k)))

def encryptWith (sch : Schedule) (b : Block) : Block :=
  let s := sch.mids.foldl (encRound S) (xorB b sch.first)
  xorB (shiftRows (subBytes S s)) sch.last

def decryptWith (sch : Schedule) (b : Block) : Block :=
  let s := subBytes Si (invShiftRows (xorB b sch.last))
  xorB (sch.mids.foldr (decRound Si) s) sch.first

def encrypt (k b : Block) : Block := encryptWith S (schedule S k) b
def decrypt (k b : Block) : Block := decryptWith Si (schedule S k) b

def cmac (k : Block) (m : Bytes) : Block :=
  let sch := schedule S k
  let E := encryptWith S sch
  let l := E Block.zero
  let k1 := dbl l
  let k2 := dbl k1
  cmacGo E k1 k2 (m.length / 16 + 1) Block.zero m

def cipher : Cipher := { enc := encrypt S, dec := decrypt S Si, cmac := cmac S }
end

theorem subBytes_eq : Aes.subBytes = subBytes sub := by funext s; rw [subBytes, withCells_eq]; rfl
theorem invSubBytes_eq : Aes.invSubBytes = subBytes invSub := by funext s; rw [subBytes, withCells_eq]; rfl
theorem nextKey_eq : Aes.nextKey = nextKey sub := by funext k rc; rw [nextKey, withCells_eq]; rfl

theorem expand_eq : Aes.expand = expand sub := by
  funext k rcs
  induction rcs generalizing k with
  | nil => rfl
  | cons rc rcs ih => simp only [Aes.expand, expand, nextKey_eq, ih]

theorem schedule_eq : Aes.schedule = schedule sub := by
  funext k; simp only [Aes.schedule, schedule, expand_eq, nextKey_eq]; rfl

theorem encryptWith_eq : Aes.encryptWith = encryptWith sub := by
  funext sch b
  simp only [Aes.encryptWith, encryptWith, show Aes.encRound = encRound sub from
    by funext s k; simp only [Aes.encRound, encRound, xorB_eq, mixColumns_eq, shiftRows_eq, subBytes_eq],
    xorB_eq, shiftRows_eq, subBytes_eq]

theorem decryptWith_eq : Aes.decryptWith = decryptWith invSub := by
  funext sch b
  simp only [Aes.decryptWith, decryptWith, show Aes.decRound = decRound invSub from
    by funext k s; simp only [Aes.decRound, decRound, xorB_eq, invMixColumns_eq, invShiftRows_eq, invSubBytes_eq],
    xorB_eq, invShiftRows_eq, invSubBytes_eq]

theorem encrypt_eq : Aes.encrypt = encrypt subN := by
  funext k b; rw [← sub_eq, Aes.encrypt, encryptWith_eq, schedule_eq]; rfl
theorem decrypt_eq : Aes.decrypt = decrypt subN invSubN := by
  funext k b; rw [← sub_eq, ← invSub_eq, Aes.decrypt, decryptWith_eq, schedule_eq]; rfl
theorem cmac_eq : Aes.cmac = cmac subN := by
  funext k m; rw [← sub_eq, Aes.cmac, encryptWith_eq, schedule_eq]; rfl
theorem aes_eq : aes = cipher subN invSubN := by rw [aes, cipher, encrypt_eq, decrypt_eq, cmac_eq]

end Lora.AesEval
