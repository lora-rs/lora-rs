import LoraVerif.Lemmas.RefineC
import LoraVerif.Lemmas.StepWalk
/-!
# `Device::rxc_listen` refines the histories

`asyncListen` (`Model/Device.lean`, the model of `async_device::Device::rxc_listen` over a script of radio
answers) is a list of plain history events `Ev.rxc` (Class C receptions outside a procedure,
`Model/History.lean`): the frames `rx_continuous` reports up to and including the first one the MAC acts
upon, none after it; nothing heard / a radio error ends the call without an event.

The session model with listen calls (`AsyncCall`, `asyncCall`, `asyncCalls`) is defined here; a session fails only in a
`send` / `join` / setter (`asyncCalls_fault`), since a listen call returns from every well-formed state (`asyncListen_tot`).
-/
namespace Model

/-- the radio answer that ends the listening (the first one that is not a frame) is an error -/
def listenEndsErr : List ScriptItem → Bool
  | .frame _ _ :: rest => listenEndsErr rest
  | .err :: _ => true
  | _ => false

/-- the frames heard up to and including the first one the MAC acts upon, as Class C receptions under
the size limit `mp`; a frame answered `NoUpdate` changed nothing (`macHandleRxc_shape`), so every one
of them meets the state `m` the call started in -/
def listenEvents (m : MacState) (mp : Nat) : List (RxView × Int) → List Ev
  | [] => []
  | (v, snr) :: rest =>
    .rxc v snr mp ::
      (match macHandleRx m v mp snr true with
       | .ok (some o, _) => if o.resp == .noUpdate then listenEvents m mp rest else []
       | _ => [])

/-- **the history of one call of `rxc_listen` in state `m` under a script of radio answers**: the size
limit is the one of `get_rxc_config` of the state the call starts in (computed once, before the loop) -/
def abstractListen (m : MacState) (script : List ScriptItem) : List Ev :=
  listenEvents m (rxcMp m) (leadFrames script).1

def Out.rxOut? : Out → Option RxOut
  | .rxc _ o => o
  | _ => none

/-- what `rxc_listen` answers, read off the outputs of its events and the way the listening ended -/
def listenResult (endsErr : Bool) : List Out → ListenResult
  | [] => if endsErr then .errRadio else .listening
  | .rxc _ none :: _ => .errMac
  | .rxc _ (some o) :: rest => if o.resp == .noUpdate then listenResult endsErr rest else .ok o.resp
  | _ :: rest => listenResult endsErr rest

/-- the uplink counter moves by exactly one iff `DownlinkReceived` is answered; `SessionExpired` only at
the exhausted counter; every other answer leaves MAC state and downlink queue as they were -/
def ListenFcnt (r : DevRun) (res : ListenResult) (r' : DevRun) : Prop :=
  match res with
  | .ok (.downlinkReceived _) => ∃ u, r.m.fcntUp? = some u ∧ u ≠ 0xFFFFFFFF ∧ r'.m.fcntUp? = some (u + 1)
  | .ok resp => resp = .sessionExpired ∧ r'.m.fcntUp? = r.m.fcntUp? ∧ r.m.fcntUp? = some 0xFFFFFFFF
  | _ => r'.m = r.m ∧ r'.downlinks = r.downlinks

/-- a listen call against the history of its events -/
structure ListenRel (r : DevRun) (res : ListenResult) (r' : DevRun) (outs : List Out) : Prop where
  /-- the answer is the one read off the outputs -/
  ans : res = listenResult (listenEndsErr r.script) outs
  /-- every output was offered to the downlink queue, in order -/
  dls : r'.downlinks = pushDls r.dlCap r.downlinks (outs.filterMap Out.rxOut?)
  cap : r'.dlCap = r.dlCap
  /-- nothing was transmitted -/
  calls : NoTxSince r r'
  fcnt : ListenFcnt r res r'

theorem rxOuts_cons (rf : RfConfig) (o : Option RxOut) (outs : List Out) :
    (Out.rxc rf o :: outs).filterMap Out.rxOut? = o.toList ++ outs.filterMap Out.rxOut? := by
  cases o <;> rfl

theorem deliver_m (r : DevRun) (o : Option RxOut) : (r.deliver o).m = r.m := (deliver_fields r o).1

theorem ScriptItem.eq_frame {i : ScriptItem} {v : RxView} {snr : Int} (h : i.frame? = some (v, snr)) : i = .frame snr v := by
  cases i <;> cases h
  rfl

theorem nextItem_length {s : List ScriptItem} {f : RxView × Int} (h : (nextItem s).1.frame? = some f) :
    s.length = (nextItem s).2.length + 1 := by
  cases s with
  | nil => cases h
  | cons i rest => rfl

theorem nextItem_drop {s : List ScriptItem} {f : RxView × Int} (h : (nextItem s).1.frame? = some f) (n : Nat) :
    s.drop (n + 1) = (nextItem s).2.drop n := by
  cases s with
  | nil => cases h
  | cons i rest => rfl

theorem listenEndsErr_none {s : List ScriptItem} (h : (nextItem s).1.frame? = none) :
    listenEndsErr s = (nextItem s).1.isErr := by
  cases s with
  | nil => rfl
  | cons i rest => cases i <;> first | rfl | cases h

theorem listenEndsErr_some {s : List ScriptItem} {f : RxView × Int} (h : (nextItem s).1.frame? = some f) :
    listenEndsErr s = listenEndsErr (nextItem s).2 := by
  cases s with
  | nil => cases h
  | cons i rest => cases i <;> first | rfl | cases h

theorem listenLoop_none {mp fuel : Nat} {r : DevRun} (h : (nextItem r.script).1.frame? = none) :
    listenLoop mp (fuel + 1) r =
      pure (if (nextItem r.script).1.isErr then .errRadio else .listening, afterCall r .rxContinuous) := by
  rw [listenLoop, next_log]
  cases hi : (nextItem r.script).1 <;> first | rfl | (rw [hi] at h; cases h)

theorem listenLoop_some {mp fuel : Nat} {r : DevRun} {v : RxView} {snr : Int} (h : (nextItem r.script).1.frame? = some (v, snr)) :
    listenLoop mp (fuel + 1) r = (macHandleRx r.m v mp snr true >>= fun om =>
      let r1 := ({ afterCall r .rxContinuous with m := om.2 }).deliver om.1
      match om.1 with
      | none => pure (.errMac, r1)
      | some out =>
        match out.resp with
        | .noUpdate => listenLoop mp fuel r1
        | .downlinkReceived n => pure (.ok (.downlinkReceived n), r1)
        | .sessionExpired => pure (.ok .sessionExpired, r1)
        | _ => panic "ListenResponse::from") := by
  rw [listenLoop, next_log, ScriptItem.eq_frame h]
  rfl

theorem listenLoop_refines {σ} (g : Rng σ) (rs : σ) (mp : Nat) (rf : RfConfig) (fuel : Nat) (r : DevRun)
    (hrf : macRxcConfig r.m = .ok rf) (res : ListenResult) (r' : DevRun)
    (h : listenLoop mp fuel r = .ok (res, r')) :
    ∃ outs, run g (r.m, rs) (listenEvents r.m mp (leadFrames r.script).1) = .ok ((r'.m, rs), outs) ∧
      ListenRel r res r' outs := by
  induction fuel generalizing r with
  | zero => cases h
  | succ fuel ih =>
    cases hf : (nextItem r.script).1.frame? with
    | none =>
      rw [listenLoop_none hf] at h
      cases h
      refine ⟨[], by rw [leadFrames_none hf]; rfl, ?_⟩
      exact ⟨by rw [listenEndsErr_none hf]; rfl, rfl, rfl, (afterCall_rel (P := (·.isTx = false)) r _ rfl).calls,
        by cases (nextItem r.script).1.isErr <;> exact ⟨rfl, rfl⟩⟩
    | some f =>
      obtain ⟨v, snr⟩ := f
      rw [listenLoop_some hf] at h
      obtain ⟨⟨o, m1⟩, hrx, h⟩ := Except.bind_eq_ok h
      have hstep : step g (r.m, rs) (.rxc v snr mp) = .ok ((m1, rs), .rxc rf o) := by
        simp only [step, hrf, hrx, bind, Except.bind, pure, Except.pure]
      have hrel := deliver_rel (P := (·.isTx = false)) r .rxContinuous rfl o m1
      have hdf := deliver_fields ({ afterCall r .rxContinuous with m := m1 }) o
      rw [leadFrames_some hf]
      rcases macHandleRxc_shape r.m v mp snr o m1 hrx with ⟨rfl, rfl, hfu⟩ | ⟨out, rfl, hsh⟩
      · cases h
        refine ⟨[.rxc rf none], ?_, ?_⟩
        · simp only [listenEvents, hrx, run, hstep, bind, Except.bind, pure, Except.pure,
            deliver_m]
        · exact ⟨rfl, rfl, rfl, hrel.calls, ⟨rfl, rfl⟩⟩
      · have hdls : (({ afterCall r .rxContinuous with m := m1 }).deliver (some out)).downlinks =
            pushDls r.dlCap r.downlinks ([Out.rxc rf (some out)].filterMap Out.rxOut?) := hrel.dls
        rcases hsh with ⟨hn, hd, rfl⟩ | ⟨hn, hd, hfu, hfu'⟩ | ⟨n, u, hn, hfu, hu, hfu'⟩
        · -- NoUpdate: go on listening, nothing changed
          simp only [hn] at h
          rw [show ({ afterCall r .rxContinuous with m := r.m } : DevRun).deliver (some out) = afterCall r .rxContinuous by
            simp [DevRun.deliver, hd, afterCall]] at h
          obtain ⟨outs, hrun, hrel2⟩ := ih (afterCall r .rxContinuous) hrf h
          refine ⟨.rxc rf (some out) :: outs, ?_, ?_⟩
          · simp only [listenEvents, hrx, hn, beq_self_eq_true, if_true, run, hstep,
              bind, Except.bind, pure, Except.pure]
            rw [show run g (r.m, rs) (listenEvents r.m mp (leadFrames (nextItem r.script).2).1) = _ from hrun]
          · refine ⟨?_, ?_, hrel2.cap, (afterCall_rel (P := (·.isTx = false)) r _ rfl).calls.trans hrel2.calls, hrel2.fcnt⟩
            · rw [hrel2.ans, listenEndsErr_some hf]; simp [listenResult, hn, afterCall]
            · rw [hrel2.dls, rxOuts_cons]; simp [pushDls, pushDl, hd, afterCall]
        · simp only [hn] at h
          cases h
          have hne : (out.resp == Response.noUpdate) = false := by rw [hn]; rfl
          refine ⟨[.rxc rf (some out)], ?_, ?_⟩
          · simp only [listenEvents, hrx, hne, Bool.false_eq_true, if_false, run, hstep,
              bind, Except.bind, pure, Except.pure, deliver_m]
          · exact ⟨by simp [listenResult, hn], hdls, hrel.cap, hrel.calls, ⟨rfl, hdf.1 ▸ hfu', hfu⟩⟩
        · simp only [hn] at h
          cases h
          have hne : (out.resp == Response.noUpdate) = false := by rw [hn]; rfl
          refine ⟨[.rxc rf (some out)], ?_, ?_⟩
          · simp only [listenEvents, hrx, hne, Bool.false_eq_true, if_false, run, hstep,
              bind, Except.bind, pure, Except.pure, deliver_m]
          · exact ⟨by simp [listenResult, hn], hdls, hrel.cap, hrel.calls, ⟨u, hfu, hu, hdf.1 ▸ hfu'⟩⟩

/-- **`rxc_listen` refines the histories.**  A call of `asyncListen` that returns IS `run` on the plain
history `abstractListen` (Class C receptions `Ev.rxc`, one per frame heard up to and including the first
one acted upon): the same final MAC state (and the generator state untouched), the downlink queue is the
one the outputs of those events were pushed to, the answer is the one read off those outputs
(`listenResult`), nothing was transmitted. -/
theorem asyncListen_refines {σ} (g : Rng σ) (rs : σ) (r : DevRun) (res : ListenResult) (r' : DevRun)
    (h : asyncListen r = .ok (res, r')) :
    ∃ outs, run g (r.m, rs) (abstractListen r.m r.script) = .ok ((r'.m, rs), outs) ∧ ListenRel r res r' outs := by
  unfold asyncListen at h
  obtain ⟨rf, hrf, h⟩ := Except.bind_eq_ok h
  unfold abstractListen
  rw [← rxcMp_of_ok hrf]
  exact listenLoop_refines g rs _ rf _ r hrf res r' h

theorem listenLoop_tot (mp fuel : Nat) (r : DevRun) (h : MacWF r.m) (hv : scriptWF r.script = true)
    (hl : r.script.length < fuel) :
    Tot (listenLoop mp fuel r) (fun x => Keeps r.m x.2.m ∧ ∀ resp, x.1 = .ok resp → resp = .sessionExpired ∨ ∃ n, resp = .downlinkReceived n) := by
  induction fuel generalizing r with
  | zero => omega
  | succ fuel ih =>
    cases hf : (nextItem r.script).1.frame? with
    | none => rw [listenLoop_none hf]; exact Tot.pure ⟨Keeps.refl h, fun _ e => by split at e <;> cases e⟩
    | some f =>
      obtain ⟨v, snr⟩ := f
      obtain ⟨hv1, hv2⟩ := nextItem_all viewWF (scriptWF_eq _ ▸ hv)
      rw [ScriptItem.eq_frame hf] at hv1
      rw [listenLoop_some hf]
      obtain ⟨⟨o, m1⟩, hrx, hk⟩ := macHandleRx_tot r.m v mp snr true h hv1
      simp only [hrx, bind, Except.bind]
      simp only at hk
      rcases macHandleRxc_shape r.m v mp snr o m1 hrx with ⟨rfl, rfl, _⟩ | ⟨out, rfl, ⟨hn, hd, rfl⟩ | ⟨hn, hd, _, _⟩ | ⟨n, u, hn, _, _, _⟩⟩
      · exact Tot.pure ⟨by rw [deliver_m]; exact hk, fun _ e => nomatch e⟩
      · simp only [hn]
        have := ih (({ afterCall r .rxContinuous with m := r.m } : DevRun).deliver (some out))
          (by rw [deliver_m]; exact h) (by rw [(deliver_fields _ _).2.1]; exact hv2)
          (by rw [(deliver_fields _ _).2.1]; have := nextItem_length hf; simp only [afterCall] at this ⊢; omega)
        rwa [deliver_m] at this
      · simp only [hn]
        exact Tot.pure ⟨by rw [deliver_m]; exact hk, fun _ e => by cases e; exact .inl rfl⟩
      · simp only [hn]
        exact Tot.pure ⟨by rw [deliver_m]; exact hk, fun _ e => by cases e; exact .inr ⟨n, rfl⟩⟩

/-- **from a well-formed MAC state `rxc_listen` returns, whatever the radio reports**: no panic — in
particular `ListenResponse::from` never meets a response it panics on (an `.ok` answer is `SessionExpired` or
`DownlinkReceived`) — and no hang for any (finite) script of radio answers; the state it leaves is well-formed again -/
theorem asyncListen_tot (r : DevRun) (h : MacWF r.m) (hv : scriptWF r.script = true) :
    Tot (asyncListen r) (fun x => Keeps r.m x.2.m ∧ ∀ resp, x.1 = .ok resp → resp = .sessionExpired ∨ ∃ n, resp = .downlinkReceived n) := by
  unfold asyncListen
  refine Tot.bind (macRxcConfig_tot r.m h) (fun rf _ => ?_)
  exact listenLoop_tot _ _ r h hv (Nat.lt_succ_self _)

/-- the first frame of a list the REFERENCE accepts (`specRxc`: a data frame that fits `mp` and whose
MIC verifies under the unique counter that is fresh after `last`, `Spec/Freshness.lean`): the number of
frames heard before it, that counter, the frame -/
def firstAccepted (last : Option Nat) (mp : Nat) : List (RxView × Int) → Option (Nat × Nat × RxData)
  | [] => none
  | (v, _) :: rest =>
    match specRxc last v mp with
    | some (N, d) => some (0, N, d)
    | none => (firstAccepted last mp rest).map (fun x => (x.1 + 1, x.2))

/-- `firstAccepted` names the FIRST accepted frame: the `k` frames before it are not accepted -/
theorem firstAccepted_some {last : Option Nat} {mp : Nat} {cs : List (RxView × Int)} {k N : Nat} {d : RxData}
    (h : firstAccepted last mp cs = some (k, N, d)) :
    (∃ snr, cs[k]? = some (.data d, snr)) ∧ accepts last d mp = some N ∧
      ∀ i < k, ∀ c, cs[i]? = some c → specRxc last c.1 mp = none := by
  induction cs generalizing k with
  | nil => cases h
  | cons c rest ih =>
    obtain ⟨v, snr⟩ := c
    simp only [firstAccepted] at h
    cases hsp : specRxc last v mp with
    | some p =>
      obtain ⟨N', d'⟩ := p
      simp only [hsp, Option.some.injEq, Prod.mk.injEq] at h
      obtain ⟨rfl, rfl, rfl⟩ := h
      have hv : v = .data d' ∧ accepts last d' mp = some N' := by
        cases v with
        | data d0 =>
          simp only [specRxc, Option.map_eq_some_iff, Prod.mk.injEq] at hsp
          obtain ⟨_, ha, rfl, rfl⟩ := hsp
          exact ⟨rfl, ha⟩
        | garbage | joinAccept j => cases hsp
      exact ⟨⟨snr, by rw [hv.1]; rfl⟩, hv.2, fun i hi => by omega⟩
    | none =>
      simp only [hsp, Option.map_eq_some_iff, Prod.mk.injEq] at h
      obtain ⟨⟨k', N', d'⟩, h', rfl, rfl, rfl⟩ := h
      obtain ⟨h1, h2, h3⟩ := ih h'
      refine ⟨by simpa using h1, h2, ?_⟩
      intro i hi c hc
      cases i with
      | zero => simp only [List.getElem?_cons_zero, Option.some.injEq] at hc; subst hc; exact hsp
      | succ j => exact h3 j (by omega) c (by simpa using hc)

theorem firstAccepted_none {last : Option Nat} {mp : Nat} {cs : List (RxView × Int)}
    (h : firstAccepted last mp cs = none) : ∀ c ∈ cs, specRxc last c.1 mp = none := by
  induction cs with
  | nil => intro c hc; cases hc
  | cons c rest ih =>
    obtain ⟨v, snr⟩ := c
    simp only [firstAccepted] at h
    cases hsp : specRxc last v mp with
    | some p => simp [hsp] at h
    | none =>
      simp only [hsp, Option.map_eq_none_iff] at h
      intro c hc
      rcases List.mem_cons.mp hc with rfl | hc
      · exact hsp
      · exact ih h c hc

/-- the context an accepted Class C frame leaves the MAC commands in: untouched (`handle_rxc` ignores them) -/
def rxcCtx (m : MacState) (s : Session) : MacCtx := { cfg := m.cfg, region := m.region, pending := s.pending }

/-- what a listen call of a device with session `s` does, by the reference: nothing but ending as the
radio ended it, or the effect of the first accepted frame -/
def ListenNF (r : DevRun) (s : Session) (mp : Nat) (res : ListenResult) (r' : DevRun) : Prop :=
  match firstAccepted s.fcntDown mp (leadFrames r.script).1 with
  | none =>
    r'.m = r.m ∧ r'.downlinks = r.downlinks ∧ res = (if listenEndsErr r.script then .errRadio else .listening) ∧
      r'.script = (leadFrames r.script).2
  | some (k, N, d) =>
    r'.m = acceptState r.m s d N (rxcCtx r.m s) ∧
      r'.downlinks = pushDl r.dlCap r.downlinks (acceptOut s d N (rxcCtx r.m s)) ∧
      res = .ok (acceptOut s d N (rxcCtx r.m s)).resp ∧ r'.script = r.script.drop (k + 1)

theorem leadFrames_snd_cons_frame (snr : Int) (v : RxView) (rest : List ScriptItem) :
    (leadFrames (.frame snr v :: rest)).2 = (leadFrames rest).2 := rfl

theorem listenLoop_joined (mp fuel : Nat) (r : DevRun) (s : Session) (hst : r.m.st = .joined s) (hl : LastOk s.fcntDown)
    (hv : r.script.all (ScriptItem.allView viewOk) = true) (hf : r.script.length < fuel) :
    ∃ res r', listenLoop mp fuel r = .ok (res, r') ∧ ListenNF r s mp res r' := by
  induction fuel generalizing r with
  | zero => omega
  | succ fuel ih =>
    cases hfr : (nextItem r.script).1.frame? with
    | none =>
      rw [listenLoop_none hfr]
      exact ⟨_, _, rfl, by simp [ListenNF, leadFrames_none hfr, firstAccepted, listenEndsErr_none hfr, afterCall]⟩
    | some f =>
      obtain ⟨v, snr⟩ := f
      obtain ⟨hw, hv2⟩ := nextItem_all viewOk hv
      rw [ScriptItem.eq_frame hfr] at hw
      rw [listenLoop_some hfr]
      simp only [macHandleRxc_joined r.m s hst hl v mp snr hw]
      unfold ListenNF
      simp only [leadFrames_some hfr, firstAccepted, listenEndsErr_some hfr]
      cases hsp : specRxc s.fcntDown v mp with
      | none =>
        simp only [bind, Except.bind, pure, Except.pure, noUp]
        rw [show ({ afterCall r .rxContinuous with m := r.m } : DevRun).deliver (some { resp := .noUpdate, downlink := none }) =
          afterCall r .rxContinuous by simp [DevRun.deliver, afterCall]]
        obtain ⟨res, r', hrun, hnf⟩ := ih (afterCall r .rxContinuous) hst hv2
          (by have := nextItem_length hfr; simp only [afterCall] at this ⊢; omega)
        refine ⟨res, r', hrun, ?_⟩
        simp only [ListenNF, afterCall] at hnf
        cases hfa : firstAccepted s.fcntDown mp (leadFrames (nextItem r.script).2).1 with
        | none =>
          simp only [hfa, Option.map_none] at hnf ⊢
          exact hnf
        | some x =>
          simp only [hfa, Option.map_some] at hnf ⊢
          exact ⟨hnf.1, hnf.2.1, hnf.2.2.1, by rw [hnf.2.2.2, nextItem_drop hfr]⟩
      | some p =>
        obtain ⟨N, d0⟩ := p
        simp only [bind, Except.bind, pure, Except.pure]
        refine ⟨.ok (acceptOut s d0 N (rxcCtx r.m s)).resp,
          ({ afterCall r .rxContinuous with m := acceptState r.m s d0 N (rxcCtx r.m s) } : DevRun).deliver
            (some (acceptOut s d0 N (rxcCtx r.m s))), ?_, ?_⟩
        · rcases accOut_cases s.fcntUp N d0 with ⟨he, _⟩ | ⟨he, _⟩ <;>
            simp only [show rxcCtx r.m s = ctxC r.m s from rfl, acceptOut_eq, he]
        · simp [deliver_some, afterCall, nextItem_drop hfr]

/-- a device without a session: the first frame heard ends the call with `Err(Mac)` (NotJoined); nothing changes -/
theorem listenLoop_notJoined (mp fuel : Nat) (r : DevRun) (hst : ∀ s, r.m.st ≠ .joined s) (res : ListenResult) (r' : DevRun)
    (h : listenLoop mp (fuel + 1) r = .ok (res, r')) :
    r'.m = r.m ∧ r'.downlinks = r.downlinks ∧
      res = (if (leadFrames r.script).1.isEmpty then (if listenEndsErr r.script then .errRadio else .listening) else .errMac) := by
  cases hf : (nextItem r.script).1.frame? with
  | none =>
    rw [listenLoop_none hf] at h
    cases h
    simp [leadFrames_none hf, listenEndsErr_none hf, afterCall]
  | some f =>
    obtain ⟨v, snr⟩ := f
    rw [listenLoop_some hf] at h
    simp only [macHandleRxc_notJoined r.m hst v mp snr, bind, Except.bind,
      pure, Except.pure, DevRun.deliver] at h
    cases h
    simp [leadFrames_some hf, afterCall]

/-- an application call on the async device: one of `AsyncOp` (`send` / `join` with their scripts, ABP
activation, the setters) or a call of `rxc_listen` with the script of radio answers it meets -/
inductive AsyncCall where
  | op (o : AsyncOp)
  | listen (script : List ScriptItem)
  deriving Repr

/-- what the application sees of one call -/
inductive CallObs where
  | op (ob : OpObs)
  | listen (res : ListenResult)
  deriving Repr

def asyncCall {σ} (g : Rng σ) (cfg : DevCfg) (r : DevRun) (rs : σ) : AsyncCall → M (CallObs × DevRun × σ)
  | .op o => do
    let (ob, r', rs') ← asyncOp g cfg r rs o
    pure (.op ob, r', rs')
  | .listen script => do
    let (res, r') ← asyncListen { r with script := script }
    pure (.listen res, r', rs)

/-- a session: sends, joins, setters and listen calls in any order -/
def asyncCalls {σ} (g : Rng σ) (cfg : DevCfg) : DevRun → σ → List AsyncCall → M (List CallObs × DevRun × σ)
  | r, rs, [] => pure ([], r, rs)
  | r, rs, c :: rest => do
    let (ob, r, rs) ← asyncCall g cfg r rs c
    let (obs, r, rs) ← asyncCalls g cfg r rs rest
    pure (ob :: obs, r, rs)

/-- **the events of one call** in MAC state `m`: the one event of an `AsyncOp`; for a listen call the
Class C receptions `abstractListen` (possibly none) -/
def abstractCall (cfg : DevCfg) (m : MacState) : AsyncCall → List EvC
  | .op o => [abstractOp cfg o]
  | .listen script => (abstractListen m script).map .base

/-- **the extended history of a session with listen calls** (each call's events in the state the
history reaches, as `plainRun` / `abstractSession` do) -/
def abstractCalls {σ} (g : Rng σ) (cfg : DevCfg) : MacState × σ → List AsyncCall → List EvC
  | _, [] => []
  | ms, c :: rest =>
    abstractCall cfg ms.1 c ++
      (match runC g ms (abstractCall cfg ms.1 c) with
       | .ok (ms', _) => abstractCalls g cfg ms' rest
       | .error _ => [])

/-- the observations of a session against the outputs of its history: one output per `AsyncOp`
(`ObsRel`), a group of outputs per listen call from which its answer is read (`listenResult`) -/
inductive SessObs : List AsyncCall → List CallObs → List OutC → Prop
  | nil : SessObs [] [] []
  | op {o : AsyncOp} {ob : OpObs} {oc : OutC} {calls : List AsyncCall} {obs : List CallObs} {ocs : List OutC} :
      ObsRel ob oc → SessObs calls obs ocs → SessObs (.op o :: calls) (.op ob :: obs) (oc :: ocs)
  | listen {script : List ScriptItem} {res : ListenResult} {outs : List Out} {calls : List AsyncCall} {obs : List CallObs}
      {ocs : List OutC} :
      res = listenResult (listenEndsErr script) outs → SessObs calls obs ocs →
      SessObs (.listen script :: calls) (.listen res :: obs) (outs.map (fun o => ({ out := o } : OutC)) ++ ocs)

theorem asyncCall_runC {σ} (g : Rng σ) (cfg : DevCfg) (d : DevRun) (rs : σ) (c : AsyncCall) (ob : CallObs) (d' : DevRun) (rs' : σ)
    (h : asyncCall g cfg d rs c = .ok (ob, d', rs')) :
    ∃ ocs, runC g (d.m, rs) (abstractCall cfg d.m c) = .ok ((d'.m, rs'), ocs) ∧
      ∀ calls obs ocs', SessObs calls obs ocs' → SessObs (c :: calls) (ob :: obs) (ocs ++ ocs') := by
  cases c with
  | op o =>
    simp only [asyncCall] at h
    obtain ⟨⟨ob1, d1, rs1⟩, hop, hk⟩ := Except.bind_eq_ok h
    cases hk
    obtain ⟨⟨⟨m1, s1⟩, oc⟩, hst, hrel⟩ := (asyncOp_sim g cfg d rs o).elim_ok hop
    have hm : d1.m = m1 := hrel.m
    have hr : rs1 = s1 := hrel.rng
    subst hm hr
    refine ⟨[oc], ?_, fun calls obs ocs' hso => SessObs.op hrel.obs hso⟩
    simp only [abstractCall, runC, hst, bind, Except.bind, pure, Except.pure]
  | listen script =>
    simp only [asyncCall] at h
    obtain ⟨⟨res, d1⟩, hl, hk⟩ := Except.bind_eq_ok h
    cases hk
    obtain ⟨outs, hrun, hrel⟩ := asyncListen_refines g rs _ res d1 hl
    refine ⟨outs.map (fun o => ({ out := o } : OutC)), runC_base g _ _ _ outs hrun, fun calls obs ocs' hso => SessObs.listen hrel.ans hso⟩

/-- **every session of the async front-end — sends, joins, setters AND listen calls, either class, any
scripts — that returns IS a run of the extended history of its calls**: same final MAC state and
generator state; the outputs are, call by call, the front-end's answers (`SessObs`) -/
theorem asyncCalls_runC {σ} (g : Rng σ) (cfg : DevCfg) (d : DevRun) (rs : σ) (calls : List AsyncCall)
    (obs : List CallObs) (d' : DevRun) (rs' : σ) (h : asyncCalls g cfg d rs calls = .ok (obs, d', rs')) :
    ∃ ocs, runC g (d.m, rs) (abstractCalls g cfg (d.m, rs) calls) = .ok ((d'.m, rs'), ocs) ∧ SessObs calls obs ocs := by
  induction calls generalizing d rs obs with
  | nil =>
    cases h
    exact ⟨[], rfl, .nil⟩
  | cons c rest ih =>
    unfold asyncCalls at h
    obtain ⟨⟨ob, d1, rs1⟩, hc, hk⟩ := Except.bind_eq_ok h
    obtain ⟨⟨obs1, d2, rs2⟩, hrest, hk2⟩ := Except.bind_eq_ok hk
    cases hk2
    obtain ⟨ocs1, hrun1, hobs1⟩ := asyncCall_runC g cfg d rs c ob d1 rs1 hc
    obtain ⟨ocs2, hrun2, hobs2⟩ := ih d1 rs1 obs1 hrest
    refine ⟨ocs1 ++ ocs2, ?_, hobs1 _ _ _ hobs2⟩
    simp only [abstractCalls, hrun1]
    exact runC_append g _ _ _ _ _ _ _ hrun1 hrun2

/-- no frame is heard between the windows of a `send` / `join` of the session (listen calls are plain
Class C receptions anyway) -/
def AsyncCall.plain (cfg : DevCfg) : AsyncCall → Bool
  | .op o => o.plain cfg
  | .listen _ => true

theorem abstractCall_plain (cfg : DevCfg) (m : MacState) (c : AsyncCall) (h : c.plain cfg = true) :
    ∀ ev ∈ abstractCall cfg m c, ev.plain = true := by
  cases c with
  | op o =>
    intro ev hev
    simp only [abstractCall, List.mem_singleton] at hev
    subst hev
    rw [abstractOp_plain]; exact h
  | listen script =>
    intro ev hev
    simp only [abstractCall, List.mem_map] at hev
    obtain ⟨e, _, rfl⟩ := hev
    rfl

theorem abstractCalls_all {σ} (g : Rng σ) (cfg : DevCfg) (Q : EvC → Prop) (calls : List AsyncCall)
    (h : ∀ c ∈ calls, ∀ m, ∀ ev ∈ abstractCall cfg m c, Q ev) (ms : MacState × σ) :
    ∀ ev ∈ abstractCalls g cfg ms calls, Q ev := by
  induction calls generalizing ms with
  | nil => intro ev hev; cases hev
  | cons c rest ih =>
    intro ev hev
    simp only [abstractCalls, List.mem_append] at hev
    rcases hev with hev | hev
    · exact h c List.mem_cons_self _ ev hev
    · split at hev
      · exact ih (fun c' hc' => h c' (List.mem_cons_of_mem _ hc')) _ ev hev
      · cases hev

theorem abstractCalls_plain {σ} (g : Rng σ) (cfg : DevCfg) (ms : MacState × σ) (calls : List AsyncCall)
    (h : ∀ c ∈ calls, c.plain cfg = true) : ∀ ev ∈ abstractCalls g cfg ms calls, ev.plain = true :=
  abstractCalls_all g cfg (·.plain = true) calls (fun c hc m => abstractCall_plain cfg m c (h c hc)) ms

def abstractCallsPlain {σ} (g : Rng σ) (cfg : DevCfg) (m : MacState) (rs : σ) (calls : List AsyncCall) : List Ev :=
  plainRun g (m, rs) (abstractCalls g cfg (m, rs) calls)

/-- **every session of the async front-end with listen calls in which no frame is heard between the
windows of a `send` / `join`
refines `Model.run`**: if the session returns, the plain history `abstractCallsPlain` returns the same
MAC and generator state, and its outputs are, call by call, the front-end's answers -/
theorem asyncCalls_refines_run {σ} (g : Rng σ) (cfg : DevCfg) (d : DevRun) (rs : σ) (calls : List AsyncCall)
    (hp : ∀ c ∈ calls, c.plain cfg = true) (obs : List CallObs) (d' : DevRun) (rs' : σ)
    (h : asyncCalls g cfg d rs calls = .ok (obs, d', rs')) :
    ∃ ocs, run g (d.m, rs) (abstractCallsPlain g cfg d.m rs calls) = .ok ((d'.m, rs'), ocs.map (·.out)) ∧
      SessObs calls obs ocs := by
  obtain ⟨ocs, hrun, hobs⟩ := asyncCalls_runC g cfg d rs calls obs d' rs' h
  exact ⟨ocs, runC_plain g (d.m, rs) _ _ (abstractCalls_plain g cfg _ calls hp) ocs hrun, hobs⟩

/-- the application-side contract of a call, and well-formed decoded views in the scripts (`scriptWF`) -/
def AsyncCall.valid (r : RegionId) : AsyncCall → Bool
  | .op o => o.valid r
  | .listen script => scriptWF script

def AsyncCall.allView (P : RxView → Bool) : AsyncCall → Bool
  | .op o => o.allView P
  | .listen script => script.all (ScriptItem.allView P)

theorem listenEvents_evOk (m : MacState) (mp : Nat) (cs : List (RxView × Int)) (h : cs.all (fun c => viewOk c.1) = true) :
    ∀ e ∈ listenEvents m mp cs, evOk e = true := by
  induction cs with
  | nil => intro e he; cases he
  | cons c rest ih =>
    obtain ⟨v, snr⟩ := c
    simp only [List.all_cons, Bool.and_eq_true] at h
    intro e he
    simp only [listenEvents, List.mem_cons] at he
    rcases he with rfl | he
    · exact h.1
    · split at he
      · split at he
        · exact ih h.2 e he
        · cases he
      · cases he

theorem abstractCall_evOkC (cfg : DevCfg) (m : MacState) (c : AsyncCall) (h : c.allView viewOk = true) :
    ∀ ev ∈ abstractCall cfg m c, evOkC ev = true := by
  cases c with
  | op o =>
    intro ev hev
    simp only [abstractCall, List.mem_singleton] at hev
    subst hev
    exact abstractOp_evOkC cfg o h
  | listen script =>
    intro ev hev
    simp only [abstractCall, List.mem_map] at hev
    obtain ⟨e, he, rfl⟩ := hev
    exact listenEvents_evOk m _ _ (leadFrames_cs_all viewOk h) e he

theorem abstractCalls_evOkC {σ} (g : Rng σ) (cfg : DevCfg) (ms : MacState × σ) (calls : List AsyncCall)
    (h : ∀ c ∈ calls, c.allView viewOk = true) : ∀ ev ∈ abstractCalls g cfg ms calls, evOkC ev = true :=
  abstractCalls_all g cfg (evOkC · = true) calls (fun c hc m => abstractCall_evOkC cfg m c (h c hc)) ms

theorem asyncCall_keeps {σ} (g : Rng σ) (cfg : DevCfg) (d : DevRun) (rs : σ) (c : AsyncCall) (h : MacWF d.m)
    (hv : c.valid d.m.region.id = true) (ob : CallObs) (d' : DevRun) (rs' : σ)
    (hr : asyncCall g cfg d rs c = .ok (ob, d', rs')) : Keeps d.m d'.m := by
  obtain ⟨ocs, hrun, _⟩ := asyncCall_runC g cfg d rs c ob d' rs' hr
  cases c with
  | op o =>
    exact (runC_safe g d.m rs _ h (abstractSessionC_valid cfg _ [o] (List.forall_mem_singleton.mpr hv))).elim hrun
  | listen script =>
    simp only [asyncCall] at hr
    obtain ⟨⟨res, d1⟩, hl, hk⟩ := Except.bind_eq_ok hr
    cases hk
    exact ((asyncListen_tot { d with script := script } h hv).elim hl).1

/-- a session can only fail in one of its `send` / `join` / setter calls (a listen call returns,
`asyncListen_tot`), and that call is made in a well-formed state that satisfies every invariant `I`
of the extended histories the initial state satisfies -/
theorem asyncCalls_fault {σ} (g : Rng σ) (cfg : DevCfg) (I : MacState → Prop)
    (hI : ∀ ms ms' evs ocs, I ms.1 → runC g ms evs = .ok (ms', ocs) → I ms'.1) (d : DevRun) (rs : σ) (calls : List AsyncCall)
    (h : MacWF d.m) (hd : I d.m) (hv : ∀ c ∈ calls, c.valid d.m.region.id = true) (e : Fault)
    (hp : asyncCalls g cfg d rs calls = .error e) :
    ∃ d1 rs1 o, MacWF d1.m ∧ I d1.m ∧ AsyncOp.valid d1.m.region.id o = true ∧ asyncOp g cfg d1 rs1 o = .error e := by
  induction calls generalizing d rs with
  | nil => cases hp
  | cons c rest ih =>
    unfold asyncCalls at hp
    rcases Except.bind_eq_error hp with hc | ⟨⟨ob, d1, rs1⟩, hc, hp⟩
    · cases c with
      | op o =>
        refine ⟨d, rs, o, h, hd, hv _ List.mem_cons_self, ?_⟩
        rcases Except.bind_eq_error hc with ho | ⟨_, _, ho⟩
        · exact ho
        · cases ho
      | listen script =>
        obtain ⟨x, hx, _⟩ := asyncListen_tot { d with script := script } h (hv _ List.mem_cons_self)
        simp only [asyncCall, hx] at hc
        cases hc
    · have hk := asyncCall_keeps g cfg d rs c h (hv _ List.mem_cons_self) ob d1 rs1 hc
      obtain ⟨ocs, hrun, _⟩ := asyncCall_runC g cfg d rs c ob d1 rs1 hc
      rcases Except.bind_eq_error hp with hr | ⟨_, _, hr⟩
      · exact ih d1 rs1 hk.1 (hI _ _ _ _ hd hrun) (fun c' hc' => by rw [hk.2.1]; exact hv c' (List.mem_cons_of_mem _ hc')) hr
      · cases hr

end Model
