import LoraVerif.Model.MacCmdCreators
import LoraVerif.Lemmas.MacCmdIter
/-! Parsing what was built: a command standing in front of a tail is found by `parse_one` when its entry frames it (`Frames`,
`framed`), so a concatenation of such commands drains to exactly them (`run_flatten`); and `build_mac_commands` writes the
concatenation (`buildLoop_ok`, through `writeAt`). -/
namespace MacCmd

/-- `c` followed by `tail` is framed as exactly `c` by `parse_one` -/
def WellFramed (T : Table) (vl : VarLen) (c : Cmd) (tail : Bytes) : Prop :=
  parseOne T vl (c.wire ++ tail) = .ok (.ok (c, c.wire.length))

/-- what entry `e` asks of a payload standing in front of `tail`: the fixed length, or the `len()` helper's verdict on all that
follows the CID -/
def Frames (vl : VarLen) (e : Entry) (payload tail : Bytes) : Prop :=
  e.len = some payload.length ∨
  (e.len = none ∧ payload ++ tail ≠ [] ∧ vl e.payload (payload ++ tail) = .ok payload.length)

/-- `cid ‖ payload ‖ tail` parses to exactly the command, for any table and any `len()` helpers: `parse_one` finds `c`'s entry
by its CID and the entry frames the payload -/
theorem framed {T : Table} {vl : VarLen} {c : Cmd} {e : Entry} {tail : Bytes} (hl : T.lookup c.cid = some e)
    (hv : c.variant = e.variant) (hp : c.payloadTy = e.payload) (hf : Frames vl e c.payload tail) : WellFramed T vl c tail := by
  have h : parseOne T vl (c.cid :: (c.payload ++ tail)) = .ok (parsed c.cid e (c.payload ++ tail) c.payload.length) := by
    rcases hf with hlen | ⟨hlen, hne, hvl⟩
    · exact parseOne_fixed hl hlen
    · rw [parseOne_var hl hlen, if_neg hne, hvl]; rfl
  unfold WellFramed
  show parseOne T vl (c.cid :: (c.payload ++ tail)) = _
  rw [h, parsed, if_neg (by simp), List.take_left' rfl]
  cases c
  simp_all [Cmd.wire, Nat.add_comm]

theorem runFuel_cons {T : Table} {vl : VarLen} {c : Cmd} {tail : Bytes} (h : WellFramed T vl c tail) (fuel : Nat) :
    runFuel T vl (fuel + 1) { data := c.wire ++ tail, errored := false } =
      (runFuel T vl fuel { data := tail, errored := false }).bind (fun r => .ok { r with items := .cmd c :: r.items }) := by
  unfold WellFramed at h
  simp only [runFuel, next, Bool.false_or]
  rw [if_neg (by simp [Cmd.wire])]
  simp only [h, Outcome.ok_bind]
  rw [sliceFrom_ok (by simp)]
  simp only [Outcome.ok_bind, List.drop_left']
  rfl

/-- every suffix position is well framed -/
def AllFramed (T : Table) (vl : VarLen) : List Cmd → Prop
  | [] => True
  | c :: cs => WellFramed T vl c (cs.map Cmd.wire).flatten ∧ AllFramed T vl cs

theorem run_flatten {T : Table} {vl : VarLen} (cs : List Cmd) (h : AllFramed T vl cs) (fuel : Nat) (hf : cs.length < fuel) :
    runFuel T vl fuel { data := (cs.map Cmd.wire).flatten, errored := false } =
      .ok { items := cs.map Item.cmd, final := { data := [], errored := false }, hang := false } := by
  induction cs generalizing fuel with
  | nil =>
    cases fuel with
    | zero => simp at hf
    | succ fuel => simp [runFuel, next]
  | cons c cs ih =>
    cases fuel with
    | zero => simp at hf
    | succ fuel =>
      simp only [List.map_cons, List.flatten_cons]
      rw [runFuel_cons h.1, ih h.2 fuel (by simp at hf; omega)]
      rfl

theorem flatten_length_ge (cs : List Cmd) : cs.length ≤ ((cs.map Cmd.wire).flatten).length := by
  induction cs with
  | nil => simp
  | cons c cs ih =>
    simp only [List.map_cons, List.flatten_cons, List.length_append, Cmd.wire, List.length_cons] at ih ⊢; omega

/-- the fold of `macCommandsLen` from any accumulator (the model starts it at 0); the lambda is the model's, literally -/
theorem macCommandsLen_go (cmds : List Bytes) (h : ∀ b ∈ cmds, b ≠ []) (acc : Nat) :
    cmds.foldlM (fun acc b => do
      let pl ← (if 1 ≤ b.length then .ok (b.length - 1) else .panic "payload_len: self.build().len() - 1" : Outcome Nat)
      .ok (acc + (pl + 1))) acc = .ok (acc + cmds.flatten.length) := by
  induction cmds generalizing acc with
  | nil => simp
  | cons b bs ih =>
    have hb : 1 ≤ b.length := by
      have := h b (by simp)
      cases b with
      | nil => exact absurd rfl this
      | cons x xs => simp
    simp only [List.foldlM_cons, hb, if_true, Outcome.ok_bind]
    show List.foldlM _ _ bs = _
    rw [ih (fun b' hb' => h b' (by simp [hb']))]
    simp only [List.flatten_cons, List.length_append]
    congr 1; omega

/-- `res[i..i + src.len()].copy_from_slice(src)` -/
def writeAt (res : Bytes) (i : Nat) (src : Bytes) : Bytes := res.take i ++ src ++ res.drop (i + src.length)

theorem writeAt_length (res : Bytes) (i : Nat) (src : Bytes) (h : i + src.length ≤ res.length) :
    (writeAt res i src).length = res.length := by
  simp [writeAt]; omega

theorem take_writeAt (res : Bytes) (i : Nat) (src : Bytes) (h : i + src.length ≤ res.length) :
    (writeAt res i src).take (i + src.length) = res.take i ++ src := by
  have hl : (res.take i ++ src).length = i + src.length := by simp; omega
  exact List.take_left' hl

theorem drop_writeAt (res : Bytes) (i : Nat) (src : Bytes) (k : Nat) (h : i + src.length ≤ res.length) :
    (writeAt res i src).drop (i + src.length + k) = res.drop (i + src.length + k) := by
  have hl : (res.take i ++ src).length = i + src.length := by simp; omega
  calc (writeAt res i src).drop (i + src.length + k)
      = ((res.take i ++ src) ++ res.drop (i + src.length)).drop ((res.take i ++ src).length + k) := by rw [hl]; rfl
    _ = (res.drop (i + src.length)).drop k := List.drop_length_add_append k
    _ = res.drop (i + src.length + k) := by rw [List.drop_drop]

theorem writeAt_compose (res : Bytes) (i : Nat) (a b : Bytes) (h : i + a.length + b.length ≤ res.length) :
    writeAt (writeAt res i a) (i + a.length) b = writeAt res i (a ++ b) := by
  have h1 := take_writeAt res i a (by omega)
  have h2 := drop_writeAt res i a b.length (by omega)
  unfold writeAt at *
  rw [h1, h2]
  simp [List.append_assoc, Nat.add_assoc]

theorem set_then_copy (res : Bytes) (i cid : Nat) (payload : Bytes) (h : i + 1 + payload.length ≤ res.length) :
    (res.set i cid).take (i + 1) ++ payload ++ (res.set i cid).drop (i + 1 + payload.length) = writeAt res i (cid :: payload) := by
  have hi : i < res.length := by omega
  rw [List.set_eq_take_append_cons_drop, if_pos hi]
  have hl : (res.take i).length = i := by simp; omega
  have t1 : (res.take i ++ cid :: res.drop (i + 1)).take (i + 1) = res.take i ++ [cid] := by
    rw [List.take_append, hl]
    simp [List.take_of_length_le, hl]
  have t2 : (res.take i ++ cid :: res.drop (i + 1)).drop (i + 1 + payload.length) = res.drop (i + 1 + payload.length) := by
    rw [List.drop_append, hl]
    have : i + 1 + payload.length - i = (payload.length) + 1 := by omega
    rw [List.drop_of_length_le (by simp; omega), this]
    simp [List.drop_drop]
  rw [t1, t2]
  simp [writeAt, Nat.add_assoc, Nat.add_comm 1]

theorem buildLoop_ok (cmds : List Bytes) (h : ∀ b ∈ cmds, b ≠ []) (res : Bytes) (i : Nat)
    (hfit : i + cmds.flatten.length ≤ res.length) :
    buildLoop cmds res i = .ok (writeAt res i cmds.flatten, i + cmds.flatten.length) := by
  induction cmds generalizing res i with
  | nil => simp [buildLoop, writeAt]
  | cons b bs ih =>
    obtain ⟨cid, payload, rfl⟩ := List.exists_cons_of_ne_nil (h (b := b) (by simp))
    simp only [List.flatten_cons, List.length_append, List.length_cons] at hfit
    simp only [buildLoop, index_cons_zero, Outcome.ok_bind]
    rw [sliceFrom_ok (by simp)]
    simp only [Outcome.ok_bind, List.drop_succ_cons, List.drop_zero, setByte]
    rw [if_pos (by omega)]
    simp only [Outcome.ok_bind, copyInto, List.length_set]
    rw [if_pos ⟨by omega, by omega, by omega⟩]
    simp only [Outcome.ok_bind]
    have hlen : (cid :: payload).length = payload.length + 1 := rfl
    have e1 : (res.set i cid).take (i + 1) ++ payload ++ (res.set i cid).drop (i + 1 + payload.length)
          = writeAt res i (cid :: payload) := set_then_copy res i cid payload (by omega)
    rw [e1]
    have hw : (writeAt res i (cid :: payload)).length = res.length := writeAt_length _ _ _ (by rw [hlen]; omega)
    rw [ih (fun b' hb' => h b' (by simp [hb'])) _ _ (by rw [hw]; omega)]
    have e2 : i + 1 + payload.length = i + (cid :: payload).length := by rw [hlen]; omega
    rw [e2, writeAt_compose _ _ _ _ (by rw [hlen]; omega)]
    simp only [List.flatten_cons, List.length_append, hlen]
    congr 2
    omega

end MacCmd
