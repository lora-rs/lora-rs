import LoraVerif.Lemmas.AesEval
import LoraVerif.Lemmas.Basics
/-!
# The Lean AES-128 is invertible: `decrypt k (encrypt k b) = b` and `encrypt k (decrypt k b) = b`

Proved of `AesEval.cipher S Si` for any two byte substitutions that undo each other (`lawful`); the Lean AES is the
instance at its two tables (`aes_lawful`, through `AesEval.aes_eq`), which are compared entry by entry (`sub_inv`).
ShiftRows by the index permutation, MixColumns by GF(2)-linearity of `xtime` (proved structurally from the shift/xor
laws and the two values of the top bit — no 2^16 enumeration) plus single-variable coefficient identities that hold by
cancellation, AddRoundKey by `x ^ k ^ k = x`, and induction over the list of round keys (any key schedule).
-/
open Lora.Aes

namespace Lora.AesLemmas

/-- the reduction constant as a function of the top bit -/
def red (t : UInt8) : UInt8 := if t = 0 then 0 else 0x1b

theorem xtime_eq : ∀ a : UInt8, xtime a = (a <<< 1) ^^^ red (a >>> 7) := uint8_forall _ (by decide +kernel)
theorem top_bit : ∀ a : UInt8, a >>> 7 = 0 ∨ a >>> 7 = 1 := uint8_forall _ (by decide +kernel)

theorem xtime_xor (a b : UInt8) : xtime (a ^^^ b) = xtime a ^^^ xtime b := by
  rw [xtime_eq, xtime_eq a, xtime_eq b, UInt8.shiftLeft_xor, UInt8.shiftRight_xor]
  have hr : red (a >>> 7 ^^^ b >>> 7) = red (a >>> 7) ^^^ red (b >>> 7) := by
    rcases top_bit a with ha | ha <;> rcases top_bit b with hb | hb <;> rw [ha, hb] <;> decide
  rw [hr]
  ac_rfl

theorem xtime_zero : xtime 0 = 0 := by decide

theorem xor_cancel (a b : UInt8) : a ^^^ (a ^^^ b) = b := by
  rw [← UInt8.xor_assoc, UInt8.xor_self, UInt8.zero_xor]
theorem xor_left_comm (a b c : UInt8) : a ^^^ (b ^^^ c) = b ^^^ (a ^^^ c) := by
  rw [← UInt8.xor_assoc, UInt8.xor_comm a b, UInt8.xor_assoc]

/-- single-variable identities: the (0e 0b 0d 09) circulant inverts the (02 03 01 01) circulant.
As polynomials in `xtime` over GF(2) the products have degree 4, so the reduction never enters: by
linearity every term is some `xtime^i x`, and the terms cancel in pairs. -/
theorem inv_coeffs (x : UInt8) :
    (mul14 (mul2 x) ^^^ mul11 x ^^^ mul13 x ^^^ mul9 (mul3 x) = x) ∧
    (mul14 (mul3 x) ^^^ mul11 (mul2 x) ^^^ mul13 x ^^^ mul9 x = 0) ∧
    (mul14 x ^^^ mul11 (mul3 x) ^^^ mul13 (mul2 x) ^^^ mul9 x = 0) ∧
    (mul14 x ^^^ mul11 x ^^^ mul13 (mul3 x) ^^^ mul9 (mul2 x) = 0) := by
  simp only [mul2, mul3, mul9, mul11, mul13, mul14, xtime_xor, UInt8.xor_assoc, UInt8.xor_comm,
    xor_left_comm, xor_cancel, UInt8.xor_self, UInt8.xor_zero, and_self]

theorem fwd_coeffs (x : UInt8) :
    (mul2 (mul14 x) ^^^ mul3 (mul9 x) ^^^ mul13 x ^^^ mul11 x = x) ∧
    (mul2 (mul11 x) ^^^ mul3 (mul14 x) ^^^ mul9 x ^^^ mul13 x = 0) ∧
    (mul2 (mul13 x) ^^^ mul3 (mul11 x) ^^^ mul14 x ^^^ mul9 x = 0) ∧
    (mul2 (mul9 x) ^^^ mul3 (mul13 x) ^^^ mul11 x ^^^ mul14 x = 0) := by
  simp only [mul2, mul3, mul9, mul11, mul13, mul14, xtime_xor, UInt8.xor_assoc, UInt8.xor_comm,
    xor_left_comm, xor_cancel, UInt8.xor_self, UInt8.xor_zero, and_self]

theorem mul2_xor (a b : UInt8) : mul2 (a ^^^ b) = mul2 a ^^^ mul2 b := xtime_xor a b
theorem mul3_xor (a b : UInt8) : mul3 (a ^^^ b) = mul3 a ^^^ mul3 b := by
  simp only [mul3, xtime_xor]; ac_rfl
theorem mul9_xor (a b : UInt8) : mul9 (a ^^^ b) = mul9 a ^^^ mul9 b := by
  simp only [mul9, xtime_xor]; ac_rfl
theorem mul11_xor (a b : UInt8) : mul11 (a ^^^ b) = mul11 a ^^^ mul11 b := by
  simp only [mul11, xtime_xor]; ac_rfl
theorem mul13_xor (a b : UInt8) : mul13 (a ^^^ b) = mul13 a ^^^ mul13 b := by
  simp only [mul13, xtime_xor]; ac_rfl
theorem mul14_xor (a b : UInt8) : mul14 (a ^^^ b) = mul14 a ^^^ mul14 b := by
  simp only [mul14, xtime_xor]; ac_rfl

/-- one column: InvMixColumns undoes MixColumns (first output byte; the others by rotation) -/
theorem imc_mc (a b c d : UInt8) : imc (mc a b c d) (mc b c d a) (mc c d a b) (mc d a b c) = a := by
  obtain ⟨ha, _, _, _⟩ := inv_coeffs a
  obtain ⟨_, hb, _, _⟩ := inv_coeffs b
  obtain ⟨_, _, hc, _⟩ := inv_coeffs c
  obtain ⟨_, _, _, hd⟩ := inv_coeffs d
  have h : imc (mc a b c d) (mc b c d a) (mc c d a b) (mc d a b c)
      = (mul14 (mul2 a) ^^^ mul11 a ^^^ mul13 a ^^^ mul9 (mul3 a))
        ^^^ (mul14 (mul3 b) ^^^ mul11 (mul2 b) ^^^ mul13 b ^^^ mul9 b)
        ^^^ (mul14 c ^^^ mul11 (mul3 c) ^^^ mul13 (mul2 c) ^^^ mul9 c)
        ^^^ (mul14 d ^^^ mul11 d ^^^ mul13 (mul3 d) ^^^ mul9 (mul2 d)) := by
    simp only [imc, mc, mul9_xor, mul11_xor, mul13_xor, mul14_xor]
    ac_rfl
  rw [h, ha, hb, hc, hd]
  simp

theorem mc_imc (a b c d : UInt8) : mc (imc a b c d) (imc b c d a) (imc c d a b) (imc d a b c) = a := by
  obtain ⟨ha, _, _, _⟩ := fwd_coeffs a
  obtain ⟨_, hb, _, _⟩ := fwd_coeffs b
  obtain ⟨_, _, hc, _⟩ := fwd_coeffs c
  obtain ⟨_, _, _, hd⟩ := fwd_coeffs d
  have h : mc (imc a b c d) (imc b c d a) (imc c d a b) (imc d a b c)
      = (mul2 (mul14 a) ^^^ mul3 (mul9 a) ^^^ mul13 a ^^^ mul11 a)
        ^^^ (mul2 (mul11 b) ^^^ mul3 (mul14 b) ^^^ mul9 b ^^^ mul13 b)
        ^^^ (mul2 (mul13 c) ^^^ mul3 (mul11 c) ^^^ mul14 c ^^^ mul9 c)
        ^^^ (mul2 (mul9 d) ^^^ mul3 (mul13 d) ^^^ mul11 d ^^^ mul14 d) := by
    simp only [imc, mc, mul2_xor, mul3_xor]
    ac_rfl
  rw [h, ha, hb, hc, hd]
  simp

theorem xorB_xorB (a k : Block) : AesEval.xorB (AesEval.xorB a k) k = a := by
  induction a using AesEval.block_cases; induction k using AesEval.block_cases
  simp only [AesEval.xorB, AesEval.withCells, UInt8.xor_assoc, UInt8.xor_self, UInt8.xor_zero]

theorem invShiftRows_shiftRows (s : Block) : AesEval.invShiftRows (AesEval.shiftRows s) = s := by
  induction s using AesEval.block_cases; rfl

theorem shiftRows_invShiftRows (s : Block) : AesEval.shiftRows (AesEval.invShiftRows s) = s := by
  induction s using AesEval.block_cases; rfl

/-! SubBytes and MixColumns are stated once each, over arbitrary cell and column functions: with the
functions left as variables the kernel has nothing to unfold when it compares the cells, and each
statement serves both directions. -/

theorem subBytes_subBytes {S Si : UInt8 → UInt8} (h : ∀ x, Si (S x) = x) (s : Block) :
    AesEval.subBytes Si (AesEval.subBytes S s) = s := by
  induction s using AesEval.block_cases
  simp only [AesEval.subBytes, AesEval.withCells, h]

theorem cols_cols {f g : UInt8 → UInt8 → UInt8 → UInt8 → UInt8}
    (h : ∀ a b c d, f (g a b c d) (g b c d a) (g c d a b) (g d a b c) = a) (s : Block) :
    AesEval.cols f (AesEval.cols g s) = s := by
  induction s using AesEval.block_cases
  simp only [AesEval.cols, AesEval.withCells, h]

/-! From here on the cipher is `AesEval.cipher S Si`, over ANY two byte substitutions: all that is asked of them is that
one undoes the other.  Rounds, then induction over the list of round keys (any key schedule). -/

section
variable {S Si : UInt8 → UInt8}

theorem decRound_encRound (h : ∀ x, Si (S x) = x) (s k : Block) : AesEval.decRound Si k (AesEval.encRound S s k) = s := by
  simp only [AesEval.decRound, AesEval.encRound, xorB_xorB, cols_cols imc_mc, invShiftRows_shiftRows, subBytes_subBytes h]

theorem encRound_decRound (h : ∀ x, S (Si x) = x) (s k : Block) : AesEval.encRound S (AesEval.decRound Si k s) k = s := by
  simp only [AesEval.decRound, AesEval.encRound, xorB_xorB, cols_cols mc_imc, shiftRows_invShiftRows, subBytes_subBytes h]

theorem decryptWith_encryptWith (h : ∀ x, Si (S x) = x) (sch : Schedule) (b : Block) :
    AesEval.decryptWith Si sch (AesEval.encryptWith S sch b) = b := by
  have hf : ∀ (ks : List Block) (s : Block), ks.foldr (AesEval.decRound Si) (ks.foldl (AesEval.encRound S) s) = s := by
    intro ks
    induction ks with
    | nil => intro s; rfl
    | cons k ks ih => intro s; simp only [List.foldl_cons, List.foldr_cons, ih, decRound_encRound h]
  simp only [AesEval.decryptWith, AesEval.encryptWith, xorB_xorB, invShiftRows_shiftRows, subBytes_subBytes h, hf]

theorem encryptWith_decryptWith (h : ∀ x, S (Si x) = x) (sch : Schedule) (b : Block) :
    AesEval.encryptWith S sch (AesEval.decryptWith Si sch b) = b := by
  have hf : ∀ (ks : List Block) (s : Block), ks.foldl (AesEval.encRound S) (ks.foldr (AesEval.decRound Si) s) = s := by
    intro ks
    induction ks with
    | nil => intro s; rfl
    | cons k ks ih => intro s; simp only [List.foldl_cons, List.foldr_cons, encRound_decRound h, ih]
  simp only [AesEval.decryptWith, AesEval.encryptWith, xorB_xorB, shiftRows_invShiftRows, subBytes_subBytes h, hf]

/-- **The cipher over two byte substitutions inverse to each other is lawful.** -/
theorem lawful (h : ∀ x, Si (S x) = x) (h' : ∀ x, S (Si x) = x) : LawfulCipher (AesEval.cipher S Si) := by
  refine ⟨fun k x => ?_, fun k x => ?_⟩ <;> simp only [AesEval.cipher, AesEval.decrypt, AesEval.encrypt]
  · exact decryptWith_encryptWith h _ x
  · exact encryptWith_decryptWith h' _ x

end

/-- the two tables are inverse to each other: 512 lookups, made in the packed tables of `AesEval` -/
theorem sub_inv : ∀ x : UInt8, AesEval.invSubN (AesEval.subN x) = x ∧ AesEval.subN (AesEval.invSubN x) = x :=
  uint8_forall _ (by decide +kernel)

end Lora.AesLemmas

namespace Lora
/-- the Lean AES of `Model/Aes.lean` is a lawful cipher (`decrypt k (encrypt k b) = b` and conversely): the hypothesis of
`C02.join_accept_round_trip` is discharged for it.  Its S-box enters here, at the last step. -/
theorem aes_lawful : LawfulCipher aes :=
  AesEval.aes_eq ▸ AesLemmas.lawful (fun x => (AesLemmas.sub_inv x).1) (fun x => (AesLemmas.sub_inv x).2)
end Lora
