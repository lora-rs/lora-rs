import LoraVerif.Lemmas.PhyTieA
/-!
# Tie A for the PHY command encoders, continued: one register access at a time (SX127x)

`tie_read`, `tie_write` and the value lemmas the steps need.  The per-method theorems of
`Props/TieA/C13Sx127.lean` are proved once for the variant function and reused, through `tie_bind`, for the
`RadioKind` method that calls it.
-/
namespace TieA.Phy
open Model.Phy Rt.Phy

/-- what a generated `read_register(r)` must evaluate to on the chip (proved per unit by evaluation) -/
def IsRead127 (m : IoM Gen.PhyErr.RadioError Chip Int) (r : Gen.PhyCodes127.Register) : Prop :=
  ∀ (c : Chip) (log : List Ev), m chipDev c log =
    some (.ok ((byteAt (c.transact [Sx127x.rd r] 1).1 0 : Nat) : Int), (c.transact [Sx127x.rd r] 1).2,
      log ++ [Ev.spi [((Sx127x.rd r).toNat : Int)] 1, Ev.busy])

/-- what a generated `write_register(r, v)` must evaluate to on the chip -/
def IsWrite127 (m : IoM Gen.PhyErr.RadioError Chip Unit) (r : Gen.PhyCodes127.Register) (v : Int) : Prop :=
  ∀ (c : Chip) (log : List Ev), m chipDev c log =
    some (.ok (), (c.transact [Sx127x.wr r, byte v] 0).2, log ++ [Ev.spi [((Sx127x.wr r).toNat : Int), v] 0, Ev.busy])

theorem denote_readRegister_bind {β : Type} (r : Gen.PhyCodes127.Register) (g : UInt8 → Prog β) (c : Chip) (log : List Ev) :
    denote (Prog.bind (Sx127x.readRegister r) g) c log =
      denote (g (UInt8.ofNat (byteAt (c.transact [Sx127x.rd r] 1).1 0))) (c.transact [Sx127x.rd r] 1).2
        (log ++ [Ev.spi [((Sx127x.rd r).toNat : Int)] 1, Ev.busy]) := by
  simp only [Sx127x.readRegister, Model.Phy.bind_eq, Model.Phy.pure_eq_ret, Prog.bind_assoc, denote_intfRead_bind, Model.Phy.bind_ret,
    toInts_cons, toInts_nil]

theorem denote_writeRegister_bind {β : Type} (r : Gen.PhyCodes127.Register) (u : UInt8) (g : Unit → Prog β) (c : Chip) (log : List Ev) :
    denote (Prog.bind (Sx127x.writeRegister r u) g) c log =
      denote (g ()) (c.transact [Sx127x.wr r, u] 0).2 (log ++ [Ev.spi [((Sx127x.wr r).toNat : Int), (u.toNat : Int)] 0, Ev.busy]) := by
  simp only [Sx127x.writeRegister, denote_intfWrite_bind, toInts_cons, toInts_nil, Bool.false_eq_true, if_false]

theorem denote_writeRegister (r : Gen.PhyCodes127.Register) (u : UInt8) (c : Chip) (log : List Ev) :
    denote (Sx127x.writeRegister r u) c log =
      some (.ok (), (c.transact [Sx127x.wr r, u] 0).2, log ++ [Ev.spi [((Sx127x.wr r).toNat : Int), (u.toNat : Int)] 0, Ev.busy]) := by
  simp only [Sx127x.writeRegister, denote_intfWrite, toInts_cons, toInts_nil, Bool.false_eq_true, if_false]

/-- a read on both sides: the continuations are compared for every byte the chip may answer -/
theorem tie_read {β β' : Type} (vb : β → β') (m : IoM Gen.PhyErr.RadioError Chip Int) (r : Gen.PhyCodes127.Register) (hm : IsRead127 m r)
    (f : Int → IoM Gen.PhyErr.RadioError Chip β) (g : UInt8 → Prog β') (c : Chip) (log : List Ev)
    (h : ∀ (b : UInt8) (c1 : Chip) (log1 : List Ev), view vb (f (b.toNat : Int) chipDev c1 log1) = denote (g b) c1 log1) :
    view vb ((m >>= f) chipDev c log) = denote (Prog.bind (Sx127x.readRegister r) g) c log := by
  rw [denote_readRegister_bind, bind_def]
  simp only [IoM.bind, hm c log]
  rw [← h]
  have e : byteAt (c.transact [Sx127x.rd r] 1).1 0 % 2 ^ 8 = byteAt (c.transact [Sx127x.rd r] 1).1 0 :=
    Nat.mod_eq_of_lt (byteAt_lt _ _)
  simp only [UInt8.toNat_ofNat', e]

/-- a write on both sides: the same byte (`v` is the value of the model's byte `u`), then the continuations -/
theorem tie_write {β β' : Type} (vb : β → β') (m : IoM Gen.PhyErr.RadioError Chip Unit) (r : Gen.PhyCodes127.Register) (v : Int) (hm : IsWrite127 m r v)
    (u : UInt8) (hv : v = (u.toNat : Int))
    (f : Unit → IoM Gen.PhyErr.RadioError Chip β) (g : Unit → Prog β') (c : Chip) (log : List Ev)
    (h : ∀ (c1 : Chip) (log1 : List Ev), view vb (f () chipDev c1 log1) = denote (g ()) c1 log1) :
    view vb ((m >>= f) chipDev c log) = denote (Prog.bind (Sx127x.writeRegister r u) g) c log := by
  rw [denote_writeRegister_bind, bind_def]
  simp only [IoM.bind, hm c log]
  subst hv
  rw [← h, byte_toNat]

theorem tie_write_last (m : IoM Gen.PhyErr.RadioError Chip Unit) (r : Gen.PhyCodes127.Register) (v : Int) (hm : IsWrite127 m r v)
    (u : UInt8) (hv : v = (u.toNat : Int)) (c : Chip) (log : List Ev) :
    view id (m chipDev c log) = denote (Sx127x.writeRegister r u) c log := by
  rw [denote_writeRegister, hm c log]
  subst hv
  simp only [view, byte_toNat, id]

/-- a write in tail position of the model, followed by nothing but `Ok(())` in the driver -/
theorem tie_write_end (m : IoM Gen.PhyErr.RadioError Chip Unit) (r : Gen.PhyCodes127.Register) (v : Int) (hm : IsWrite127 m r v)
    (u : UInt8) (hv : v = (u.toNat : Int)) (f : Unit → IoM Gen.PhyErr.RadioError Chip Unit)
    (hf : ∀ (c1 : Chip) (log1 : List Ev), f () chipDev c1 log1 = some (.ok (), c1, log1)) (c : Chip) (log : List Ev) :
    view id ((m >>= f) chipDev c log) = denote (Sx127x.writeRegister r u) c log := by
  rw [denote_writeRegister, bind_def]
  simp only [IoM.bind, hm c log, hf]
  subst hv
  simp only [view, byte_toNat, id]

theorem tie_done (c : Chip) (log : List Ev) :
    view id ((pure () : IoM Gen.PhyErr.RadioError Chip Unit) chipDev c log) = denote (Prog.ret ()) c log := rfl

/-- the values of byte expressions: the model's `UInt8` operations and the generated `Rt` operations on
non-negative integers meet in `Nat` -/
theorem andI_toNat (a b : Nat) : Rt.andI (a : Int) (b : Int) = ((a &&& b : Nat) : Int) := Rt.andI_ofNat a b
theorem andI_lit_r (a : Nat) (n : Nat) : Rt.andI (a : Int) (no_index (OfNat.ofNat n)) = ((a &&& n : Nat) : Int) := Rt.andI_ofNat a n
theorem orI_lit_r (a : Nat) (n : Nat) : Rt.orI (a : Int) (no_index (OfNat.ofNat n)) = ((a ||| n : Nat) : Int) := Rt.orI_ofNat a n
theorem orI_lit_l (a : Nat) (n : Nat) : Rt.orI (no_index (OfNat.ofNat n)) (a : Int) = ((n ||| a : Nat) : Int) := Rt.orI_ofNat n a
theorem andI_lit_l (a : Nat) (n : Nat) : Rt.andI (no_index (OfNat.ofNat n)) (a : Int) = ((n &&& a : Nat) : Int) := Rt.andI_ofNat n a

/-- `(x as u8)`, for every integer: the byte the model writes -/
theorem wrap_u8_val (t : Int) : Rt.wrap .u8 t = ((UInt8.ofNat (t % 256).toNat).toNat : Int) := by
  rw [Rt.wrap_unsigned rfl, UInt8.toNat_ofNat']
  show t % 256 = _
  omega

/-- `(v << k) as u8` and `(v * m) as u8` of non-negative table codes -/
theorem wrap_mul_val (v m : Int) (hv : 0 ≤ v) (hm : 0 ≤ m) :
    Rt.wrap .u8 (v * m) = ((UInt8.ofNat (v.toNat * m.toNat % 256)).toNat : Int) := by
  obtain ⟨n, rfl⟩ := Int.eq_ofNat_of_zero_le hv
  obtain ⟨k, rfl⟩ := Int.eq_ofNat_of_zero_le hm
  simp only [Rt.wrap, Rt.ITy.bits, Rt.ITy.signed, UInt8.toNat_ofNat', Bool.false_eq_true, if_false, Int.reducePow, Nat.reducePow,
    Int.toNat_natCast, ← Int.natCast_mul]
  omega

end TieA.Phy

/- the two facts of `clamp_spellings`, proved again by `omega`, as hypotheses `hk2`, `hk3` about a clamp already
evaluated to `k` (`hk`); no proof calls it -/
set_option hygiene false in
macro "clamp_forms" hk:ident lo:term:max hi:term:max p:term:max : tactic => `(tactic| (
  have hk2 : min (max $p $lo) $hi = max $lo (min $hi $p) := by omega
  have hk3 : max (min $p $hi) $lo = max $lo (min $hi $p) := by omega
  rw [$hk:ident] at hk2 hk3))
