import LoraVerif.Lemmas.PhyCfg
import LoraVerif.Lemmas.PhyRegs127
/-!
# The SX127x `RadioKind` model satisfies `OpsSpec` (C14)

The SX127x answers SPI in sleep mode (only the FIFO is inaccessible) and has no wake-up command:
`ensure_ready` is a no-op and "ready" is `True`.  The LoRa bit of RegOpMode (the tracker's
`packetType`) is written by every mode change, so `set_standby` leaves it programmed (`sb`).
-/
namespace Model.Phy

section
variable {n : Needs}

theorem spiStep127 (t : ChipTrack) (w : Bytes) : spiStep .sx127x n t w = step127 n t w := rfl

/-- neither the FIFO nor RegOpMode -/
def benign127 (a0 : UInt8) : Bool := a0.toNat % 128 != 0 && a0.toNat % 128 != 1

/-- the item a register write programs -/
def gain127 (a0 : UInt8) : Items :=
  if a0.toNat < 128 then {} else
  match a0.toNat % 128 with
  | 0x39 => { syncWord := true }
  | 0x0e => { bufferBase := true }
  | 0x1d => { modulation := true }
  | 0x20 => { packet := true }
  | 0x11 => { irq := true }
  | 0x06 => { frequency := true }
  | 0x09 => { pa := true }
  | _ => {}

theorem step127_benign {t : ChipTrack} (hc : Clean t) (a0 : UInt8) (args : Bytes) (hb : benign127 a0 = true) :
    Ext t (spiStep .sx127x n t (a0 :: args)) ∧ (gain127 a0).le (spiStep .sx127x n t (a0 :: args)).items := by
  rw [spiStep127]
  obtain ⟨c1, c2⟩ := hc
  simp only [benign127, Bool.and_eq_true, bne_iff_ne, ne_eq] at hb
  unfold step127 gain127
  simp only [hb.1, false_and, if_false]
  by_cases hr : a0.toNat < 128
  · simp [hr, Ext, Clean, NNS, c1, c2, Items.le_refl, Items.none_le]
  · simp only [hr, if_false]
    split <;> simp_all [Ext, Clean, NNS, Items.le]

/-- a register read, or a write to a register the tracker does not follow -/
def untracked127 (a0 : UInt8) : Bool :=
  a0.toNat % 128 != 0 &&
  (a0.toNat < 128 ||
    (a0.toNat % 128 != 1 && a0.toNat % 128 != 0x39 && a0.toNat % 128 != 0x0e && a0.toNat % 128 != 0x1d &&
     a0.toNat % 128 != 0x20 && a0.toNat % 128 != 0x11 && a0.toNat % 128 != 0x06 && a0.toNat % 128 != 0x09))

theorem step127_untracked (t : ChipTrack) (a0 : UInt8) (args : Bytes) (hb : untracked127 a0 = true) :
    spiStep .sx127x n t (a0 :: args) = t := by
  rw [spiStep127]
  simp only [untracked127, Bool.and_eq_true, Bool.or_eq_true, bne_iff_ne, ne_eq, decide_eq_true_eq] at hb
  unfold step127
  simp only [hb.1, false_and, if_false]
  by_cases hr : a0.toNat < 128
  · simp [hr]
  · simp only [hr, if_false]
    have h2 := hb.2.resolve_left hr
    split <;> simp_all

theorem step127_fifo (t : ChipTrack) (h : t.mode ≠ .sleep) (a0 : UInt8) (args : Bytes) (ha : a0.toNat % 128 = 0) :
    spiStep .sx127x n t (a0 :: args) = t := by
  rw [spiStep127]
  unfold step127
  simp only [ha, h, and_false, if_false]
  by_cases hr : a0.toNat < 128
  · simp [hr]
  · simp only [hr, if_false]

/-- a write of RegOpMode with the LoRa bit set -/
theorem step127_opmode (t : ChipTrack) (v : UInt8) (hv : v.toNat ≥ 128) :
    spiStep .sx127x n t [0x81, v] =
      (let t1 : ChipTrack := { t with items := { t.items with packetType := true } }
       if v.toNat % 8 = 0 then { t1 with mode := .sleep }
       else if v.toNat % 8 = 1 then { t1 with mode := .standby }
       else if v.toNat % 8 = 3 then start t1 .tx n.tx
       else if v.toNat % 8 = 5 then start t1 .rx n.rx
       else if v.toNat % 8 = 6 then start t1 .rx n.rx
       else if v.toNat % 8 = 7 then start t1 .cad n.cad
       else t1) := by
  rw [spiStep127]
  simp +decide [step127, hv]

end

namespace Sx127x
open Gen.PhyCodes127

variable {n : Needs}

theorem cfg_write (r : Register) (v : UInt8) (hb : benign127 (wr r) = true := by decide) :
    Cfg .sx127x n (writeRegister r v) (gain127 (wr r)) :=
  cfg_of_step fun _ hc _ => step127_benign hc _ _ hb

theorem cfg_read (r : Register) (hb : benign127 (rd r) = true := by decide) : Cfg .sx127x n (readRegister r) {} :=
  Cfg.bind0 (cfg_of_step_read fun _ hc _ => (step127_benign hc _ _ hb).1) fun _ => Cfg.pure _

theorem cfg_errOr {α : Type} (e : RadioError) (he : Abort.infra (.err e)) (o : Option α) : Cfg .sx127x n (errOr e o) {} := by
  cases o
  · exact Cfg.fail _ _ he
  · exact Cfg.pure _

theorem cfg_setTxRxBufferBaseAddress (tx rx : Nat) : Cfg .sx127x n (setTxRxBufferBaseAddress tx rx) { bufferBase := true } := by
  unfold setTxRxBufferBaseAddress
  split
  · exact Cfg.fail _ _ rfl
  · exact Cfg.bind_l (cfg_write _ _) fun _ => (cfg_write _ _).zero

theorem cfg_initLora (cfg : Config) (d : Data) (sw : Nat) :
    Cfg .sx127x n (initLora cfg d sw) { syncWord := true, bufferBase := true } := by
  unfold initLora
  dsimp only
  refine Cfg.step (cfg_errOr _ rfl _) fun _ => (Cfg.ite_seq (g1 := {}) (g2 := { syncWord := true, bufferBase := true }) ?_ ?_).weaken
    (by split <;> decide)
  · cases cfg.chip <;> exact (cfg_write _ _).zero
  · refine Cfg.step (cfg_write _ _) fun _ => Cfg.step (cfg_setTxRxBufferBaseAddress 0 0) fun _ => ?_
    split
    · exact Cfg.weaken (Cfg.bind0 (cfg_read _) fun _ => Cfg.pure _) (by decide)
    · exact Cfg.weaken (Cfg.pure _) (by decide)

theorem cfg_setLoraSyncWord (w : Nat) : Cfg .sx127x n (setLoraSyncWord w) {} := by
  unfold setLoraSyncWord
  exact Cfg.bind0 (cfg_errOr _ rfl _) fun _ => (cfg_write _ _).zero

theorem cfg_setOcp (t : OcpTrim) : Cfg .sx127x n (setOcp t) {} := (cfg_write _ _).zero

theorem cfg_setTxPower (cfg : Config) (p : Int) : Cfg .sx127x n (setTxPower cfg p) { pa := true } := by
  unfold setTxPower
  dsimp only
  -- SX1276: DAC, over-current trim, PA configuration; SX1272: PA configuration, DAC
  have a (v1 : UInt8) (t : OcpTrim) (v3 : UInt8) : Cfg .sx127x n (do
      writeRegister .RegPaDacSX1276 v1; setOcp t; writeRegister .RegPaConfig v3) { pa := true } :=
    Cfg.bind_r (cfg_write _ _).zero fun _ => Cfg.bind_r (cfg_setOcp _) fun _ => cfg_write _ _
  have b (v1 v2 : UInt8) : Cfg .sx127x n (do
      writeRegister .RegPaConfig v1; writeRegister .RegPaDacSX1272 v2) { pa := true } :=
    Cfg.bind_l (cfg_write _ _) fun _ => (cfg_write _ _).zero
  split
  · split
    · split <;> exact a _ _ _
    · exact a _ _ _
  · split
    · split <;> exact b _ _
    · exact b _ _

theorem cfg_setTxPowerAndRampTime (cfg : Config) (p : Int) (b : Bool) :
    Cfg .sx127x n (setTxPowerAndRampTime cfg p b) { pa := true } := by
  unfold setTxPowerAndRampTime
  exact Cfg.bind_l (cfg_setTxPower cfg p) fun _ => (cfg_write _ _).zero

theorem cfg_clearIrqStatus : Cfg .sx127x n clearIrqStatus {} := (cfg_write _ _).zero

theorem cfg_setIrqParams (m : Option RadioMode) : Cfg .sx127x n (setIrqParams m) { irq := true } := by
  unfold setIrqParams
  refine Cfg.bind_r cfg_clearIrqStatus fun _ => ?_
  -- whatever the mode: the flag mask, then DIO mapping 1 read, changed and written back
  have routing (v : UInt8) (f : UInt8 → UInt8) : Cfg .sx127x n (do
      writeRegister .RegIrqFlagsMask v
      let d ← readRegister .RegDioMapping1
      writeRegister .RegDioMapping1 (f d)) { irq := true } :=
    Cfg.bind_l (cfg_write _ _) fun _ => Cfg.bind0 (cfg_read _) fun _ => (cfg_write _ _).zero
  split <;> exact routing _ _

theorem cfg_modFields1276 (sf bw crd : Int) (ldro : UInt8) :
    Cfg .sx127x n (modFields1276 sf bw crd ldro) { modulation := true } :=
  Cfg.bind_r (cfg_read _) fun _ => Cfg.bind_r (cfg_write _ _).zero fun _ => Cfg.bind_r (cfg_read _) fun _ =>
    Cfg.bind_l (cfg_write _ _) fun _ => Cfg.bind0 (cfg_read _) fun _ => Cfg.bind0 (cfg_write _ _).zero fun _ =>
    Cfg.bind0 (cfg_read _) fun _ => (cfg_write _ _).zero

theorem cfg_errata21 (q : Bool) (bw : Bandwidth) (f : Nat) : Cfg .sx127x n (errata21 q bw f) {} := by
  unfold errata21
  repeat' split
  · exact Cfg.bind0 (cfg_write _ _).zero fun _ => (cfg_write _ _).zero
  · exact Cfg.bind0 (cfg_write _ _).zero fun _ => (cfg_write _ _).zero
  · exact (cfg_write _ _).zero
  · exact Cfg.pure _

theorem cfg_errata23 (bw : Bandwidth) : Cfg .sx127x n (errata23 bw) {} := by
  refine Cfg.bind0 (cfg_read _) fun _ => ?_
  repeat' split
  · exact (cfg_write _ _).zero
  · exact Cfg.bind0 (cfg_write _ _).zero fun _ => Cfg.bind0 (cfg_write _ _).zero fun _ => (cfg_write _ _).zero
  · exact Cfg.pure _

theorem cfg_variantSetModulationParams (cfg : Config) (d : Data) (m : ModulationParams) :
    Cfg .sx127x n (variantSetModulationParams cfg d m) { modulation := true } := by
  cases hc : cfg.chip with
  | sx1276 =>
    rw [variantSetModulationParams_1276 cfg hc]
    exact Cfg.bind_r (cfg_errOr _ rfl _) fun _ => Cfg.bind_r (cfg_errOr _ rfl _) fun _ =>
      Cfg.bind_r (cfg_errOr _ rfl _) fun _ => Cfg.bind_l (cfg_modFields1276 _ _ _ _) fun _ =>
      Cfg.bind0 (cfg_errata21 _ _ _) fun _ => cfg_errata23 _
  | sx1272 =>
    simp only [variantSetModulationParams, hc]
    refine Cfg.bind_r (cfg_errOr _ rfl _) fun bw => ?_
    refine Cfg.bind_r (cfg_errOr _ rfl _) fun sf => ?_
    refine Cfg.bind_r (cfg_read _) fun c1 => ?_
    refine Cfg.bind_r (cfg_errOr _ rfl _) fun cr => ?_
    refine Cfg.bind_l (cfg_write _ _) fun _ => ?_
    exact Cfg.bind0 (cfg_read _) fun c2 => (cfg_write _ _).zero

theorem cfg_setModulationParams (cfg : Config) (d : Data) (m : ModulationParams) :
    Cfg .sx127x n (setModulationParams cfg d m) { modulation := true } := by
  unfold setModulationParams
  dsimp only
  refine Cfg.bind_r (cfg_errOr _ rfl _) fun _ => ?_
  refine Cfg.bind_r (cfg_errOr _ rfl _) fun _ => ?_
  refine Cfg.bind_r (cfg_errOr _ rfl _) fun _ => ?_
  refine Cfg.bind_r (cfg_read _) fun _ => ?_
  refine Cfg.bind_r (cfg_write _ _).zero fun _ => ?_
  refine Cfg.bind_r (cfg_write _ _).zero fun _ => ?_
  exact cfg_variantSetModulationParams cfg d m

theorem cfg_variantSetPacketParams (cfg : Config) (p : PacketParams) : Cfg .sx127x n (variantSetPacketParams cfg p) {} := by
  unfold variantSetPacketParams
  split
  · exact Cfg.bind0 (cfg_read _) fun _ => Cfg.bind0 (cfg_write _ _).zero fun _ =>
      Cfg.bind0 (cfg_read _) fun _ => (cfg_write _ _).zero
  · exact Cfg.bind0 (cfg_read _) fun _ => (cfg_write _ _).zero

theorem cfg_setPacketParams (cfg : Config) (p : PacketParams) : Cfg .sx127x n (setPacketParams cfg p) { packet := true } := by
  unfold setPacketParams
  dsimp only
  refine Cfg.bind_l (cfg_write _ _) fun _ => ?_
  refine Cfg.bind0 (cfg_write _ _).zero fun _ => ?_
  refine Cfg.bind0 (cfg_variantSetPacketParams cfg p) fun _ => ?_
  exact (Cfg.ite_seq (cfg_write _ _) (Cfg.bind0 (cfg_write _ _).zero fun _ => (cfg_write _ _).zero)).zero

theorem cfg_setChannel (f : Nat) : Cfg .sx127x n (setChannel f) { frequency := true } := by
  unfold setChannel
  exact Cfg.bind_l (cfg_write _ _) fun _ => Cfg.bind0 (cfg_write _ _).zero fun _ => (cfg_write _ _).zero

theorem cfg_writeFifo (buf : Bytes) : Cfg .sx127x n (writeBuffer .RegFifo buf) {} :=
  cfg_of_step fun t hc ha => by
    have hl : [wr Register.RegFifo] ++ buf = wr .RegFifo :: buf := rfl
    rw [hl, step127_fifo t ha.1 _ _ (by decide)]
    exact ⟨Ext.refl hc, Items.none_le _⟩

theorem cfg_setPayload (p : Bytes) : Cfg .sx127x n (setPayload p) {} := by
  unfold setPayload
  refine Cfg.bind0 (cfg_write _ _).zero fun _ => ?_
  refine Cfg.bind0 (cfg_write _ _).zero fun _ => ?_
  refine Cfg.bind0 (cfg_writeFifo p) fun _ => ?_
  exact (cfg_write _ _).zero

theorem cfg_setLoraSymbolNumTimeout (k : Nat) : Cfg .sx127x n (setLoraSymbolNumTimeout k) {} := by
  unfold setLoraSymbolNumTimeout
  exact Cfg.bind0 (cfg_read _) fun _ => Cfg.bind0 (cfg_write _ _).zero fun _ => (cfg_write _ _).zero

theorem withPt_ext {t : ChipTrack} (hc : Clean t) : Ext t { t with items := { t.items with packetType := true } } :=
  ⟨hc, by simp [Items.le], fun h => h, fun h => h⟩

theorem setSleep_spec (t : ChipTrack) (hc : Clean t) :
    wp .sx127x n setSleep (fun _ t' => Clean t' ∧ t.items.le t'.items) (fun a t' => Ext t t' ∧ a.infra) t := by
  unfold setSleep
  show wp .sx127x n (Prog.bind _ _) _ _ t
  rw [wp_bind, wp_req_plain _ _ .rfOff]
  refine ⟨⟨Ext.refl hc, rfl⟩, ?_⟩
  rw [wp_intfWriteSleep, wrOpMode, opSleep, step127_opmode t _ (by decide)]
  refine ⟨⟨Ext.refl hc, rfl⟩, ?_⟩
  simp +decide [Clean, hc.1, hc.2, Items.le]

theorem reset_spec (t : ChipTrack) (hc : Clean t) :
    wp .sx127x n reset (fun _ t' => Clean t') (fun a t' => Clean t' ∧ a.infra) t := by
  unfold reset
  show wp .sx127x n (Prog.bind _ _) _ _ t
  rw [wp_bind, wp_reset]
  refine ⟨⟨hc, rfl⟩, ?_⟩
  have hc' : Clean { t with mode := .standby, items := {} } := hc
  exact wp_mono _ _ _ (setSleep_spec _ hc') (fun _ _ h => h.1) (fun _ _ h => ⟨h.1.clean, h.2⟩)

/-- `set_standby` on the wire: RegOpMode := LoRa | Standby, then the RF switch -/
theorem setStandby_eq : setStandby = Prog.bind (intfWrite [0x81, 0x81]) fun _ => Prog.req .rfOff := rfl

theorem setStandby_spec (t : ChipTrack) (hc : Clean t) :
    wp .sx127x n setStandby (fun _ t' => Ext t t' ∧ Aw t' ∧ t'.mode = .standby ∧ Items.le { packetType := true } t'.items)
      (fun a t' => Ext t t' ∧ a.infra) t := by
  rw [setStandby_eq, wp_bind, wp_intfWrite, step127_opmode t _ (by decide)]
  have e : Ext t { t with items := { t.items with packetType := true }, mode := .standby } :=
    ⟨hc, by simp [Items.le], by simp [NNS]⟩
  simp only [show (129 : UInt8).toNat % 8 = 1 by decide]
  refine ⟨⟨Ext.refl hc, rfl⟩, ⟨e, rfl⟩, ?_⟩
  rw [wp_req_plain _ _ .rfOff]
  exact ⟨⟨e, rfl⟩, e, ⟨by simp, by simp⟩, rfl, by simp [Items.le]⟩

/-- the operation a RegOpMode value starts -/
def startOfMode : LoRaMode → Option ChipMode
  | .Tx => some .tx
  | .RxSingle | .RxContinuous => some .rx
  | .Cad => some .cad
  | _ => none

/-- a start on the SX127x: RegOpMode := LoRa | mode (which also programs the LoRa bit) -/
theorem cfg_opMode (m : ChipMode) (x : LoRaMode) (hd : startOfMode x = some m := by rfl) :
    CfgN .sx127x n (n.of m) (writeRegister .RegOpMode (byte (LoRaMode.value x))) {} :=
  cfgN_of_step fun t hc _ hn => by
    have e1 := withPt_ext hc
    rw [wrOpMode]
    cases x <;> simp only [startOfMode, Option.some.injEq, reduceCtorEq] at hd <;> subst hd <;>
      rw [step127_opmode t _ (by decide)] <;> exact e1.trans (start_ext e1.clean (e1.le hn) (by simp))

theorem cfg_doTx : CfgN .sx127x n n.tx doTx {} :=
  CfgN.seq (cfg_plain .rfTx) fun _ => cfg_opMode .tx .Tx

theorem cfg_doCad (cfg : Config) : CfgN .sx127x n n.cad (doCad cfg) {} :=
  CfgN.seq (cfg_plain .rfRx) fun _ => CfgN.seq (cfg_write _ _) fun _ => cfg_opMode .cad .Cad

/-- the two receptions the driver supports -/
theorem cfg_doRx (cfg : Config) (m : RxMode) (hm : m.isDuty = false) : CfgN .sx127x n n.rx (doRx cfg m) {} := by
  have rx (x : LoRaMode) (hd : startOfMode x = some .rx) (k : Nat) (g a : UInt8) := CfgN.seq (n := n) (cfg_plain .rfRx) fun _ =>
    CfgN.seq (cfg_setLoraSymbolNumTimeout k) fun _ => CfgN.seq (cfg_write .RegLna g) fun _ =>
    CfgN.seq (cfg_write .RegFifoAddrPtr a) fun _ => CfgN.seq cfg_clearIrqStatus fun _ => cfg_opMode .rx x hd
  cases m with
  | dutyCycle a b => exact absurd hm (by simp [RxMode.isDuty])
  | single _ => exact rx .RxSingle rfl _ _ _
  | continuous => exact rx .RxContinuous rfl _ _ _

theorem doRx_spec (cfg : Config) (m : RxMode) (t : ChipTrack) (hc : Clean t) (hl : Link (.receive m) t) (hi : n.rx.le t.items) :
    wp .sx127x n (doRx cfg m) (fun _ t' => RxPost m t t') (fun a t' => RxPost m t t' ∧ a.infra) t := by
  cases hm : m.isDuty with
  | true =>
    -- refused before any I/O
    cases m <;> first | exact ⟨⟨hc, Items.le_refl _, hl⟩, rfl⟩ | simp [RxMode.isDuty] at hm
  | false =>
    have ha : Aw t := hl.aw (by simp) hm
    exact wp_mono _ _ _ (cfg_doRx cfg m hm t hc ha hi) (fun _ _ h => .of_ext h.1 ha) (fun _ _ h => ⟨.of_ext h.1 ha, h.2⟩)

section
variable {A : Abort → Prop} (hA : ∀ a, a.infra → A a)
include hA

theorem ro_read (r : Register) (t : ChipTrack) (hb : untracked127 (rd r) = true := by decide) : RO .sx127x n A (readRegister r) t :=
  RO.bind (RO.read (step127_untracked t _ _ hb) (hA _ rfl) (hA _ rfl)) fun _ => RO.pure _ _

theorem ro_write (r : Register) (v : UInt8) (t : ChipTrack) (hb : untracked127 (wr r) = true := by decide) : RO .sx127x n A (writeRegister r v) t :=
  RO.write (step127_untracked t _ _ hb) (hA _ rfl) (hA _ rfl)

theorem ro_getRxPayload (p : PacketParams) (b : Bytes) (t : ChipTrack) (h : t.mode ≠ .sleep) :
    RO .sx127x n A (getRxPayload p b) t := by
  unfold getRxPayload
  dsimp only
  have tail : ∀ k : Nat, RO .sx127x n A
      (if k > b.length then Prog.fail (RadioError.PayloadSizeMismatch k b.length)
       else do
        let addr ← readRegister .RegFifoRxCurrentAddr
        writeRegister .RegFifoAddrPtr addr
        let data ← intfRead [rd .RegFifo] k
        writeRegister .RegFifoAddrPtr 0
        pure (k, data ++ List.drop k b)) t := by
    intro k
    split
    · exact RO.fail _ _ (hA _ rfl)
    · refine RO.bind (ro_read hA _ t) fun _ => ?_
      refine RO.bind (ro_write hA _ _ t) fun _ => ?_
      refine RO.bind (RO.read (step127_fifo t h _ _ (by decide)) (hA _ rfl) (hA _ rfl)) fun _ => ?_
      exact RO.bind (ro_write hA _ _ t) fun _ => RO.pure _ _
  split
  · exact RO.bind (RO.pure _ _) fun k => tail k
  · exact RO.bind (RO.bind (ro_read hA _ t) fun _ => RO.pure _ _) fun k => tail k

theorem ro_rssiOffset (cfg : Config) (t : ChipTrack) : RO .sx127x n A (rssiOffset cfg) t := by
  unfold rssiOffset
  split
  · exact RO.pure _ _
  · refine RO.bind (ro_read hA _ t) fun _ => ?_
    refine RO.bind (ro_read hA _ t) fun _ => ?_
    exact RO.bind (ro_read hA _ t) fun _ => RO.pure _ _

theorem ro_getRxPacketStatus (cfg : Config) (t : ChipTrack) :
    RO .sx127x n A (do let _ ← getRxPacketStatus cfg; pure ()) t := by
  unfold getRxPacketStatus
  dsimp only
  refine RO.bind ?_ fun _ => RO.pure _ _
  refine RO.bind (ro_read hA _ t) fun _ => ?_
  refine RO.bind (ro_read hA _ t) fun _ => ?_
  exact RO.bind (ro_rssiOffset hA cfg t) fun _ => RO.pure _ _

end

theorem decideIrq_noio (m : RadioMode) (c : Option Bool) (flags : UInt8) :
    (∃ v, decideIrq m c flags = .ret v) ∨ (∃ e, decideIrq m c flags = .fail e) ∨ (∃ s, decideIrq m c flags = .panic s) := by
  unfold decideIrq
  cases m with
  | receive rm => cases rm <;> simp only [] <;> (repeat' split) <;> simp [pure]
  | _ => simp only [] <;> (repeat' split) <;> simp [pure]

theorem ro_processIrqEvent (m : RadioMode) (c : Option Bool) (cl : Bool) (t : ChipTrack) :
    RO .sx127x n (fun _ => True) (processIrqEvent m c cl) t := by
  have hA : ∀ a : Abort, a.infra → (fun _ : Abort => True) a := fun _ _ => trivial
  unfold processIrqEvent
  dsimp only
  refine RO.bind ?_ fun st => RO.ite_seq (ro_write hA _ _ t) ?_
  · unfold getIrqStateE
    refine RO.bind (RO.readE (step127_untracked t _ _ (by decide))) fun r => ?_
    cases r with
    | error e => exact RO.pure _ _
    | ok v => exact RO.attempt_noio _ (decideIrq_noio _ _ _) trivial
  · cases st
    · exact RO.fail _ _ trivial
    · exact RO.pure _ _

theorem opsSpec (cfg : Config) : OpsSpec .sx127x false false { packetType := true } (fun _ => True) (sx127xOps cfg) where
  rdy_of_aw := fun _ _ => trivial
  sb_le := by decide
  reset := reset_spec
  ensureReady := fun _ t hc _ => ⟨Ext.refl hc, trivial⟩
  setStandby := fun t hc _ => setStandby_spec t hc
  setSleep := fun _ t hc _ => wp_mono _ _ _ (setSleep_spec t hc) (fun _ _ h => ⟨h.1, fun _ => h.2⟩) (fun _ _ h => h)
  initLora := fun d sw => (cfg_initLora cfg d sw).weaken (by decide)
  setTxPower := fun p _ b => cfg_setTxPowerAndRampTime cfg p b
  setIrqParams := cfg_setIrqParams
  setModulationParams := fun d m => cfg_setModulationParams cfg d m
  setPacketParams := cfg_setPacketParams cfg
  calibrateImage := fun _ => Cfg.pure _
  setChannel := cfg_setChannel
  setPayload := cfg_setPayload
  setLoraSyncWord := cfg_setLoraSyncWord
  doTx := cfg_doTx.spec
  doRx := fun m t hc _ hl hi => doRx_spec cfg m t hc hl hi
  doCad := fun _ => (cfg_doCad cfg).spec
  awaitIrq := fun t => RO.awaitIrq t rfl rfl
  processIrqEvent := fun m c cl t _ _ _ =>
    (ro_processIrqEvent m c cl t).spec
  getRxPayload := fun p b t _ h => ro_getRxPayload (fun _ ha => ha) p b t h
  getRxPacketStatus := fun t _ _ => ro_getRxPacketStatus (fun _ ha => ha) cfg t

end Sx127x
end Model.Phy
