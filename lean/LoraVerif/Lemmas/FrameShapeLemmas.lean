import LoraVerif.Model.FrameShape
import LoraVerif.Lemmas.MacCmdAccessors
/-! The structural frame-parser model (`Model/FrameShape.lean`) returns on every input, `decryptData` on frames of at most 4076
octets (beyond that the block counter overflows: `C03.decrypt_ctr_overflow`): no checked access is out of bounds.  A frame is
taken apart into pieces (FHDR, MIC, CFList, ..); one bound on the length of a piece decides every access of it at a literal
position, and the few accesses at positions that depend on the layout are answered by the fields of `LayoutOk`. -/
namespace FrameShape
open MacCmd

theorem subU_ok {s : String} {a b : Nat} (h : b ≤ a) : subU s a b = .ok (a - b) := by simp [subU, h]

/-! Accesses at literal positions of a piece `d` of which one bound `n ≤ d.length` is known: the side conditions are
comparisons of numerals, decided, not argued. -/
section Lit
variable {s : String} {d : Bytes} {n : Nat} (h : n ≤ d.length)
include h

theorem index_lit {i : Nat} (hi : i < n) : index s d i = .ok (d[i]'(Nat.lt_of_lt_of_le hi h)) :=
  index_ok _

theorem slice_lit {a b : Nat} (hab : a ≤ b) (hb : b ≤ n) : slice s d a b = .ok ((d.drop a).take (b - a)) :=
  slice_ok hab (Nat.le_trans hb h)

theorem sliceFrom_lit {a : Nat} (ha : a ≤ n) : sliceFrom s d a = .ok (d.drop a) :=
  sliceFrom_ok (Nat.le_trans ha h)

theorem length_slice {a b : Nat} (hb : b ≤ n) : ((d.drop a).take (b - a)).length = b - a := by
  simp only [List.length_take, List.length_drop]; omega

/-- `arr(&d[a..b])`: the `copy_from_slice` into `[u8; k]` after a slice of that length -/
theorem exact_slice_lit {a b k : Nat} (hb : b ≤ n) (hk : b - a = k) :
    exact s k ((d.drop a).take (b - a)) = .ok ((d.drop a).take (b - a)) :=
  exact_ok ((length_slice h hb).trans hk)
end Lit

/-- what `Layout::validate` guarantees about a layout, relative to the buffer length `n` -/
structure LayoutOk (l : Layout) (n : Nat) : Prop where
  n12 : 12 ≤ n
  fhdr : 7 ≤ l.fhdrLen ∧ 1 + l.fhdrLen ≤ n - 4
  frmEnd : l.frmEnd = n - 4
  frm : l.frmStart ≤ l.frmEnd
  port : ∀ off, l.fPortOffset = some off → off = 1 + l.fhdrLen ∧ off < n - 4 ∧ l.frmStart = off + 1
  noport : l.fPortOffset = none → l.frmStart = 1 + l.fhdrLen

theorem LayoutOk.withPort {mt f n : Nat} (h12 : 12 ≤ n) (h7 : 7 ≤ f) (h : 1 + f < n - 4) :
    LayoutOk { frameType := mt, fhdrLen := f, fPortOffset := some (1 + f), frmStart := 1 + f + 1, frmEnd := n - 4 } n :=
  ⟨h12, ⟨h7, Nat.le_of_lt h⟩, rfl, h, fun _ ho => (by cases ho; exact ⟨rfl, h, rfl⟩), fun ho => (by cases ho)⟩

theorem LayoutOk.withoutPort {mt f n : Nat} (h12 : 12 ≤ n) (h7 : 7 ≤ f) (h : 1 + f ≤ n - 4) :
    LayoutOk { frameType := mt, fhdrLen := f, fPortOffset := none, frmStart := 1 + f, frmEnd := n - 4 } n :=
  ⟨h12, ⟨h7, h⟩, rfl, h, fun _ ho => (by cases ho), fun _ => rfl⟩

theorem validate_total (b : Bytes) : ∃ r, validate b = .ok r ∧ ∀ l, r = .ok l → LayoutOk l b.length := by
  unfold validate
  split
  · exact ⟨_, rfl, by intro l h; cases h⟩
  · rename_i h12
    have n12 : 12 ≤ b.length := Nat.le_of_not_lt h12
    simp +decide only [index_lit n12, subU_ok (Nat.le_trans (by decide : 4 ≤ 12) n12), Outcome.ok_bind]
    split
    · exact ⟨_, rfl, by intro l h; cases h⟩
    · split
      · exact ⟨_, rfl, by intro l h; cases h⟩
      · split
        · exact ⟨_, rfl, by intro l h; cases h⟩
        · rename_i hfit
          split
          · rename_i hlt
            exact ⟨_, rfl, fun l h => by cases h; exact .withPort n12 (Nat.le_add_right 7 _) hlt⟩
          · exact ⟨_, rfl, fun l h => by cases h; exact .withoutPort n12 (Nat.le_add_right 7 _) (Nat.le_of_not_lt hfit)⟩

theorem helperBlockReads_ok {d : Bytes} (h : 5 ≤ d.length) : helperBlockReads d = .ok () := by
  unfold helperBlockReads
  simp +decide only [index_lit h, slice_lit h, exact_slice_lit h, Outcome.ok_bind]

/-- pieces: the frame (`12 ≤`), FHDR (`7 ≤`), the MIC (`4 ≤`), the frame without MIC (`5 ≤`); the accesses at positions
that depend on the layout are the six on `b` listed first, each from a field of `LayoutOk` -/
theorem dataAccessors_total {b : Bytes} {l : Layout} (ok : LayoutOk l b.length) : ∃ v, dataAccessors b l = .ok v := by
  obtain ⟨n12, ⟨f7, ffit⟩, hend, hfrm, hport, hnoport⟩ := ok
  have hfit : 1 + l.fhdrLen ≤ b.length := by omega
  have hf : 7 ≤ ((b.drop 1).take (1 + l.fhdrLen - 1)).length := by simp only [List.length_take, List.length_drop]; omega
  have hm : 4 ≤ (b.drop (b.length - 4)).length := by simp only [List.length_drop]; omega
  have hw : 5 ≤ ((b.drop 0).take (b.length - 4 - 0)).length := by simp only [List.length_take, List.length_drop]; omega
  unfold dataAccessors
  -- before the case split on `fPortOffset`: the continuation after it is a join point, rewritten once
  simp +decide only [slice_ok (Nat.le_add_right 1 _) hfit, subU_ok (Nat.le_trans (by decide : 4 ≤ 12) n12),
    sliceFrom_ok (Nat.sub_le _ _), slice_ok (Nat.zero_le _) (Nat.sub_le _ _), slice_ok hfrm (hend ▸ Nat.sub_le _ _),
    helperBlockReads_ok hw, slice_lit hf, exact_slice_lit hf, index_lit hf, sliceFrom_lit hf, index_lit hm, Outcome.ok_bind]
  cases hp : l.fPortOffset with
  | none => exact ⟨_, rfl⟩
  | some off =>
    simp only [index_ok (Nat.lt_of_lt_of_le (hport off hp).2.1 (Nat.sub_le _ _)), Outcome.ok_bind]
    exact ⟨_, rfl⟩

theorem encLoop_ok (bufLen start : Nat) : ∀ (rem i ctr : Nat), ctr = 1 + (i + 15) / 16 → start + i + rem ≤ bufLen →
    i + rem ≤ 4064 → ∃ c, encLoop bufLen start rem i ctr = .ok c := by
  intro rem
  induction rem with
  | zero => intro i ctr _ _ _; exact ⟨_, rfl⟩
  | succ rem ih =>
    intro i ctr hc hb hl
    have h15 : i &&& 0x0f = i % 16 := Nat.and_two_pow_sub_one_eq_mod i 4
    unfold encLoop
    rw [h15]
    by_cases hz : i % 16 = 0
    · rw [if_pos hz, if_pos (by omega)]
      simp only [Outcome.ok_bind]
      rw [if_pos (by omega)]
      exact ih (i + 1) (ctr + 1) (by omega) (by omega) (by omega)
    · rw [if_neg hz]
      simp only [Outcome.ok_bind]
      rw [if_pos (by omega)]
      exact ih (i + 1) ctr (by omega) (by omega) (by omega)

theorem decryptData_total {b : Bytes} (hlen : b.length ≤ 4076) (hasNwk hasApp : Bool) :
    ∃ r, decryptData b hasNwk hasApp = .ok r ∧ ∀ l, r = .ok l → LayoutOk l b.length := by
  obtain ⟨r, hr, hok⟩ := validate_total b
  unfold decryptData
  simp only [hr, Outcome.ok_bind]
  match r, hok with
  | .error e, _ => exact ⟨_, rfl, by intro l h; cases h⟩
  | .ok l, hok =>
    have ok := hok l rfl
    -- with or without the key: `MissingKey`, or the validated layout
    have leaf : ∀ k : Bool, ∃ r, (if (!k) = true then Outcome.ok (Except.error PErr.MissingKey) else Outcome.ok (Except.ok l)) = .ok r ∧
        ∀ l', r = .ok l' → LayoutOk l' b.length := by
      intro k; cases k
      · exact ⟨_, rfl, fun _ h => by cases h⟩
      · exact ⟨_, rfl, fun _ h => by cases h; exact ok⟩
    obtain ⟨n12, ⟨f7, ffit⟩, hend, hfrm, hport, hnoport⟩ := ok
    have hs : 8 ≤ l.frmStart := by
      cases hp : l.fPortOffset with
      | none => have := hnoport hp; omega
      | some off => have := hport off hp; omega
    obtain ⟨c, hc⟩ := encLoop_ok b.length l.frmStart (l.frmEnd - l.frmStart) 0 1 rfl (by omega) (by omega)
    simp +decide only [index_lit n12, subU_ok hfrm,
      helperBlockReads_ok (Nat.le_trans (by decide : 5 ≤ 12) n12), hc, Outcome.ok_bind]
    split
    · cases hp : l.fPortOffset with
      | none => exact leaf _
      | some off =>
        simp only [index_ok (Nat.lt_of_lt_of_le (hport off hp).2.1 (Nat.sub_le _ _)), Outcome.ok_bind]
        exact leaf _
    · exact leaf true

theorem extractMic_ok {b : Bytes} (h : 4 ≤ b.length) : ∃ m, extractMic b = .ok m := by
  unfold extractMic
  simp only [subU_ok h, sliceFrom_ok (Nat.sub_le _ _), exact_ok ((List.length_drop ..).trans (Nat.sub_sub_self h)), Outcome.ok_bind]
  exact ⟨_, rfl⟩

theorem joinRequestAccessors_total {b : Bytes} (h : b.length = 23) : ∃ v, joinRequestAccessors b = .ok v := by
  have h23 : 23 ≤ b.length := Nat.le_of_eq h.symm
  obtain ⟨m, hm⟩ := extractMic_ok (b := b) (Nat.le_trans (by decide : 4 ≤ 23) h23)
  unfold joinRequestAccessors
  simp +decide only [slice_lit h23, exact_slice_lit h23, hm, Outcome.ok_bind]
  exact ⟨_, rfl⟩

theorem parseJoinRequest_len {b : Bytes} (h : parseJoinRequest b = .ok ()) : b.length = 23 := by
  unfold parseJoinRequest at h
  split at h
  · cases h
  · split at h
    · assumption
    · cases h

theorem validateJoinAccept_len {b : Bytes} (h : validateJoinAccept b = .ok ()) : b.length = 17 ∨ b.length = 33 := by
  unfold validateJoinAccept at h
  split at h
  · cases h
  · split at h
    · cases h
    · omega

/-- `encrypt_block` works in place: the block keeps its 16 octets (declared under `MacCmd.Cipher` for `c.LenPres`) -/
def _root_.MacCmd.Cipher.LenPres (c : Cipher) : Prop := ∀ blk : Bytes, blk.length = 16 → (c.enc blk).length = 16

theorem encryptChunks_ok {c : Cipher} (hc : c.LenPres) : ∀ (fuel : Nat) (d : Bytes),
    ∃ r, encryptChunks c fuel d = .ok r ∧ r.length = d.length := by
  intro fuel
  induction fuel with
  | zero => intro d; exact ⟨_, rfl, rfl⟩
  | succ fuel ih =>
    intro d
    unfold encryptChunks
    split
    · exact ⟨_, rfl, rfl⟩
    · rename_i h16
      have ht : (d.take 16).length = 16 := by simp; omega
      obtain ⟨r, hr, hl⟩ := ih (d.drop 16)
      simp only [Cipher.encryptBlock, ht, if_true, Outcome.ok_bind, hr]
      refine ⟨_, rfl, ?_⟩
      have := hc _ ht
      simp only [List.length_append, this, hl, List.length_drop]; omega

theorem decryptJoinAccept_ok {c : Cipher} (hc : c.LenPres) {b : Bytes} (hv : validateJoinAccept b = .ok ()) :
    ∃ b', decryptJoinAccept c b = .ok (.ok b') ∧ b'.length = b.length ∧ (b.length = 17 ∨ b.length = 33) := by
  have hl := validateJoinAccept_len hv
  have h17 : 17 ≤ b.length := by omega
  obtain ⟨r, hr, hrl⟩ := encryptChunks_ok hc ((b.drop 1).length + 1) (b.drop 1)
  unfold decryptJoinAccept
  simp +decide only [hv, index_lit h17, sliceFrom_lit h17, hr, Outcome.ok_bind]
  exact ⟨_, rfl, by simp [hrl]; omega, hl⟩

theorem decryptJoinAccept_total {c : Cipher} (hc : c.LenPres) (b : Bytes) :
    ∃ r, decryptJoinAccept c b = .ok r ∧ ∀ b', r = .ok b' → b'.length = b.length ∧ (b.length = 17 ∨ b.length = 33) := by
  cases hv : validateJoinAccept b with
  | error e => exact ⟨.error e, by unfold decryptJoinAccept; rw [hv], by intro b' h; cases h⟩
  | ok u =>
    obtain ⟨b', h, hl⟩ := decryptJoinAccept_ok hc hv
    exact ⟨_, h, by intro b'' h'; cases h'; exact hl⟩

theorem cfFreqs_ok : ∀ (k : Nat) (d : Bytes), ∃ r, cfFreqs k d = .ok r := by
  intro k
  induction k with
  | zero => intro d; exact ⟨_, rfl⟩
  | succ k ih =>
    intro d
    unfold cfFreqs
    split
    · exact ⟨_, rfl⟩
    · obtain ⟨r, hr⟩ := ih (d.drop 3)
      rw [exact_ok ?_]
      simp only [hr, Outcome.ok_bind]
      exact ⟨_, rfl⟩
      simp; omega

theorem joinAcceptAccessors_total {b : Bytes} (h : b.length = 17 ∨ b.length = 33) : ∃ v, joinAcceptAccessors b = .ok v := by
  have h17 : 17 ≤ b.length := by omega
  obtain ⟨m, hm⟩ := extractMic_ok (b := b) (Nat.le_trans (by decide : 4 ≤ 17) h17)
  unfold joinAcceptAccessors
  simp +decide only [slice_lit h17, exact_slice_lit h17, index_lit h17, hm,
    subU_ok (Nat.le_trans (by decide : 4 ≤ 17) h17), slice_ok (Nat.zero_le _) (Nat.sub_le _ _), Outcome.ok_bind]
  split
  · exact ⟨_, rfl⟩
  · have h33 : 33 ≤ b.length := by omega
    -- the CFList `cfl = &b[13..29]` and `&cfl[..9]` are pieces of 16 and 9 octets
    have hc : 16 ≤ ((b.drop 13).take (29 - 13)).length := Nat.le_of_eq (length_slice h33 (a := 13) (by decide : 29 ≤ 33)).symm
    have hc9 : 9 ≤ ((((b.drop 13).take (29 - 13)).drop 0).take (9 - 0)).length :=
      Nat.le_of_eq (length_slice hc (a := 0) (by decide : 9 ≤ 16)).symm
    obtain ⟨fs, hfs⟩ := cfFreqs_ok 5 ((b.drop 13).take (29 - 13))
    simp +decide only [slice_lit h33, index_lit hc, slice_lit hc, slice_lit hc9, hfs, Outcome.ok_bind]
    split
    · exact ⟨_, rfl⟩
    · split <;> exact ⟨_, rfl⟩

end FrameShape
