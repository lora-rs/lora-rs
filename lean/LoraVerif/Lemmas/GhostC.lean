import LoraVerif.Lemmas.Ghost
import LoraVerif.Lemmas.CycleC
/-!
# The reference session tracker over the extended histories

`ghNextC` moves the tracker `Gh` of `Lemmas/Ghost.lean` across an annotated extended event: events of
`Model/History.lean` by `ghStep`; a join procedure as the plain `joinOtaa` it amounts to
(`joinPlain`); `send` + receive procedure of a device with a session to the counter the REFERENCE
procedure ends with (`upRefC`: every frame of `c1`, RX1, `c2`, RX2 judged under the counter held at
that point; the window limits are those of the uplink the MODEL built, read off its output `so`, and
the RXC limit is the event's annotation).  `SteppedC` / `stepC_cases` are for extended events what `Stepped` / `step_cases`
are for plain ones; `stepC_ghRel`: every step of every extended history keeps the tracker tied to the state, hence every
chain of them (`chainC_ghRel`).
-/
namespace Model

def ghNextC (gh : Gh) (e : EvL) (out : OutC) : Gh :=
  match e.2 with
  | .base ev => ghStep gh ev
  | .uplinkC cc _ _ conf fault c1 rx1 c2 rx2 =>
    (match gh, out.out with
     | some last, .up so _ _ => some (upRefC cc last conf e.1 fault c1 rx1 c2 rx2 so).st.last
     | _, _ => gh)
  | .joinC cc fault c1 rx1 c2 rx2 => ghStep gh (joinPlain fault rx1 rx2)

/-- **what one extended event does to a device tracked by `gh`**: an event of `Model/History.lean`, and a join procedure
through the plain `joinOtaa` it amounts to, is a plain step (`step_cases` and the step lemmas over it apply); an uplink
is refused without a session, and with session `s` it is `send` followed by the acts of the reference procedure
`upRefC`, whose reports are the step's output.  `upC` also hands over the session the acts end in: the tracker after the
event is `(upRefC …).st.last`, read off that session, where `Stepped.up` recomputes it from the acts (`ghActs_plainActs`) -/
inductive SteppedC {σ} (g : Rng σ) (m : MacState) (rs : σ) : Gh → EvC → MacState → σ → OutC → Prop
  | base {gh e m' rs' o} (he : evOk e = true) (hs : step g (m, rs) e = .ok ((m', rs'), o)) :
      SteppedC g m rs gh (.base e) m' rs' { out := o }
  | joinC {gh cc fault c1 rx1 c2 rx2 m' rs' o} (he : evOk (joinPlain fault rx1 rx2) = true)
      (hs : step g (m, rs) (joinPlain fault rx1 rx2) = .ok ((m', rs'), o)) :
      SteppedC g m rs gh (.joinC cc fault c1 rx1 c2 rx2) m' rs'
        { out := o, heard := match joinRes (joinFaultC fault rx1) rx1 rx2 with | some _ => [jsOut] | none => [] }
  | upIdle {cc data fport conf fault c1 rx1 c2 rx2} (hst : ∀ s, m.st ≠ .joined s) :
      SteppedC g m rs none (.uplinkC cc data fport conf fault c1 rx1 c2 rx2) m rs { out := .notJoined }
  | upC {s cc data fport conf fault c1 rx1 c2 rx2 so m1 rs' m' s'} (hst : m.st = .joined s) (hl : LastOk s.fcntDown)
      (hs : Sent g m rs s data fport conf so m1 rs')
      (ha : Acts m1 (upRefC cc s.fcntDown conf (rxcMp m) fault c1 rx1 c2 rx2 so).acts m') (hst' : m'.st = .joined s')
      (hp : stOf s' = (upRefC cc s.fcntDown conf (rxcMp m) fault c1 rx1 c2 rx2 so).st) (hl' : LastOk s'.fcntDown) :
      SteppedC g m rs (some s.fcntDown) (.uplinkC cc data fport conf fault c1 rx1 c2 rx2) m' rs'
        { out := .up so (upRefC cc s.fcntDown conf (rxcMp m) fault c1 rx1 c2 rx2 so).resp
                        (upRefC cc s.fcntDown conf (rxcMp m) fault c1 rx1 c2 rx2 so).dl,
          heard := (upRefC cc s.fcntDown conf (rxcMp m) fault c1 rx1 c2 rx2 so).heard }

theorem stepC_cases {σ} (g : Rng σ) {m m' : MacState} {rs rs' : σ} {ev : EvC} {out : OutC} {gh : Gh}
    (hr : GhRel m gh) (hv : evOkC ev = true) (h : stepC g (m, rs) ev = .ok ((m', rs'), out)) :
    SteppedC g m rs gh ev m' rs' out := by
  cases ev with
  | base e =>
    obtain ⟨hs, hh⟩ := stepC_base g _ _ e out h
    cases out; cases hh
    exact .base hv hs
  | joinC cc fault c1 rx1 c2 rx2 =>
    obtain ⟨hs, hh⟩ := stepC_joinC_plain g _ _ cc fault c1 rx1 c2 rx2 out h
    cases out; cases hh
    exact .joinC (evOk_joinPlain hv) hs
  | uplinkC cc data fport conf fault c1 rx1 c2 rx2 =>
    cases gh with
    | none =>
      obtain ⟨rfl, rfl, rfl⟩ := stepC_uplinkC_notJoined g m m' rs rs' hr cc data fport conf fault c1 rx1 c2 rx2 out h
      exact .upIdle hr
    | some last =>
      obtain ⟨s, hst, rfl, hl⟩ := hr
      obtain ⟨so, m1, hsend, hfr, hst1, hcfg, hid, rfl, ha, s', hst', hp, hl'⟩ :=
        stepC_uplinkC_joined g m m' rs rs' s hst hl cc data fport conf fault c1 rx1 c2 rx2 hv out h
      exact .upC hst hl ⟨hsend, hfr, hst1, hcfg, hid⟩ ha hst' hp hl'

theorem stepC_ghRel {σ} (g : Rng σ) (m m' : MacState) (rs rs' : σ) (ev : EvC) (out : OutC) (gh : Gh)
    (hr : GhRel m gh) (hv : evOkC ev = true) (h : stepC g (m, rs) ev = .ok ((m', rs'), out)) :
    GhRel m' (ghNextC gh (rxcMp m, ev) out) := by
  cases stepC_cases g hr hv h with
  | base he hs | joinC he hs => exact step_ghRel g m m' rs rs' _ _ gh hr he hs
  | upIdle => exact hr
  | upC _ _ _ _ hst' hp hl' =>
    simp only [ghNextC]
    rw [← hp]
    exact ⟨_, hst', rfl, hl'⟩

theorem chainC_ghRel {σ} (g : Rng σ) (ms ms' : MacState × σ) (t : List (EvL × OutC)) (gh : Gh) (hr : GhRel ms.1 gh)
    (hv : ∀ x ∈ t, evOkC x.1.2 = true) (h : ChainC g ms t ms') : GhRel ms'.1 (ghostAfterG ghNextC gh t) :=
  (chainC_traceD g ghNextC (fun _ _ _ => True) GhRel (fun ev => evOkC ev = true)
    (fun m s ev m' s' out gh hr hv hs => ⟨trivial, stepC_ghRel g m m' s s' ev out gh hr hv hs⟩) ms ms' t gh hr hv h).2

end Model

/-- `ghostAfterG ghNextC`, under the name the statements of C05 are written in -/
def C05.ghAfterC : Model.Gh → List (Model.EvL × Model.OutC) → Model.Gh := Model.ghostAfterG Model.ghNextC
