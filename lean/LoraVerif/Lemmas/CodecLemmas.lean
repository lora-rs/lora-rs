import LoraVerif.Model.Codec
import LoraVerif.Spec.LoRaWAN
import LoraVerif.Spec.LoRaWANBridge
import LoraVerif.Lemmas.Basics
import LoraVerif.Lemmas.BitField
/-!
# Lemmas about the codec model (C01, C02)

Little-endian values (`leValue` = `Spec.fromLe` against `Spec.le`); `slice` and `getByte` on a buffer given by its
bounds or as an append; writes into a buffer that is filled front to back; the keystream loop of
`encryptFrmDataPayload` as `pre ++ (payload xor keystream) ++ post`; the model's header octets, helper blocks and
keystream against the expressions of `Spec/LoRaWAN.lean`, ending in the two functions of `securityhelpers.rs` that
builders and parser share (`calculateDataMic_spec`, `encryptFrm_crypt`); the ECB loop over a JoinAccept (`ecb_tail`).
-/
open Lora.Codec

namespace Lora.CodecLemmas

theorem le_leValue (l : Bytes) : Spec.le l.length (Codec.leValue l) = l := by
  induction l with
  | nil => rfl
  | cons b bs ih =>
    rw [List.length_cons, Codec.leValue, Spec.le, Nat.add_mul_div_left _ _ (by decide), Nat.div_eq_of_lt b.toNat_lt,
      Nat.zero_add, ih, Nat.add_mul_mod_self_left, UInt8.ofNat_mod_size', UInt8.ofNat_toNat]

theorem leValue_lt (l : Bytes) : Codec.leValue l < 256 ^ l.length := by
  induction l with
  | nil => simp [Codec.leValue]
  | cons b bs ih =>
    simp only [List.length_cons, Codec.leValue, Nat.pow_succ]
    have hb := b.toNat_lt
    omega

theorem le_devAddr (a : Codec.DevAddr) : Spec.le 4 (Codec.DevAddr.value a).toNat = a.toList := by
  have h := leValue_lt a.toList
  have e := le_leValue a.toList
  rw [Vector.length_toList] at h e
  rwa [Codec.DevAddr.value, UInt32.toNat_ofNat_of_lt' h]

theorem and_ff (x : UInt32) : (x &&& 0xff).toUInt8 = UInt8.ofNat x.toNat := by
  rw [UInt8.ofNat_uInt32ToNat, UInt32.toUInt8_and]; exact UInt8.and_neg_one

theorem le4_fcnt (fcnt : UInt32) :
    Spec.le 4 fcnt.toNat = [(fcnt &&& 0xff).toUInt8, ((fcnt >>> 8) &&& 0xff).toUInt8,
      ((fcnt >>> 16) &&& 0xff).toUInt8, ((fcnt >>> 24) &&& 0xff).toUInt8] := by
  simp only [Spec.le, and_ff, UInt8.ofNat_mod_size', UInt32.toNat_shiftRight, Nat.shiftRight_eq_div_pow,
    Nat.div_div_eq_div_mul]
  rfl

theorem u16ToLe_fcnt (fcnt : UInt32) : u16ToLe fcnt.toUInt16 = Spec.le 2 (fcnt.toNat % 65536) := by
  simp only [u16ToLe, Spec.le, UInt32.toNat_toUInt16, UInt8.ofNat_mod_size']

theorem le_length (n v : Nat) : (Spec.le n v).length = n := by
  induction n generalizing v with
  | zero => rfl
  | succ n ih => simp [Spec.le, ih]

/-- `le_leValue` with the width as a variable, as the statements of the builders have it -/
theorem le_len (l : Bytes) (n : Nat) (h : l.length = n) : Spec.le n (leValue l) = l := h ▸ le_leValue l

/-- `le_len` through `UIntN.ofNat … |>.toNat`, which reduces modulo `m = 2 ^ N`: nothing is lost at that width -/
theorem le_mod (l : Bytes) (n m : Nat) (h : l.length = n) (hm : 256 ^ n ≤ m) : Spec.le n (leValue l % m) = l := by
  have := leValue_lt l
  rw [Nat.mod_eq_of_lt (by rw [h] at this; omega), le_len l n h]

theorem leValue_eq (l : Bytes) : leValue l = Spec.fromLe l := by
  induction l with
  | nil => rfl
  | cons b bs ih => simp [leValue, Spec.fromLe, ih]

theorem fromLe_le (n v : Nat) : Spec.fromLe (Spec.le n v) = v % 256 ^ n := by
  induction n generalizing v with
  | zero => simp [Spec.le, Spec.fromLe, Nat.mod_one]
  | succ n ih =>
    simp only [Spec.le, Spec.fromLe, ih]
    have : (UInt8.ofNat (v % 256)).toNat = v % 256 := by simp
    rw [this, Nat.pow_succ, Nat.mul_comm (256 ^ n) 256, Nat.mod_mul]

theorem le_fromLe (l : Bytes) : Spec.le l.length (Spec.fromLe l) = l := leValue_eq l ▸ le_leValue l

theorem fromLe_of_le (n v : Nat) (l : Bytes) (h : Spec.le n v = l) (hv : v < 256 ^ n) : Spec.fromLe l = v := by
  rw [← h, fromLe_le, Nat.mod_eq_of_lt hv]

theorem foptslen_eq (x : UInt8) : (x &&& 0x0f).toNat = x.toNat % 16 :=
  UInt8.toNat_and .. ▸ Nat.and_two_pow_sub_one_eq_mod x.toNat 4

theorem and_0f (x : UInt8) : x &&& 0x0f = UInt8.ofNat (x.toNat % 16) :=
  UInt8.toNat_inj.mp (by rw [foptslen_eq, UInt8.toNat_ofNat']; omega)

theorem flag_testBit (x : UInt8) (k : Nat) (hk : k < 8) : decide (x &&& UInt8.ofNat (2 ^ k) ≠ 0) = x.toNat.testBit k := by
  have e : (x &&& UInt8.ofNat (2 ^ k)).toNat = if x.toNat.testBit k then 2 ^ k else 0 := by
    rw [UInt8.toNat_and, UInt8.toNat_ofNat', Nat.mod_eq_of_lt (Nat.pow_lt_pow_right (by decide) hk), BitField.and_two_pow]
  have hz : x &&& UInt8.ofNat (2 ^ k) = 0 ↔ x.toNat.testBit k = false := by
    rw [← UInt8.toNat_inj, e]; cases x.toNat.testBit k <;> simp
  cases h : x.toNat.testBit k
  · exact decide_eq_false (not_not_intro (hz.2 h))
  · exact decide_eq_true fun h0 => by rw [hz.1 h0] at h; cases h

theorem vec4_toList (v : Vector UInt8 4) : v.toList = [v[0], v[1], v[2], v[3]] := by
  rcases v with ⟨⟨l⟩, h⟩
  match l, h with
  | [a, b, c, d], _ => rfl

theorem list8 (l : Bytes) (h : 8 ≤ l.length) :
    ∃ x0 x1 x2 x3 x4 x5 x6 x7 t, l = x0 :: x1 :: x2 :: x3 :: x4 :: x5 :: x6 :: x7 :: t := by
  rcases l with _ | ⟨x0, l⟩; · simp at h
  rcases l with _ | ⟨x1, l⟩; · simp at h
  rcases l with _ | ⟨x2, l⟩; · simp at h
  rcases l with _ | ⟨x3, l⟩; · simp at h
  rcases l with _ | ⟨x4, l⟩; · simp at h
  rcases l with _ | ⟨x5, l⟩; · simp at h
  rcases l with _ | ⟨x6, l⟩; · simp at h
  rcases l with _ | ⟨x7, l⟩; · simp at h
  exact ⟨x0, x1, x2, x3, x4, x5, x6, x7, l, rfl⟩

theorem list4 (l : Bytes) (h : l.length = 4) : ∃ a b c d, l = [a, b, c, d] :=
  match l, h with
  | [a, b, c, d], _ => ⟨a, b, c, d, rfl⟩

theorem list16 (l : Bytes) (h : l.length = 16) :
    ∃ x0 x1 x2 x3 x4 x5 x6 x7 x8 x9 x10 x11 x12 x13 x14 x15, l = [x0, x1, x2, x3, x4, x5, x6, x7, x8, x9, x10, x11, x12, x13, x14, x15] := by
  obtain ⟨x0, x1, x2, x3, x4, x5, x6, x7, t, rfl⟩ := list8 l (by omega)
  obtain ⟨x8, x9, x10, x11, x12, x13, x14, x15, t, rfl⟩ := list8 t (by simp only [List.length_cons] at h; omega)
  obtain rfl : t = [] := List.length_eq_zero_iff.mp (by simp only [List.length_cons] at h; omega)
  exact ⟨_, _, _, _, _, _, _, _, _, _, _, _, _, _, _, _, rfl⟩

theorem vec2_toList (v : Vector UInt8 2) : ∃ d0 d1, v.toList = [d0, d1] := by
  rcases v with ⟨⟨l⟩, h⟩
  match l, h with
  | [a, b], _ => exact ⟨a, b, rfl⟩

theorem vec5_toList {α} (v : Vector α 5) : v.toList = [v[0], v[1], v[2], v[3], v[4]] := by
  rcases v with ⟨⟨l⟩, h⟩
  match l, h with
  | [a, b, c, d, e], _ => rfl

/-- The builders fill their buffer front to back: `w` is what is written so far, `r` the rest; a write moves its bytes
from the rest to the written part.  The side equations face the way `simp`'s discharger meets them (length of the
written part on the left), so that a whole builder is one `simp (disch := …) only [copy_next, set_next, Outcome.bind_ok]`. -/
theorem copy_next (w r src : Bytes) (lo hi : Nat) (hlo : w.length = lo) (hhi : lo + src.length = hi)
    (hr : src.length ≤ r.length) :
    copyFromSlice (w ++ r) lo hi src = .ok ((w ++ src) ++ r.drop src.length) := by
  subst hlo hhi
  simp [copyFromSlice, hr, List.drop_append]

theorem set_next (w r : Bytes) (i : Nat) (v : UInt8) (hi : w.length = i) (hr : 0 < r.length) :
    setByte (w ++ r) i v = .ok ((w ++ [v]) ++ r.drop 1) := by
  subst hi
  obtain ⟨x, xs, rfl⟩ := List.exists_cons_of_length_pos hr
  simp [setByte]

/-- `copy_from_slice` of four octets (the Rust text) = four assignments (the hand model) -/
theorem take_append4_drop {α} (l : List α) (i j : Nat) (a1 a2 a3 a4 : α) (hj : j = i + 4) (h : j ≤ l.length) :
    l.take i ++ [a1, a2, a3, a4] ++ l.drop j = (((l.set i a1).set (i + 1) a2).set (i + 2) a3).set (i + 3) a4 := by
  subst hj
  induction i generalizing l with
  | zero => match l, h with
    | _ :: _ :: _ :: _ :: _, _ => rfl
  | succ i ih => match l, h with
    | x :: l, h => exact congrArg (x :: ·) (ih l (Nat.le_of_succ_le_succ h))

/-- `&b[lo..hi]` inside the buffer; the lemmas below read it on a buffer given as an append, at a field, at the MIC -/
theorem slice_eq (b : Bytes) (lo hi : Nat) (h : lo ≤ hi) (h2 : hi ≤ b.length) :
    slice b lo hi = .ok ((b.drop lo).take (hi - lo)) := by
  unfold slice
  rw [if_pos ⟨h, h2⟩, List.drop_take]

theorem slice_seg {l : Bytes} {lo hi : Nat} (pre mid post : Bytes) (hl : l = pre ++ mid ++ post)
    (hlo : lo = pre.length) (hhi : hi = lo + mid.length) : slice l lo hi = .ok mid := by
  subst hl hlo hhi
  unfold slice
  have : pre.length ≤ pre.length + mid.length ∧ pre.length + mid.length ≤ (pre ++ mid ++ post).length := by
    simp
  rw [if_pos this]
  congr 1
  simp [List.take_append]

theorem slice_suffix {l : Bytes} {lo : Nat} (pre post : Bytes) (hl : l = pre ++ post) (hlo : lo = pre.length) :
    slice l lo l.length = .ok post :=
  slice_seg pre post [] (by rw [hl, List.append_nil]) hlo (by rw [hl, hlo, List.length_append])

theorem slice_prefix (w r : Bytes) (n : Nat) (hn : n = w.length) : slice (w ++ r) 0 n = .ok w :=
  slice_seg [] w r rfl rfl (by rw [hn, Nat.zero_add])

theorem slice_tail (x : UInt8) (T : Bytes) (n : Nat) (hn : n = T.length + 1) : slice (x :: T) 1 n = .ok T :=
  hn ▸ slice_suffix [x] T rfl rfl

/-- `b[lo..hi].try_into::<[u8; n]>()` with `hi = lo + n` inside the buffer: the `n` bytes from `lo` -/
theorem field_eq (b : Bytes) (lo hi n : Nat) (hn : hi = lo + n) (h : hi ≤ b.length) :
    (slice b lo hi).bind (arr n) = .ok ((b.drop lo).take n) := by
  subst hn
  unfold slice arr
  rw [if_pos ⟨Nat.le_add_right .., h⟩, Outcome.bind_ok, List.drop_take, Nat.add_sub_cancel_left,
    if_pos (by rw [List.length_take, List.length_drop]; omega)]

/-- `&b[..len - 4]`: the specification's msg -/
theorem slice_msgOf (b : Bytes) : slice b 0 (b.length - 4) = .ok (Spec.msgOf b) :=
  slice_eq b 0 _ (Nat.zero_le _) (Nat.sub_le ..)

theorem getByte_at {l : Bytes} {i : Nat} (pre post : Bytes) (x : UInt8) (hl : l = pre ++ x :: post) (hi : i = pre.length) :
    getByte l i = .ok x := by
  subst hl hi
  simp [getByte, Outcome.ofOption]

theorem getByte_zero (x : UInt8) (l : Bytes) : getByte (x :: l) 0 = .ok x := rfl

theorem getByte_succ (x : UInt8) (l : Bytes) (i : Nat) : getByte (x :: l) (i + 1) = getByte l i := rfl

theorem getByte_eq (b : Bytes) (i : Nat) (h : i < b.length) : getByte b i = .ok b[i] := by
  unfold getByte
  rw [List.getElem?_eq_getElem h]
  rfl

/-- the keystream byte that position `i` of the payload is xored with -/
def ksByte (cr : Crypto) (a0 : Block) (i : Nat) : UInt8 :=
  (cr.cipher.enc cr.key (a0.set 15 (UInt8.ofNat (i / 16 + 1))))[i % 16]'(Nat.mod_lt _ (by decide))

/-- What the loop of `encryptFrmDataPayload` knows of `a`, `s`, `ctr` before iteration `n`: only cell 15 of `a` ever
changes, `ctr` is the number of the next keystream block (the first is 1), and inside a block `s` is the block in use.
(`15 < 16` is given by hand: left to the index tactic, each occurrence runs `omega`.) -/
structure KsInv (cr : Crypto) (a0 : Block) (n : Nat) (st : KsState) : Prop where
  ha : ∀ c, st.a.set 15 c (by decide) = a0.set 15 c (by decide)
  hctr : st.ctr.toNat = (n + 15) / 16 + 1
  hs : n % 16 ≠ 0 → st.s = cr.cipher.enc cr.key (a0.set 15 (UInt8.ofNat (n / 16 + 1)) (by decide))

theorem ksStep_spec (cr : Crypto) (start : Nat) (a0 : Block) (n : Nat) (st : KsState) (w r : Bytes) (x : UInt8)
    (inv : KsInv cr a0 n st) (hbuf : st.buf = w ++ x :: r) (hw : start + n = w.length) (hmax : n < 4064) :
    ∃ st', ksStep cr start st n = .ok st' ∧ KsInv cr a0 (n + 1) st' ∧ st'.buf = w ++ (x ^^^ ksByte cr a0 n) :: r := by
  have hb : st.buf[start + n]? = some x := by simp [hbuf, hw]
  have hd : (n + 1) % 16 ≠ 0 → (n + 1) / 16 = n / 16 := by omega
  unfold ksStep
  simp only [Nat.and_two_pow_sub_one_eq_mod n 4]
  by_cases h0 : n % 16 = 0
  · -- a new block starts; `ctr += 1` does not overflow: `n < 4064 = 254 * 16`, so `ctr ≤ 254`
    have hc : st.ctr.toNat = n / 16 + 1 := by rw [inv.hctr]; omega
    have hne : st.ctr ≠ 255 := by
      intro h; rw [h] at hc; simp at hc; omega
    have hce : st.ctr = UInt8.ofNat (n / 16 + 1) := by rw [← hc, UInt8.ofNat_toNat]
    simp only [h0, if_true, hne, if_false, Outcome.bind, hb]
    refine ⟨_, rfl, ⟨fun c => ?_, ?_, fun h => ?_⟩, ?_⟩
    · simp only [Vector.set_set]; exact inv.ha c
    · simp only [UInt8.toNat_add, hc]; simp; omega
    · simp only [inv.ha, hce, hd h]
    · simp [hbuf, hw, ksByte, inv.ha, hce, h0]
  · have hs := inv.hs h0
    simp only [h0, if_false, Outcome.bind, hb, Vector.getElem?_eq_getElem (Nat.mod_lt n (by decide : 0 < 16))]
    refine ⟨_, rfl, ⟨inv.ha, ?_, fun h => ?_⟩, ?_⟩
    · simp only [inv.hctr]; omega
    · simp only [hs, hd h]
    · simp [hbuf, hw, ksByte, hs]

/-- The rest of the loop, by induction on the payload `pl` still to do: `w` is the buffer before it, whose last `n`
bytes are payload already xored. -/
theorem ksLoop_spec (cr : Crypto) (start : Nat) (a0 : Block) (post pl : Bytes) (n : Nat) (st : KsState) (w : Bytes)
    (inv : KsInv cr a0 n st) (hbuf : st.buf = w ++ pl ++ post) (hw : start + n = w.length)
    (hmax : n + pl.length ≤ 4064) :
    ∃ st', ksLoop cr start (List.range' n pl.length) st = .ok st'
      ∧ st'.buf = w ++ List.zipWith (· ^^^ ·) pl ((List.range' n pl.length).map (ksByte cr a0)) ++ post := by
  induction pl generalizing n st w with
  | nil => exact ⟨st, rfl, hbuf⟩
  | cons x xs ih =>
    rw [List.length_cons] at hmax
    obtain ⟨st1, h1, inv1, hbuf1⟩ := ksStep_spec cr start a0 n st w (xs ++ post) x inv (by simp [hbuf]) hw (by omega)
    obtain ⟨st', h', hbuf'⟩ := ih (n + 1) st1 (w ++ [x ^^^ ksByte cr a0 n]) inv1 (by simp [hbuf1]) (by simp; omega)
      (by omega)
    exact ⟨st', by simp [List.range'_succ, ksLoop, h1, Outcome.bind, h'], by simp [hbuf', List.range'_succ]⟩

theorem encryptFrm_spec (cr : Crypto) (pre pl post : Bytes) (fcnt : UInt32) (a0 : Block) (start stop : Nat)
    (hstart : start = pre.length) (hstop : stop = start + pl.length)
    (ha : generateHelperBlock (pre ++ pl ++ post) 0x01 fcnt Block.zero = .ok a0) (hmax : pl.length ≤ 4064) :
    encryptFrmDataPayload cr (pre ++ pl ++ post) start stop fcnt
      = .ok (pre ++ List.zipWith (· ^^^ ·) pl ((List.range pl.length).map (ksByte cr a0)) ++ post) := by
  subst hstart hstop
  obtain ⟨st, hst, hbuf⟩ := ksLoop_spec cr pre.length a0 post pl 0
    { a := a0, s := Block.zero, ctr := 1, buf := pre ++ pl ++ post } pre ⟨fun _ => rfl, rfl, fun h => absurd rfl h⟩
    rfl rfl (by omega)
  simp only [encryptFrmDataPayload, usizeSub, bind, Outcome.bind, ha, pure, Nat.le_add_right, if_true,
    Nat.add_sub_cancel_left, List.range_eq_range', hst, hbuf]

theorem flatMap_blocks_length (f : Nat → Block) (n : Nat) :
    ((List.range n).flatMap fun i => (f i).toList).length = 16 * n := by
  simp [List.length_flatMap, List.map_const', Nat.mul_comm]

theorem flatMap_blocks_getElem? (f : Nat → Block) (n i : Nat) (h : i < 16 * n) :
    ((List.range n).flatMap fun j => (f j).toList)[i]? = some ((f (i / 16))[i % 16]'(Nat.mod_lt _ (by decide))) := by
  induction n with
  | zero => omega
  | succ n ih =>
    rw [List.range_succ, List.flatMap_append, List.getElem?_append, flatMap_blocks_length]
    split
    · exact ih ‹_›
    · obtain rfl : i / 16 = n := by omega
      simp [show i - 16 * (i / 16) = i % 16 by omega]

theorem mhdr_eq (d : DataFrame) : d.mhdr = Spec.mhdrData d.frameType := by
  unfold DataFrame.mhdr Spec.mhdrData Spec.mtypeCode
  cases d.frameType <;> rfl

theorem dir_eq (d : DataFrame) : (d.mhdr &&& 0x20) >>> 5 = Spec.dirOf d.frameType := by
  unfold DataFrame.mhdr Spec.dirOf FType.isUplink
  cases d.frameType <;> decide

theorem fctrl_table : ∀ (n : Fin 16) (up adr req ack pend : Bool),
    (let b : UInt8 := UInt8.ofNat n.val
     let b := if adr then b ||| 0x80 else b
     let b := if req && up then b ||| 0x40 else b
     let b := if ack then b ||| 0x20 else b
     let b := if pend && !up then b ||| 0x10 else b
     b) = Spec.fctrlOf up adr req ack pend n.val := by decide +kernel

theorem fctrl_eq (d : DataFrame) (h : d.fOpts.length ≤ 15) : d.fctrl = Spec.fctrl d.toSpec := by
  have := fctrl_table ⟨d.fOpts.length, by omega⟩ d.frameType.isUplink d.adr d.adrAckReq d.ack d.fPending
  simpa [DataFrame.fctrl, Spec.fctrl, DataFrame.toSpec] using this

theorem helper_spec (mhdr a1 a2 a3 a4 : UInt8) (rest : Bytes) (first : UInt8) (fcnt : UInt32) :
    Codec.generateHelperBlock (mhdr :: a1 :: a2 :: a3 :: a4 :: rest) first fcnt Block.zero
      = .ok #v[first, 0, 0, 0, 0, (mhdr &&& 0x20) >>> 5, a1, a2, a3, a4,
               (fcnt &&& 0xff).toUInt8, ((fcnt >>> 8) &&& 0xff).toUInt8, ((fcnt >>> 16) &&& 0xff).toUInt8,
               ((fcnt >>> 24) &&& 0xff).toUInt8, 0, 0] := by
  rfl

theorem blockA_eq (dir a1 a2 a3 a4 : UInt8) (addr fcnt : UInt32) (i : Nat)
    (haddr : Spec.le 4 addr.toNat = [a1, a2, a3, a4]) :
    (#v[(0x01 : UInt8), 0, 0, 0, 0, dir, a1, a2, a3, a4,
               (fcnt &&& 0xff).toUInt8, ((fcnt >>> 8) &&& 0xff).toUInt8, ((fcnt >>> 16) &&& 0xff).toUInt8,
               ((fcnt >>> 24) &&& 0xff).toUInt8, 0, 0] : Block).set 15 (UInt8.ofNat i)
      = Spec.blockA dir addr fcnt i := by
  rw [Spec.blockA, haddr, le4_fcnt]
  rfl

theorem blockB0_eq (dir a1 a2 a3 a4 : UInt8) (addr fcnt : UInt32) (n : Nat)
    (haddr : Spec.le 4 addr.toNat = [a1, a2, a3, a4]) :
    ((#v[(0x49 : UInt8), 0, 0, 0, 0, dir, a1, a2, a3, a4,
               (fcnt &&& 0xff).toUInt8, ((fcnt >>> 8) &&& 0xff).toUInt8, ((fcnt >>> 16) &&& 0xff).toUInt8,
               ((fcnt >>> 24) &&& 0xff).toUInt8, 0, 0] : Block).set 15 (UInt8.ofNat n)).toList
      = Spec.blockB0 dir addr fcnt n := by
  rw [Spec.blockB0, haddr, le4_fcnt]
  rfl

theorem crypt_eq (c : Cipher) (k : Key) (a0 : Block) (dir : UInt8) (addr fcnt : UInt32)
    (hA : ∀ i, a0.set 15 (UInt8.ofNat i) = Spec.blockA dir addr fcnt i) (pl : Bytes) :
    List.zipWith (· ^^^ ·) pl ((List.range pl.length).map (ksByte ⟨c, k⟩ a0))
      = Spec.cryptPayload c k dir addr fcnt pl := by
  unfold Spec.cryptPayload Spec.xorBytes Spec.keystream
  apply List.ext_getElem?
  intro i
  simp only [List.getElem?_zipWith]
  by_cases hi : i < pl.length
  · rw [flatMap_blocks_getElem? (fun j => c.enc k (Spec.blockA dir addr fcnt (j + 1))) _ i (by omega)]
    simp only [List.getElem?_map, List.getElem?_range hi, Option.map_some, ksByte, hA]
  · simp [List.getElem?_eq_none (Nat.le_of_not_lt hi)]

/-! `securityhelpers.rs` against the specification, for a frame that begins MHDR | DevAddr: direction and address are
read there.  Builders (C01) and parser (C02) both rest on these two. -/

section helpers
variable (c : Cipher) (k : Key) (mhdr a1 a2 a3 a4 dir : UInt8) (addr fcnt : UInt32)
  (hdir : (mhdr &&& 0x20) >>> 5 = dir) (haddr : Spec.le 4 addr.toNat = [a1, a2, a3, a4])
include hdir haddr

/-- `calculate_data_mic` is the specification's MIC -/
theorem calculateDataMic_spec (rest : Bytes) :
    calculateDataMic ⟨c, k⟩ (mhdr :: a1 :: a2 :: a3 :: a4 :: rest) fcnt
      = .ok (Spec.dataMic c k dir addr fcnt (mhdr :: a1 :: a2 :: a3 :: a4 :: rest)) := by
  unfold calculateDataMic
  rw [helper_spec]
  simp only [bind, pure, Outcome.bind_ok, Crypto.calculateMic, Spec.dataMic]
  rw [hdir, blockB0_eq _ _ _ _ _ _ _ _ haddr]

/-- `encrypt_frm_data_payload` replaces the range it is given by the specification's `cryptPayload` of it -/
theorem encryptFrm_crypt (W pl post : Bytes) (start stop : Nat) (hW : [mhdr, a1, a2, a3, a4] <+: W)
    (hstart : start = W.length) (hstop : stop = start + pl.length) (hmax : pl.length ≤ 4064) :
    encryptFrmDataPayload ⟨c, k⟩ (W ++ pl ++ post) start stop fcnt
      = .ok (W ++ Spec.cryptPayload c k dir addr fcnt pl ++ post) := by
  obtain ⟨rest, rfl⟩ := hW
  rw [encryptFrm_spec ⟨c, k⟩ _ pl post fcnt _ _ _ hstart hstop (helper_spec ..) hmax, crypt_eq c k _ dir addr fcnt]
  intro i
  rw [hdir]
  exact blockA_eq _ _ _ _ _ _ _ _ haddr

end helpers

/-! The ECB layer of a JoinAccept (everything after MHDR, in whole 16-octet blocks): the builder runs the loop with
`aes128_decrypt` (C01), the parser with `aes128_encrypt` (C02), the specification has `Spec.ecb`. -/

theorem ofList?_take16 (bs : Bytes) (h : 16 ≤ bs.length) : ∃ b : Block, Block.ofList? (bs.take 16) = some b ∧ b.toList = bs.take 16 := by
  unfold Block.ofList?
  have : (bs.take 16).length = 16 := by simp; omega
  simp only [this, dite_true]
  exact ⟨_, rfl, rfl⟩

theorem forChunks16_block (f : Block → Block) (g : Bytes → Outcome Bytes)
    (hg : ∀ bs, g bs = match Block.ofList? bs with | some b => .ok (f b).toList | none => .panic)
    (n : Nat) (bs : Bytes) (h : 16 * n ≤ bs.length) :
    forChunks16 g n bs = .ok (Spec.ecb f n bs) := by
  induction n generalizing bs with
  | zero => rfl
  | succ n ih =>
    obtain ⟨b, hb, _⟩ := ofList?_take16 bs (by omega)
    simp only [forChunks16, Spec.ecb, hg, hb, bind, Outcome.bind, pure]
    rw [ih (bs.drop 16) (by simp; omega)]

theorem ecb_length (f : Block → Block) (n : Nat) (bs : Bytes) (h : 16 * n ≤ bs.length) :
    (Spec.ecb f n bs).length = bs.length := by
  induction n generalizing bs with
  | zero => rfl
  | succ n ih =>
    obtain ⟨b, hb, _⟩ := ofList?_take16 bs (by omega)
    simp only [Spec.ecb, hb, List.length_append, Vector.length_toList]
    rw [ih (bs.drop 16) (by simp; omega)]
    simp; omega

/-- `for block in out[1..].chunks_exact_mut(16) { f(block) }`: everything after the first byte goes through `f` in ECB -/
theorem ecb_tail (f : Block → Block) (g : Bytes → Outcome Bytes)
    (hg : ∀ bs, g bs = match Block.ofList? bs with | some b => .ok (f b).toList | none => .panic)
    (x : UInt8) (T : Bytes) :
    (do let tail ← slice (x :: T) 1 (x :: T).length
        let tail ← forChunks16 g (tail.length / 16) tail
        copyFromSlice (x :: T) 1 (x :: T).length tail : Outcome Bytes) = .ok (x :: Spec.ecb f (T.length / 16) T) := by
  have hT := Nat.mul_div_le T.length 16
  have hl := ecb_length f (T.length / 16) T hT
  simp only [bind]
  rw [slice_tail x T (x :: T).length rfl, Outcome.bind_ok, forChunks16_block f _ hg _ _ hT, Outcome.bind_ok]
  exact (copy_next [x] T _ 1 _ rfl (by simp [hl]; omega) (by omega)).trans (by simp [hl])

theorem ecb_inv (f g : Block → Block) (hfg : ∀ x, f (g x) = x) (n : Nat) (X : Bytes) (h : 16 * n ≤ X.length) :
    Spec.ecb f n (Spec.ecb g n X) = X := by
  induction n generalizing X with
  | zero => rfl
  | succ n ih =>
    obtain ⟨b, hb, hbl⟩ := ofList?_take16 X (by omega)
    simp only [Spec.ecb, hb]
    have h1 : ((g b).toList ++ Spec.ecb g n (X.drop 16)).take 16 = (g b).toList := by
      rw [List.take_left']; simp
    have h2 : ((g b).toList ++ Spec.ecb g n (X.drop 16)).drop 16 = Spec.ecb g n (X.drop 16) := by
      rw [List.drop_left']; simp
    have h3 : Block.ofList? (g b).toList = some (g b) := by
      unfold Block.ofList?
      have hl : (g b).toList.length = 16 := by simp
      rw [dif_pos hl]
      congr 1
    rw [h1, h2, h3]
    simp only []
    rw [hfg, ih _ (by simp; omega), hbl, List.take_append_drop]

end Lora.CodecLemmas
