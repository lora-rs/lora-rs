import LoraVerif.Rt
import LoraVerif.Lemmas.BitField
/-! The library of the runtime `Rt`: rewriting lemmas for its checked arithmetic, casts, shifts and bit operations in a form
`simp (disch := omega)` can use (with the simp set `rt_simp`), the loop `loopM`, the list primitives on encoded lists, the
arithmetic of the region ties on casts of naturals (`Rt.OfNat`), and the two evaluation tactics of the whole-method ties. -/
namespace Rt

theorem ck_i32 {x : Int} (h1 : -2147483648 ≤ x) (h2 : x ≤ 2147483647) : ck .i32 x = some x := ck_eq_some ⟨h1, h2⟩
theorem ck_u32 {x : Int} (h1 : 0 ≤ x) (h2 : x ≤ 4294967295) : ck .u32 x = some x := ck_eq_some ⟨h1, h2⟩
theorem ck_u64 {x : Int} (h1 : 0 ≤ x) (h2 : x ≤ 18446744073709551615) : ck .u64 x = some x := ck_eq_some ⟨h1, h2⟩
theorem ck_i16 {x : Int} (h1 : -32768 ≤ x) (h2 : x ≤ 32767) : ck .i16 x = some x := ck_eq_some ⟨h1, h2⟩
theorem ck_u16 {x : Int} (h1 : 0 ≤ x) (h2 : x ≤ 65535) : ck .u16 x = some x := ck_eq_some ⟨h1, h2⟩
theorem ck_u8 {x : Int} (h1 : 0 ≤ x) (h2 : x ≤ 255) : ck .u8 x = some x := ck_eq_some ⟨h1, h2⟩
theorem ck_i8 {x : Int} (h1 : -128 ≤ x) (h2 : x ≤ 127) : ck .i8 x = some x := ck_eq_some ⟨h1, h2⟩
theorem ck_i64 {x : Int} (h1 : -9223372036854775808 ≤ x) (h2 : x ≤ 9223372036854775807) : ck .i64 x = some x := ck_eq_some ⟨h1, h2⟩
theorem ck_usize {x : Int} (h1 : 0 ≤ x) (h2 : x ≤ 18446744073709551615) : ck .usize x = some x := ck_eq_some ⟨h1, h2⟩

theorem ck_usize_sub (stop start : Nat) (h : stop < 2 ^ 64) :
    ck .usize ((stop : Int) - (start : Int)) = if start ≤ stop then some (((stop - start : Nat)) : Int) else none := by
  by_cases hs : start ≤ stop
  · rw [if_pos hs, ← Int.ofNat_sub hs]
    exact ck_usize (Int.natCast_nonneg _) (by omega)
  · rw [if_neg hs]
    exact ck_eq_none fun h => hs (Int.ofNat_le.mp (Int.le_of_sub_nonneg h.1))

theorem ck_i8_none {x : Int} (h : x < -128 ∨ 127 < x) : ck .i8 x = none :=
  ck_eq_none fun ⟨h1, h2⟩ => h.elim (Int.not_lt.mpr h1) (Int.not_lt.mpr h2)
theorem ck_u32_none {x : Int} (h : x < 0 ∨ 4294967295 < x) : ck .u32 x = none :=
  ck_eq_none fun ⟨h1, h2⟩ => h.elim (Int.not_lt.mpr h1) (Int.not_lt.mpr h2)

theorem tdiv_neg_eq {a b : Int} (ha : a ≤ 0) : Int.tdiv a b = -((-a) / b) := by
  have : a = -(-a) := by omega
  rw [this, Int.neg_tdiv, Int.tdiv_eq_ediv_of_nonneg (by omega)]; simp

theorem divC_pos {t a b} (ha : 0 ≤ a) (hb : 0 < b) : divC t a b = ck t (a / b) := by
  have : b ≠ 0 := by omega
  simp [divC, this, Int.tdiv_eq_ediv_of_nonneg ha]
theorem divC_neg {t a b} (ha : a ≤ 0) (hb : 0 < b) : divC t a b = ck t (-((-a) / b)) := by
  have : b ≠ 0 := by omega
  simp [divC, this, tdiv_neg_eq ha]

/-! ## `as` casts and shifts, for every integer type and shift amount

One statement per primitive; the instances below them fix type and amount, so that `simp (disch := omega)` meets
side conditions in literals (`omega` takes `ITy.lo .u32` or `2 ^ k.toNat` for atoms). -/

theorem ITy.two_pow_bits (t : ITy) : (2 ^ t.bits : Int) = 2 * 2 ^ (t.bits - 1) := by
  cases t <;> rfl

/-- an `as` cast to an unsigned type is reduction modulo `2^bits` -/
theorem wrap_unsigned {t : ITy} (ht : t.signed = false) (x : Int) : wrap t x = x % (2 ^ t.bits : Int) := by
  simp [wrap, ht]

/-- an `as` cast leaves a value of the target type alone -/
theorem wrap_id {t : ITy} {x : Int} (h1 : t.lo ≤ x) (h2 : x ≤ t.hi) : wrap t x = x := by
  have hb := t.two_pow_bits
  have hp : (0 : Int) < 2 ^ (t.bits - 1) := Int.pow_pos (by decide)
  unfold ITy.lo at h1; unfold ITy.hi at h2; unfold wrap
  generalize (2 : Int) ^ (t.bits - 1) = H at *
  generalize (2 : Int) ^ t.bits = M at *
  subst hb
  rcases hs : t.signed with _ | _ <;> simp only [hs, Bool.false_eq_true, if_false, if_true] at h1 h2 ⊢
  · exact Int.emod_eq_of_lt h1 (by omega)
  · have e : 2 * H / 2 = H := by omega
    rw [e]
    by_cases hx : 0 ≤ x
    · rw [Int.emod_eq_of_lt hx (by omega), if_neg (by omega)]
    · -- a negative value of a signed type: `x % 2^bits` is `x + 2^bits`, in the upper half
      have : x % (2 * H) = x + 2 * H := by
        rw [← Int.add_mul_emod_self_left x (2 * H) 1, Int.mul_one]
        exact Int.emod_eq_of_lt (by omega) (by omega)
      rw [this, if_pos (by omega)]; omega

/-- `>>` by an amount below the width is floor division by `2^k`, signed or not -/
theorem shrC_eq {t : ITy} {a k : Int} (h0 : 0 ≤ k) (hk : k < t.bits) : shrC t a k = some (a / 2 ^ k.toNat) := by
  simp [shrC, h0, hk]

/-- `<<` by an amount below the width is multiplication by `2^k`, as long as the product is a value of the type -/
theorem shlC_eq {t : ITy} {a k : Int} (h0 : 0 ≤ k) (hk : k < t.bits)
    (h1 : t.lo ≤ a * 2 ^ k.toNat) (h2 : a * 2 ^ k.toNat ≤ t.hi) : shlC t a k = some (a * 2 ^ k.toNat) := by
  simp [shlC, h0, hk, wrap_id h1 h2]

/-- `<<` on an unsigned type in general: the bits shifted out are dropped -/
theorem shlC_unsigned {t : ITy} (ht : t.signed = false) {a k : Int} (h0 : 0 ≤ k) (hk : k < t.bits) :
    shlC t a k = some (a * 2 ^ k.toNat % 2 ^ t.bits) := by
  simp [shlC, h0, hk, wrap_unsigned ht]

theorem shlC_u32_14 {a : Int} (h0 : 0 ≤ a) (h1 : a * 16384 ≤ 4294967295) : shlC .u32 a 14 = some (a * 16384) :=
  shlC_eq (by decide) (by decide) (Int.mul_nonneg h0 (by decide)) h1
theorem shlC_u64_19 {a : Int} (h0 : 0 ≤ a) (h1 : a ≤ 4294967295) : shlC .u64 a 19 = some (a * 524288) :=
  shlC_eq (t := .u64) (k := 19) (by decide) (by decide) (show (0 : Int) ≤ a * 524288 by omega)
    (show a * 524288 ≤ 18446744073709551615 by omega)
theorem shlC_u8_3 {a : Int} (h0 : 0 ≤ a) (h1 : a ≤ 31) : shlC .u8 a 3 = some (a * 8) :=
  shlC_eq (t := .u8) (k := 3) (by decide) (by decide) (show (0 : Int) ≤ a * 8 by omega) (show a * 8 ≤ 255 by omega)

theorem shrC_u32_1 {a : Int} : shrC .u32 a 1 = some (a / 2) := shrC_eq (by decide) (by decide)
theorem shrC_u32_8 {a : Int} : shrC .u32 a 8 = some (a / 256) := shrC_eq (by decide) (by decide)
theorem shrC_u32_16 {a : Int} : shrC .u32 a 16 = some (a / 65536) := shrC_eq (by decide) (by decide)
theorem shrC_u32_24 {a : Int} : shrC .u32 a 24 = some (a / 16777216) := shrC_eq (by decide) (by decide)
theorem shrC_u64_19 {a : Int} : shrC .u64 a 19 = some (a / 524288) := shrC_eq (by decide) (by decide)
theorem shrC_u16_1 {a : Int} : shrC .u16 a 1 = some (a / 2) := shrC_eq (by decide) (by decide)
theorem shrC_u16_8 {a : Int} : shrC .u16 a 8 = some (a / 256) := shrC_eq (by decide) (by decide)
theorem shrC_i32_1 {a : Int} : shrC .i32 a 1 = some (a / 2) := shrC_eq (by decide) (by decide)
theorem shrC_i16_2 {a : Int} : shrC .i16 a 2 = some (a / 4) := shrC_eq (by decide) (by decide)

theorem wrap_id_i32 {x : Int} (h1 : -2147483648 ≤ x) (h2 : x ≤ 2147483647) : wrap .i32 x = x := wrap_id h1 h2
theorem wrap_id_u32 {x : Int} (h1 : 0 ≤ x) (h2 : x ≤ 4294967295) : wrap .u32 x = x := wrap_id h1 h2
theorem wrap_id_u16 {x : Int} (h1 : 0 ≤ x) (h2 : x ≤ 65535) : wrap .u16 x = x := wrap_id h1 h2
theorem wrap_id_u8 {x : Int} (h1 : 0 ≤ x) (h2 : x ≤ 255) : wrap .u8 x = x := wrap_id h1 h2
theorem wrap_id_i16 {x : Int} (h1 : -32768 ≤ x) (h2 : x ≤ 32767) : wrap .i16 x = x := wrap_id h1 h2
theorem wrap_id_u64 {x : Int} (h1 : 0 ≤ x) (h2 : x ≤ 18446744073709551615) : wrap .u64 x = x := wrap_id h1 h2

theorem shrC_u8_4 {a : Int} : shrC .u8 a 4 = some (a / 16) := shrC_eq (by decide) (by decide)
theorem shlC_u32_8 {a : Int} (h0 : 0 ≤ a) (h1 : a ≤ 255) : shlC .u32 a 8 = some (a * 256) :=
  shlC_eq (t := .u32) (k := 8) (by decide) (by decide) (show (0 : Int) ≤ a * 256 by omega) (show a * 256 ≤ 4294967295 by omega)
theorem shlC_u32_16 {a : Int} (h0 : 0 ≤ a) (h1 : a ≤ 255) : shlC .u32 a 16 = some (a * 65536) :=
  shlC_eq (t := .u32) (k := 16) (by decide) (by decide) (show (0 : Int) ≤ a * 65536 by omega) (show a * 65536 ≤ 4294967295 by omega)

/-! ## `&` and `|` of non-negative values are those of `Nat` -/

theorem andI_ofNat (a b : Nat) : andI (a : Int) (b : Int) = ((a &&& b : Nat) : Int) := by
  simp [andI]

theorem orI_ofNat (a b : Nat) : orI (a : Int) (b : Int) = ((a ||| b : Nat) : Int) := by
  simp [orI]

theorem andI_lowmask {x : Int} (h : 0 ≤ x) (k : Nat) : andI x (((2 ^ k - 1 : Nat)) : Int) = x % ((2 ^ k : Nat) : Int) := by
  obtain ⟨n, rfl⟩ := Int.eq_ofNat_of_zero_le h
  rw [andI_ofNat, Nat.and_two_pow_sub_one_eq_mod]
  simp

/-! The `w` low bits of an `n`-bit word cleared by a mask, refilled by `|` (`BitField.mask_write_low`): the frame counter
(`Lemmas/FcntDown`, 16 of 32 bits), the SX127x symbol timeout (`Rt.or_and_fc`, 2 of 8). -/

theorem andI_clear_low {x : Int} (n w : Nat) (hw : w ≤ n) (h0 : 0 ≤ x) (h1 : x < ((2 ^ n : Nat) : Int)) :
    andI x ((2 ^ n - 2 ^ w : Nat) : Int) = x - x % ((2 ^ w : Nat) : Int) := by
  obtain ⟨a, rfl⟩ := Int.eq_ofNat_of_zero_le h0
  have h := BitField.mask_write_low (v := 0) (Int.ofNat_lt.mp h1) hw (Nat.two_pow_pos w)
  rw [Nat.or_zero, Nat.add_zero] at h
  have := Nat.div_add_mod a (2 ^ w)
  rw [andI_ofNat, h, ← Int.natCast_emod, Nat.mul_comm]
  omega

theorem orI_low {h v : Int} (w : Nat) (hh0 : 0 ≤ h) (hh : h % ((2 ^ w : Nat) : Int) = 0) (hv0 : 0 ≤ v) (hv : v < ((2 ^ w : Nat) : Int)) :
    orI h v = h + v := by
  obtain ⟨a, rfl⟩ := Int.eq_ofNat_of_zero_le hh0
  obtain ⟨b, rfl⟩ := Int.eq_ofNat_of_zero_le hv0
  obtain ⟨q, rfl⟩ : 2 ^ w ∣ a := Nat.dvd_of_mod_eq_zero (by rw [← Int.natCast_emod] at hh; exact_mod_cast hh)
  rw [orI_ofNat, Nat.mul_comm, ← Nat.shiftLeft_eq, ← Nat.shiftLeft_add_eq_or_of_lt (Int.ofNat_lt.mp hv)]
  rfl

theorem andI_255 {x : Int} (h : 0 ≤ x) : andI x 255 = x % 256 := by
  simpa using andI_lowmask h 8

theorem loopM_exit {σ β : Type} (k : Nat) (step : σ → Option (σ ⊕ β)) (s : σ) (b : β)
    (h : step s = some (Sum.inr b)) : loopM (k + 2) step s = some b := by
  simp only [loopM, h]

theorem loopM_once {σ β : Type} (k : Nat) (step : σ → Option (σ ⊕ β)) (s s' : σ) (b : β)
    (h : step s = some (Sum.inl s')) (h' : step s' = some (Sum.inr b)) : loopM (k + 2) step s = some b := by
  simp only [loopM, h, h']

theorem satAdd_u32 {a b : Int} (h : 0 ≤ a + b) : satAdd .u32 a b = min 4294967295 (a + b) := by
  have e1 : ITy.lo .u32 = 0 := rfl
  have e2 : ITy.hi .u32 = 4294967295 := rfl
  simp only [satAdd, e1, e2]; omega

theorem isMultipleOf_pos {a b : Int} (hb : 0 < b) : isMultipleOf a b = decide (a % b = 0) := by
  simp only [isMultipleOf]; rw [if_neg (by omega)]

/-- The simp set that evaluates a generated `do` block step by step; side conditions by `omega`. -/
macro "rt_simp" : tactic =>
  `(tactic| simp (disch := omega) only [ck_i32, ck_u32, ck_u64, ck_i16, ck_u16, ck_u8, ck_i8, ck_i64,
      divC_pos, divC_neg, wrap_id_i32, wrap_id_u32, wrap_id_u16, wrap_id_u8, wrap_id_i16, wrap_id_u64,
      Option.bind_some, Option.bind_eq_bind, Option.pure_def, bind_pure, pure_bind])

/-! The list primitives on an encoded list `l.map f` (octets as `Int`s, …), at indices that are naturals: the encoding of what
the same access does to `l`; `none` on the same indices. -/
variable {α β : Type} (f : α → β) (l : List α)

theorem idx_map (i : Nat) : idx (l.map f) (i : Int) = (l[i]?).map f := by
  simp only [idx, Int.not_lt.mpr (Int.natCast_nonneg i), if_false, Int.toNat_natCast, List.getElem?_map]

theorem setIdx_map (i : Nat) (v : α) :
    setIdx (l.map f) (i : Int) (f v) = if i < l.length then some ((l.set i v).map f) else none := by
  simp only [setIdx, Int.natCast_nonneg, true_and, Int.toNat_natCast, List.length_map, List.map_set]

theorem slice_map (a b : Nat) :
    slice (l.map f) (a : Int) (b : Int) = if a ≤ b ∧ b ≤ l.length then some (((l.drop a).take (b - a)).map f) else none := by
  simp only [slice, Int.natCast_nonneg, true_and, Int.ofNat_le, List.length_map, Int.toNat_natCast, List.map_take, List.map_drop]

theorem sliceFrom_map (a : Nat) : sliceFrom (l.map f) (a : Int) = if a ≤ l.length then some ((l.drop a).map f) else none := by
  simp only [sliceFrom, Int.natCast_nonneg, true_and, Int.ofNat_le, List.length_map, Int.toNat_natCast, List.map_drop]

theorem copyFromSlice_map (a b : Nat) (src : List α) :
    copyFromSlice (l.map f) (a : Int) (b : Int) (src.map f)
      = if a ≤ b ∧ b ≤ l.length ∧ src.length = b - a then some ((l.take a ++ src ++ l.drop b).map f) else none := by
  simp only [copyFromSlice, Int.natCast_nonneg, true_and, Int.ofNat_le, List.length_map, Int.toNat_natCast, List.map_append,
    List.map_take, List.map_drop]
  by_cases h : a ≤ b
  · simp only [h, true_and, ← Int.ofNat_sub h, Int.ofNat_inj]
  · simp only [h, false_and]

end Rt

/-! ## Division, remainder, masks, shifts and indexing on non-negative values, as the region ties need them

`/`, `%`, `>>`, `&` and indexing of the source on values that are naturals by typing — given as the cast of a natural, or
as a non-negative `Int` read back by `.toNat` where that is how the tie meets it — with the result as the cast of a
natural.  `ck_chan`, `ck_i32_succ`, `ck_succ` carry the bound of their one caller where the type's bound would do.  Both
spellings of one quantity (`x >> 3` and `x / 8`, `x & 7` and `x % 8`; the masks with the operands the other way round are
`TieA.Select.andI_3'` … in `Props/TieA/PlanSelectLemmas.lean`) so that a tie survives the re-spelling.  (A namespace of its
own: `Rt.andI_3` and the like exist for `Int` results.) -/
namespace Rt.OfNat

/-- Rust `%` and `/` on naturals, up to the range check of the integer type -/
theorem remC_nat (t : ITy) (n m : Nat) (hm : m ≠ 0) : remC t (n : Int) (m : Int) = ck t ((n % m : Nat) : Int) := by
  rw [remC, if_neg (by omega), Int.tmod_eq_emod_of_nonneg (Int.natCast_nonneg n)]; rfl

theorem divC_nat (t : ITy) (n m : Nat) (hm : m ≠ 0) : divC t (n : Int) (m : Int) = ck t ((n / m : Nat) : Int) := by
  rw [divC, if_neg (by omega), Int.tdiv_eq_ediv_of_nonneg (Int.natCast_nonneg n)]; rfl

theorem div8_u8 (c : Int) (h0 : 0 ≤ c) (h1 : c ≤ 255) : divC .u8 c 8 = some ((c.toNat / 8 : Nat) : Int) := by
  obtain ⟨n, rfl⟩ := Int.eq_ofNat_of_zero_le h0
  exact (divC_nat .u8 n 8 (by decide)).trans (ck_u8 (by omega) (by omega))

theorem rem8_u8 (c : Int) (h0 : 0 ≤ c) (h1 : c ≤ 255) : remC .u8 c 8 = some ((c.toNat % 8 : Nat) : Int) := by
  obtain ⟨n, rfl⟩ := Int.eq_ofNat_of_zero_le h0
  exact (remC_nat .u8 n 8 (by decide)).trans (ck_u8 (by omega) (by omega))

theorem remC_u8_nat (n m : Nat) (hn : n ≤ 255) (hm : 0 < m) : remC .u8 (n : Int) (m : Int) = some ((n % m : Nat) : Int) :=
  (remC_nat .u8 n m (by omega)).trans (ck_u8 (by omega) (by have := Nat.mod_le n m; omega))

theorem remC_u32_nat (e : Nat) (he : e < 4294967296) (m : Nat) (hm : 0 < m) :
    remC .u32 (e : Int) (m : Int) = some ((e % m : Nat) : Int) :=
  (remC_nat .u32 e m (by omega)).trans (ck_u32 (by omega) (by have := Nat.mod_le e m; omega))

theorem shr3 (ch : Int) (h : 0 ≤ ch) : shrC .usize ch 3 = some (((ch.toNat / 8 : Nat)) : Int) :=
  (shrC_eq (by decide) (by decide)).trans (congrArg some (show ch / 8 = _ by omega))

theorem shr3_u32 (e : Nat) : shrC .u32 (e : Int) 3 = some ((e / 8 : Nat) : Int) :=
  shrC_eq (by decide) (by decide)

theorem andI_mask (e : Nat) (k : Nat) : andI (e : Int) ((2 ^ k - 1 : Nat) : Int) = ((e % 2 ^ k : Nat) : Int) := by
  rw [andI_lowmask (Int.natCast_nonneg e), Int.natCast_emod]

theorem andI_3 (e : Nat) : andI (e : Int) 3 = ((e % 4 : Nat) : Int) := andI_mask e 2
theorem andI_7 (e : Nat) : andI (e : Int) 7 = ((e % 8 : Nat) : Int) := andI_mask e 3
theorem andI_15 (e : Nat) : andI (e : Int) 15 = ((e % 16 : Nat) : Int) := andI_mask e 4
theorem andI_31 (e : Nat) : andI (e : Int) 31 = ((e % 32 : Nat) : Int) := andI_mask e 5
theorem andI_63 (e : Nat) : andI (e : Int) 63 = ((e % 64 : Nat) : Int) := andI_mask e 6

theorem and7 (ch : Int) (h : 0 ≤ ch) : andI ch 7 = ((ch.toNat % 8 : Nat) : Int) := by
  obtain ⟨n, rfl⟩ := Int.eq_ofNat_of_zero_le h
  exact andI_7 n

theorem andI_comm (a b : Int) : andI a b = andI b a := by
  unfold andI
  by_cases h : 0 ≤ a ∧ 0 ≤ b
  · rw [if_pos h, if_pos ⟨h.2, h.1⟩, Nat.and_comm]
  · rw [if_neg h, if_neg (fun h' => h ⟨h'.2, h'.1⟩), Nat.and_comm]

/-- the flag `1 << k` of a bit of an octet, and its complement -/
theorem flag_u8 : ∀ k : Fin 8, shlC .u8 1 (k.val : Int) = some ((1 <<< k.val : Nat) : Int) ∧
    notI .u8 ((1 <<< k.val : Nat) : Int) = ((255 - 1 <<< k.val : Nat) : Int) := by
  decide

theorem testBit_flag (b k : Nat) : andI (b : Int) ((1 <<< k : Nat) : Int) = 0 ↔ b.testBit k = false := by
  rw [andI_ofNat, Nat.one_shiftLeft, ← BitField.and_two_pow_eq_zero]; exact Int.natCast_eq_zero

theorem wrap_u8_nat (n : Nat) (h : n ≤ 255) : wrap .u8 (n : Int) = (n : Int) := wrap_id_u8 (by omega) (by omega)

theorem wrap_u8_mod (n : Nat) : wrap .u8 (n : Int) = ((n % 256 : Nat) : Int) := wrap_unsigned rfl _

theorem wrap_and7 (n : Nat) : wrap .u8 (andI (n : Int) 7) = ((n % 8 : Nat) : Int) := by
  rw [andI_7, wrap_u8_nat _ (by omega)]

theorem ck_chan (n b : Nat) (hb : b ≤ 8) :
    ck .u8 (((n % 8 : Nat) : Int) + ((b * 8 : Nat) : Int)) = some ((n % 8 + b * 8 : Nat) : Int) := by
  rw [ck_u8 (by omega) (by omega)]; congr 1

theorem ck_i32_succ (u : Nat) (hu : u ≤ 10) : ck .i32 ((u : Int) + 1) = some ((u + 1 : Nat) : Int) := by
  rw [ck_i32 (by omega) (by omega)]; congr 1

theorem rposition_eq {α} (q : α → Bool) (l : List α) (f : Nat → Bool) (h : ∀ i, f i = (l[i]?).any q) :
    rposition q l = (((List.range l.length).filter f).getLast?).map Int.ofNat := by
  have : f = fun i => (l[i]?).any q := funext h
  subst this
  unfold rposition
  congr 3

/-- (stated apart: a `simp` step that leaves `ck .usize _` to a definitional check makes the kernel unfold the bound `2^64 - 1`) -/
theorem ck_succ (i : Nat) (hi : i < 16) : ck .usize ((i : Int) + 1) = some (((i + 1 : Nat)) : Int) := by
  rw [ck_usize (by omega) (by omega)]; congr 1

theorem idx_eq {α} (l : List α) {i : Int} (h0 : 0 ≤ i) : idx l i = l[i.toNat]? := by
  simp only [idx]; rw [if_neg (by omega)]

theorem idx_nat {α} (l : List α) (i : Nat) : idx l (i : Int) = l[i]? := idx_eq l (Int.natCast_nonneg i)

theorem setIdx_eq_some {α} (l : List α) {i : Int} (h0 : 0 ≤ i) (h : i.toNat < l.length) (v : α) :
    setIdx l i v = some (l.set i.toNat v) := by
  simp only [setIdx]; rw [if_pos ⟨h0, h⟩]

theorem shlC_u8_nat (v k : Nat) (hk : k < 8) : shlC .u8 (v : Int) (k : Int) = some (((v <<< k) % 256 : Nat) : Int) := by
  rw [shlC_unsigned rfl (Int.natCast_nonneg k) (by exact_mod_cast hk), Int.toNat_natCast, Nat.shiftLeft_eq]
  norm_cast

end Rt.OfNat

/-! ## Two evaluation tactics of the whole-method ties

Both evaluate a generated (state-passing) method and the hand model under the facts in the context, and name nothing of
the generated code.  `tie_leaf` closes a leaf of a case split in which every test of either side is decided by a fact
stated beforehand in rewriting form (its users: the two `rx2_complete` ties, `Rx2Complete.lean` and `HandleRx.lean`).  `tie_eval` lets `omega` decide the `if`s and the range of
checked operations from the context; it accepts either spelling of a comparison but is slow on large terms (its one
user: `TieA.Macs.add_mac_command_tie`, `HandleMacs.lean`).

They stand in this library and not in a module of their own because they are simp sets over its lemmas like `rt_simp`,
and every file that calls them imports it.
-/
namespace TieA

macro "tie_eval" : tactic =>
  `(tactic| simp (disch := omega) only [if_pos, if_neg, decide_eq_true_eq, decide_eq_false_iff_not, Rt.ck_u32, Rt.ck_usize, Rt.ck_u8, Rt.ck_u16, gt_iff_lt, Option.bind_some,
      Option.map_some, Option.map_none, ge_iff_le, Bool.false_eq_true, if_false, if_true, Option.bind_eq_bind, Option.pure_def,
      decide_false, decide_true, Bool.not_true, Bool.not_false, beq_iff_eq, Bool.and_true, Bool.true_and, Bool.and_false,
      Bool.false_and, Bool.and_eq_true, Bool.or_eq_true, not_true_eq_false, not_false_eq_true, decide_eq_true, decide_eq_false, Bool.not_eq_true', Bool.not_eq_true, decide_not, Bool.not_not, *])

macro "tie_leaf" : tactic =>
  `(tactic| simp only [*, decide_true, decide_false, beq_self_eq_true, Bool.false_eq_true, if_true, if_false,
      Option.bind_some, Option.map_some, Option.map_none])

end TieA
