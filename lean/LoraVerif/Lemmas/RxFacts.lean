import LoraVerif.Model.HistoryC
import LoraVerif.Lemmas.Cycle
import LoraVerif.Lemmas.Safe
/-!
# What receiving leaves untouched, in ANY state

`SameParams m m1`: the negotiated parameters and the region in force.  The window computations read
nothing else of the MAC state (`SameParams.rxWindows`, `.macRxcConfig`, `.macRxDelay`, `.rxcMp` in `Lemmas/CycleC.lean`);
`send`, `join_otaa`, `handle_rxc` (MAC commands ignored) and a window without response keep them.  On the way:
`sessionHandleRx_shape`, the four things `Session::handle_rx` can answer; a frame answered `NoUpdate` changes nothing and
delivers nothing, and `handle_rx` in a window always answers.  Unlike the equations of
`Lemmas/Cycle.lean` nothing here assumes a session or a 16-bit wire counter.
-/
namespace Model

def SameParams (m m1 : MacState) : Prop := m1.cfg = m.cfg ∧ m1.region.id = m.region.id

theorem SameParams.refl (m : MacState) : SameParams m m := ⟨rfl, rfl⟩

theorem SameParams.trans {m m1 m2 : MacState} (h1 : SameParams m m1) (h2 : SameParams m1 m2) : SameParams m m2 :=
  ⟨h2.1.trans h1.1, h2.2.trans h1.2⟩

theorem SameParams.of_eq {m m1 : MacState} (h : m1 = m) : SameParams m m1 := h ▸ .refl m

theorem SameParams.rxWindows {m m1 : MacState} (h : SameParams m m1) (tx : TxChannel) : rxWindows m1 tx = rxWindows m tx := by
  unfold Model.rxWindows rx2RfConfig buildRfConfig
  rw [h.1, h.2]

theorem SameParams.macRxcConfig {m m1 : MacState} (h : SameParams m m1) : macRxcConfig m1 = macRxcConfig m := by
  unfold Model.macRxcConfig rx2RfConfig buildRfConfig
  rw [h.1, h.2]

theorem SameParams.macRxDelay {m m1 : MacState} (h : SameParams m m1) (join second : Bool) :
    macRxDelay m1 join second = macRxDelay m join second := by
  unfold Model.macRxDelay; rw [h.1]

theorem Sent.params {σ} {g : Rng σ} {m : MacState} {rs : σ} {s : Session} {data : List Nat} {fport : Nat} {conf : Bool}
    {so : SendOut} {m1 : MacState} {rs' : σ} (h : Sent g m rs s data fport conf so m1 rs') : SameParams m m1 := ⟨h.cfg, h.id⟩

theorem macSend_params {σ} (g : Rng σ) (m : MacState) (data : List Nat) (fport : Nat) (conf : Bool) (rs : σ) :
    Post (macSend g m data fport conf rs) (fun r => SameParams m r.2.1) := by
  unfold macSend
  split
  · exact Post.skip fun ⟨_, _⟩ => Post.skip fun dr => Post.bind_eq fun ⟨tx, region, rs1⟩ hsel => Post.skip fun _ =>
      Post.skip fun ⟨_, _⟩ => Post.pure ⟨rfl, selectTxChannel_id g _ _ dr .data rs rs1 tx hsel⟩
  · exact Post.pure (.refl m)

theorem macJoinOtaa_params {σ} (g : Rng σ) (m : MacState) (rs : σ) :
    Post (macJoinOtaa g m rs) (fun r => SameParams m r.2.1) := by
  unfold macJoinOtaa
  exact Post.skip fun dr => Post.bind_eq fun ⟨tx, region, rs1⟩ hsel => Post.skip fun _ => Post.skip fun ⟨_, _⟩ =>
    Post.pure ⟨rfl, selectTxChannel_id g _ _ dr .join _ rs1 tx hsel⟩

/-- what `Session::handle_rx` can answer: in a window, something without a downlink that is not `NoUpdate` (the frame
was too long for the window); `NoUpdate` with everything unchanged; `SessionExpired` at the exhausted uplink counter;
`DownlinkReceived` with the uplink counter advanced by one -/
theorem sessionHandleRx_shape (s : Session) (cfg : Config) (region : RegionState) (d : RxData) (mp : Nat) (snr : Int)
    (ig : Bool) (o : RxOut) (s' : Session) (cfg' : Config) (region' : RegionState)
    (h : sessionHandleRx s cfg region d mp snr ig = .ok (o, s', cfg', region')) :
    (ig = false ∧ o.downlink = none ∧ o.resp ≠ .noUpdate)
    ∨ (o.resp = .noUpdate ∧ o.downlink = none ∧ s' = s ∧ cfg' = cfg ∧ region' = region)
    ∨ (o.resp = .sessionExpired ∧ o.downlink = none ∧ s.fcntUp = 0xFFFFFFFF ∧ s'.fcntUp = s.fcntUp)
    ∨ (∃ n, o.resp = .downlinkReceived n ∧ s.fcntUp ≠ 0xFFFFFFFF ∧ s'.fcntUp = s.fcntUp + 1) := by
  rw [sessionHandleRx_eq] at h
  split at h
  · cases ig <;> cases h
    · rw [rx2Complete_eq]
      exact .inl ⟨rfl, rfl, ne_of_beq_false (tmoResp_ne_noUpdate _ _)⟩
    · exact .inr (.inl ⟨rfl, rfl, rfl, rfl, rfl⟩)
  · split at h
    · obtain ⟨ctx, _, h⟩ := Except.bind_eq_ok h
      simp only [acceptFinish] at h
      split at h <;> cases h
      · next hx => exact .inr (.inr (.inl ⟨rfl, rfl, by simpa using hx, rfl⟩))
      · next hx => exact .inr (.inr (.inr ⟨_, rfl, by simpa using hx, rfl⟩))
    · cases h
      exact .inr (.inl ⟨rfl, rfl, rfl, rfl, rfl⟩)

theorem sessionHandleRx_noUpdate_state (s : Session) (cfg : Config) (region : RegionState) (d : RxData) (mp : Nat)
    (snr : Int) (o : RxOut) (s' : Session) (cfg' : Config) (region' : RegionState)
    (h : sessionHandleRx s cfg region d mp snr false = .ok (o, s', cfg', region')) (hn : o.resp = .noUpdate) :
    s' = s ∧ cfg' = cfg ∧ region' = region := by
  rcases sessionHandleRx_shape _ _ _ _ _ _ _ _ _ _ _ h with ⟨_, _, h⟩ | ⟨_, _, h⟩ | ⟨h, _⟩ | ⟨n, h, _⟩
  · exact absurd hn h
  · exact h
  · rw [hn] at h; cases h
  · rw [hn] at h; cases h

theorem macHandleRx_noUpdate_state (m : MacState) (v : RxView) (mp : Nat) (snr : Int) (o : RxOut) (m' : MacState)
    (h : macHandleRx m v mp snr false = .ok (some o, m')) (hn : o.resp = .noUpdate) : m' = m := by
  unfold macHandleRx at h
  split at h
  · rename_i s hst
    split at h
    · obtain ⟨⟨o', s', cfg', region'⟩, hs, h⟩ := Except.bind_eq_ok h
      cases Except.pure_eq_ok h
      obtain ⟨rfl, rfl, rfl⟩ := sessionHandleRx_noUpdate_state _ _ _ _ _ _ _ _ _ _ hs hn
      exact MacState.eta_joined hst
    · cases h; rfl
  · simp only [Bool.false_eq_true, if_false] at h
    split at h
    · split at h
      · obtain ⟨m2, _, h⟩ := Except.bind_eq_ok h
        cases h; cases hn
      · cases h; rfl
    · cases h; rfl
  · simp only [Bool.false_eq_true, if_false] at h
    cases h; rfl

theorem macHandleRx_noUpdate_dl (m : MacState) (v : RxView) (mp : Nat) (snr : Int) (cc : Bool) (o : RxOut) (m' : MacState)
    (h : macHandleRx m v mp snr cc = .ok (some o, m')) (hn : o.resp = .noUpdate) : o.downlink = none := by
  unfold macHandleRx at h
  split at h
  · split at h
    · obtain ⟨⟨o', s', cfg', region'⟩, hs, h⟩ := Except.bind_eq_ok h
      cases h
      rcases sessionHandleRx_shape _ _ _ _ _ _ _ _ _ _ _ hs with ⟨_, h, _⟩ | ⟨_, h, _⟩ | ⟨_, h, _⟩ | ⟨n, h, _⟩
      · exact h
      · exact h
      · exact h
      · rw [hn] at h; cases h
    · cases h; rfl
  · split at h
    · cases h
    · split at h
      · split at h
        · obtain ⟨m2, _, h⟩ := Except.bind_eq_ok h
          cases h; rfl
        · cases h; rfl
      · cases h; rfl
  · split at h
    · cases h
    · cases h; rfl

theorem macHandleRx_window_ne_none (m : MacState) (v : RxView) (mp : Nat) (snr : Int) (m' : MacState)
    (h : macHandleRx m v mp snr false = .ok (none, m')) : False := by
  unfold macHandleRx at h
  split at h
  · split at h
    · obtain ⟨⟨o', s', cfg', region'⟩, _, h⟩ := Except.bind_eq_ok h
      cases h
    · cases h
  · simp only [Bool.false_eq_true, if_false] at h
    split at h
    · split at h
      · obtain ⟨m2, _, h⟩ := Except.bind_eq_ok h
        cases h
      · cases h
    · cases h
  · simp only [Bool.false_eq_true, if_false] at h
    cases h

/-- **what `Mac::handle_rxc` can answer**: `Err(NotJoined)` (no session: nothing changes); `NoUpdate` —
then NOTHING changed and nothing is delivered; `SessionExpired` at the exhausted uplink counter;
`DownlinkReceived` with the uplink counter advanced by exactly one.  Never anything else: the
conversion `ListenResponse::from` cannot meet a response it panics on. -/
theorem macHandleRxc_shape (m : MacState) (v : RxView) (mp : Nat) (snr : Int) (o : Option RxOut) (m' : MacState)
    (h : macHandleRx m v mp snr true = .ok (o, m')) :
    (o = none ∧ m' = m ∧ m.fcntUp? = none)
    ∨ ∃ out, o = some out ∧
      ((out.resp = .noUpdate ∧ out.downlink = none ∧ m' = m)
       ∨ (out.resp = .sessionExpired ∧ out.downlink = none ∧ m.fcntUp? = some 0xFFFFFFFF ∧ m'.fcntUp? = m.fcntUp?)
       ∨ (∃ n u, out.resp = .downlinkReceived n ∧ m.fcntUp? = some u ∧ u ≠ 0xFFFFFFFF ∧ m'.fcntUp? = some (u + 1))) := by
  unfold macHandleRx at h
  split at h
  · rename_i s hst
    right
    split at h
    · obtain ⟨⟨o', s', cfg', region'⟩, hs, h⟩ := Except.bind_eq_ok h
      cases h
      refine ⟨o', rfl, ?_⟩
      rcases sessionHandleRx_shape _ _ _ _ _ _ _ _ _ _ _ hs with ⟨e, _⟩ | ⟨h1, h2, rfl, rfl, rfl⟩ | ⟨h1, h2, h3, h4⟩ | ⟨n, h1, h3, h4⟩
      · cases e
      · exact Or.inl ⟨h1, h2, MacState.eta_joined hst⟩
      · exact Or.inr (Or.inl ⟨h1, h2, by simp [MacState.fcntUp?, hst, h3], by simp [MacState.fcntUp?, hst, h4]⟩)
      · exact Or.inr (Or.inr ⟨n, s.fcntUp, h1, by simp [MacState.fcntUp?, hst], h3, by simp [MacState.fcntUp?, h4]⟩)
    · cases h
      exact ⟨_, rfl, Or.inl ⟨rfl, rfl, rfl⟩⟩
  · rename_i o' hst
    cases h
    exact Or.inl ⟨rfl, rfl, by simp [MacState.fcntUp?, hst]⟩
  · rename_i hst
    cases h
    exact Or.inl ⟨rfl, rfl, by simp [MacState.fcntUp?, hst]⟩

/-- `handle_rxc` ignores MAC commands: neither the configuration nor the region moves -/
theorem sessionHandleRx_c_params (s : Session) (cfg : Config) (region : RegionState) (d : RxData) (mp : Nat) (snr : Int)
    (o : RxOut) (s' : Session) (cfg' : Config) (region' : RegionState)
    (h : sessionHandleRx s cfg region d mp snr true = .ok (o, s', cfg', region')) : cfg' = cfg ∧ region' = region := by
  rw [sessionHandleRx_eq] at h
  split at h
  · cases Except.pure_eq_ok h; exact ⟨rfl, rfl⟩
  · split at h
    · obtain ⟨ctx, hc, h⟩ := Except.bind_pure_eq_ok h
      cases hc
      rw [acceptFinish_eq] at h
      cases h; exact ⟨rfl, rfl⟩
    · cases Except.pure_eq_ok h; exact ⟨rfl, rfl⟩

theorem macHandleRx_c_params (m : MacState) (v : RxView) (mp : Nat) (snr : Int) (o : Option RxOut) (m' : MacState)
    (h : macHandleRx m v mp snr true = .ok (o, m')) : SameParams m m' := by
  unfold macHandleRx at h
  split at h
  · split at h
    · obtain ⟨⟨o', s', cfg', region'⟩, hs, h⟩ := Except.bind_eq_ok h
      cases Except.pure_eq_ok h
      obtain ⟨rfl, rfl⟩ := sessionHandleRx_c_params _ _ _ _ _ _ _ _ _ _ hs
      exact .refl m
    · cases h; exact .refl m
  · cases Except.pure_eq_ok h; exact .refl m
  · cases Except.pure_eq_ok h; exact .refl m

theorem rxcs_params (m : MacState) (mp : Nat) (cs : List (RxView × Int)) (os : List RxOut) (fin : Bool) (m' : MacState)
    (h : rxcs m mp cs = .ok (os, fin, m')) : SameParams m m' := by
  induction cs generalizing m os fin with
  | nil => cases Except.pure_eq_ok h; exact .refl _
  | cons c rest ih =>
    obtain ⟨v, snr⟩ := c
    unfold rxcs at h
    obtain ⟨⟨o, m1⟩, hrx, hk⟩ := Except.bind_eq_ok h
    have h1 := macHandleRx_c_params _ _ _ _ _ _ hrx
    cases o with
    | none => exact h1.trans (ih m1 os fin hk)
    | some o =>
      obtain ⟨⟨os2, fin2, m2⟩, hrest, hk2⟩ := Except.bind_eq_ok hk
      cases Except.pure_eq_ok hk2
      exact h1.trans (ih m1 _ _ hrest)

/-- Class A hears nothing between the windows; Class C hears `cs` on the RXC configuration -/
theorem between_ok {cc : Bool} {m : MacState} {cs : List (RxView × Int)} {r : List RxOut × Bool × MacState}
    (h : between cc m cs = .ok r) :
    (cc = false ∧ r = ([], true, m)) ∨
      (cc = true ∧ ∃ rf, macRxcConfig m = .ok rf ∧ rxcs m rf.maxPayload.toNat cs = .ok r) := by
  unfold between at h
  cases cc with
  | false => exact .inl ⟨rfl, (Except.pure_eq_ok h).symm⟩
  | true => exact .inr ⟨rfl, Except.bind_eq_ok h⟩

theorem between_params (cc : Bool) (m : MacState) (cs : List (RxView × Int)) (os : List RxOut) (fin : Bool) (m' : MacState)
    (h : between cc m cs = .ok (os, fin, m')) : SameParams m m' := by
  rcases between_ok h with ⟨_, e⟩ | ⟨_, rf, _, h⟩
  · cases e; exact .refl m
  · exact rxcs_params _ _ _ _ _ _ h

theorem window_none_state (m : MacState) (f : Option (RxView × Int)) (mp : Nat) (m' : MacState)
    (h : window m f mp = .ok (none, m')) : m' = m := by
  unfold window at h
  cases f with
  | none => cases h; rfl
  | some f =>
    obtain ⟨v, snr⟩ := f
    simp only at h
    obtain ⟨⟨o, m1⟩, hrx, hk⟩ := Except.bind_eq_ok h
    cases o with
    | none => exact (macHandleRx_window_ne_none _ _ _ _ _ hrx).elim
    | some o =>
      simp only at hk
      split at hk
      · rename_i hn
        cases Except.pure_eq_ok hk
        exact macHandleRx_noUpdate_state _ _ _ _ _ _ hrx (by simpa using hn)
      · cases hk

/-- what a successful `winC` was: the listening before the window, then either the cut (the listening was interrupted, or
the fault before the window) or the window itself, reported unless the fault after it cuts the procedure -/
theorem winC_ok {cc : Bool} {m : MacState} {cs : List (RxView × Int)} {f : Option (RxView × Int)} {mp : Nat} {eb ea : Bool}
    {r : Option (Option RxOut)} {hd : List RxOut} {m' : MacState} (h : winC cc m cs f mp eb ea = .ok (r, hd, m')) :
    ∃ os fin m1, between cc m cs = .ok (os, fin, m1) ∧
      (((!fin || eb) = true ∧ r = none ∧ hd = os ∧ m' = m1) ∨
        ((!fin || eb) = false ∧ ∃ o, window m1 f mp = .ok (o, m') ∧ r = (if ea then none else some o) ∧ hd = os ++ o.toList)) := by
  unfold winC at h
  obtain ⟨⟨os, fin, m1⟩, hb, h⟩ := Except.bind_eq_ok h
  refine ⟨os, fin, m1, hb, ?_⟩
  simp only at h
  split at h
  · cases Except.pure_eq_ok h
    exact .inl ⟨‹_›, rfl, rfl, rfl⟩
  · obtain ⟨⟨o, m2⟩, hw, h⟩ := Except.bind_eq_ok h
    obtain ⟨_, _, h⟩ := Except.bind_eq_ok h
    refine .inr ⟨Bool.eq_false_iff.mpr ‹_›, o, ?_⟩
    cases ea <;> cases Except.pure_eq_ok h <;> exact ⟨hw, rfl, rfl⟩

/-- a window (with the Class C listening before it) that was served without a response leaves the
configuration of the MAC — in particular the RX1 delay — and the region in force as they were -/
theorem winC_none_params (cc : Bool) (m : MacState) (cs : List (RxView × Int)) (f : Option (RxView × Int)) (mp : Nat)
    (eb ea : Bool) (hd : List RxOut) (m' : MacState) (h : winC cc m cs f mp eb ea = .ok (some none, hd, m')) :
    SameParams m m' := by
  obtain ⟨os, fin, m1, hb, ⟨_, e, _⟩ | ⟨_, o, hw, e, _⟩⟩ := winC_ok h
  · cases e
  · have ho : o = none := by cases ea <;> cases e; rfl
    exact (between_params _ _ _ _ _ _ hb).trans (.of_eq (window_none_state _ _ _ _ (ho ▸ hw)))

end Model
