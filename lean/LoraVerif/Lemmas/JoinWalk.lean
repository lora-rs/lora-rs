import LoraVerif.Lemmas.MacWF
import LoraVerif.Lemmas.BitField
/-!
The join-channel walk of the fixed plans (`AvailableChannels::get_next`): byte-level facts about
the availability mask (`byteCnt` is the length of a filter over the eight bits) and the invariant `AvInv`: banks are visited
in cyclic order, each visit takes one free channel of the bank visited, hence the bank visited next
always has a free channel (`avInv_next_nonempty`) until all 72 have been used and the mask is renewed.
`inCyc`, `bankCnt`, `AvShape` (what `AvInv` says of the banks; the proofs here unfold it) and `AvInv` are defined in
`Lemmas/MacWF.lean`, beside the decidable `avOk` that `MacWF` carries.
-/

namespace Model

theorem byteCnt_255 : byteCnt 255 = 8 := by decide

theorem byte_pos {b : Nat} (hc : 1 ≤ byteCnt b) : ∃ j, j < 8 ∧ b.testBit j = true := by
  obtain ⟨j, hj⟩ := List.exists_mem_of_length_pos hc
  have := List.mem_filter.mp hj
  exact ⟨j, List.mem_range.mp this.1, this.2⟩

theorem byteCnt_pos {b : Nat} (hb : b < 256) (h0 : b ≠ 0) : 1 ≤ byteCnt b := by
  obtain ⟨i, hi⟩ := Nat.exists_testBit_of_ne_zero h0
  have hi8 : i < 8 := Nat.lt_of_not_le fun hge => by
    rw [BitField.testBit_of_lt (n := 8) hb hge] at hi; cases hi
  exact List.length_pos_of_mem (List.mem_filter.mpr ⟨List.mem_range.mpr hi8, hi⟩)

theorem length_filter_remove (l : List Nat) (hl : l.Nodup) (p q : Nat → Bool) (j : Nat) (hj : j ∈ l) (hpj : p j = true)
    (hq : ∀ i ∈ l, q i = (p i && i != j)) : (l.filter q).length + 1 = (l.filter p).length := by
  induction l with
  | nil => cases hj
  | cons a l ih =>
    have hqa := hq a List.mem_cons_self
    have hq' : ∀ i ∈ l, q i = (p i && i != j) := fun i hi => hq i (List.mem_cons_of_mem _ hi)
    obtain ⟨hal, hl'⟩ := List.nodup_cons.mp hl
    by_cases haj : a = j
    · subst haj
      have : l.filter q = l.filter p := List.filter_congr (fun i hi => by
        have : i ≠ a := fun e => hal (e ▸ hi)
        rw [hq' i hi]; simp [this])
      simp [hqa, hpj, this]
    · have hjl : j ∈ l := (List.mem_cons.mp hj).resolve_left (fun e => haj e.symm)
      have := ih hl' hjl hq'
      have hqa' : q a = p a := by rw [hqa, bne_iff_ne.mpr haj, Bool.and_true]
      cases hpa : p a <;> simp [hqa', hpa] <;> omega

theorem byte_clear {b j : Nat} (hj : j < 8) (ht : b.testBit j = true) :
    byteCnt (b &&& (255 - (1 <<< j))) + 1 = byteCnt b := by
  exact length_filter_remove _ List.nodup_range _ _ j (List.mem_range.mpr hj) ht (fun i hi => by
    rw [Nat.testBit_and, BitField.testBit_clear_bit (n := 8) hj, decide_eq_true (List.mem_range.mp hi), Bool.true_and])

theorem cyc_step {b0 b k : Nat} (hb0 : b0 < 9) (hb : b < 9) (hk : k < 9) (hne : (b + 1) % 9 ≠ b0) :
    (inCyc b0 ((b + 1) % 9) k ↔ inCyc b0 b k ∨ k = (b + 1) % 9) ∧ ¬ inCyc b0 b ((b + 1) % 9) := by
  unfold inCyc
  by_cases h1 : b0 ≤ b <;> by_cases h2 : b0 ≤ (b + 1) % 9 <;> simp only [h1, h2, if_true, if_false] <;>
    refine ⟨⟨fun h => ?_, fun h => ?_⟩, fun h => ?_⟩ <;> first | omega | (exact h.1.elim) | (simp at h; omega)

theorem cyc_full {b0 b k : Nat} (hb0 : b0 < 9) (hb : b < 9) (hk : k < 9) (he : (b + 1) % 9 = b0) : inCyc b0 b k := by
  unfold inCyc
  by_cases h1 : b0 ≤ b <;> simp only [h1, if_true, if_false] <;> omega

theorem cyc_single {b0 k : Nat} : inCyc b0 b0 k ↔ k = b0 := by
  unfold inCyc
  simp only [Nat.le_refl, if_true]; omega

theorem default_getElem? {k : Nat} (hk : k < 9) : Mask.default[k]? = some 255 := by
  unfold Mask.default
  rw [List.getElem?_replicate, if_pos hk]

theorem bankCnt_default (k : Nat) (hk : k < 9) : bankCnt Mask.default k = 8 := by
  unfold bankCnt
  rw [default_getElem? hk]
  exact byteCnt_255

theorem default_lt : ∀ b ∈ Mask.default, b < 256 := by decide

theorem bankCnt_set (m : Mask) (i v k : Nat) (hi : i < m.length) :
    bankCnt (m.set i v) k = if k = i then byteCnt v else bankCnt m k := by
  unfold bankCnt
  by_cases hki : k = i
  · subst hki; simp [List.getElem?_set_self hi]
  · rw [List.getElem?_set_ne (Ne.symm hki)]; simp [hki]

theorem setChannel_false_spec (m : Mask) (ch : Nat) (hm : m.length = 9) (hch : ch < 72) :
    ∃ b, m[ch / 8]? = some b ∧ m.setChannel ch false = .ok (m.set (ch / 8) (b &&& (255 - (1 <<< (ch % 8))))) ∧
      m.isEnabled ch = .ok (b.testBit (ch % 8)) := by
  have hidx : ch / 8 < m.length := by omega
  refine ⟨m[ch / 8], List.getElem?_eq_getElem hidx, ?_, ?_⟩
  · rw [setChannel_eq m ch false hidx]; simp
  · rw [isEnabled_eq m ch hm hch, getElem!_pos m _ hidx]

theorem and_lt_256 (b x : Nat) : b &&& (255 - x) < 256 :=
  Nat.and_lt_two_pow b (Nat.lt_of_le_of_lt (Nat.sub_le 255 x) (by decide : 255 < 2 ^ 8))

/-- the first pick on a fresh mask (also: the last biased join attempt, which initialises the walk) -/
theorem avInv_first (ch : Nat) (a' : Mask) (hch : ch < 72) (hs : Mask.default.setChannel ch false = .ok a') :
    AvInv a' (some ch) := by
  obtain ⟨b, hb, hset, _⟩ := setChannel_false_spec Mask.default ch (by decide) hch
  rw [hset] at hs
  cases hs
  have hb255 : b = 255 := by
    rw [default_getElem? (by omega)] at hb; cases hb; rfl
  subst hb255
  have hbit : (255 : Nat).testBit (ch % 8) = true := by
    have : ch % 8 < 8 := Nat.mod_lt _ (by decide)
    have h8 : ∀ j ∈ List.range 8, (255 : Nat).testBit j = true := by decide
    exact h8 _ (List.mem_range.mpr this)
  have hc := byte_clear (b := 255) (j := ch % 8) (Nat.mod_lt _ (by decide)) hbit
  rw [byteCnt_255] at hc
  refine ⟨by simp [Mask.default], List.forall_mem_set default_lt (and_lt_256 _ _) _, hch, ch / 8, 1, by omega, by omega, by omega, ?_⟩
  intro k hk
  rw [bankCnt_set _ _ _ _ (by simp [Mask.default]; omega), bankCnt_default k hk]
  by_cases hki : k = ch / 8
  · simp only [hki, if_true, cyc_single.mpr rfl]; omega
  · have : ¬ inCyc (ch / 8) (ch / 8) k := fun h => hki (cyc_single.mp h)
    simp only [hki, this, if_false]

theorem not_exhausted {m : Mask} (hm : m.length = 9) (hlt : ∀ b ∈ m, b < 256) (h : availIsExhausted m = false) :
    ∃ k, k < 9 ∧ 1 ≤ bankCnt m k := by
  unfold availIsExhausted at h
  have : ¬ (∀ b ∈ m, (b == 0) = true) := by
    intro hall
    rw [List.all_eq_true.mpr hall] at h; cases h
  have : ∃ b ∈ m, b ≠ 0 := by
    apply Classical.byContradiction
    intro hne
    apply this
    intro b hb
    have : ¬ b ≠ 0 := fun hh => hne ⟨b, hb, hh⟩
    simpa using this
  obtain ⟨b, hb, hb0⟩ := this
  obtain ⟨k, hk, hkb⟩ := List.getElem_of_mem hb
  refine ⟨k, by omega, ?_⟩
  unfold bankCnt
  rw [List.getElem?_eq_getElem hk, hkb]
  simp only
  exact byteCnt_pos (hlt b hb) hb0

theorem avInv_next_nonempty (avail : Mask) (pv : Nat) (h : AvInv avail (some pv)) (hex : availIsExhausted avail = false) :
    1 ≤ bankCnt avail ((pv / 8 + 1) % 9) := by
  obtain ⟨hm, hlt, hpv, b0, t, hb0, ht1, ht8, hsh⟩ := h
  obtain ⟨k0, hk0, hc0⟩ := not_exhausted hm hlt hex
  have hb : pv / 8 < 9 := by omega
  have hnb : (pv / 8 + 1) % 9 < 9 := Nat.mod_lt _ (by decide)
  by_cases he : (pv / 8 + 1) % 9 = b0
  · have hall : ∀ k, k < 9 → bankCnt avail k = 8 - t := by
      intro k hk
      rw [hsh k hk]; simp only [cyc_full hb0 hb hk he, if_true]
    rw [hall _ hnb]
    rw [hall k0 hk0] at hc0
    exact hc0
  · rw [hsh _ hnb]
    simp only [(cyc_step hb0 hb hnb he).2, if_false]
    omega

theorem avInv_next (avail a' : Mask) (pv ch : Nat) (h : AvInv avail (some pv)) (hex : availIsExhausted avail = false)
    (hch : ch < 72) (hbank : ch / 8 = (pv / 8 + 1) % 9) (hen : avail.isEnabled ch = .ok true)
    (hs : avail.setChannel ch false = .ok a') : AvInv a' (some ch) := by
  obtain ⟨hm, hlt, hpv, b0, t, hb0, ht1, ht8, hsh⟩ := h
  obtain ⟨k0, hk0, hc0⟩ := not_exhausted hm hlt hex
  obtain ⟨b, hb, hset, hie⟩ := setChannel_false_spec avail ch hm hch
  rw [hset] at hs
  cases hs
  rw [hie] at hen
  have hbit : b.testBit (ch % 8) = true := Except.ok.inj hen
  have hc := byte_clear (Nat.mod_lt _ (by decide)) hbit
  have hcb : bankCnt avail (ch / 8) = byteCnt b := by unfold bankCnt; rw [hb]
  have hbk : pv / 8 < 9 := by omega
  have hnb : (pv / 8 + 1) % 9 < 9 := Nat.mod_lt _ (by decide)
  have hidx : ch / 8 < avail.length := by omega
  refine ⟨by simp [hm], List.forall_mem_set hlt (and_lt_256 _ _) _, hch, ?_⟩
  by_cases he : (pv / 8 + 1) % 9 = b0
  · -- a round is complete: every bank holds 8 − t; the next round starts at b0
    have hall : ∀ k, k < 9 → bankCnt avail k = 8 - t := by
      intro k hk
      rw [hsh k hk]; simp only [cyc_full hb0 hbk hk he, if_true]
    have ht7 : t ≤ 7 := by
      have := hall k0 hk0; omega
    refine ⟨b0, t + 1, hb0, by omega, by omega, ?_⟩
    intro k hk
    rw [bankCnt_set _ _ _ _ hidx]
    by_cases hki : k = ch / 8
    · have hin : inCyc b0 (ch / 8) k := by
        rw [hbank, he]; exact cyc_single.mpr (by omega)
      rw [if_pos hki, if_pos hin]
      have := hall (ch / 8) (by omega)
      omega
    · have hkb0 : k ≠ b0 := by omega
      have hnc : ¬ inCyc b0 (ch / 8) k := by
        rw [hbank, he]; exact fun h => hkb0 (cyc_single.mp h)
      rw [if_neg hki, if_neg hnc, hall k hk]; omega
  · obtain hstep := fun k hk => (cyc_step (k := k) hb0 hbk hk he)
    refine ⟨b0, t, hb0, ht1, ht8, ?_⟩
    intro k hk
    rw [bankCnt_set _ _ _ _ hidx]
    by_cases hki : k = ch / 8
    · have hin : inCyc b0 (ch / 8) k := by
        rw [hbank]; exact ((hstep k hk).1).mpr (Or.inr (by omega))
      have hcnt := hsh (ch / 8) (by omega)
      rw [hbank] at hcnt
      rw [if_neg (hstep _ hnb).2] at hcnt
      rw [if_pos hki, if_pos hin]
      rw [hbank] at hcb
      omega
    · have hiff : inCyc b0 (ch / 8) k ↔ inCyc b0 (pv / 8) k := by
        rw [hbank]
        constructor
        · intro h
          rcases ((hstep k hk).1).mp h with h | h
          · exact h
          · omega
        · intro h; exact ((hstep k hk).1).mpr (Or.inl h)
      rw [if_neg hki, hsh k hk]
      by_cases hc1 : inCyc b0 (pv / 8) k
      · rw [if_pos hc1, if_pos (hiff.mpr hc1)]
      · rw [if_neg hc1, if_neg (fun h => hc1 (hiff.mp h))]

end Model
