import LoraVerif.Gen.Session
import LoraVerif.Lemmas.RtLemmas
/-!
# The downlink counter reconstruction `next_fcnt_down` (GENERATED from session.rs) in closed form

`next_eq_spec` ties the generated function to `specNext`; `next_spec` reads the closed form as the freshness window.  The
names are C05's (namespace `C05`), in a `Lemmas` module so that `Lemmas/Cycle.lean` can use `next_spec` without importing
a `Props` module.
-/
open Gen.Session Rt

namespace C05

theorem wrap_u16_eq {x : Int} : wrap .u16 x = x % 65536 := wrap_unsigned rfl x
theorem wrap_u32_eq {x : Int} : wrap .u32 x = x % 4294967296 := wrap_unsigned rfl x
/-- masking with 0xFFFF_0000 clears the low half -/
theorem andI_hi16 {n : Int} (h0 : 0 ≤ n) (h1 : n < 4294967296) : andI n 4294901760 = n - n % 65536 :=
  andI_clear_low 32 16 (by decide) h0 h1
/-- or-ing the 16 bits of the frame into a cleared low half is addition -/
theorem orI_lo16 {h w : Int} (hh0 : 0 ≤ h) (hh : h % 65536 = 0) (hw0 : 0 ≤ w) (hw : w < 65536) : orI h w = h + w :=
  orI_low 16 hh0 hh hw0 hw

/-- the first downlink of a session is taken at face value -/
theorem next_none (w : Int) : next_fcnt_down none w = some w := rfl

/-- closed form of the counter reconstruction: the candidate in the epoch of `last`, or in the next
epoch when the low half wrapped, kept iff it lies in the freshness window -/
def specNext (last w : Int) : Option Int :=
  let cand := if last % 65536 ≤ w then last - last % 65536 + w else (last - last % 65536 + 65536) % 4294967296 + w
  if 0 < cand - last ∧ cand - last ≤ 16384 then some cand else none

set_option linter.unusedSimpArgs false in
/-- the GENERATED function equals the closed form.  This is the only lemma that looks at the shape of
the generated code; the script normalises comparisons in either orientation and `match` /
`Option.filter` / `Option.map` renderings of the final test, so that behaviour-preserving rewrites
of the Rust function keep it going. -/
theorem next_eq_spec (last w : Int) (hl0 : 0 ≤ last) (hl1 : last < 4294967296) (hw0 : 0 ≤ w) (hw1 : w < 65536) :
    next_fcnt_down (some last) w = specNext last w := by
  unfold next_fcnt_down specNext
  simp only [andI_hi16 hl0 hl1, wrap_u16_eq, wrap_u32_eq, MAX_FCNT_GAP, ge_iff_le, gt_iff_lt]
  by_cases hge : last % 65536 ≤ w
  · simp only [hge, decide_true, if_true]
    rw [orI_lo16 (by omega) (by omega) hw0 hw1]
    by_cases hr : 0 ≤ last - last % 65536 + w - last ∧ last - last % 65536 + w - last ≤ 4294967295
    · rw [ck_u32 hr.1 hr.2]
      simp [Option.filter, Option.map]
      try (split <;> simp_all <;> omega)
    · rw [ck_u32_none (by omega)]
      simp [Option.filter, Option.map]
      try omega
  · simp only [hge, decide_false, if_false, Bool.false_eq_true]
    rw [orI_lo16 (by omega) (by omega) hw0 hw1]
    by_cases hr : 0 ≤ (last - last % 65536 + 65536) % 4294967296 + w - last ∧ (last - last % 65536 + 65536) % 4294967296 + w - last ≤ 4294967295
    · rw [ck_u32 hr.1 hr.2]
      simp [Option.filter, Option.map]
      try (split <;> simp_all <;> omega)
    · rw [ck_u32_none (by omega)]
      simp [Option.filter, Option.map]
      try omega

/-- **C05, the reconstruction**: the generated `next_fcnt_down` yields exactly the counter whose low 16 bits are the wire
value and which lies in the freshness window above `last` -/
theorem next_spec (last w N : Int) (hl0 : 0 ≤ last) (hl1 : last < 4294967296) (hw0 : 0 ≤ w) (hw1 : w < 65536) :
    next_fcnt_down (some last) w = some N ↔
      (N % 65536 = w ∧ last < N ∧ N ≤ last + 16384 ∧ N < 4294967296) := by
  rw [next_eq_spec last w hl0 hl1 hw0 hw1]
  unfold specNext
  simp only [Option.ite_none_right_eq_some, Option.some.injEq]
  by_cases hge : last % 65536 ≤ w
  · rw [if_pos hge]; omega
  · rw [if_neg hge]; omega

/-- the reconstructed counter is unique: no other `N` satisfies the freshness window -/
theorem next_unique (last w N N' : Int) (hl0 : 0 ≤ last) (hl1 : last < 4294967296) (hw0 : 0 ≤ w) (hw1 : w < 65536)
    (h : next_fcnt_down (some last) w = some N)
    (h' : N' % 65536 = w ∧ last < N' ∧ N' ≤ last + 16384 ∧ N' < 4294967296) : N' = N := by
  have := (next_spec last w N hl0 hl1 hw0 hw1).mp h
  omega

/-- rejection is complete: no `N` in the window ⇒ `none` -/
theorem next_none_iff (last w : Int) (hl0 : 0 ≤ last) (hl1 : last < 4294967296) (hw0 : 0 ≤ w) (hw1 : w < 65536) :
    next_fcnt_down (some last) w = none ↔
      ¬ ∃ N, N % 65536 = w ∧ last < N ∧ N ≤ last + 16384 ∧ N < 4294967296 := by
  constructor
  · intro h ⟨N, hN⟩
    have := (next_spec last w N hl0 hl1 hw0 hw1).mpr hN
    rw [h] at this; cases this
  · intro h
    cases hn : next_fcnt_down (some last) w with
    | none => rfl
    | some N => exact absurd ⟨N, (next_spec last w N hl0 hl1 hw0 hw1).mp hn⟩ h

end C05
