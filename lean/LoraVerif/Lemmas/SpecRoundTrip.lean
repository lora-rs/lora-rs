import LoraVerif.Lemmas.C02JoinLemmas
/-!
# The specification's decoders invert its encoders

Three statements that mention `Spec/LoRaWAN.lean` alone: a data frame, a JoinRequest, a JoinAccept laid out by the
specification's encoder is accepted by its decoder, found authentic, and read back as the description it was encoded
from.  Only the statements are free of the model: the data-frame proof takes the encoder's output apart as a `Frame`
(`Lemmas/C02Lemmas`).  The round-trip theorems of `Props/C02` are these together with "builder = encoder" (C01) and
"parser = decoder" (C02).
-/
open Lora.CodecLemmas Lora.C01Lemmas

namespace Lora.C02Lemmas

theorem fctrl_read : ∀ (n : Fin 16) (up adr req ack pend : Bool),
    (Spec.fctrlOf up adr req ack pend n.val).toNat % 16 = n.val
    ∧ Spec.testBit (Spec.fctrlOf up adr req ack pend n.val) 7 = adr
    ∧ (up && Spec.testBit (Spec.fctrlOf up adr req ack pend n.val) 6) = (up && req)
    ∧ Spec.testBit (Spec.fctrlOf up adr req ack pend n.val) 5 = ack
    ∧ (!up && Spec.testBit (Spec.fctrlOf up adr req ack pend n.val) 4) = (!up && pend) := by decide +kernel

theorem mhdr_read (ft : FType) :
    (Spec.mhdrData ft).toNat % 4 = 0 ∧ Spec.mtypeOfCode ((Spec.mhdrData ft).toNat / 32) = some ft := by
  cases ft <;> decide

theorem le_cons4 (v : Nat) : ∃ a0 a1 a2 a3, Spec.le 4 v = [a0, a1, a2, a3] := ⟨_, _, _, _, rfl⟩
theorem le_cons2 (v : Nat) : ∃ c0 c1, Spec.le 2 v = [c0, c1] := ⟨_, _, rfl⟩

theorem mic_length (c : Cipher) (k : Key) (dir : UInt8) (a f : UInt32) (m : Bytes) : (Spec.dataMic c k dir a f m).length = 4 := by
  simp [Spec.dataMic]

theorem fromLe4u (v : UInt32) (a b c d : UInt8) (h : Spec.le 4 v.toNat = [a, b, c, d]) :
    UInt32.ofNat (Spec.fromLe [a, b, c, d]) = v := by
  rw [fromLe_of_le 4 _ _ h v.toNat_lt, UInt32.ofNat_toNat]

/-- Data frames: `frame` is accepted by the decoder, found authentic and decrypted to the description `s` (up to `norm`);
the FRMPayload on the wire is as long as the description's.  `spec_roundtrip`: what the encoder lays out for `s` is such. -/
def SpecRoundTrip (c : Cipher) (s : Spec.DataDesc) (nwk : Key) (app : Option Key) (frame : Bytes) : Prop :=
  ∃ v plain, Spec.decodeData frame = .ok v ∧ Spec.dataAuthentic c nwk s.fcnt frame v = true
    ∧ Spec.decryptData c (some nwk) app s.fcnt frame = .ok (v, plain) ∧ v.toDesc s.fcnt plain = s.norm
    ∧ ∀ n, (∀ port pld, s.body = some (port, pld) → pld.length ≤ n) → v.frm.length ≤ n

/-- the key the receiver selects by FPort is the key the sender used -/
theorem receiveKey_of_payloadKey (nwk : Key) (app : Option Key) (s : Spec.DataDesc) (encKey : Key) (port : UInt8)
    (pld : Bytes) (hsb : s.body = some (port, pld)) (hkey : Spec.payloadKey nwk app s = .ok encKey) :
    (if port = 0 then some nwk else app) = some encKey := by
  unfold Spec.payloadKey at hkey
  rw [hsb] at hkey
  simp only at hkey
  by_cases hp0 : port = 0
  · rw [if_pos hp0] at hkey ⊢
    split at hkey
    · cases hkey
    · cases hkey; rfl
  · rw [if_neg hp0] at hkey ⊢
    cases app with
    | none => cases hkey
    | some k => cases hkey; rfl

theorem spec_roundtrip (c : Cipher) (s : Spec.DataDesc) (nwk : Key) (app : Option Key) (encKey : Key)
    (hfo : s.fopts.length ≤ 15) (hkey : Spec.payloadKey nwk app s = .ok encKey) :
    let msg := Spec.dataMsg c encKey s
    SpecRoundTrip c s nwk app (msg ++ Spec.dataMic c nwk (Spec.dirOf s.ftype) s.devAddr s.fcnt msg) := by
  intro msg
  obtain ⟨a0, a1, a2, a3, ha⟩ := le_cons4 s.devAddr.toNat
  obtain ⟨c0, c1, hc⟩ := le_cons2 (s.fcnt.toNat % 65536)
  obtain ⟨hmaj, hft⟩ := mhdr_read s.ftype
  obtain ⟨hf1, hf2, hf3, hf4, hf5⟩ :=
    fctrl_read ⟨s.fopts.length, by omega⟩ s.ftype.isUplink s.adr s.adrAckReq s.ack s.fPending
  have haddr : UInt32.ofNat (Spec.fromLe [a0, a1, a2, a3]) = s.devAddr := fromLe4u _ _ _ _ _ ha
  have hcnt : Spec.fullFcnt s.fcnt (UInt16.ofNat (Spec.fromLe [c0, c1])) = s.fcnt := by
    apply fullFcnt_of_halves s.fcnt s.fcnt _ rfl
    rw [← hc, fromLe_le]
    simp [UInt16.toNat_ofNat']
  -- the encoder's output is a `Frame`; `body` is FPort and the encrypted FRMPayload
  let body : Bytes := match s.body with
    | none => []
    | some (port, pld) => port :: Spec.cryptPayload c encKey (Spec.dirOf s.ftype) s.devAddr s.fcnt pld
  let F : Frame := ⟨Spec.mhdrData s.ftype, a0, a1, a2, a3, Spec.fctrl s, c0, c1, s.fopts, body,
    Spec.dataMic c nwk (Spec.dirOf s.ftype) s.devAddr s.fcnt msg, s.ftype, hmaj, hft, hf1.symm, mic_length ..⟩
  have hmsg : msg = F.msg := by
    show Spec.mhdrData s.ftype :: (Spec.fhdr s ++ body) = _
    unfold Spec.fhdr
    rw [ha, hc]
    rfl
  have hframe : msg ++ Spec.dataMic c nwk (Spec.dirOf s.ftype) s.devAddr s.fcnt msg = F.bytes := by rw [F.bytes_eq, ← hmsg]
  -- it is authentic: its MIC was computed over this msg, address and counter
  have hauth : Spec.dataAuthentic c nwk s.fcnt F.bytes F.view = true := by
    unfold Spec.dataAuthentic
    rw [F.msgOf, ← hmsg]
    show (Spec.dataMic c nwk (Spec.dirOf s.ftype) (UInt32.ofNat (Spec.fromLe [a0, a1, a2, a3])) s.fcnt msg == _) = true
    rw [haddr]
    exact beq_self_eq_true _
  -- the header reads back as the description; what is left is FPort with the plaintext
  have hdesc (plain : Bytes) (hb : body.head?.map (fun p => (p, plain)) = s.body) : F.view.toDesc s.fcnt plain = s.norm := by
    simp only [] at hf2 hf3 hf4 hf5
    show Spec.DataView.toDesc (specViewOf s.ftype a0 a1 a2 a3 (Spec.fctrl s) c0 c1 s.fopts body _) s.fcnt plain = _
    simp only [Spec.DataView.toDesc, specViewOf, Spec.DataDesc.norm, haddr, Spec.fctrl]
    rw [hf2, hf3, hf4, hf5, hb]
  have hdd := F.decryptData c (some nwk) app s.fcnt
  rw [hframe, SpecRoundTrip]
  rcases hsb : s.body with _ | ⟨port, pld⟩
  · have hfrm : F.frm = [] := by show body.drop 1 = []; simp only [body, hsb]; rfl
    rw [if_pos hfrm] at hdd
    exact ⟨_, [], F.decode, hauth, hdd, hdesc [] (by simp only [body, hsb]; rfl),
      fun n _ => by rw [F.view_frm, hfrm]; exact Nat.zero_le n⟩
  · have hfrm : F.frm = Spec.cryptPayload c encKey (Spec.dirOf s.ftype) s.devAddr s.fcnt pld := by
      show body.drop 1 = _; simp only [body, hsb]; rfl
    have hport : F.view.port = some port := by show body.head? = _; simp only [body, hsb]; rfl
    have hk : Spec.receiveKey (some nwk) app F.view = some encKey := by
      unfold Spec.receiveKey; rw [hport]; exact receiveKey_of_payloadKey nwk app s encKey port pld hsb hkey
    have hplain : (F.crypt c encKey s.fcnt).frm = pld := by
      rw [F.crypt_frm]
      show Spec.cryptPayload c encKey (Spec.dirOf s.ftype) (UInt32.ofNat (Spec.fromLe [a0, a1, a2, a3]))
        (Spec.fullFcnt s.fcnt (UInt16.ofNat (Spec.fromLe [c0, c1]))) F.frm = pld
      rw [haddr, hcnt, hfrm, crypt_involutive]
    rw [hk] at hdd
    refine ⟨_, pld, F.decode, hauth, hdd.trans ?_, hdesc pld (by simp only [body, hsb]; rfl), fun n h => ?_⟩
    · -- an empty FRMPayload is returned without decrypting; it decrypts to itself
      split
      · next h0 => rw [← hplain, F.crypt_frm, h0]; rfl
      · exact congrArg (fun x => Except.ok (F.view, x)) hplain
    · rw [F.view_frm, hfrm, cryptPayload_length]; exact h _ _ rfl

/-- the specification's view of a JoinAccept description as a receiver reads it back: RxDelay's RFU
bits are not transmitted -/
def jaExpected (s : Spec.JoinAcceptDesc) (mic : Bytes) : Spec.JoinAcceptView :=
  { joinNonce := s.joinNonce, netId := s.netId, devAddr := s.devAddr, dlSettings := s.dlSettings
    rxDelay := UInt8.ofNat (s.rxDelay.toNat % 16)
    cfList := s.cfList.map fun
      | .dynamic f0 f1 f2 f3 f4 => .dynamic [f0, f1, f2, f3, f4]
      | .fixed m => .fixed m
    mic := mic }

theorem le3_cases (v : Nat) (hv : v < 2 ^ 24) : ∃ a b c, Spec.le 3 v = [a, b, c] ∧ Spec.fromLe [a, b, c] = v :=
  ⟨_, _, _, rfl, fromLe_of_le 3 v _ rfl hv⟩

theorem le9_cases (v : Nat) (hv : v < 2 ^ 72) :
    ∃ a b c d e f g h i, Spec.le 9 v = [a, b, c, d, e, f, g, h, i] ∧ Spec.fromLe [a, b, c, d, e, f, g, h, i] = v :=
  ⟨_, _, _, _, _, _, _, _, _, rfl, fromLe_of_le 9 v _ rfl hv⟩

/-- the fields of a JoinAccept description fit their wire widths (what the encoder drops above them cannot be read back) -/
def jaFits (s : Spec.JoinAcceptDesc) : Prop :=
  s.joinNonce < 2 ^ 24 ∧ s.netId < 2 ^ 24 ∧
  ∀ l, s.cfList = some l → match l with
    | .dynamic f0 f1 f2 f3 f4 => f0 < 2 ^ 24 ∧ f1 < 2 ^ 24 ∧ f2 < 2 ^ 24 ∧ f3 < 2 ^ 24 ∧ f4 < 2 ^ 24
    | .fixed m => m < 2 ^ 72

/-- the specification's JoinAccept reader inverts its encoder on descriptions whose fields fit -/
theorem ja_view_of_msg (s : Spec.JoinAcceptDesc) (mic : Bytes) (hmic : mic.length = 4) (hs : jaFits s) :
    Spec.joinAcceptView (Spec.joinAcceptMsg s ++ mic) = jaExpected s mic := by
  obtain ⟨hjn, hni, hcf⟩ := hs
  obtain ⟨m0, m1, m2, m3, rfl⟩ := list4 mic hmic
  obtain ⟨j0, j1, j2, hj, e1⟩ := le3_cases s.joinNonce hjn
  obtain ⟨n0, n1, n2, hn, e2⟩ := le3_cases s.netId hni
  obtain ⟨a0, a1, a2, a3, ha⟩ := le_cons4 s.devAddr.toNat
  have e3 := fromLe4u _ _ _ _ _ ha
  unfold Spec.joinAcceptMsg jaExpected
  rw [hj, hn, ha]
  cases hc : s.cfList with
  | none =>
    simp [Spec.joinAcceptView, Spec.mhdrJoinAccept, e1, e2, e3]
  | some l =>
    have hb := hcf l hc
    cases l with
    | dynamic f0 f1 f2 f3 f4 =>
      obtain ⟨b0, b1, b2, b3, b4⟩ := hb
      obtain ⟨p0, p1, p2, hp, g0⟩ := le3_cases f0 b0
      obtain ⟨q0, q1, q2, hq, g1⟩ := le3_cases f1 b1
      obtain ⟨r0, r1, r2, hr, g2⟩ := le3_cases f2 b2
      obtain ⟨s0, s1, s2, hs, g3⟩ := le3_cases f3 b3
      obtain ⟨t0, t1, t2, ht, g4⟩ := le3_cases f4 b4
      simp only [Spec.encodeCfList, hp, hq, hr, hs, ht]
      simp [Spec.joinAcceptView, Spec.mhdrJoinAccept, e1, e2, e3, Spec.decodeCfList, g0, g1, g2, g3, g4]
    | fixed m =>
      obtain ⟨b0, b1, b2, b3, b4, b5, b6, b7, b8, hm, g⟩ := le9_cases m hb
      simp only [Spec.encodeCfList, hm]
      simp [Spec.joinAcceptView, Spec.mhdrJoinAccept, e1, e2, e3, Spec.decodeCfList, g]

theorem joinMic_length (c : Cipher) (k : Key) (m : Bytes) : (Spec.joinMic c k m).length = 4 := by simp [Spec.joinMic]

/-- reading back MHDR | JoinEUI | DevEUI | DevNonce | MIC (specification level) -/
theorem decodeJoinRequest_pieces (J D N M : Bytes) (hJ : J.length = 8) (hD : D.length = 8) (hN : N.length = 2)
    (hM : M.length = 4) :
    Spec.decodeJoinRequest (0x00 :: (J ++ D ++ N) ++ M)
      = .ok { joinEui := UInt64.ofNat (Spec.fromLe J), devEui := UInt64.ofNat (Spec.fromLe D)
              devNonce := UInt16.ofNat (Spec.fromLe N), mic := M } := by
  unfold Spec.decodeJoinRequest
  simp only [List.cons_append]
  have e1 : ¬ (UInt8.toNat 0 % 4 ≠ 0) := by decide
  have e2 : ¬ (UInt8.toNat 0 / 32 ≠ 0) := by decide
  have e3 : ¬ ((J ++ D ++ N ++ M).length ≠ 22) := by simp [hJ, hD, hN, hM]
  have hJD : (J ++ D).length = 16 := by simp [hJ, hD]
  have hJDN : (J ++ D ++ N).length = 18 := by simp [hJ, hD, hN]
  rw [if_neg e1, if_neg e2, if_neg e3, List.drop_left' hJDN, List.append_assoc (J ++ D), List.drop_left' hJD,
    List.take_left' hN, List.append_assoc J, List.take_left' hJ, List.drop_left' hJ, List.take_left' hD]

theorem spec_join_request_roundtrip (c : Cipher) (k : Key) (s : Spec.JoinRequestDesc) :
    let msg := Spec.joinRequestMsg s
    ∃ v, Spec.decodeJoinRequest (msg ++ Spec.joinMic c k msg) = .ok v
      ∧ v = { joinEui := s.joinEui, devEui := s.devEui, devNonce := s.devNonce, mic := Spec.joinMic c k msg }
      ∧ Spec.joinRequestAuthentic c k (msg ++ Spec.joinMic c k msg) v = true := by
  intro msg
  have v64 (x : UInt64) : UInt64.ofNat (Spec.fromLe (Spec.le 8 x.toNat)) = x := by
    rw [fromLe_le, Nat.mod_eq_of_lt (show x.toNat < 256 ^ 8 from x.toNat_lt), UInt64.ofNat_toNat]
  have vN : UInt16.ofNat (Spec.fromLe (Spec.le 2 s.devNonce.toNat)) = s.devNonce := by
    rw [fromLe_le, Nat.mod_eq_of_lt (show s.devNonce.toNat < 256 ^ 2 from s.devNonce.toNat_lt), UInt16.ofNat_toNat]
  have hdec : Spec.decodeJoinRequest (msg ++ Spec.joinMic c k msg) = _ :=
    decodeJoinRequest_pieces _ _ _ _ (le_length ..) (le_length ..) (le_length ..) (joinMic_length ..)
  rw [v64, v64, vN] at hdec
  refine ⟨_, hdec, rfl, ?_⟩
  unfold Spec.joinRequestAuthentic
  rw [msgOf_append _ _ (joinMic_length ..)]
  exact beq_self_eq_true _

/-- The JoinAccept, for a cipher whose encryption undoes its decryption (the network encrypts it with `aes128_decrypt`). -/
theorem spec_join_accept_roundtrip (c : Cipher) (hc : LawfulCipher c) (k : Key) (s : Spec.JoinAcceptDesc) (hs : jaFits s) :
    let msg := Spec.joinAcceptMsg s
    let clear := msg.drop 1 ++ Spec.joinMic c k msg
    Spec.decodeJoinAccept c k (Spec.mhdrJoinAccept :: Spec.ecb (c.dec k) (clear.length / 16) clear)
      = .ok (msg ++ Spec.joinMic c k msg, jaExpected s (Spec.joinMic c k msg), true) := by
  intro msg clear
  have hmic := joinMic_length c k msg
  have hview := ja_view_of_msg s _ hmic hs
  obtain ⟨tl, htl⟩ : ∃ tl, msg = 0x20 :: tl := ⟨_, rfl⟩
  have hXl : clear.length = 16 ∨ clear.length = 32 := by
    have hml : msg.length = _ := ja_msg_length s
    rw [htl] at hml
    simp only [clear, htl, List.drop_succ_cons, List.drop_zero, List.length_append, joinMic_length]
    simp only [List.length_cons] at hml
    split at hml <;> omega
  have hX16 : 16 * (clear.length / 16) ≤ clear.length := by omega
  have hrl := ecb_length (c.dec k) _ _ hX16
  have hfull : msg ++ Spec.joinMic c k msg = 0x20 :: clear := by
    simp only [clear, htl, List.drop_succ_cons, List.drop_zero, List.cons_append]
  have hchk : Spec.checkJoinAccept (Spec.mhdrJoinAccept :: Spec.ecb (c.dec k) (clear.length / 16) clear) = .ok () := by
    unfold Spec.checkJoinAccept
    simp only [Spec.mhdrJoinAccept, hrl]
    have e1 : ¬ (UInt8.toNat 32 % 4 ≠ 0) := by decide
    have e2 : ¬ (UInt8.toNat 32 / 32 ≠ 1) := by decide
    rw [if_neg e1, if_neg e2, if_neg fun h => hXl.elim h.1 h.2]
  have hclear : Spec.joinAcceptClear c k (Spec.mhdrJoinAccept :: Spec.ecb (c.dec k) (clear.length / 16) clear)
      = msg ++ Spec.joinMic c k msg := by
    simp only [Spec.joinAcceptClear, hrl, Spec.mhdrJoinAccept, hfull]
    rw [ecb_inv _ _ (hc.enc_dec k) _ _ hX16]
  unfold Spec.decodeJoinAccept
  rw [hchk]
  simp only []
  rw [hclear, hview, msgOf_append _ _ hmic]
  simp [jaExpected]

end Lora.C02Lemmas
