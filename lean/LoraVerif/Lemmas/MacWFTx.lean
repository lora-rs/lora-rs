import LoraVerif.Lemmas.MacWFSelect
import LoraVerif.Lemmas.TxForm
/-!
The transmit side: building the uplink (`prepare_buffer`), the radio configurations of the receive
windows (`build_rf_config` with its RX2 fallback), the conducted power (`i8` arithmetic), and the two
calls that hand a frame to the radio, `Mac::send` and `Mac::join_otaa`: none panics in a
well-formed state (`Safe`: channel selection may exhaust its draw budget), and the state they leave
is well-formed again.
-/
open Gen.Region

namespace Model

theorem retainSticky_sublist (fuel : Nat) (l : List Nat) : (retainSticky fuel l).Sublist l := by
  induction fuel generalizing l with
  | zero => exact List.nil_sublist l
  | succ fuel ih =>
    cases l with
    | nil => exact List.Sublist.refl _
    | cons cid rest =>
      unfold retainSticky
      split
      · exact List.nil_sublist _
      · rename_i n _
        split
        · exact List.nil_sublist _
        · split
          · have := (List.Sublist.refl (rest.take n)).append (ih (rest.drop n))
            rw [List.take_append_drop] at this
            exact this.cons_cons cid
          · exact ((ih (rest.drop n)).trans (List.drop_sublist n rest)).cons cid

theorem retainSticky_length (fuel : Nat) (l : List Nat) : (retainSticky fuel l).length ≤ l.length :=
  (retainSticky_sublist fuel l).length_le

/-- building an uplink never panics when the application respects the API: no payload on port 0,
at most 222 payload bytes (with at most 15 bytes of pending MAC answers the frame fits 255 bytes) -/
theorem prepareBuffer_tot (s : Session) (cfg : Config) (r : RegionId) (data : List Nat) (fport : Nat) (conf : Bool)
    (hp : s.pending.length ≤ 15) (h0 : fport = 0 → data = []) (hl : data.length ≤ 222) :
    Tot (prepareBuffer s cfg r data fport conf) (fun x => x.2.pending.length ≤ 15) := by
  have hlen : 1 + 7 + (descOf s cfg r data fport conf).fopts.length + 1 + (descOf s cfg r data fport conf).payload.length + 4 < 256 := by
    unfold descOf; split <;> simp only [List.length_nil] <;> omega
  have h0' : ¬ (fport == 0 && !data.isEmpty) = true := by
    simp only [Bool.and_eq_true, beq_iff_eq, Bool.not_eq_true', List.isEmpty_eq_false_iff]
    exact fun hc => hc.2 (h0 hc.1)
  rw [prepareBuffer_eq, if_neg h0', if_neg (by omega), if_neg (by omega)]
  exact Tot.ok (Nat.le_trans (retainSticky_length _ _) hp)

theorem buildRfConfig_tot (m : MacState) (freq : Nat) (dr txDr : DR) (hoff : m.cfg.rx1DrOffset < 8) :
    Tot (buildRfConfig m freq dr txDr) (fun _ => True) := by
  unfold buildRfConfig
  split
  · exact Tot.pure trivial
  · have := rx2_fallback_all m.region.id m.region.id.mem_all txDr (dr_mem_all txDr) m.cfg.rx1DrOffset (List.mem_range.mpr hoff)
    cases hrx : rxDatarate m.region.id txDr m.cfg.rx1DrOffset Window._2 with
    | error e => rw [hrx] at this; cases this
    | ok d2 =>
      rw [hrx] at this
      simp only at this
      simp only [ok_bind]
      cases hg : getDatarate m.region.id d2.toInt.toNat with
      | none => rw [hg] at this; cases this
      | some d => exact Tot.pure trivial

theorem rx2RfConfig_tot (m : MacState) (txDr : DR) (hoff : m.cfg.rx1DrOffset < 8) :
    Tot (rx2RfConfig m txDr) (fun _ => True) := by
  unfold rx2RfConfig
  simp only
  have hdr : Tot (match m.cfg.rx2DataRate with
      | some d => drOfNat d
      | none => rxDatarate m.region.id txDr m.cfg.rx1DrOffset Window._2) (fun _ => True) := by
    cases m.cfg.rx2DataRate with
    | some d => exact Tot.mono (drOfNat_tot d) (fun _ _ => trivial)
    | none => exact rxDatarate_tot _ _ _ _ hoff
  exact Tot.bind hdr (fun dr _ => buildRfConfig_tot m _ dr txDr hoff)

theorem rxWindows_tot (m : MacState) (tx : TxChannel) (hoff : m.cfg.rx1DrOffset < 8) :
    Tot (rxWindows m tx) (fun _ => True) := by
  unfold rxWindows
  refine Tot.bind (rxDatarate_tot _ _ _ _ hoff) (fun rx1Dr _ => ?_)
  refine Tot.bind (buildRfConfig_tot m _ rx1Dr tx.dr hoff) (fun rx1 _ => ?_)
  exact Tot.bind (rx2RfConfig_tot m tx.dr hoff) (fun rx2 _ => Tot.pure trivial)

theorem macRxcConfig_tot (m : MacState) (h : MacWF m) : Tot (macRxcConfig m) (fun _ => True) := by
  unfold macRxcConfig
  exact Tot.bind (drOfNat_tot _) (fun d _ => rx2RfConfig_tot m d h.off)

theorem basePower_spec (r : RegionId) :
    ∃ p0 : Nat, txPowerAdjust r 0 = .ok (some p0) ∧ Rt.wrap .i8 (p0 : Int) = (p0 : Int) ∧ basePower r = some p0 := by
  cases r <;> exact ⟨_, rfl, by decide, rfl⟩

/-- the conducted power computation (`i8` arithmetic) does not overflow for an antenna gain within
`gainOk`, whatever limit (radio maximum, commanded level) is handed in -/
theorem txPowerFor_tot (r : RegionId) (limit : Nat) (gain : Int) (hg : gainOk r gain = true) :
    Tot (txPowerFor r limit gain) (fun _ => True) := by
  obtain ⟨p0, h1, h2, h3⟩ := basePower_spec r
  unfold gainOk at hg
  rw [h3] at hg
  simp only [decide_eq_true_eq] at hg
  unfold txPowerFor
  simp only [h1, ok_bind, pure, Except.pure, h2]
  simp only [Rt.ck_i8 (x := (p0 : Int) - gain) (by omega) (by omega), ofGen, ok_bind]
  exact Tot.ok trivial

theorem drOfNat_uplink {r : RegionId} {n : Nat} (h : isUplinkDatarate r n = true) :
    Tot (drOfNat n) (fun d => isUplinkDatarate r d.toInt.toNat = true) := by
  obtain ⟨_, _, hlt⟩ := isUplink_get h
  refine Tot.mono (drOfNat_tot n) (fun d hd => ?_)
  rw [hd, Nat.mod_eq_of_lt (by omega)]; exact h

/-! `Mac::send` and `Mac::join_otaa` are total around channel selection: walked once for a weakest-precondition predicate
`W` (`WpRules`), given `W` of the selection (`Safe` here; `Tot` for a suitable constant generator in
`Lemmas/Accept.lean`) -/

theorem macSend_wp {σ} {W : ∀ {α : Type}, M α → (α → Prop) → Prop} (hW : WpRules W)
    (g : Rng σ) (m : MacState) (data : List Nat) (fport : Nat) (conf : Bool) (rs : σ)
    (h : MacWF m) (h0 : fport = 0 → data = []) (hl : data.length ≤ 222)
    (hsel : ∀ dr, drOfNat m.cfg.dataRate = .ok dr →
      W (selectTxChannel g m.region dr .data rs) (fun r => regionWF r.2.1 = true ∧ r.2.1.id = m.region.id)) :
    W (macSend g m data fport conf rs) (fun r => Keeps m r.2.1) := by
  unfold macSend
  cases hst : m.st with
  | joined s =>
    simp only
    have hp := h.pending_joined hst
    refine hW.bind (hW.tot (prepareBuffer_tot s m.cfg m.region.id data fport conf hp h0 hl)) ?_
    intro ⟨desc, s'⟩ hs'
    simp only at hs' ⊢
    refine hW.bind (hW.tot (drOfNat_tot m.cfg.dataRate).self) (fun dr hdr => ?_)
    refine hW.bind (hsel dr hdr) ?_
    intro ⟨tx, region, rs'⟩ ⟨hr1, hr2⟩
    simp only at hr1 hr2 ⊢
    refine hW.bind (hW.tot (txPowerFor_tot _ _ _ (by rw [hr2]; exact h.gain))) (fun pw _ => ?_)
    have hk : Keeps m { cfg := m.cfg, region := region, maxPower := m.maxPower, antennaGain := m.antennaGain, st := .joined s' } :=
      keeps_mk h m.cfg region (.joined s') hr1 hr2 h.cfg (pendingOk_joined.mpr hs')
    refine hW.bind (hW.tot (rxWindows_tot _ tx h.off)) ?_
    intro ⟨rx1, rx2⟩ _
    exact hW.pure hk
  | otaa o => exact hW.pure (Keeps.refl h)
  | unjoined => exact hW.pure (Keeps.refl h)

/-- the DevNonce is drawn before the selection, which therefore starts from a generator state the caller does not name:
`hsel` is asked for every state -/
theorem macJoinOtaa_wp {σ} {W : ∀ {α : Type}, M α → (α → Prop) → Prop} (hW : WpRules W)
    (g : Rng σ) (m : MacState) (rs : σ) (h : MacWF m)
    (hsel : ∀ dr, drOfNat m.cfg.dataRate = .ok dr → ∀ s,
      W (selectTxChannel g m.region dr .join s) (fun r => regionWF r.2.1 = true ∧ r.2.1.id = m.region.id)) :
    W (macJoinOtaa g m rs) (fun r => Keeps m r.2.1) := by
  unfold macJoinOtaa
  simp only
  refine hW.bind (hW.tot (drOfNat_tot m.cfg.dataRate).self) (fun dr hdr => ?_)
  refine hW.bind (hsel dr hdr _) ?_
  intro ⟨tx, region, rs'⟩ ⟨hr1, hr2⟩
  simp only at hr1 hr2 ⊢
  refine hW.bind (hW.tot (txPowerFor_tot _ _ _ (by rw [hr2]; exact h.gain))) (fun pw _ => ?_)
  refine hW.bind (hW.tot (rxWindows_tot _ tx h.off)) ?_
  intro ⟨rx1, rx2⟩ _
  exact hW.pure (keeps_mk h m.cfg region _ hr1 hr2 h.cfg rfl)

/-- **`Mac::send` never panics** in a well-formed state when the application respects the API -/
theorem macSend_safe {σ} (g : Rng σ) (m : MacState) (data : List Nat) (fport : Nat) (conf : Bool) (rs : σ)
    (h : MacWF m) (h0 : fport = 0 → data = []) (hl : data.length ≤ 222) :
    Safe (macSend g m data fport conf rs) (fun r => Keeps m r.2.1) :=
  macSend_wp .safe g m data fport conf rs h h0 hl
    (fun dr e => selectTxChannel_safe g m.region dr .data rs h.region ((drOfNat_uplink h.dr).elim e))

/-- **`Mac::join_otaa` never panics** in a well-formed state -/
theorem macJoinOtaa_safe {σ} (g : Rng σ) (m : MacState) (rs : σ) (h : MacWF m) :
    Safe (macJoinOtaa g m rs) (fun r => Keeps m r.2.1) :=
  macJoinOtaa_wp .safe g m rs h
    (fun dr e s => selectTxChannel_safe g m.region dr .join s h.region ((drOfNat_uplink h.dr).elim e))

end Model
