import LoraVerif.Lemmas.MacWFCmds
import LoraVerif.Lemmas.RxForm
/-!
Totality and invariant preservation of the receive side above the command interpreter:
`rx2_complete` (ADR back-off), `Session::handle_rx`, `Otaa::handle_rx`, `Mac::handle_rx` /
`handle_rxc` and the configuration setters (the receive windows and procedures built from them:
`Lemmas/StepWalk.lean`).  None contains a retry loop: the statements are `Tot`.  `Keeps m m'`: `m'` is
well-formed and has the region id, antenna gain and radio power of `m` (the board constants never
change; the channel plan may).
-/

namespace Model

theorem nextLowerDatarate_valid {r : RegionId} {cur d : Nat} (h : isUplinkDatarate r cur = true)
    (hn : nextLowerDatarate r cur = some d) : isUplinkDatarate r d = true := by
  have hmem := nextLower_lt hn
  unfold nextLowerDatarate at hn
  have hp := List.find?_some hn
  unfold isUplinkDatarate at h ⊢
  simp only [Bool.and_eq_true] at h ⊢
  refine ⟨?_, hp⟩
  have h1 := h.1
  split at h1
  · simp only [decide_eq_true_eq] at h1 ⊢
    rename_i hf; simp only [hf, if_true, decide_eq_true_eq]; omega
  · rename_i hf; simp [hf]

theorem rx2Complete_wf (s : Session) (cfg : Config) (r : RegionId) (hc : cfgWF r cfg = true) :
    cfgWF r (rx2Complete s cfg r).2.2 = true ∧ (rx2Complete s cfg r).2.1.pending = s.pending := by
  obtain ⟨h1, h2⟩ := rx2Complete_shape s cfg r
  refine ⟨?_, h2⟩
  rcases h1 with h1 | ⟨d, hd, h1⟩
  · rw [h1]; exact hc
  · rw [h1]
    exact cfgWF_iff.mpr ⟨nextLowerDatarate_valid (cfgWF_iff.mp hc).1 hd, (cfgWF_iff.mp hc).2⟩

theorem acceptCmds_tot (pending : List Nat) (cfg : Config) (region : RegionState) (d : RxData) (snr : Int) (ig : Bool)
    (hr : regionWF region = true) (hc : cfgWF region.id cfg = true) (hp : pending.length ≤ 15) :
    Tot (acceptCmds pending cfg region d snr ig) (fun c => CtxWF c ∧ c.region.id = region.id) := by
  unfold acceptCmds
  split
  · exact Tot.pure ⟨⟨hr, hc, hp⟩, rfl⟩
  · refine Tot.bind (handleDownlinkMacs_tot snr d.fopts _ ⟨hr, hc, by simp⟩) (fun c1 ⟨hc1, hid1⟩ => ?_)
    exact Tot.ite ((handleDownlinkMacs_tot snr d.payload c1 hc1).mono (fun c2 ⟨hc2, hid2⟩ => ⟨hc2, by rw [hid2, hid1]⟩))
      (Tot.pure ⟨hc1, hid1⟩)

theorem sessionHandleRx_tot (s : Session) (cfg : Config) (region : RegionState) (d : RxData) (mp : Nat) (snr : Int)
    (ig : Bool) (hr : regionWF region = true) (hc : cfgWF region.id cfg = true) (hp : s.pending.length ≤ 15) :
    Tot (sessionHandleRx s cfg region d mp snr ig)
      (fun r => regionWF r.2.2.2 = true ∧ r.2.2.2.id = region.id ∧ cfgWF region.id r.2.2.1 = true ∧ r.2.1.pending.length ≤ 15) := by
  rw [sessionHandleRx_eq]
  split
  · refine Tot.pure ?_
    split
    · exact ⟨hr, rfl, hc, hp⟩
    · obtain ⟨h1, h2⟩ := rx2Complete_wf s cfg region.id hc
      exact ⟨hr, rfl, h1, by simp only; rw [h2]; exact hp⟩
  · split
    · refine Tot.bind (acceptCmds_tot _ _ _ d snr ig hr hc hp) (fun ctx ⟨⟨h1, h2, h3⟩, hid⟩ => Tot.pure ?_)
      rw [acceptFinish_eq]
      exact ⟨h1, hid, hid ▸ h2, h3⟩
    · exact Tot.pure ⟨hr, rfl, hc, hp⟩

def Keeps (m m' : MacState) : Prop :=
  MacWF m' ∧ m'.region.id = m.region.id ∧ m'.antennaGain = m.antennaGain ∧ m'.maxPower = m.maxPower

theorem Keeps.refl {m : MacState} (h : MacWF m) : Keeps m m := ⟨h, rfl, rfl, rfl⟩

theorem Keeps.trans {m m1 m2 : MacState} (h1 : Keeps m m1) (h2 : Keeps m1 m2) : Keeps m m2 :=
  ⟨h2.1, by rw [h2.2.1, h1.2.1], by rw [h2.2.2.1, h1.2.2.1], by rw [h2.2.2.2, h1.2.2.2]⟩

theorem keeps_mk {m : MacState} (h : MacWF m) (cfg : Config) (region : RegionState) (st : JoinState)
    (hr : regionWF region = true) (hid : region.id = m.region.id) (hc : cfgWF m.region.id cfg = true)
    (hp : pendingOk st = true) :
    Keeps m { cfg := cfg, region := region, maxPower := m.maxPower, antennaGain := m.antennaGain, st := st } := by
  refine ⟨MacWF.mk hr ?_ ?_ hp, hid, rfl, rfl⟩
  · simp only; rw [hid]; exact hc
  · simp only; rw [hid]; exact h.gain

/-- an authentic JoinAccept with ANY DLSettings and RxDelay, and any CFList of the wire's shape (`cfListWF`: five
frequencies or a 9-byte mask), is processed without panic -/
theorem otaaAccept_tot (m : MacState) (j : RxJoinAccept) (h : MacWF m) (hcf : cfListWF j.cfList = true) :
    Tot (otaaAccept m j) (fun m' => Keeps m m') := by
  unfold otaaAccept
  refine Tot.bind (processJoinAccept_tot m.region j.cfList h.region hcf) ?_
  intro region ⟨hr, hid⟩
  refine Tot.bind (delToDelayMs_tot _) (fun d _ => ?_)
  refine Tot.pure ?_
  apply keeps_mk h _ _ _ hr hid _ rfl
  obtain ⟨hdr, hoff⟩ := cfgWF_iff.mp h.cfg
  apply cfgWF_iff.mpr
  constructor
  · split <;> (split <;> exact hdr)
  · split
    · split
      · rename_i o ho; simp only; exact rx1DrOffsetValidate_lt ho
      · exact hoff
    · split
      · rename_i o ho; simp only; exact rx1DrOffsetValidate_lt ho
      · exact hoff

/-- **`Mac::handle_rx` / `handle_rxc` return for every received frame** (garbage, any data frame
with any field values and MAC command bytes, any JoinAccept whose CFList has the wire's shape: `viewWF`), every SNR,
every payload limit, in every join state, and leave a well-formed state -/
theorem macHandleRx_tot (m : MacState) (v : RxView) (mp : Nat) (snr : Int) (cc : Bool) (h : MacWF m)
    (hv : viewWF v = true) : Tot (macHandleRx m v mp snr cc) (fun r => Keeps m r.2) := by
  unfold macHandleRx
  cases hst : m.st with
  | joined s =>
    simp only
    cases v with
    | data d =>
      simp only
      have hp := h.pending_joined hst
      refine Tot.bind (sessionHandleRx_tot s m.cfg m.region d mp snr cc h.region h.cfg hp) ?_
      intro ⟨o, s', cfg', region'⟩ ⟨h1, h2, h3, h4⟩
      refine Tot.pure ?_
      exact keeps_mk h cfg' region' (.joined s') h1 h2 h3 (pendingOk_joined.mpr h4)
    | garbage => exact Tot.pure (Keeps.refl h)
    | joinAccept j => exact Tot.pure (Keeps.refl h)
  | otaa o =>
    simp only
    split
    · exact Tot.pure (Keeps.refl h)
    · cases v with
      | joinAccept j =>
        simp only
        split
        · refine Tot.bind (otaaAccept_tot m j h (by simpa [viewWF] using hv)) (fun m' hm' => Tot.pure hm')
        · exact Tot.pure (Keeps.refl h)
      | garbage => exact Tot.pure (Keeps.refl h)
      | data d => exact Tot.pure (Keeps.refl h)
  | unjoined =>
    simp only
    split <;> exact Tot.pure (Keeps.refl h)

theorem macRx2Complete_wf (m : MacState) (h : MacWF m) : Keeps m (macRx2Complete m).2 := by
  unfold macRx2Complete
  cases hst : m.st with
  | joined s =>
    simp only
    obtain ⟨h1, h2⟩ := rx2Complete_wf s m.cfg m.region.id h.cfg
    generalize rx2Complete s m.cfg m.region.id = res at h1 h2 ⊢
    obtain ⟨r', s', cfg'⟩ := res
    have hp := h.pending_joined hst
    exact keeps_mk h cfg' m.region (.joined s') h.region rfl h1 (by simp only at h2; simp [pendingOk, h2, hp])
  | otaa o => exact Keeps.refl h
  | unjoined => exact Keeps.refl h

theorem macSetAdr_wf (m : MacState) (on : Bool) (h : MacWF m) : Keeps m (macSetAdr m on) := by
  rw [macSetAdr_eq]
  refine keeps_mk h _ m.region _ h.region rfl h.cfg ?_
  have hp := h.pending
  cases hst : m.st with
  | joined s => rw [hst] at hp; exact hp
  | _ => rfl

theorem macSetDatarate_wf (m : MacState) (dr : Nat) (h : MacWF m) (hdr : isUplinkDatarate m.region.id dr = true) :
    Keeps m (macSetDatarate m dr) := by
  unfold macSetDatarate
  exact keeps_mk h _ m.region _ h.region rfl (cfgWF_iff.mpr ⟨hdr, h.off⟩) h.pending

theorem macJoinAbp_wf (m : MacState) (da nwk app : Nat) (h : MacWF m) : Keeps m (macJoinAbp m da nwk app) := by
  unfold macJoinAbp
  exact keeps_mk h _ m.region _ h.region rfl h.cfg rfl

end Model
