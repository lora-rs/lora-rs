import LoraVerif.Model.History
import LoraVerif.Lemmas.ExceptLemmas
import LoraVerif.Lemmas.ListLemmas
/-!
# Histories as chains of steps, and trace predicates driven by a ghost state

A history-level theorem that follows a *reference machine* (ghost state `G`, written from the
property text) alongside the model has this skeleton: a relation `Rel : MacState → G → Prop` ties the
two; one lemma shows that every `Model.step` preserves `Rel` and that its output is what the reference
machine allows (`P`); the induction over the event list (`chain_traceD`, relational ghost:
`chain_traceR`) lifts it to every history.  A theorem about ONE position of a history uses `chain_at`: the state
before position `i` and the step taken there.
A trace `t : List (Ev × Out)` of a run is a `Chain` (`run_chain`, conversely `chain_run`); `TraceD` /
`TraceR` say that `P` holds at every position of a trace while the ghost moves along.
-/
namespace Model

def Chain {σ} (g : Rng σ) : MacState × σ → List (Ev × Out) → MacState × σ → Prop
  | ms, [], ms' => ms' = ms
  | ms, (ev, out) :: rest, ms' => ∃ ms1, step g ms ev = .ok (ms1, out) ∧ Chain g ms1 rest ms'

theorem run_nil_iff {σ} {g : Rng σ} {ms ms' : MacState × σ} {outs : List Out} :
    run g ms [] = .ok (ms', outs) ↔ ms' = ms ∧ outs = [] := by
  simp only [run, pure, Except.pure, Except.ok.injEq, Prod.mk.injEq, eq_comm]

theorem run_cons_iff {σ} {g : Rng σ} {ms ms' : MacState × σ} {ev : Ev} {evs : List Ev} {outs : List Out} :
    run g ms (ev :: evs) = .ok (ms', outs) ↔
      ∃ ms1 o os, step g ms ev = .ok (ms1, o) ∧ run g ms1 evs = .ok (ms', os) ∧ outs = o :: os := by
  constructor
  · intro h
    obtain ⟨⟨ms1, o⟩, hstep, h⟩ := Except.bind_eq_ok h
    obtain ⟨⟨ms2, os⟩, hrest, h⟩ := Except.bind_eq_ok h
    cases Except.pure_eq_ok h
    exact ⟨ms1, o, os, hstep, hrest, rfl⟩
  · rintro ⟨ms1, o, os, hstep, hrest, rfl⟩
    simp only [run, hstep, hrest, bind, Except.bind, pure, Except.pure]

theorem run_outs_length {σ} (g : Rng σ) (ms ms' : MacState × σ) (evs : List Ev) (outs : List Out)
    (h : run g ms evs = .ok (ms', outs)) : outs.length = evs.length := by
  induction evs generalizing ms outs with
  | nil => rw [(run_nil_iff.mp h).2]; rfl
  | cons ev rest ih =>
    obtain ⟨ms1, o, os, _, hrun, rfl⟩ := run_cons_iff.mp h
    simp [ih ms1 os hrun]

theorem run_chain {σ} (g : Rng σ) (ms ms' : MacState × σ) (evs : List Ev) (outs : List Out)
    (h : run g ms evs = .ok (ms', outs)) : Chain g ms (evs.zip outs) ms' := by
  induction evs generalizing ms outs with
  | nil => exact (run_nil_iff.mp h).1
  | cons ev rest ih =>
    obtain ⟨ms1, o, os, hstep, hrun, rfl⟩ := run_cons_iff.mp h
    exact ⟨ms1, hstep, ih ms1 os hrun⟩

theorem chain_run {σ} (g : Rng σ) (ms ms' : MacState × σ) (t : List (Ev × Out)) (h : Chain g ms t ms') :
    run g ms (t.map (·.1)) = .ok (ms', t.map (·.2)) := by
  induction t generalizing ms with
  | nil => exact run_nil_iff.mpr ⟨h, rfl⟩
  | cons x rest ih =>
    obtain ⟨ms1, hstep, hrest⟩ := h
    exact run_cons_iff.mpr ⟨ms1, _, _, hstep, ih ms1 hrest, rfl⟩

theorem chain_append {σ} (g : Rng σ) (ms ms' : MacState × σ) (a b : List (Ev × Out)) :
    Chain g ms (a ++ b) ms' ↔ ∃ msi, Chain g ms a msi ∧ Chain g msi b ms' := by
  induction a generalizing ms with
  | nil => exact ⟨fun h => ⟨ms, rfl, h⟩, fun ⟨_, h1, h2⟩ => h1 ▸ h2⟩
  | cons x rest ih =>
    simp only [List.cons_append, Chain, ih]
    exact ⟨fun ⟨ms1, hs, msi, h1, h2⟩ => ⟨msi, ⟨ms1, hs, h1⟩, h2⟩, fun ⟨msi, ⟨ms1, hs, h1⟩, h2⟩ => ⟨ms1, hs, msi, h1, h2⟩⟩

theorem chain_at {σ} (g : Rng σ) (ms ms' : MacState × σ) (t : List (Ev × Out)) (i : Nat) (ev : Ev) (out : Out)
    (h : Chain g ms t ms') (hi : t[i]? = some (ev, out)) :
    ∃ msi msi', Chain g ms (t.take i) msi ∧ step g msi ev = .ok (msi', out) ∧ Chain g msi' (t.drop (i + 1)) ms' := by
  rw [← List.take_append_drop i t, chain_append, List.drop_of_getElem? hi] at h
  obtain ⟨msi, h1, msi', hstep, h3⟩ := h
  exact ⟨msi, msi', h1, hstep, h3⟩

theorem run_invariant {σ} (g : Rng σ) (I : MacState → Prop) (V : Ev → Prop) (Q : Out → Prop)
    (hstep : ∀ m rs ev m' rs' out, I m → V ev → step g (m, rs) ev = .ok ((m', rs'), out) → I m' ∧ Q out)
    (m : MacState) (rs : σ) (evs : List Ev) (ms' : MacState × σ) (outs : List Out) (hI : I m) (hV : ∀ ev ∈ evs, V ev)
    (h : run g (m, rs) evs = .ok (ms', outs)) : I ms'.1 ∧ ∀ out ∈ outs, Q out := by
  induction evs generalizing m rs outs with
  | nil => obtain ⟨rfl, rfl⟩ := run_nil_iff.mp h; exact ⟨hI, fun _ ho => nomatch ho⟩
  | cons ev rest ih =>
    obtain ⟨⟨m1, rs1⟩, o, os, hs, hrun, rfl⟩ := run_cons_iff.mp h
    obtain ⟨hI1, hQ⟩ := hstep m rs ev m1 rs1 o hI (hV ev List.mem_cons_self) hs
    obtain ⟨hI2, hQs⟩ := ih m1 rs1 os hI1 (fun e he => hV e (List.mem_cons_of_mem _ he)) hrun
    exact ⟨hI2, fun out ho => (List.mem_cons.1 ho).elim (fun e => e ▸ hQ) (hQs out)⟩

/-- at every position `P ghost event output`; the ghost moves by `next` -/
def TraceD {G} (next : G → Ev → Out → G) (P : G → Ev → Out → Prop) : G → List (Ev × Out) → Prop
  | _, [] => True
  | gh, (ev, out) :: rest => P gh ev out ∧ TraceD next P (next gh ev out) rest

def ghostAfter {G} (next : G → Ev → Out → G) : G → List (Ev × Out) → G
  | gh, [] => gh
  | gh, (ev, out) :: rest => ghostAfter next (next gh ev out) rest

/-- relational ghost move: `P ghost event output ghost'` -/
def TraceR {G} (P : G → Ev → Out → G → Prop) : G → List (Ev × Out) → Prop
  | _, [] => True
  | gh, (ev, out) :: rest => ∃ gh', P gh ev out gh' ∧ TraceR P gh' rest

theorem chain_traceD {σ G} (g : Rng σ) (next : G → Ev → Out → G) (P : G → Ev → Out → Prop)
    (Rel : MacState → G → Prop) (V : Ev → Prop)
    (hstep : ∀ m s ev m' s' out gh, Rel m gh → V ev → step g (m, s) ev = .ok ((m', s'), out) →
      P gh ev out ∧ Rel m' (next gh ev out))
    (ms ms' : MacState × σ) (t : List (Ev × Out)) (gh : G) (hr : Rel ms.1 gh) (hv : ∀ x ∈ t, V x.1)
    (h : Chain g ms t ms') : TraceD next P gh t ∧ Rel ms'.1 (ghostAfter next gh t) := by
  induction t generalizing ms gh with
  | nil => simp only [Chain] at h; subst h; exact ⟨trivial, hr⟩
  | cons x rest ih =>
    obtain ⟨ev, out⟩ := x
    simp only [Chain] at h
    obtain ⟨⟨m1, s1⟩, hs, hrest⟩ := h
    obtain ⟨hp, hr1⟩ := hstep ms.1 ms.2 ev m1 s1 out gh hr (hv (ev, out) List.mem_cons_self) hs
    obtain ⟨ht, hr2⟩ := ih (m1, s1) (next gh ev out) hr1 (fun x hx => hv x (List.mem_cons_of_mem _ hx)) hrest
    exact ⟨⟨hp, ht⟩, hr2⟩

theorem chain_traceR {σ G} (g : Rng σ) (P : G → Ev → Out → G → Prop)
    (Rel : MacState → G → Prop) (V : Ev → Prop)
    (hstep : ∀ m s ev m' s' out gh, Rel m gh → V ev → step g (m, s) ev = .ok ((m', s'), out) →
      ∃ gh', P gh ev out gh' ∧ Rel m' gh')
    (ms ms' : MacState × σ) (t : List (Ev × Out)) (gh : G) (hr : Rel ms.1 gh) (hv : ∀ x ∈ t, V x.1)
    (h : Chain g ms t ms') : TraceR P gh t := by
  induction t generalizing ms gh with
  | nil => trivial
  | cons x rest ih =>
    obtain ⟨ev, out⟩ := x
    simp only [Chain] at h
    obtain ⟨⟨m1, s1⟩, hs, hrest⟩ := h
    obtain ⟨gh', hp, hr1⟩ := hstep ms.1 ms.2 ev m1 s1 out gh hr (hv (ev, out) List.mem_cons_self) hs
    exact ⟨gh', hp, ih (m1, s1) gh' hr1 (fun x hx => hv x (List.mem_cons_of_mem _ hx)) hrest⟩

theorem run_single {σ} (g : Rng σ) (ms ms' : MacState × σ) (ev : Ev) (out : Out) (h : step g ms ev = .ok (ms', out)) :
    run g ms [ev] = .ok (ms', [out]) := by
  simp only [run, h, bind, Except.bind, pure, Except.pure]

end Model
