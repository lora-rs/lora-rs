import LoraVerif.Lemmas.PhyCfg
/-!
# The SX126x `RadioKind` model satisfies `OpsSpec` (C14)

First what one SX126x transaction does to the tracker (which commands are benign, which item each programs, which
start an operation); then every operation of `Model.Phy.Sx126x` that `LoRa` calls, for every configuration,
parameter value, chip answer, fault position and drop: its effect on the transcript tracker.
-/
namespace Model.Phy

theorem pre126_aw {t : ChipTrack} (h : Aw t) (op : UInt8) : pre126 t op = t := by
  obtain ⟨h1, h2⟩ := h
  simp [pre126, h1, h2]

theorem step126_aw {n : Needs} {t : ChipTrack} (h : Aw t) (op : UInt8) (args : Bytes) :
    step126 n t (op :: args) = apply126 n t op args := by
  simp [step126, pre126_aw h]

/-- commands that neither put the chip to sleep nor start an operation -/
def benign126 : Cmd126 → Bool
  | .setSleep | .setTx | .setRx | .setRxDutyCycle | .setCad => false
  | _ => true

/-- the item a command programs -/
def gain126 (op : UInt8) (args : Bytes) : Items :=
  match decode126 op with
  | .packetType => { packetType := true }
  | .regulator => { regulator := true }
  | .tcxo => { tcxo := true }
  | .bufferBase => { bufferBase := true }
  | .modulation => { modulation := true }
  | .packet => { packet := true }
  | .irq => { irq := true }
  | .frequency => { frequency := true }
  | .pa => { pa := true }
  | .writeRegister =>
    match args with
    | 0x07 :: 0x40 :: _ => { syncWord := true }
    | _ => {}
  | _ => {}

theorem apply126_benign {n : Needs} {t : ChipTrack} (hc : Clean t) (op : UInt8) (args : Bytes)
    (hb : benign126 (decode126 op) = true) :
    Ext t (apply126 n t op args) ∧ (gain126 op args).le (apply126 n t op args).items := by
  obtain ⟨c1, c2⟩ := hc
  unfold apply126 gain126
  cases hd : decode126 op <;> simp [hd, benign126] at hb ⊢
  all_goals first
    | (split <;> simp [Ext, Clean, NNS, Items.le, c1, c2])
    | simp [Ext, Clean, NNS, Items.le, c1, c2]

theorem step126_benign {n : Needs} {t : ChipTrack} (hc : Clean t) (ha : Aw t) (op : UInt8) (args : Bytes)
    (hb : benign126 (decode126 op) = true) :
    Ext t (spiStep .sx126x n t (op :: args)) ∧ (gain126 op args).le (spiStep .sx126x n t (op :: args)).items := by
  show Ext t (step126 n t (op :: args)) ∧ _
  show _ ∧ (gain126 op args).le (step126 n t (op :: args)).items
  rw [step126_aw ha]
  exact apply126_benign hc op args hb

theorem cfg_write126 {n : Needs} (op : UInt8) (args : Bytes) (hb : benign126 (decode126 op) = true := by decide) :
    Cfg .sx126x n (intfWrite (op :: args)) (gain126 op args) :=
  cfg_of_step fun _ hc ha => step126_benign hc ha op args hb

theorem cfg_writeP126 {n : Needs} (op : UInt8) (args p : Bytes) (hb : benign126 (decode126 op) = true := by decide) :
    Cfg .sx126x n (intfWriteWithPayload (op :: args) p) (gain126 op (args ++ p)) :=
  cfg_of_step fun _ hc ha => step126_benign hc ha op (args ++ p) hb

theorem cfg_read126 {n : Needs} (op : UInt8) (args : Bytes) (r : Nat) (hb : benign126 (decode126 op) = true := by decide) :
    Cfg .sx126x n (intfRead (op :: args) r) {} :=
  cfg_of_step_read fun _ hc ha => (step126_benign hc ha op args hb).1

theorem cfg_readStatus126 {n : Needs} (op : UInt8) (args : Bytes) (r : Nat) (hb : benign126 (decode126 op) = true := by decide) :
    Cfg .sx126x n (intfReadWithStatus (op :: args) r) {} :=
  cfg_of_step_readStatus fun _ hc ha => (step126_benign hc ha op args hb).1

/-- the operation a command starts on an awake chip (not the duty cycle: it may put the chip to sleep) -/
def startOf126 : Cmd126 → Option ChipMode
  | .setTx => some .tx
  | .setRx => some .rx
  | .setCad => some .cad
  | _ => none

theorem cfg_start126 {n : Needs} (m : ChipMode) (op : UInt8) (args : Bytes)
    (hd : startOf126 (decode126 op) = some m := by decide) : CfgN .sx126x n (n.of m) (intfWrite (op :: args)) {} :=
  cfgN_of_step fun t hc ha hn => by
    show Ext t (step126 n t (op :: args))
    rw [step126_aw ha]
    unfold apply126
    cases h : decode126 op <;> simp only [h, startOf126, Option.some.injEq, reduceCtorEq] at hd <;> subst hd <;>
      exact start_ext hc hn (by simp)

namespace Sx126x
open Gen.PhyCodes126

variable {n : Needs}

/-! ### the item each command programs, whatever its arguments -/

@[simp] theorem gain_SetRegulatorMode (args : Bytes) : gain126 (op .SetRegulatorMode) args = { regulator := true } := rfl
@[simp] theorem gain_SetDIO2AsRfSwitchCtrl (args : Bytes) : gain126 (op .SetDIO2AsRfSwitchCtrl) args = {} := rfl
@[simp] theorem gain_SetTCXOMode (args : Bytes) : gain126 (op .SetTCXOMode) args = { tcxo := true } := rfl
@[simp] theorem gain_Calibrate (args : Bytes) : gain126 (op .Calibrate) args = {} := rfl
@[simp] theorem gain_SetPacketType (args : Bytes) : gain126 (op .SetPacketType) args = { packetType := true } := rfl
@[simp] theorem gain_SetBufferBaseAddress (args : Bytes) : gain126 (op .SetBufferBaseAddress) args = { bufferBase := true } := rfl
@[simp] theorem gain_SetPAConfig (args : Bytes) : gain126 (op .SetPAConfig) args = {} := rfl
@[simp] theorem gain_SetTxParams (args : Bytes) : gain126 (op .SetTxParams) args = { pa := true } := rfl
@[simp] theorem gain_CfgDIOIrq (args : Bytes) : gain126 (op .CfgDIOIrq) args = { irq := true } := rfl
@[simp] theorem gain_SetModulationParams (args : Bytes) : gain126 (op .SetModulationParams) args = { modulation := true } := rfl
@[simp] theorem gain_SetPacketParams (args : Bytes) : gain126 (op .SetPacketParams) args = { packet := true } := rfl
@[simp] theorem gain_CalibrateImage (args : Bytes) : gain126 (op .CalibrateImage) args = {} := rfl
@[simp] theorem gain_SetRFFrequency (args : Bytes) : gain126 (op .SetRFFrequency) args = { frequency := true } := rfl
@[simp] theorem gain_SetLoRaSymbTimeout (args : Bytes) : gain126 (op .SetLoRaSymbTimeout) args = {} := rfl
@[simp] theorem gain_SetStopRxTimerOnPreamble (args : Bytes) : gain126 (op .SetStopRxTimerOnPreamble) args = {} := rfl
@[simp] theorem gain_SetCADParams (args : Bytes) : gain126 (op .SetCADParams) args = {} := rfl
@[simp] theorem gain_WriteBuffer (args : Bytes) : gain126 (op .WriteBuffer) args = {} := rfl
@[simp] theorem gain_ClearDeviceErrors (args : Bytes) : gain126 (op .ClearDeviceErrors) args = {} := rfl

theorem cfg_regW8 (r : Register) (v : UInt8) : Cfg .sx126x n (regW8 r v) {} := by
  unfold regW8
  rw [addr1_ret]
  exact (cfg_write126 _ _).zero

theorem cfg_regR8 (r : Register) : Cfg .sx126x n (regR8 r) {} := by
  unfold regR8
  simp only [addr1_ret, Prog.ret_bind]
  exact Cfg.bind0 (cfg_read126 _ _ _) fun _ => Cfg.pure _

theorem cfg_ofOpt {α : Type} (s : String) (o : Option α) : Cfg .sx126x n (ofOpt s o) {} := by
  cases o
  · exact Cfg.panic _ _
  · exact Cfg.pure _

theorem cfg_errUnavailable {α : Type} (e : RadioError) (he : Abort.infra (.err e)) (o : Option α) :
    Cfg .sx126x n (errUnavailable e o) {} := by
  cases o
  · exact Cfg.fail _ _ he
  · exact Cfg.pure _

theorem cfg_setLoraSyncWord (w : Nat) : Cfg .sx126x n (setLoraSyncWord w) { syncWord := true } := by
  unfold setLoraSyncWord
  rw [addr1_ret]
  exact cfg_writeP126 _ _ _

theorem cfg_setTxRxBufferBaseAddress (tx rx : Nat) : Cfg .sx126x n (setTxRxBufferBaseAddress tx rx) { bufferBase := true } := by
  unfold setTxRxBufferBaseAddress
  split
  · exact Cfg.fail _ _ rfl
  · exact cfg_write126 _ _

theorem cfg_addRegisterToRetentionList (r : Register) : Cfg .sx126x n (addRegisterToRetentionList r) {} := by
  unfold addRegisterToRetentionList
  simp only [addr1_ret]
  refine Cfg.bind0 (Cfg.pure _) fun l1 => ?_
  refine Cfg.bind0 (cfg_read126 _ _ _) fun buffer => ?_
  refine Cfg.bind0 (Cfg.pure _) fun a1 => ?_
  refine Cfg.bind0 (cfg_ofOpt _ _) fun k => ?_
  split
  · exact Cfg.panic _ _
  · exact Cfg.pure _
  · split
    · exact (cfg_writeP126 _ _ _).zero
    · exact Cfg.fail _ _ rfl

theorem cfg_updateRetentionList : Cfg .sx126x n updateRetentionList {} :=
  Cfg.bind0 (cfg_addRegisterToRetentionList _) fun _ => cfg_addRegisterToRetentionList _

theorem cfg_initLora (cfg : Config) (sw : Nat) :
    Cfg .sx126x n (initLora cfg sw) (baseItems cfg.useDcdc cfg.tcxo.isSome) := by
  unfold initLora
  dsimp only
  have tail : Cfg .sx126x n _ { packetType := true, syncWord := true, bufferBase := true } :=
    (Cfg.bind (cfg_write126 (op .SetPacketType) [byte (PacketType.value .LoRa)]) fun _ =>
      Cfg.bind (cfg_setLoraSyncWord sw) fun _ =>
      Cfg.bind (cfg_setTxRxBufferBaseAddress 0 0) fun _ => cfg_updateRetentionList).weaken (by decide)
  -- the regulator, DIO2 as RF switch, the TCXO with its calibration: each only on a board that has it
  refine (Cfg.ite_seq (cfg_write126 _ _) (Cfg.ite_seq (cfg_write126 _ _)
    (g2 := { packetType := true, syncWord := true, bufferBase := true, tcxo := cfg.tcxo.isSome }) ?_)).weaken ?_
  · cases cfg.tcxo with
    | none => exact tail
    | some v =>
      exact (Cfg.bind (cfg_readStatus126 _ _ _) fun _ => Cfg.bind (cfg_write126 (op .SetTCXOMode) _) fun _ =>
        Cfg.bind (cfg_write126 _ _) fun _ => Cfg.bind (cfg_plain .busy) fun _ => tail).weaken
        (by simp only [gain_SetTCXOMode, Option.isSome]; decide)
  · cases cfg.useDcdc <;> cases cfg.chip.dio2AsRfSwitch <;> cases cfg.tcxo.isSome <;> decide

theorem cfg_setPaConfig (a b c : UInt8) : Cfg .sx126x n (setPaConfig a b c) {} :=
  (cfg_write126 _ _).zero

theorem cfg_txGuard (hp : Bool) (p : Int) (f : Option Nat) : Cfg .sx126x n (txGuard hp p f) {} := by
  unfold txGuard
  repeat' split
  · exact Cfg.bind0 (cfg_regR8 _) fun _ => cfg_regW8 _ _
  · exact Cfg.fail _ _ rfl
  all_goals exact Cfg.pure _

theorem cfg_setTxPowerAndRampTime (cfg : Config) (p : Int) (f : Option Nat) (b : Bool) :
    Cfg .sx126x n (setTxPowerAndRampTime cfg p f b) { pa := true } := by
  rw [setTxPowerAndRampTime_seq]
  exact Cfg.bind_r (cfg_txGuard _ _ _) fun _ => Cfg.bind_r (cfg_ofOpt _ _) fun ⟨_, _⟩ =>
    Cfg.bind_r (cfg_setPaConfig _ _ _) fun _ => cfg_write126 _ _

theorem cfg_setIrqParams (m : Option RadioMode) : Cfg .sx126x n (setIrqParams m) { irq := true } := by
  unfold setIrqParams
  exact cfg_write126 _ _

theorem cfg_setModulationParams (m : ModulationParams) : Cfg .sx126x n (setModulationParams m) { modulation := true } := by
  unfold setModulationParams
  refine Cfg.bind_r (cfg_errUnavailable _ rfl _) fun sf => ?_
  refine Cfg.bind_r (cfg_errUnavailable _ rfl _) fun bw => ?_
  refine Cfg.bind_r (cfg_errUnavailable _ rfl _) fun cr => ?_
  refine Cfg.bind_l (cfg_write126 _ _) fun _ => ?_
  refine Cfg.bind0 (cfg_regR8 _) fun v => ?_
  split <;> exact cfg_regW8 _ _

theorem cfg_setPacketParams (p : PacketParams) : Cfg .sx126x n (setPacketParams p) { packet := true } := by
  unfold setPacketParams
  refine Cfg.bind_l (cfg_write126 _ _) fun _ => ?_
  refine Cfg.bind0 (cfg_regR8 _) fun v => ?_
  split <;> exact cfg_regW8 _ _

theorem cfg_calibrateImage (f : Nat) : Cfg .sx126x n (calibrateImage f) {} :=
  (cfg_write126 _ _).zero

theorem cfg_setChannel (f : Nat) : Cfg .sx126x n (setChannel f) { frequency := true } := by
  unfold setChannel
  exact Cfg.bind_r (cfg_ofOpt _ _) fun _ => cfg_write126 _ _

theorem cfg_setPayload (p : Bytes) : Cfg .sx126x n (setPayload p) {} :=
  (cfg_writeP126 _ _ _).zero

theorem cfg_setLoraSymbolNumTimeout (k : Nat) : Cfg .sx126x n (setLoraSymbolNumTimeout k) {} := by
  unfold setLoraSymbolNumTimeout
  refine Cfg.bind0 (cfg_write126 _ _).zero fun _ => ?_
  split
  · split
    · exact Cfg.panic _ _
    · exact cfg_regW8 _ _
  · exact Cfg.pure _


theorem spiStep126 (t : ChipTrack) (w : Bytes) : spiStep .sx126x n t w = step126 n t w := rfl

/-- `ensure_ready` on the wire: the wake-up (GetStatus) exactly when the driver's mode says the chip may sleep, else the
BUSY poll -/
theorem ensureReady_eq (m : RadioMode) :
    ensureReady m = if m = .sleep ∨ m.isDuty = true then intfWrite [0xC0, 0x00] else Prog.req .busy := by
  cases m with
  | receive rm => cases rm <;> rfl
  | _ => rfl

/-- `set_standby` on the wire: SetStandby(RC), then the RF switch -/
theorem setStandby_eq : setStandby = Prog.bind (intfWrite [0x80, 0x00]) fun _ => Prog.req .rfOff := rfl

theorem step_wake (t : ChipTrack) (hc : Clean t) (args : Bytes) :
    Ext t (spiStep .sx126x n t (0xC0 :: args)) ∧ Aw (spiStep .sx126x n t (0xC0 :: args)) := by
  show Ext t (step126 n t (0xC0 :: args)) ∧ Aw (step126 n t (0xC0 :: args))
  obtain ⟨c1, c2⟩ := hc
  cases hm : t.mode <;> simp +decide [step126, pre126, apply126, decode126, hm, Ext, Clean, NNS, Aw, c1, c2, Items.le_refl]

theorem ensureReady_spec (m : RadioMode) (t : ChipTrack) (hc : Clean t) (hl : Link m t) :
    wp .sx126x n (ensureReady m) (fun _ t' => Ext t t' ∧ Aw t') (fun a t' => Ext t t' ∧ a.infra) t := by
  rw [ensureReady_eq]
  split
  · rw [wp_intfWrite]
    have := step_wake (n := n) t hc [0]
    exact ⟨⟨Ext.refl hc, rfl⟩, ⟨this.1, rfl⟩, this⟩
  · rename_i h
    rw [wp_req_plain _ _ .busy]
    exact ⟨⟨Ext.refl hc, rfl⟩, Ext.refl hc, hl.aw (fun e => h (.inl e)) (by simpa using fun e => h (.inr e))⟩

theorem setStandby_spec (t : ChipTrack) (hc : Clean t) (ha : Aw t) :
    wp .sx126x n setStandby (fun _ t' => Ext t t' ∧ Aw t' ∧ t'.mode = .standby ∧ Items.le {} t'.items) (fun a t' => Ext t t' ∧ a.infra) t := by
  rw [setStandby_eq, wp_bind, wp_intfWrite]
  have hs : spiStep .sx126x n t [0x80, 0x00] = { t with mode := .standby } := by
    rw [spiStep126, step126_aw ha]
    simp +decide [apply126, decode126]
  have e : Ext t { t with mode := .standby } := ⟨hc, Items.le_refl _, by simp [NNS]⟩
  rw [hs]
  refine ⟨⟨Ext.refl hc, rfl⟩, ⟨e, rfl⟩, ?_⟩
  rw [wp_req_plain _ _ .rfOff]
  exact ⟨⟨e, rfl⟩, e, ⟨by simp, by simp⟩, rfl, Items.none_le _⟩

theorem sleepValue (w : Bool) :
    SleepParams.value { wakeup_rtc := false, reset := false, warm_start := w } = some (if w then 4 else 0) := by
  cases w <;> decide

theorem opSetSleep : op .SetSleep = 0x84 := by decide

theorem setSleep_spec (warm : Bool) (t : ChipTrack) (hc : Clean t) (ha : Aw t) :
    wp .sx126x n (setSleep warm) (fun _ t' => Clean t' ∧ (warm = true → t.items.le t'.items)) (fun a t' => Ext t t' ∧ a.infra) t := by
  unfold setSleep
  simp only [sleepValue, ofOpt, Prog.pure_bind]
  show wp .sx126x n (Prog.bind _ _) _ _ t
  rw [wp_bind, wp_req_plain _ _ .rfOff]
  refine ⟨⟨Ext.refl hc, rfl⟩, ?_⟩
  show wp .sx126x n (Prog.bind _ _) _ _ t
  rw [wp_bind, wp_intfWriteSleep]
  refine ⟨⟨Ext.refl hc, rfl⟩, ?_⟩
  rw [wp_delay]
  show Clean (step126 n t _) ∧ (warm = true → t.items.le (step126 n t _).items)
  rw [step126_aw ha, opSetSleep]
  obtain ⟨c1, c2⟩ := hc
  cases warm <;> simp +decide [apply126, decode126, Clean, c1, c2, Items.le_refl]

theorem reset_spec (t : ChipTrack) (hc : Clean t) :
    wp .sx126x n reset (fun _ t' => Clean t') (fun a t' => Clean t' ∧ a.infra) t := by
  unfold reset
  rw [wp_reset]
  exact ⟨⟨hc, rfl⟩, hc⟩

theorem cfg_doTx : CfgN .sx126x n n.tx doTx {} :=
  CfgN.seq (cfg_plain .rfTx) fun _ => cfg_start126 .tx _ _

theorem cfg_doCad (cfg : Config) (m : ModulationParams) : CfgN .sx126x n n.cad (doCad cfg m) {} := by
  unfold doCad
  refine CfgN.seq (cfg_plain .rfRx) fun _ => CfgN.seq (cfg_regW8 _ _) fun _ =>
    CfgN.seq (cfg_errUnavailable _ rfl _) fun sf => ?_
  split
  · exact (Cfg.panic _ _).toN _
  · exact CfgN.seq (cfg_write126 _ _) fun _ => cfg_start126 .cad _ _

theorem opSetRxDutyCycle : op .SetRxDutyCycle = 0x94 := by decide

theorem doRx_spec (cfg : Config) (m : RxMode) (t : ChipTrack) (hc : Clean t) (ha : Aw t) (hi : n.rx.le t.items) :
    wp .sx126x n (doRx cfg m) (fun _ t' => RxPost m t t') (fun a t' => RxPost m t t' ∧ a.infra) t := by
  have ofExt (t' : ChipTrack) (e : Ext t t') : RxPost m t t' := .of_ext e ha
  unfold doRx
  have he (a : Abort) (t' : ChipTrack) (e : Ext t t') (h : a.infra) := And.intro (ofExt t' e) h
  refine wp_cfg_bind (cfg_plain .rfRx) (Ext.refl hc) ha he fun _ t1 e1 => ?_
  refine wp_cfg_bind (cfg_write126 _ _) e1 ha he fun _ t2 e2 => ?_
  refine wp_cfg_bind (cfg_setLoraSymbolNumTimeout _) e2 ha he fun _ t3 e3 => ?_
  refine wp_cfg_bind (cfg_regW8 _ _) e3 ha he fun _ t4 e04 => ?_
  have a4 := e04.aw ha
  have hi4 : n.rx.le t4.items := e04.le hi
  cases m with
  | single _ | continuous =>
    exact wp_mono _ _ _ ((cfg_start126 .rx _ _).spec t4 e04.clean a4 hi4) (fun _ _ h => ofExt _ (e04.trans h))
      (fun _ _ h => ⟨ofExt _ (e04.trans h.1), h.2⟩)
  | dutyCycle rx sl =>
    -- the one start after which the chip may be asleep: not `Ext`, but the driver's mode says so (`Link`)
    simp only
    rw [wp_intfWrite]
    have hs : spiStep .sx126x n t4 [op .SetRxDutyCycle, timeout1 rx, timeout2 rx, timeout3 rx, timeout1 sl, timeout2 sl,
        timeout3 sl] = start t4 .rxDuty n.rx := by
      rw [spiStep126, step126_aw a4, opSetRxDutyCycle]
      simp +decide [apply126, decode126]
    rw [hs]
    have cov := (Items.covers_iff t4.items n.rx).2 hi4
    have post : RxPost (.dutyCycle rx sl) t (start t4 .rxDuty n.rx) := by
      refine ⟨⟨e04.clean.1, by simp [start, e04.clean.2, cov]⟩, e04.items, ?_, ?_⟩
      · intro h; simp [start] at h
      · intro _; exact Or.inr rfl
    exact ⟨⟨ofExt _ e04, rfl⟩, ⟨post, rfl⟩, post⟩


/-! ### interrupt servicing and packet read-out: the tracker stays where it is -/

theorem step126_ro (t : ChipTrack) (h : t.mode ≠ .sleep) (o : UInt8) (args : Bytes)
    (hs : isIrqService126 o = true := by decide) (hd : decode126 o = .other := by decide)
    (hw : (o == 0xC0) = false := by decide) :
    spiStep .sx126x n t (o :: args) = t := by
  rw [spiStep126]
  cases hm : t.mode <;> simp_all [step126, pre126, apply126]

/-- a register write (not the sync word) reaching an awake chip -/
theorem step126_regw (t : ChipTrack) (ha : Aw t) (a1 : UInt8) (rest : Bytes) (h : a1 ≠ 0x07) :
    spiStep .sx126x n t (op .WriteRegister :: a1 :: rest) = t := by
  rw [spiStep126, step126_aw ha]
  have : decode126 (op .WriteRegister) = .writeRegister := by decide
  simp only [apply126, this]
  split
  · rename_i heq; simp at heq; exact absurd heq.1 h
  · rfl

theorem step126_regr (t : ChipTrack) (h : t.mode ≠ .sleep) (args : Bytes) :
    spiStep .sx126x n t (op .ReadRegister :: args) = t :=
  step126_ro t h _ _

section
variable {A : Abort → Prop} (hA : ∀ a, a.infra → A a)
include hA

theorem ro_regR8 (r : Register) (t : ChipTrack) (h : t.mode ≠ .sleep) : RO .sx126x n A (regR8 r) t := by
  unfold regR8
  simp only [addr1_ret, Prog.ret_bind]
  exact RO.bind (RO.read (step126_regr t h _) (hA _ rfl) (hA _ rfl)) fun _ => RO.pure _ _

theorem ro_regW8 (r : Register) (v : UInt8) (t : ChipTrack) (ha : Aw t) (h : byte (Register.toInt r / 256) ≠ 0x07) :
    RO .sx126x n A (regW8 r v) t := by
  unfold regW8
  simp only [addr1_ret, Prog.ret_bind]
  exact RO.write (step126_regw t ha _ _ h) (hA _ rfl) (hA _ rfl)

theorem ro_handleImplicitHeaderMode (t : ChipTrack) (ha : Aw t) : RO .sx126x n A handleImplicitHeaderMode t := by
  unfold handleImplicitHeaderMode
  refine RO.bind (ro_regW8 hA _ _ t ha (by decide)) fun _ => ?_
  refine RO.bind (ro_regR8 hA _ t ha.1) fun _ => ?_
  exact ro_regW8 hA _ _ t ha (by decide)

theorem ro_getRxPayload (p : PacketParams) (b : Bytes) (t : ChipTrack) (h : t.mode ≠ .sleep) :
    RO .sx126x n A (getRxPayload p b) t := by
  unfold getRxPayload
  dsimp only
  refine RO.bind (RO.readStatus (step126_ro t h _ _) (hA _ rfl) (hA _ rfl)) fun x => ?_
  have rd : ∀ k, RO .sx126x n A (do
      let data ← intfRead [op OpCode.ReadBuffer, UInt8.ofNat (byteAt x.snd 1), 0] k
      pure (k, data ++ List.drop k b)) t := fun k =>
    RO.bind (RO.read (step126_ro t h _ _) (hA _ rfl) (hA _ rfl)) fun _ => RO.pure _ _
  split
  · exact RO.fail _ _ (hA _ rfl)
  · split
    · refine RO.bind (RO.bind (ro_regR8 hA _ t h) fun _ => RO.pure _ _) fun k => ?_
      split
      · exact RO.fail _ _ (hA _ rfl)
      · exact rd _
    · refine RO.bind (RO.pure _ _) fun k => ?_
      split
      · exact RO.fail _ _ (hA _ rfl)
      · exact rd _

theorem ro_getRxPacketStatus (t : ChipTrack) (h : t.mode ≠ .sleep) :
    RO .sx126x n A (do let _ ← getRxPacketStatus; pure ()) t := by
  unfold getRxPacketStatus
  dsimp only
  refine RO.bind (RO.bind (RO.readStatus (step126_ro t h _ _) (hA _ rfl) (hA _ rfl)) fun x => ?_)
    fun _ => RO.pure _ _
  repeat' split
  all_goals first
    | exact RO.fail _ _ (hA _ rfl)
    | exact RO.panic _ _ (hA _ rfl)
    | exact RO.pure _ _

end

theorem decideIrq_noio (m : RadioMode) (c : Option Bool) (flags : Nat) :
    (∃ v, decideIrq m c flags = .ret v) ∨ (∃ e, decideIrq m c flags = .fail e) ∨ (∃ s, decideIrq m c flags = .panic s) := by
  unfold decideIrq
  cases m <;> simp only [] <;> (repeat' split) <;> simp [pure]

theorem ro_processIrqEvent (m : RadioMode) (c : Option Bool) (cl : Bool) (t : ChipTrack)
    (h : t.mode ≠ .sleep) (hd : t.mode = .rxDuty → m.isSingle = false) :
    RO .sx126x n (fun _ => True) (processIrqEvent m c cl) t := by
  have hA : ∀ a : Abort, a.infra → (fun _ : Abort => True) a := fun _ _ => trivial
  unfold processIrqEvent
  dsimp only
  refine RO.bind ?_ fun st => RO.ite_seq (RO.write (step126_ro t h _ _) trivial trivial) ?_
  · unfold getIrqStateE
    refine RO.bind (RO.readStatusE (step126_ro t h _ _)) fun r => ?_
    cases r with
    | error e => exact RO.pure _ _
    | ok v => exact RO.attempt_noio _ (decideIrq_noio _ _ _) trivial
  · split
    · -- RxDone of a single reception: the chip cannot be duty-cycling
      have aw : Aw t := ⟨h, fun hx => by simpa [RadioMode.isSingle] using hd hx⟩
      exact RO.bind (ro_handleImplicitHeaderMode hA t aw) fun _ => RO.pure _ _
    · cases st
      · exact RO.fail _ _ trivial
      · exact RO.pure _ _

theorem opsSpec (cfg : Config) : OpsSpec .sx126x cfg.useDcdc cfg.tcxo.isSome {} Aw (sx126xOps cfg) where
  rdy_of_aw := fun _ h => h
  sb_le := Items.none_le _
  reset := reset_spec
  ensureReady := ensureReady_spec
  setStandby := setStandby_spec
  setSleep := setSleep_spec
  initLora := fun _ sw => (cfg_initLora cfg sw).weaken (by cases cfg.useDcdc <;> cases cfg.tcxo <;> simp only [Option.isSome] <;> decide)
  setTxPower := fun p _ b => cfg_setTxPowerAndRampTime cfg p _ b
  setIrqParams := cfg_setIrqParams
  setModulationParams := fun _ m => cfg_setModulationParams m
  setPacketParams := cfg_setPacketParams
  calibrateImage := cfg_calibrateImage
  setChannel := cfg_setChannel
  setPayload := cfg_setPayload
  setLoraSyncWord := fun w => (cfg_setLoraSyncWord w).zero
  doTx := cfg_doTx.spec
  doRx := fun m t hc ha _ hi => doRx_spec cfg m t hc ha hi
  doCad := fun m => (cfg_doCad cfg m).spec
  awaitIrq := fun t => RO.awaitIrq t rfl rfl
  processIrqEvent := fun m c cl t _ h hd =>
    (ro_processIrqEvent m c cl t h hd).spec
  getRxPayload := fun p b t _ h => ro_getRxPayload (fun _ ha => ha) p b t h
  getRxPacketStatus := fun t _ h => ro_getRxPacketStatus (fun _ ha => ha) t h

end Sx126x
end Model.Phy
