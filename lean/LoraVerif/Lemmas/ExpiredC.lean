import LoraVerif.Lemmas.CycleC
/-!
# `SessionExpired` inside a receive procedure is never swallowed (reference level)

The reference procedure of `Lemmas/CycleC.lean` answers `SessionExpired` for a frame handled inside
the procedure exactly when the uplink counter stands at `2^32 − 1`, and from there the counter no longer
moves.  Hence: if ANY frame handled during `send` + receive procedure (on the RXC parameters before
RX1 / before RX2, or in a window) was answered `SessionExpired`, or the uplink itself went out with the
last counter, the procedure as a whole reports `SessionExpired` (`refUplink_expired`).  Through
`stepC_uplinkC_joined` this is a statement about the model (`Props/C06.lean: stepC_expired_reported`).
-/
namespace Model

/-- "the counter space was exhausted at or before this point": the stretch started at the last
counter, or one of its reports is `SessionExpired` -/
def ExpIn (fu : Nat) (heard : List RxOut) : Prop := fu = 0xFFFFFFFF ∨ ∃ o ∈ heard, o.resp = .sessionExpired

theorem ExpIn.nil {fu : Nat} (h : ExpIn fu []) : fu = 0xFFFFFFFF :=
  h.elim id fun ⟨_, ho, _⟩ => nomatch ho

theorem ExpIn.single {fu : Nat} {o : RxOut} (h : ExpIn fu [o]) : fu = 0xFFFFFFFF ∨ o.resp = .sessionExpired :=
  h.imp id fun ⟨_, ho, he⟩ => List.mem_singleton.mp ho ▸ he

/-- exhaustion carries over from one stretch of reports to the next, given that it shows in the
counter `fu'` the first stretch ends with -/
theorem ExpIn.append {fu fu' : Nat} {h1 h2 : List RxOut} (h : ExpIn fu (h1 ++ h2)) (k : ExpIn fu h1 → fu' = 0xFFFFFFFF) :
    ExpIn fu' h2 := by
  rcases h with h | ⟨o, ho, he⟩
  · exact .inl (k (.inl h))
  · rcases List.mem_append.mp ho with ho | ho
    · exact .inl (k (.inr ⟨o, ho, he⟩))
    · exact .inr ⟨o, ho, he⟩

theorem refRxcs_exp (mpc : Nat) (cs : List (RxView × Int)) :
    ∀ p : PSt, ExpIn p.fu (refRxcs p mpc cs).heard → (refRxcs p mpc cs).st.fu = 0xFFFFFFFF := by
  induction cs with
  | nil => exact fun p h => h.nil
  | cons c rest ih =>
    intro p h
    obtain ⟨v, snr⟩ := c
    unfold refRxcs at h ⊢
    cases hs : specRxc p.last v mpc with
    | none =>
      simp only [hs] at h ⊢
      exact ih p (ExpIn.append (h1 := [noUp]) h fun h1 => h1.single.elim id nofun)
    | some q =>
      simp only [hs] at h ⊢
      exact ih _ (ExpIn.append (h1 := [accOut p.fu q.1 q.2]) h fun h1 => bumpFu_max (h1.single.elim id accOut_exp.1))

theorem refWin_exp (cc : Bool) (p : PSt) (conf : Bool) (mpc : Nat) (cs : List (RxView × Int)) (f : Option (RxView × Int))
    (mp : Nat) (eb ea : Bool) (h : ExpIn p.fu (refWin cc p conf mpc cs f mp eb ea).heard) :
    (refWin cc p conf mpc cs f mp eb ea).st.fu = 0xFFFFFFFF ∧
      ∀ o, (refWin cc p conf mpc cs f mp eb ea).res = some (some o) → o.resp = .sessionExpired := by
  unfold refWin at h ⊢
  have hb : ExpIn p.fu (if cc then refRxcs p mpc cs else ⟨[], [], p⟩ : Ref).heard →
      (if cc then refRxcs p mpc cs else ⟨[], [], p⟩ : Ref).st.fu = 0xFFFFFFFF := by
    cases cc
    · exact ExpIn.nil
    · exact refRxcs_exp mpc cs p
  generalize (if cc then refRxcs p mpc cs else ⟨[], [], p⟩ : Ref) = b at h hb ⊢
  -- a served window that reports `o`, `SessionExpired` exactly at the last counter
  have served : ∀ o : RxOut, (o.resp = .sessionExpired ↔ b.st.fu = 0xFFFFFFFF) → ExpIn p.fu (b.heard ++ [o]) →
      bumpFu b.st.fu = 0xFFFFFFFF ∧ ∀ o', (if ea then none else some (some o)) = some (some o') → o'.resp = .sessionExpired := by
    intro o ho h
    have hx := (h.append hb).single.elim id ho.mp
    refine ⟨bumpFu_max hx, fun o' e => ?_⟩
    cases ea
    · cases e; exact ho.mpr hx
    · cases e
  simp only [] at h ⊢
  cases eb with
  | true => exact ⟨hb h, nofun⟩
  | false =>
    simp only [Bool.false_eq_true, if_false] at h ⊢
    cases hsw : specWindow b.st.last f mp with
    | nothing =>
      rw [hsw] at h
      exact ⟨hb h, fun o e => by cases ea <;> cases e⟩
    | ended =>
      rw [hsw] at h
      exact served _ tmoResp_exp h
    | accepted N d snr =>
      rw [hsw] at h
      exact served _ accOut_exp h

theorem refCycle_exp (cc : Bool) (p : PSt) (conf : Bool) (mpc : Nat) (fault : Option FaultPos) (c1 : List (RxView × Int))
    (rx1 : Option (RxView × Int)) (c2 : List (RxView × Int)) (rx2 : Option (RxView × Int)) (mp1 mp2 : Nat)
    (h : ExpIn p.fu (refCycle cc p conf mpc fault c1 rx1 c2 rx2 mp1 mp2).heard) :
    (refCycle cc p conf mpc fault c1 rx1 c2 rx2 mp1 mp2).st.fu = 0xFFFFFFFF ∧
      ∀ o, (refCycle cc p conf mpc fault c1 rx1 c2 rx2 mp1 mp2).fin = .resp o → o.resp = .sessionExpired := by
  unfold refCycle at h ⊢
  by_cases htx : fault = some .tx
  · simp only [htx, if_true] at h ⊢
    exact ⟨h.nil, nofun⟩
  · simp only [htx, if_false] at h ⊢
    have h1 := refWin_exp cc p conf mpc c1 rx1 mp1 (fault == some .before1) (fault == some .close1)
    generalize refWin cc p conf mpc c1 rx1 mp1 (fault == some .before1) (fault == some .close1) = w1 at h h1 ⊢
    match hr1 : w1.res with
    | none => simp only [hr1] at h ⊢; exact ⟨(h1 h).1, nofun⟩
    | some (some o) =>
      simp only [hr1] at h ⊢
      exact ⟨(h1 h).1, fun o' e => by cases e; exact (h1 h).2 o hr1⟩
    | some none =>
      simp only [hr1] at h ⊢
      have h2 := refWin_exp cc w1.st conf mpc c2 rx2 mp2 (fault == some .before2) (fault == some .close2)
      generalize refWin cc w1.st conf mpc c2 rx2 mp2 (fault == some .before2) (fault == some .close2) = w2 at h h2 ⊢
      -- exhaustion before or during the first stretch carries over to the second
      match hr2 : w2.res with
      | none | some none => simp only [hr2] at h ⊢; exact ⟨(h2 (h.append fun h => (h1 h).1)).1, nofun⟩
      | some (some o) =>
        simp only [hr2] at h ⊢
        have hx := h2 (h.append fun h => (h1 h).1)
        exact ⟨hx.1, fun o' e => by cases e; exact hx.2 o hr2⟩

/-- **the reference never swallows an expiry**: if the uplink went out with the last counter, or any
frame handled during the procedure was answered `SessionExpired`, the procedure reports
`SessionExpired` -/
theorem refUplink_expired (cc : Bool) (p : PSt) (conf : Bool) (mpc : Nat) (fault : Option FaultPos) (c1 : List (RxView × Int))
    (rx1 : Option (RxView × Int)) (c2 : List (RxView × Int)) (rx2 : Option (RxView × Int)) (mp1 mp2 : Nat)
    (h : ExpIn p.fu (refUplink cc p conf mpc fault c1 rx1 c2 rx2 mp1 mp2).heard) :
    (refUplink cc p conf mpc fault c1 rx1 c2 rx2 mp1 mp2).resp = some .sessionExpired := by
  unfold refUplink at h ⊢
  have hc := refCycle_exp cc p conf mpc fault c1 rx1 c2 rx2 mp1 mp2
  generalize refCycle cc p conf mpc fault c1 rx1 c2 rx2 mp1 mp2 = c at h hc ⊢
  simp only [] at h ⊢
  cases hf : c.fin with
  | resp o =>
    simp only [hf] at h ⊢
    rw [(hc h).2 o hf]
  | complete =>
    simp only [hf] at h ⊢
    rw [tmoResp_exp.2 (hc h).1]
  | cut =>
    simp only [hf] at h ⊢
    rw [if_pos (hc h).1]

end Model
