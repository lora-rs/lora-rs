import LoraVerif.Model.HistoryC
import LoraVerif.Lemmas.Trace
/-!
# Extended histories as chains of steps; ghost-driven trace predicates over them

`Lemmas/Trace.lean` for `Model/HistoryC.lean`.  One more ingredient: the frames a Class C device
hears *inside* the receive procedure are judged against the payload limit of the RXC configuration
(`get_rxc_config().max_payload_len`), which the code computes from the MAC state, not from the event.
The reference needs that one number.  A trace therefore lists ANNOTATED events `EvL = Nat × EvC`: the
event together with the RXC payload limit `rxcMp` of the state the event starts in (`limitsC`
computes the annotation along a run; within one event the limit cannot change before the procedure
has ended — `winC_none_params`, used where `cycleC_joined` passes from the first window to the second).

`ChainC`, `runC_chain`, `chainC_traceD`, `chainC_traceR` are what `Chain`, `run_chain`, `chain_traceD`,
`chain_traceR` are there; the trace predicates `TraceDG` / `TraceRG` are generic in the event and output types, and
`TraceD` / `ghostAfter` of `Lemmas/Trace.lean` are their instances (`traceD_eq_traceDG`), so that `traceD_at` is
`traceDG_at`.
-/
namespace Model

/-- the payload limit of the RXC configuration of a state (`get_rxc_config().max_payload_len`) -/
def rxcMp (m : MacState) : Nat :=
  match macRxcConfig m with
  | .ok rf => rf.maxPayload.toNat
  | .error _ => 0

abbrev EvL := Nat × EvC

def limitsC {σ} (g : Rng σ) : MacState × σ → List EvC → List Nat
  | _, [] => []
  | ms, ev :: rest =>
    rxcMp ms.1 :: (match stepC g ms ev with
      | .ok (ms1, _) => limitsC g ms1 rest
      -- after a failing step the annotation is padding: only its length is read (`limitsC_length`)
      | .error _ => rest.map (fun _ => 0))

theorem limitsC_length {σ} (g : Rng σ) (ms : MacState × σ) (evs : List EvC) : (limitsC g ms evs).length = evs.length := by
  induction evs generalizing ms with
  | nil => rfl
  | cons ev rest ih =>
    simp only [limitsC, List.length_cons]
    cases stepC g ms ev with
    | error e => simp
    | ok r => simp [ih r.1]

def annotC {σ} (g : Rng σ) (ms : MacState × σ) (evs : List EvC) : List EvL := (limitsC g ms evs).zip evs

theorem annotC_length {σ} (g : Rng σ) (ms : MacState × σ) (evs : List EvC) : (annotC g ms evs).length = evs.length := by
  simp [annotC, limitsC_length]

theorem annotC_map_snd {σ} (g : Rng σ) (ms : MacState × σ) (evs : List EvC) : (annotC g ms evs).map (·.2) = evs := by
  unfold annotC
  rw [List.map_snd_zip]
  rw [limitsC_length]; exact Nat.le_refl _

theorem annotC_cons {σ} (g : Rng σ) (ms ms1 : MacState × σ) (ev : EvC) (rest : List EvC) (o : OutC)
    (hstep : stepC g ms ev = .ok (ms1, o)) : annotC g ms (ev :: rest) = (rxcMp ms.1, ev) :: annotC g ms1 rest := by
  simp only [annotC, limitsC, hstep, List.zip_cons_cons]

theorem mem_annot_zip {σ} (g : Rng σ) (ms : MacState × σ) (evs : List EvC) (outs : List OutC) (x : EvL × OutC)
    (hx : x ∈ (annotC g ms evs).zip outs) : x.1.2 ∈ evs := by
  have h1 := (List.of_mem_zip hx).1
  unfold annotC at h1
  exact (List.of_mem_zip h1).2

/-- `t` is the annotated trace of a run of the extended history model from `ms` to `ms'` -/
def ChainC {σ} (g : Rng σ) : MacState × σ → List (EvL × OutC) → MacState × σ → Prop
  | ms, [], ms' => ms' = ms
  | ms, (e, out) :: rest, ms' => e.1 = rxcMp ms.1 ∧ ∃ ms1, stepC g ms e.2 = .ok (ms1, out) ∧ ChainC g ms1 rest ms'

theorem runC_nil_iff {σ} {g : Rng σ} {ms ms' : MacState × σ} {outs : List OutC} :
    runC g ms [] = .ok (ms', outs) ↔ ms' = ms ∧ outs = [] := by
  simp only [runC, pure, Except.pure, Except.ok.injEq, Prod.mk.injEq, eq_comm]

theorem runC_cons_iff {σ} {g : Rng σ} {ms ms' : MacState × σ} {ev : EvC} {evs : List EvC} {outs : List OutC} :
    runC g ms (ev :: evs) = .ok (ms', outs) ↔
      ∃ ms1 o os, stepC g ms ev = .ok (ms1, o) ∧ runC g ms1 evs = .ok (ms', os) ∧ outs = o :: os := by
  constructor
  · intro h
    obtain ⟨⟨ms1, o⟩, hstep, h⟩ := Except.bind_eq_ok h
    obtain ⟨⟨ms2, os⟩, hrest, h⟩ := Except.bind_eq_ok h
    cases Except.pure_eq_ok h
    exact ⟨ms1, o, os, hstep, hrest, rfl⟩
  · rintro ⟨ms1, o, os, hstep, hrest, rfl⟩
    simp only [runC, hstep, hrest, bind, Except.bind, pure, Except.pure]

theorem runC_outs_length {σ} (g : Rng σ) (ms ms' : MacState × σ) (evs : List EvC) (outs : List OutC)
    (h : runC g ms evs = .ok (ms', outs)) : outs.length = evs.length := by
  induction evs generalizing ms outs with
  | nil => rw [(runC_nil_iff.mp h).2]; rfl
  | cons ev rest ih =>
    obtain ⟨ms1, o, os, _, hrun, rfl⟩ := runC_cons_iff.mp h
    simp [ih ms1 os hrun]

theorem runC_chain {σ} (g : Rng σ) (ms ms' : MacState × σ) (evs : List EvC) (outs : List OutC)
    (h : runC g ms evs = .ok (ms', outs)) : ChainC g ms ((annotC g ms evs).zip outs) ms' := by
  induction evs generalizing ms outs with
  | nil => exact (runC_nil_iff.mp h).1
  | cons ev rest ih =>
    obtain ⟨ms1, o, os, hstep, hrun, rfl⟩ := runC_cons_iff.mp h
    rw [annotC_cons g ms ms1 ev rest o hstep, List.zip_cons_cons]
    exact ⟨rfl, ms1, hstep, ih ms1 os hrun⟩

theorem chainC_append {σ} (g : Rng σ) (ms ms' : MacState × σ) (a b : List (EvL × OutC)) :
    ChainC g ms (a ++ b) ms' ↔ ∃ msi, ChainC g ms a msi ∧ ChainC g msi b ms' := by
  induction a generalizing ms with
  | nil => exact ⟨fun h => ⟨ms, rfl, h⟩, fun ⟨_, h1, h2⟩ => h1 ▸ h2⟩
  | cons x rest ih =>
    simp only [List.cons_append, ChainC, ih]
    exact ⟨fun ⟨hl, ms1, hs, msi, h1, h2⟩ => ⟨msi, ⟨hl, ms1, hs, h1⟩, h2⟩,
      fun ⟨msi, ⟨hl, ms1, hs, h1⟩, h2⟩ => ⟨hl, ms1, hs, msi, h1, h2⟩⟩

theorem chainC_at {σ} (g : Rng σ) (ms ms' : MacState × σ) (t : List (EvL × OutC)) (i : Nat) (ev : EvL) (out : OutC)
    (h : ChainC g ms t ms') (hi : t[i]? = some (ev, out)) :
    ∃ msi msi', ChainC g ms (t.take i) msi ∧ ev.1 = rxcMp msi.1 ∧ stepC g msi ev.2 = .ok (msi', out) ∧
      ChainC g msi' (t.drop (i + 1)) ms' := by
  rw [← List.take_append_drop i t, chainC_append, List.drop_of_getElem? hi] at h
  obtain ⟨msi, h1, hl, msi', hstep, h3⟩ := h
  exact ⟨msi, msi', h1, hl, hstep, h3⟩

def TraceDG {G E O} (next : G → E → O → G) (P : G → E → O → Prop) : G → List (E × O) → Prop
  | _, [] => True
  | gh, (ev, out) :: rest => P gh ev out ∧ TraceDG next P (next gh ev out) rest

def ghostAfterG {G E O} (next : G → E → O → G) : G → List (E × O) → G
  | gh, [] => gh
  | gh, (ev, out) :: rest => ghostAfterG next (next gh ev out) rest

def TraceRG {G E O} (P : G → E → O → G → Prop) : G → List (E × O) → Prop
  | _, [] => True
  | gh, (ev, out) :: rest => ∃ gh', P gh ev out gh' ∧ TraceRG P gh' rest

theorem chainC_traceD {σ G} (g : Rng σ) (next : G → EvL → OutC → G) (P : G → EvL → OutC → Prop)
    (Rel : MacState → G → Prop) (V : EvC → Prop)
    (hstep : ∀ m s ev m' s' out gh, Rel m gh → V ev → stepC g (m, s) ev = .ok ((m', s'), out) →
      P gh (rxcMp m, ev) out ∧ Rel m' (next gh (rxcMp m, ev) out))
    (ms ms' : MacState × σ) (t : List (EvL × OutC)) (gh : G) (hr : Rel ms.1 gh) (hv : ∀ x ∈ t, V x.1.2)
    (h : ChainC g ms t ms') : TraceDG next P gh t ∧ Rel ms'.1 (ghostAfterG next gh t) := by
  induction t generalizing ms gh with
  | nil => simp only [ChainC] at h; subst h; exact ⟨trivial, hr⟩
  | cons x rest ih =>
    obtain ⟨⟨mpc, ev⟩, out⟩ := x
    simp only [ChainC] at h
    obtain ⟨hl, ⟨m1, s1⟩, hs, hrest⟩ := h
    subst hl
    obtain ⟨hp, hr1⟩ := hstep ms.1 ms.2 ev m1 s1 out gh hr (hv _ List.mem_cons_self) hs
    obtain ⟨ht, hr2⟩ := ih (m1, s1) _ hr1 (fun x hx => hv x (List.mem_cons_of_mem _ hx)) hrest
    exact ⟨⟨hp, ht⟩, hr2⟩

theorem chainC_traceR {σ G} (g : Rng σ) (P : G → EvL → OutC → G → Prop)
    (Rel : MacState → G → Prop) (V : EvC → Prop)
    (hstep : ∀ m s ev m' s' out gh, Rel m gh → V ev → stepC g (m, s) ev = .ok ((m', s'), out) →
      ∃ gh', P gh (rxcMp m, ev) out gh' ∧ Rel m' gh')
    (ms ms' : MacState × σ) (t : List (EvL × OutC)) (gh : G) (hr : Rel ms.1 gh) (hv : ∀ x ∈ t, V x.1.2)
    (h : ChainC g ms t ms') : TraceRG P gh t := by
  induction t generalizing ms gh with
  | nil => trivial
  | cons x rest ih =>
    obtain ⟨⟨mpc, ev⟩, out⟩ := x
    simp only [ChainC] at h
    obtain ⟨hl, ⟨m1, s1⟩, hs, hrest⟩ := h
    subst hl
    obtain ⟨gh', hp, hr1⟩ := hstep ms.1 ms.2 ev m1 s1 out gh hr (hv _ List.mem_cons_self) hs
    exact ⟨gh', hp, ih (m1, s1) gh' hr1 (fun x hx => hv x (List.mem_cons_of_mem _ hx)) hrest⟩

theorem traceDG_at {G E O} (next : G → E → O → G) (P : G → E → O → Prop) (gh : G) (t : List (E × O)) (i : Nat)
    (ev : E) (out : O) (h : TraceDG next P gh t) (hi : t[i]? = some (ev, out)) :
    P (ghostAfterG next gh (t.take i)) ev out := by
  induction t generalizing gh i with
  | nil => simp at hi
  | cons x rest ih =>
    obtain ⟨e0, o0⟩ := x
    cases i with
    | zero =>
      simp only [List.getElem?_cons_zero, Option.some.injEq, Prod.mk.injEq] at hi
      obtain ⟨rfl, rfl⟩ := hi
      exact h.1
    | succ i =>
      simp only [List.getElem?_cons_succ] at hi
      simp only [List.take_succ_cons, ghostAfterG]
      exact ih (next gh e0 o0) i h.2 hi

theorem ghostAfterG_append {G E O} (next : G → E → O → G) (gh : G) (a b : List (E × O)) :
    ghostAfterG next gh (a ++ b) = ghostAfterG next (ghostAfterG next gh a) b := by
  induction a generalizing gh with
  | nil => rfl
  | cons x rest ih => obtain ⟨e, o⟩ := x; simp only [List.cons_append, ghostAfterG]; exact ih _

theorem traceDG_append {G E O} {next : G → E → O → G} {P : G → E → O → Prop} {gh : G} {a b : List (E × O)} :
    TraceDG next P gh (a ++ b) ↔ TraceDG next P gh a ∧ TraceDG next P (ghostAfterG next gh a) b := by
  induction a generalizing gh with
  | nil => simp [TraceDG, ghostAfterG]
  | cons x rest ih => obtain ⟨e, o⟩ := x; simp only [List.cons_append, TraceDG, ghostAfterG, ih, and_assoc]

theorem traceD_eq_traceDG {G} (next : G → Ev → Out → G) (P : G → Ev → Out → Prop) (gh : G) (t : List (Ev × Out)) :
    TraceD next P gh t = TraceDG next P gh t := by
  induction t generalizing gh with
  | nil => rfl
  | cons x rest ih => simp only [TraceD, TraceDG, ih]

theorem ghostAfter_eq_ghostAfterG {G} (next : G → Ev → Out → G) (gh : G) (t : List (Ev × Out)) :
    ghostAfter next gh t = ghostAfterG next gh t := by
  induction t generalizing gh with
  | nil => rfl
  | cons x rest ih => simp only [ghostAfter, ghostAfterG, ih]

theorem traceD_at {G} (next : G → Ev → Out → G) (P : G → Ev → Out → Prop) (gh : G) (t : List (Ev × Out)) (i : Nat)
    (ev : Ev) (out : Out) (h : TraceD next P gh t) (hi : t[i]? = some (ev, out)) :
    P (ghostAfter next gh (t.take i)) ev out := by
  rw [traceD_eq_traceDG] at h
  rw [ghostAfter_eq_ghostAfterG]
  exact traceDG_at next P gh t i ev out h hi

theorem traceD_drop {G} (next : G → Ev → Out → G) (P : G → Ev → Out → Prop) (gh : G) (t : List (Ev × Out)) (i : Nat)
    (h : TraceD next P gh t) : TraceD next P (ghostAfter next gh (t.take i)) (t.drop i) := by
  rw [traceD_eq_traceDG, ghostAfter_eq_ghostAfterG]
  exact (traceDG_append.mp (by rwa [List.take_append_drop, ← traceD_eq_traceDG])).2

theorem runC_append {σ} (g : Rng σ) (ms ms1 ms2 : MacState × σ) (a b : List EvC) (o1 o2 : List OutC)
    (h1 : runC g ms a = .ok (ms1, o1)) (h2 : runC g ms1 b = .ok (ms2, o2)) : runC g ms (a ++ b) = .ok (ms2, o1 ++ o2) := by
  induction a generalizing ms o1 with
  | nil => obtain ⟨rfl, rfl⟩ := runC_nil_iff.mp h1; exact h2
  | cons ev rest ih =>
    obtain ⟨msa, oc, ocs, hstep, hrun, rfl⟩ := runC_cons_iff.mp h1
    exact runC_cons_iff.mpr ⟨msa, oc, _, hstep, ih msa ocs hrun, rfl⟩

theorem runC_base {σ} (g : Rng σ) (ms ms' : MacState × σ) (evs : List Ev) (outs : List Out)
    (h : run g ms evs = .ok (ms', outs)) :
    runC g ms (evs.map .base) = .ok (ms', outs.map (fun o => ({ out := o } : OutC))) := by
  induction evs generalizing ms outs with
  | nil => obtain ⟨rfl, rfl⟩ := run_nil_iff.mp h; rfl
  | cons ev rest ih =>
    obtain ⟨msa, o, os, hstep, hrun, rfl⟩ := run_cons_iff.mp h
    exact runC_cons_iff.mpr ⟨msa, { out := o }, _, by rw [stepC, hstep]; rfl, ih msa os hrun, rfl⟩

end Model
