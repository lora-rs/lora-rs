/-
Runtime prelude for the GENERATED files (`LoraVerif/Gen/*.lean`).

Rust machine integers are modelled as `Int` together with an explicit type tag;
every arithmetic operation that panics in a debug build (overflow, division by
zero, shift amount out of range) is *checked* and yields `none`.  `as` casts never
panic in Rust: they wrap, which is `wrap`.  Import-free (core only) so that the
driver executable links.
-/
namespace Rt

inductive ITy where
  | u8 | u16 | u32 | u64 | usize | i8 | i16 | i32 | i64 | isize
  deriving DecidableEq, Repr

def ITy.bits : ITy → Nat
  | .u8 | .i8 => 8
  | .u16 | .i16 => 16
  | .u32 | .i32 => 32
  | .u64 | .i64 | .usize | .isize => 64

def ITy.signed : ITy → Bool
  | .i8 | .i16 | .i32 | .i64 | .isize => true
  | _ => false

def ITy.lo (t : ITy) : Int := if t.signed then -(2 ^ (t.bits - 1) : Int) else 0
def ITy.hi (t : ITy) : Int := if t.signed then (2 ^ (t.bits - 1) : Int) - 1 else (2 ^ t.bits : Int) - 1

/-- range check: the value of a Rust arithmetic expression of type `t`, or a panic. -/
def ck (t : ITy) (x : Int) : Option Int :=
  if t.lo ≤ x ∧ x ≤ t.hi then some x else none

/-- `as` cast: two's complement wrap into `t`. -/
def wrap (t : ITy) (x : Int) : Int :=
  let m : Int := (2 ^ t.bits : Int)
  let r := x % m
  if t.signed then (if r ≥ m / 2 then r - m else r) else r

/-- Rust `/` (truncating), checked. -/
def divC (t : ITy) (a b : Int) : Option Int :=
  if b = 0 then none else ck t (Int.tdiv a b)

/-- Rust `%` (sign of dividend), checked. -/
def remC (t : ITy) (a b : Int) : Option Int :=
  if b = 0 then none else ck t (Int.tmod a b)

/-- Rust `<<`: panics when the amount is ≥ the width; shifted-out bits are dropped. -/
def shlC (t : ITy) (a b : Int) : Option Int :=
  if 0 ≤ b ∧ b < t.bits then some (wrap t (a * (2 ^ b.toNat : Int))) else none

/-- Rust `>>` (arithmetic for signed, logical for unsigned = floor division). -/
def shrC (t : ITy) (a b : Int) : Option Int :=
  if 0 ≤ b ∧ b < t.bits then some (a / (2 ^ b.toNat : Int)) else none

/-- `pow` with overflow check. -/
def powC (t : ITy) (a b : Int) : Option Int :=
  if b < 0 then none else ck t (a ^ b.toNat)

/-- two's complement image in 128 bits (wide enough for every Rust integer type used) -/
def toTwos (a : Int) : Nat := (a % (2 ^ 128 : Int)).toNat
def ofTwos (n : Nat) : Int := if n ≥ 2 ^ 127 then (n : Int) - (2 ^ 128 : Int) else (n : Int)
def andI (a b : Int) : Int := if 0 ≤ a ∧ 0 ≤ b then ((a.toNat &&& b.toNat : Nat) : Int) else ofTwos (toTwos a &&& toTwos b)
def orI (a b : Int) : Int := if 0 ≤ a ∧ 0 ≤ b then ((a.toNat ||| b.toNat : Nat) : Int) else ofTwos (toTwos a ||| toTwos b)
def xorI (a b : Int) : Int := if 0 ≤ a ∧ 0 ≤ b then ((a.toNat ^^^ b.toNat : Nat) : Int) else ofTwos (toTwos a ^^^ toTwos b)
/-- bitwise not within type `t` -/
def notI (t : ITy) (a : Int) : Int := if t.signed then -a - 1 else t.hi - a

def satSub (t : ITy) (a b : Int) : Int := max t.lo (min t.hi (a - b))
def satAdd (t : ITy) (a b : Int) : Int := max t.lo (min t.hi (a + b))

def b2i (b : Bool) : Int := if b then 1 else 0

/-- slice / array indexing, checked -/
def idx {α} (l : List α) (i : Int) : Option α :=
  if i < 0 then none else l[i.toNat]?

theorem ck_eq_some {t : ITy} {x : Int} (h : t.lo ≤ x ∧ x ≤ t.hi) : ck t x = some x := by
  simp [ck, h]

theorem ck_eq_none {t : ITy} {x : Int} (h : ¬ (t.lo ≤ x ∧ x ≤ t.hi)) : ck t x = none := by
  simp [ck, h]

theorem ck_eq_some_iff {t : ITy} {x y : Int} : ck t x = some y ↔ (t.lo ≤ x ∧ x ≤ t.hi) ∧ x = y := by
  unfold ck; split <;> simp_all <;> omega

end Rt

/-! Compiled-code speed-ups: the bounds and moduli as literals instead of `2 ^ bits`
recomputed (as bignums for the 64-bit types) on every checked operation.  `@[csimp]` replaces the
definition in compiled code only, justified by the proved equation; proofs are unaffected. -/
namespace Rt

def ITy.loFast : ITy → Int
  | .u8 | .u16 | .u32 | .u64 | .usize => 0
  | .i8 => -128
  | .i16 => -32768
  | .i32 => -2147483648
  | .i64 | .isize => -9223372036854775808

def ITy.hiFast : ITy → Int
  | .u8 => 255
  | .u16 => 65535
  | .u32 => 4294967295
  | .u64 | .usize => 18446744073709551615
  | .i8 => 127
  | .i16 => 32767
  | .i32 => 2147483647
  | .i64 | .isize => 9223372036854775807

@[csimp] theorem ITy.lo_eq_loFast : @ITy.lo = @ITy.loFast := by
  funext t; cases t <;> decide

@[csimp] theorem ITy.hi_eq_hiFast : @ITy.hi = @ITy.hiFast := by
  funext t; cases t <;> decide

def ITy.modulus : ITy → Int
  | .u8 | .i8 => 256
  | .u16 | .i16 => 65536
  | .u32 | .i32 => 4294967296
  | _ => 18446744073709551616

def wrapFast (t : ITy) (x : Int) : Int :=
  let m := t.modulus
  let r := x % m
  if t.signed then (if r ≥ m / 2 then r - m else r) else r

@[csimp] theorem wrap_eq_wrapFast : @wrap = @wrapFast := by
  funext t x; cases t <;> simp [wrap, wrapFast, ITy.modulus, ITy.bits, ITy.signed]

end Rt

namespace Rt

def ckFast (t : ITy) (x : Int) : Option Int :=
  if t.loFast ≤ x ∧ x ≤ t.hiFast then some x else none

@[csimp] theorem ck_eq_ckFast : @ck = @ckFast := by
  funext t x; simp only [ck, ckFast, ITy.lo_eq_loFast, ITy.hi_eq_hiFast]

def divCFast (t : ITy) (a b : Int) : Option Int :=
  if b = 0 then none else ckFast t (Int.tdiv a b)

@[csimp] theorem divC_eq_divCFast : @divC = @divCFast := by
  funext t a b; simp only [divC, divCFast, ck_eq_ckFast]

def remCFast (t : ITy) (a b : Int) : Option Int :=
  if b = 0 then none else ckFast t (Int.tmod a b)

@[csimp] theorem remC_eq_remCFast : @remC = @remCFast := by
  funext t a b; simp only [remC, remCFast, ck_eq_ckFast]

def ITy.bitsInt : ITy → Int
  | .u8 | .i8 => 8
  | .u16 | .i16 => 16
  | .u32 | .i32 => 32
  | _ => 64

theorem ITy.bitsInt_eq (t : ITy) : t.bitsInt = (t.bits : Int) := by cases t <;> rfl

def shlCFast (t : ITy) (a b : Int) : Option Int :=
  if 0 ≤ b ∧ b < t.bitsInt then some (wrapFast t (a * ((1 <<< b.toNat : Nat) : Int))) else none

@[csimp] theorem shlC_eq_shlCFast : @shlC = @shlCFast := by
  funext t a b
  simp only [shlC, shlCFast, ITy.bitsInt_eq, wrap_eq_wrapFast, Nat.shiftLeft_eq, Nat.one_mul, Int.natCast_pow]
  rfl

def shrCFast (t : ITy) (a b : Int) : Option Int :=
  if 0 ≤ b ∧ b < t.bitsInt then some (a / ((1 <<< b.toNat : Nat) : Int)) else none

@[csimp] theorem shrC_eq_shrCFast : @shrC = @shrCFast := by
  funext t a b
  simp only [shrC, shrCFast, ITy.bitsInt_eq, Nat.shiftLeft_eq, Nat.one_mul, Int.natCast_pow]
  rfl

end Rt

/-! Unsigned `is_multiple_of` (std: `rhs == 0 → self == 0`, otherwise `self % rhs == 0`; never panics) -/
namespace Rt

def isMultipleOf (a b : Int) : Bool := if b = 0 then decide (a = 0) else decide (a % b = 0)

end Rt

/-! `heapless::Vec<T, CAP>` as a list with a capacity.  `push` returns `Err` (no panic) when
full; `extend_from_slice` returns `Err` and copies nothing when the slice does not fit. -/
namespace Rt

def hvPushOk {α} (cap : Int) (l : List α) : Bool := decide ((l.length : Int) < cap)
def hvPush {α} (cap : Int) (l : List α) (x : α) : List α := if (l.length : Int) < cap then l ++ [x] else l
/-- the `Result` of `extend_from_slice`: `none` = `Err`, so that `.unwrap()` is a checked step -/
def hvExtendOk {α} (cap : Int) (l s : List α) : Option Unit := if (l.length : Int) + (s.length : Int) ≤ cap then some () else none
def hvExtend {α} (cap : Int) (l s : List α) : List α := if (l.length : Int) + (s.length : Int) ≤ cap then l ++ s else l

end Rt

/-! Assignment through an index (`a[i] = v`: out of bounds is a panic) and
`(lo..=hi).all(|c| f(c))` with a body that may panic. -/
namespace Rt

def setIdx {α} (l : List α) (i : Int) (v : α) : Option (List α) :=
  if 0 ≤ i ∧ i.toNat < l.length then some (l.set i.toNat v) else none

/-- `(lo..=hi).all(f)`: evaluated left to right, stops at the first `false`; `none` = a panic inside `f` -/
def rangeAllM (lo hi : Int) (f : Int → Option Bool) : Option Bool := go (hi + 1 - lo).toNat lo
where
  go : Nat → Int → Option Bool
    | 0, _ => some true
    | n + 1, i =>
      match f i with
      | none => none
      | some true => go n (i + 1)
      | some false => some false

end Rt

/-! `for i in lo..hi { body }` over an integer range, the loop-carried variables threaded through the
body (`none` = a panic inside the body). -/
namespace Rt

def forRangeM {σ} (lo hi : Int) (f : Int → σ → Option σ) (s : σ) : Option σ := go (hi - lo).toNat lo s
where
  go : Nat → Int → σ → Option σ
    | 0, _, s => some s
    | n + 1, i, s =>
      match f i s with
      | none => none
      | some s' => go n (i + 1) s'

end Rt

/-! Range indexing of slices (`&l[a..b]`, `&l[a..]`, `&l[..b]`: an invalid range is a panic) and
`dst[a..b].copy_from_slice(src)` (panics unless the range is valid and the lengths agree). -/
namespace Rt

def slice {α} (l : List α) (a b : Int) : Option (List α) :=
  if 0 ≤ a ∧ a ≤ b ∧ b ≤ (l.length : Int) then some ((l.drop a.toNat).take (b.toNat - a.toNat)) else none

def sliceFrom {α} (l : List α) (a : Int) : Option (List α) :=
  if 0 ≤ a ∧ a ≤ (l.length : Int) then some (l.drop a.toNat) else none

def copyFromSlice {α} (dst : List α) (a b : Int) (src : List α) : Option (List α) :=
  if 0 ≤ a ∧ a ≤ b ∧ b ≤ (dst.length : Int) ∧ (src.length : Int) = b - a then
    some (dst.take a.toNat ++ src ++ dst.drop b.toNat)
  else none

end Rt

/-! Loops that redraw from a random generator run on a fuel (`none` once it is used up, as for a panic);
`(lo..hi).any(f)` with a body that may panic; `iter().rposition(p)`. -/
namespace Rt

/-- `loop` / `while`: `step` answers `Sum.inl s'` (go on with the loop-carried variables `s'`) or `Sum.inr b`
(leave the loop with `b`); at most `fuel` steps -/
def loopM {σ β} : Nat → (σ → Option (σ ⊕ β)) → σ → Option β
  | 0, _, _ => none
  | k + 1, step, s =>
    match step s with
    | none => none
    | some (Sum.inl s') => loopM k step s'
    | some (Sum.inr b) => some b

/-- `(lo..hi).any(f)`: evaluated left to right, stops at the first `true`; `none` = a panic inside `f` -/
def rangeAnyM (lo hi : Int) (f : Int → Option Bool) : Option Bool := go (hi - lo).toNat lo
where
  go : Nat → Int → Option Bool
    | 0, _ => some false
    | n + 1, i =>
      match f i with
      | none => none
      | some true => some true
      | some false => go n (i + 1)

/-- `iter().rposition(p)`: the index of the last element that satisfies `p` -/
def rposition {α} (p : α → Bool) (l : List α) : Option Int :=
  (((List.range l.length).filter (fun i => match l[i]? with | some a => p a | none => false)).getLast?).map Int.ofNat

end Rt
