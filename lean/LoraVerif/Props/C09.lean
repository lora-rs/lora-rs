import LoraVerif.Lemmas.StepWalk
import LoraVerif.Lemmas.Accept
import LoraVerif.Lemmas.Answers
import LoraVerif.Lemmas.CycleC
import LoraVerif.Lemmas.RefineOps
/-!
# C09 — every transmission uses an enabled in-band channel, a legal data rate and power

On the channel-plan model (`Model/Region.lean`, tables generated from the source):
* the retry loops return only what their accept test admits, for EVERY random stream and fuel: a join channel index, a
  channel that is defined AND enabled, an enabled channel of the bandwidth group asked for; they return at the first accepted
  draw, so selection terminates as soon as the stream offers one accepted value (`C09.dynJoinLoop_sound`,
  `dynDataLoop_sound`, `fixedMaskLoop_sound`, `dynDataLoop_first`: proved in `Lemmas/Selected.lean`) — and the accept set is
  non-empty (`select_accept_nonempty`);
* every defined channel of a dynamic plan lies in the region's band: `ChanInv` holds initially and is kept
  by NewChannelReq and the JoinAccept's CFList (`init_chanInv`, `newChannel_chanInv`, `joinAccept_chanInv`);
  `ChanInv` is the `inBand` clause of `dynWF` stated on its own for the property's text (`chanOk` = `Model.inBand`); the
  composed theorems below take that clause from `regionWF` (`legal_in_band`), which `handleNewChannel_tot`,
  `processJoinAccept_tot`, `channelDlUpdate_tot` preserve (DlChannelReq rewrites only a downlink frequency);
* conducted power never exceeds the radio's maximum, the regional EIRP less antenna gain, nor the
  commanded level (`txPowerFor_le`, `send_power_limit`).
Composed (on the MAC model, in every well-formed = every reachable state, `Lemmas/MacWF*.lean`; the power
statements assume a radio maximum `maxPower ≤ 127`, the range in which the `i8` the code computes in does not wrap):
`selectTxChannel_legal`, `send_legal`, `join_legal`, and over histories `history_tx_legal`, `historyC_tx_legal`,
`asyncC_tx_legal`; `select_accept_nonempty` for termination.  The bias of the join channels is only a preference:
a biased channel the mask disables is never used (`biasHistory` below exercises this).
-/
open Model Gen.Region

namespace C09

def chanOk (r : RegionId) : Option Channel → Bool
  | some c => frequencyValid r c.freq
  | none => true

def ChanInv (rs : RegionState) : Prop :=
  match rs.plan with
  | .dyn p => p.channels.all (chanOk rs.id) = true
  | .fix _ => True

theorem init_chanInv (r : RegionId) : ChanInv (RegionState.init r) := by
  cases r <;> (unfold ChanInv RegionState.init; first | trivial | decide)

/-- a NewChannelReq keeps the invariant: a channel is only created at an in-band frequency -/
theorem newChannel_chanInv (rs : RegionState) (idx f : Nat) (drr : Option Nat) (acks : Bool × Bool) (rs' : RegionState)
    (hinv : ChanInv rs) (h : handleNewChannel rs idx f drr = .ok (acks, rs')) : ChanInv rs' := by
  obtain ⟨_, hsame, hset⟩ := C08.newChannel_atomic rs rs' idx f drr acks.1 acks.2 h
  cases hab : acks.1 && acks.2 with
  | false => rw [hsame hab]; exact hinv
  | true =>
    obtain ⟨p, m, hp, _, _, hcase⟩ := hset hab
    have set : ∀ v, chanOk rs.id v = true → ChanInv (C08.setSlot rs p idx v m) := fun v hv => by
      unfold ChanInv at hinv ⊢
      rw [hp] at hinv
      exact List.all_set hinv hv _
    rcases hcase with ⟨_, _, rfl⟩ | ⟨_, hfv, r, _, _, rfl⟩
    · exact set none rfl
    · exact set _ hfv

theorem setSlots_all (r : RegionId) (chans : List (Option Channel)) (i : Nat) (fs : List Nat) (out : List (Option Channel))
    (hinv : chans.all (chanOk r) = true) (h : setChannelSlots r chans i fs = .ok out) : out.all (chanOk r) = true :=
  setChannelSlots_all r rfl (fun f hv => by simpa [chanOk, mkChan] using hv) chans i fs hinv out h

/-- a JoinAccept's CFList keeps the invariant (out-of-band frequencies are ignored) -/
theorem joinAccept_chanInv (rs : RegionState) (cf : Option CfList) (rs' : RegionState)
    (hinv : ChanInv rs) (h : processJoinAccept rs cf = .ok rs') : ChanInv rs' := by
  revert h
  suffices Post (processJoinAccept rs cf) ChanInv from this _
  unfold processJoinAccept
  split
  · rename_i p fs hp
    refine Post.bind_eq (fun chans hc => Post.pure ?_)
    unfold ChanInv at hinv ⊢
    rw [hp] at hinv
    exact setSlots_all _ _ _ _ _ hinv hc
  · exact Post.pure trivial
  · exact Post.pure hinv

/-- conducted power: never above the limit handed in (radio maximum, lowered by the commanded level)
nor above the regional maximum EIRP less the antenna gain -/
theorem txPowerFor_le (r : RegionId) (limit : Nat) (gain pw : Int) (hl : limit ≤ 127)
    (h : txPowerFor r limit gain = .ok pw) :
    pw ≤ limit ∧ ∃ p0, txPowerAdjust r 0 = .ok (some p0) ∧ pw ≤ Rt.wrap .i8 p0 - gain := by
  unfold txPowerFor at h
  obtain ⟨a, ha, h⟩ := Except.bind_eq_ok h
  obtain ⟨p0, hp0, h⟩ := Except.bind_eq_ok h
  cases a with
  | none => simp [Model.panic] at hp0
  | some p =>
    simp only [pure, Except.pure, Except.ok.injEq] at hp0
    subst hp0
    obtain ⟨v, hv, h⟩ := Except.bind_eq_ok h
    simp only [pure, Except.pure, Except.ok.injEq] at h
    subst h
    unfold ofGen at hv
    split at hv
    · rename_i x hx
      simp only [Except.ok.injEq] at hv
      subst hv
      have hx' := (Rt.ck_eq_some_iff.mp hx).2
      have hw : Rt.wrap .i8 (limit : Int) = limit := 
        Rt.wrap_id (show (-128 : Int) ≤ _ by omega) (show _ ≤ (127 : Int) by omega)
      refine ⟨?_, p, ha, ?_⟩
      · rw [hw]; exact Int.min_le_right _ _
      · rw [← hx']; exact Int.min_le_left _ _
    · simp [Model.panic] at hv

/-- the limit used for a data uplink is the radio maximum lowered — never raised — by the commanded level -/
theorem send_power_limit (maxPower : Nat) (txPower : Option Nat) :
    (match txPower with | some p => min p maxPower | none => maxPower) ≤ maxPower ∧
    (∀ p, txPower = some p → (match txPower with | some p => min p maxPower | none => maxPower) ≤ p) := by
  cases txPower with
  | none => simp
  | some p => simp [Nat.min_le_right, Nat.min_le_left]

/-- **what `select_tx_channel` returns is legal in the plan it leaves**: the data rate is the
region's entry for `tx.dr`; the frequency is that of a defined channel — a join channel for a join
request (fixed plans: with the data rate the channel mandates), an ENABLED channel of matching
bandwidth for a data frame -/
theorem selectTxChannel_legal {σ} (g : Rng σ) (rs rs' : RegionState) (dr : DR) (frame : FrameKind) (s s' : σ) (tx : TxChannel)
    (h : regionWF rs = true) (hsel : selectTxChannel g rs dr frame s = .ok (tx, rs', s')) :
    rs'.id = rs.id ∧ getDatarate rs.id tx.dr.toInt.toNat = some tx.datarate ∧ ChannelLegal rs' frame tx ∧
      (isUplinkDatarate rs.id dr.toInt.toNat = true → isUplinkDatarate rs.id tx.dr.toInt.toNat = true) :=
  let hs := selectTxChannel_selected g rs rs' dr frame s s' tx hsel
  ⟨hs.id, hs.legal h⟩

theorem fixed_in_band_all : ∀ r ∈ [RegionId.US915, RegionId.AU915], ∀ ch ∈ List.range 72,
    (match (uplinkChannels r)[ch]? with
     | some f => frequencyValid r f.toNat
     | none => false) = true := by decide +kernel

theorem legal_in_band (rs' : RegionState) (frame : FrameKind) (tx : TxChannel) (h : regionWF rs' = true)
    (hl : ChannelLegal rs' frame tx) : frequencyValid rs'.id tx.frequency = true := by
  unfold ChannelLegal at hl
  cases hp : rs'.plan with
  | dyn p =>
    simp only [hp] at hl
    obtain ⟨i, c, hc, hf, _⟩ := hl
    obtain ⟨_, _, _, hib⟩ := dynWF_iff.mp ((regionWF_dyn hp).mp h).2
    have := List.all_eq_true.mp hib _ (List.mem_of_getElem? hc)
    rw [hf]; exact this
  | fix p =>
    simp only [hp] at hl
    obtain ⟨ch, f, hch, hf, hfr, _⟩ := hl
    have hfx := ((regionWF_fix hp).mp h).1
    have hr : rs'.id ∈ [RegionId.US915, RegionId.AU915] := by
      cases hid : rs'.id <;> simp [hid, RegionId.isFixed] at hfx <;> simp
    have := fixed_in_band_all rs'.id hr ch (List.mem_range.mpr hch)
    rw [hf] at this
    rw [hfr]; exact this

/-- what is legal about one transmission, judged in the state `m'` the call left -/
structure TxLegal (m m' : MacState) (frame : FrameKind) (limit : Nat) (t : TxOut) : Prop where
  tx : ∃ tx : TxChannel,
    t.rf = rfOf tx.datarate tx.frequency ∧
    getDatarate m.region.id tx.dr.toInt.toNat = some tx.datarate ∧
    isUplinkDatarate m.region.id tx.dr.toInt.toNat = true ∧
    ChannelLegal m'.region frame tx ∧
    frequencyValid m.region.id tx.frequency = true
  pwLimit : t.pw ≤ limit
  pwEirp : ∃ p0, txPowerAdjust m.region.id 0 = .ok (some p0) ∧ t.pw ≤ Rt.wrap .i8 p0 - m.antennaGain

/-- what `Mac::send` and `Mac::join_otaa` share: the channel selected, with the power computed for it, is legal -/
theorem txLegal_of_select {σ} (g : Rng σ) (m m' : MacState) (dr : DR) (frame : FrameKind) (rs rs1 : σ) (tx : TxChannel)
    (region : RegionState) (h : MacWF m) (hup : isUplinkDatarate m.region.id dr.toInt.toNat = true)
    (hsel : selectTxChannel g m.region dr frame rs = .ok (tx, region, rs1)) (hm' : m'.region = region)
    (limit : Nat) (hl : limit ≤ 127) (pw : Int) (hpw : txPowerFor region.id limit m.antennaGain = .ok pw)
    (rx1 rx2 : RfConfig) :
    TxLegal m m' frame limit { pw := pw, rf := rfOf tx.datarate tx.frequency, rx1 := rx1, rx2 := rx2 } := by
  subst hm'
  obtain ⟨hid, hg, hleg, hu⟩ := selectTxChannel_legal g m.region m'.region dr frame rs rs1 tx h.region hsel
  obtain ⟨hrw, _⟩ := (selectTxChannel_safe g m.region dr frame rs h.region hup).elim hsel
  have hib := legal_in_band m'.region frame tx hrw hleg
  obtain ⟨hp1, p0, hp2, hp3⟩ := txPowerFor_le _ _ _ _ hl hpw
  rw [hid] at hib hp2
  exact ⟨⟨tx, rfl, hg, hu hup, hleg, hib⟩, hp1, ⟨p0, hp2, hp3⟩⟩

/-- **every data uplink handed to the radio is legal** (`Mac::send` in any well-formed, i.e. any
reachable, state): the frequency is in band and is that of a channel defined and enabled in the
plan the selection ended with, with the bandwidth of the channel; the data rate is one the region defines for uplinks; the conducted power
is at most the radio's maximum, at most the level the network commanded, and at most the regional
maximum EIRP less the antenna gain. -/
theorem send_legal {σ} (g : Rng σ) (m m' : MacState) (data : List Nat) (fport : Nat) (conf : Bool) (rs rs' : σ)
    (out : SendOut) (h : MacWF m) (hmp : m.maxPower ≤ 127)
    (hs : macSend g m data fport conf rs = .ok (some out, m', rs')) :
    TxLegal m m' .data m.maxPower out.tx ∧ (∀ p, m.cfg.txPower = some p → out.tx.pw ≤ p) := by
  revert hs
  suffices Post (macSend g m data fport conf rs) (fun r => ∀ out, r.1 = some out →
      TxLegal m r.2.1 .data m.maxPower out.tx ∧ (∀ p, m.cfg.txPower = some p → out.tx.pw ≤ p)) from
    fun hs => this _ hs out rfl
  unfold macSend
  split
  · refine Post.skip (fun ⟨desc, s1⟩ => Post.bind (drOfNat_uplink h.dr).post (fun dr hup => ?_))
    refine Post.bind_eq ?_
    intro ⟨tx, region, rs1⟩ hsel
    simp only at hsel ⊢
    refine Post.bind_eq (fun pw hpw => Post.skip (fun ⟨rx1, rx2⟩ => Post.pure ?_))
    intro out e
    cases e
    have hlim := send_power_limit m.maxPower m.cfg.txPower
    have hpw' : txPowerFor region.id (match m.cfg.txPower with | some p => min p m.maxPower | none => m.maxPower)
      m.antennaGain = .ok pw := hpw
    generalize (match m.cfg.txPower with | some p => min p m.maxPower | none => m.maxPower) = limit at hlim hpw'
    have hl := txLegal_of_select g m { m with st := .joined s1, region := region } dr .data rs rs1 tx region h hup hsel rfl
      limit (Nat.le_trans hlim.1 hmp) pw hpw' rx1 rx2
    exact ⟨⟨hl.tx, Int.le_trans hl.pwLimit (by exact_mod_cast hlim.1), hl.pwEirp⟩,
      fun p hp => Int.le_trans hl.pwLimit (by exact_mod_cast hlim.2 p hp)⟩
  · exact Post.pure (fun _ e => nomatch e)

/-- **every join request handed to the radio is legal** (`Mac::join_otaa` in any well-formed
state): sent in band on a join channel — dynamic plans: one of the default channels; fixed plans:
one of the 72 channels with the data rate that channel mandates (DR0 on a 125 kHz channel, the
region's 500 kHz join rate on channels 64–71) — at a power within the radio's maximum and the
regional EIRP less antenna gain. -/
theorem join_legal {σ} (g : Rng σ) (m m' : MacState) (rs rs' : σ) (out : JoinOut) (h : MacWF m) (hmp : m.maxPower ≤ 127)
    (hs : macJoinOtaa g m rs = .ok (out, m', rs')) : TxLegal m m' .join m.maxPower out.tx := by
  revert hs
  suffices Post (macJoinOtaa g m rs) (fun r => TxLegal m r.2.1 .join m.maxPower r.1.tx) from this _
  unfold macJoinOtaa
  simp only
  refine Post.bind (drOfNat_uplink h.dr).post (fun dr hup => Post.bind_eq ?_)
  intro ⟨tx, region, rs1⟩ hsel
  simp only at hsel ⊢
  refine Post.bind_eq (fun pw hpw => Post.skip (fun ⟨rx1, rx2⟩ => Post.pure ?_))
  exact txLegal_of_select g m _ dr .join _ rs1 tx region h hup hsel rfl _ hmp pw hpw rx1 rx2

/-- **channel selection can always terminate**: in every well-formed (= every reachable) channel-plan
state, for join and data frames, there is a draw value on which `select_tx_channel` returns at once
and leaves a well-formed plan — the accept set of every retry loop it may enter is non-empty (after
the fallback for dynamic plans and fixed masks; by the cyclic-walk invariant for the join channels).
A loop can only fail to end by the generator never offering an accepted value. -/
theorem select_accept_nonempty (rs : RegionState) (dr : DR) (frame : FrameKind) (h : regionWF rs = true)
    (hdr : isUplinkDatarate rs.id dr.toInt.toNat = true) :
    ∃ v, v < 64 ∧ ∀ {σ : Type} (s : σ),
      Tot (selectTxChannel (constGen v) rs dr frame s) (fun r => regionWF r.2.1 = true ∧ r.2.1.id = rs.id) :=
  selectTxChannel_returns rs dr frame h hdr

/-- legality of what one step handed to the radio; `m` is the state the call was made in -/
def OutLegal (r : RegionId) (maxPower : Nat) (gain : Int) : Out → Prop
  | .up o _ _ => ∃ m m1, MacWF m ∧ m.region.id = r ∧ m.maxPower = maxPower ∧ m.antennaGain = gain ∧
      TxLegal m m1 .data maxPower o.tx ∧ (∀ p, m.cfg.txPower = some p → o.tx.pw ≤ p)
  | .join o _ => ∃ m m1, MacWF m ∧ m.region.id = r ∧ m.maxPower = maxPower ∧ m.antennaGain = gain ∧
      TxLegal m m1 .join maxPower o.tx
  | _ => True

theorem step_legal {σ} (g : Rng σ) (m m' : MacState) (s s' : σ) (ev : Ev) (out : Out) (h : MacWF m) (hmp : m.maxPower ≤ 127)
    (hs : step g (m, s) ev = .ok ((m', s'), out)) : OutLegal m.region.id m.maxPower m.antennaGain out := by
  revert hs
  suffices Post (step g (m, s) ev) (fun r => OutLegal m.region.id m.maxPower m.antennaGain r.2) from this _
  unfold step
  cases ev with
  | joinAbp da nwk app => exact Post.pure trivial
  | setAdr on => exact Post.pure trivial
  | setDr dr => exact Post.pure trivial
  | rxc v snr mp => exact Post.skip fun rf => Post.skip fun ⟨o, m1⟩ => Post.pure trivial
  | joinOtaa fault rx1 rx2 mp1 mp2 =>
    refine Post.bind_eq ?_
    intro ⟨o, m1, s1⟩ hj
    have hl : ∀ r, OutLegal m.region.id m.maxPower m.antennaGain (.join o r) :=
      fun r => ⟨m, m1, h, rfl, rfl, rfl, join_legal g m m1 s s1 o h hmp hj⟩
    cases fault with
    | some k => exact Post.skip fun m2 => Post.pure (hl _)
    | none => exact Post.skip fun ⟨r, dl, m2⟩ => Post.pure (hl _)
  | uplink data fport conf fault rx1 rx2 mp1 mp2 =>
    refine Post.bind_eq ?_
    intro ⟨o, m1, s1⟩ hsend
    cases o with
    | none => exact Post.pure trivial
    | some o =>
      have hl := send_legal g m m1 data fport conf s s1 o h hmp hsend
      have hl' : ∀ r d, OutLegal m.region.id m.maxPower m.antennaGain (.up o r d) :=
        fun r d => ⟨m, m1, h, rfl, rfl, rfl, hl.1, hl.2⟩
      cases fault with
      | some k => exact Post.skip fun m2 => Post.pure (hl' _ _)
      | none => exact Post.skip fun ⟨r, dl, m2⟩ => Post.pure (hl' _ _)

/-! ### the join bias does not override the channel mask

`biasHistory`: join (no CFList), a LinkADRReq disabling sub-band 2, re-join (no CFList: mask and bias
survive), `send` while `has_bias_and_not_exhausted()` holds.  The model mirrors lora-rs after its fix
89d4f41 (before it, that `send` ignored the mask): the last uplink uses a channel the mask enables, as
`send_legal` proves in general. -/

def lcg : Rng Nat := fun x => ((x * 1103515245 + 12345) / 65536, x * 1103515245 + 12345)

def biasJoinAccept (da : Nat) : Option (RxView × Int) :=
  some (.joinAccept { micOk := true, devAddr := da, dlSettings := 0, rxDelay := 1, cfList := none, nwkKey := 5, appKey := 6 }, 1)

/-- LinkADRReq: keep data rate and power, ChMaskCntl 0, ChMask 0x00FF: channels 8..15 off -/
def biasLinkAdr : Option (RxView × Int) :=
  some (.data { len := 20, confirmed := false, fcnt16 := 0, micFcnt := some 0, fopts := [0x03, 0xFF, 0xFF, 0x00, 0x00],
                fport := none, payload := [] }, 1)

def biasHistory : List Ev :=
  [ .joinOtaa none (biasJoinAccept 1) none 250 250,
    .uplink [1] 1 false none biasLinkAdr none 250 250,
    .joinOtaa none (biasJoinAccept 2) none 250 250,
    .uplink [2] 1 false none none none 250 250 ]

/-- US915, join bias on sub-band 2 with 3 retries, sub-band 2 masked off: the last data uplink of
`biasHistory` goes out on an enabled channel outside sub-band 2 -/
example :
    (match run lcg (MacState.init ((RegionState.init .US915).setJoinBias 2 3) 30 0, 1) biasHistory with
     | .ok ((m', _), outs) =>
       (match outs.getLast? with
        | some (.up so _ _) =>
          (List.range 72).any (fun ch => (uplinkChannels .US915)[ch]? == some (so.tx.rf.frequency : Int) &&
            (((channelMaskGet m'.region).isEnabled ch).toOption == some true) && !(8 ≤ ch && ch < 16))
        | _ => false)
     | .error _ => false) = true := by decide +kernel

example : ChanInv (RegionState.init .EU868) := init_chanInv _
example : (txPowerFor .EU868 14 2).toOption = some 14 := by decide
example : (txPowerFor .US915 30 (-3)).toOption = some 24 := by decide

example : ∀ ev ∈ biasHistory, validEv .US915 ev = true := by decide +kernel
example : MacWF (MacState.init ((RegionState.init .US915).setJoinBias 2 3) 30 0) := by decide
/-- `send_legal` / `join_legal` apply: a well-formed state in which both calls return -/
example : ((macJoinOtaa lcg (MacState.init (RegionState.init .EU868) 14 2) 1).toOption.isSome
    && (macSend lcg (macJoinAbp (MacState.init (RegionState.init .AU915) 30 0) 1 2 3) [1] 1 false 1).toOption.isSome) = true := by
  decide +kernel

/-! ## extended histories (Class C receptions inside the receive procedure, `Model/HistoryC.lean`)

What is handed to the radio by `send` / `join` does not depend on what is heard afterwards: the frame
and its `TxConfig` are built before the receive procedure starts, in a state every extended step keeps
well-formed (`stepC_safe`). -/

theorem stepC_legal {σ} (g : Rng σ) (m m' : MacState) (s s' : σ) (ev : EvC) (out : OutC) (h : MacWF m) (hmp : m.maxPower ≤ 127)
    (hs : stepC g (m, s) ev = .ok ((m', s'), out)) : OutLegal m.region.id m.maxPower m.antennaGain out.out := by
  cases ev with
  | base e => exact step_legal g m m' s s' e out.out h hmp (stepC_base g _ _ e out hs).1
  | joinC cc fault c1 rx1 c2 rx2 =>
    exact step_legal g m m' s s' _ out.out h hmp (stepC_joinC_plain g _ _ cc fault c1 rx1 c2 rx2 out hs).1
  | uplinkC cc data fport conf fault c1 rx1 c2 rx2 =>
    revert hs
    suffices Post (stepC g (m, s) (.uplinkC cc data fport conf fault c1 rx1 c2 rx2))
        (fun r => OutLegal m.region.id m.maxPower m.antennaGain r.2.out) from this _
    unfold stepC
    refine Post.bind_eq ?_
    intro ⟨o, m1, s1⟩ hsend
    cases o with
    | none => exact Post.pure trivial
    | some o =>
      have hl := send_legal g m m1 data fport conf s s1 o h hmp hsend
      refine Post.skip fun ⟨fin, heard, m2⟩ => ?_
      cases fin <;> exact Post.pure ⟨m, m1, h, rfl, rfl, rfl, hl.1, hl.2⟩

/-- **every frame any EXTENDED history hands to the radio is legal** (Class C receptions inside the
receive procedure included): from a well-formed state along every extended history of valid events,
every uplink and every join request was built in a well-formed state of the same board and satisfies
`TxLegal` there. -/
theorem historyC_tx_legal {σ} (g : Rng σ) (m : MacState) (s : σ) (evs : List EvC) (ms' : MacState × σ) (outs : List OutC)
    (h : MacWF m) (hmp : m.maxPower ≤ 127) (hv : ∀ ev ∈ evs, validEvC m.region.id ev = true)
    (hr : runC g (m, s) evs = .ok (ms', outs)) : ∀ out ∈ outs, OutLegal m.region.id m.maxPower m.antennaGain out.out := by
  revert hr
  suffices Post (runC g (m, s) evs) (fun r => ∀ out ∈ r.2, OutLegal m.region.id m.maxPower m.antennaGain out.out) from this _
  induction evs generalizing m s with
  | nil => unfold runC; exact Post.pure (fun _ ho => nomatch ho)
  | cons ev rest ih =>
    unfold runC
    refine Post.bind_eq ?_
    intro ⟨⟨m1, s1⟩, o⟩ hstep
    simp only
    have hk : Keeps m m1 := stepC_keeps h rfl (hv ev List.mem_cons_self) hstep
    refine Post.bind (ih m1 s1 hk.1 (by rw [hk.2.2.2]; exact hmp)
      (fun ev' he => by rw [hk.2.1]; exact hv ev' (List.mem_cons_of_mem _ he))) ?_
    intro ⟨ms2, os⟩ hos
    refine Post.pure (fun out ho => ?_)
    rcases List.mem_cons.mp ho with rfl | ho
    · exact stepC_legal g m m1 s s1 ev out h hmp hstep
    · rw [← hk.2.1, ← hk.2.2.1, ← hk.2.2.2]; exact hos out ho

/-- **every frame any history hands to the radio is legal**: from a well-formed state (the initial
state of any region) along every history of valid events, every uplink and every join request was
built in a well-formed state of the same board and satisfies `TxLegal` there. -/
theorem history_tx_legal {σ} (g : Rng σ) (m : MacState) (s : σ) (evs : List Ev) (ms' : MacState × σ) (outs : List Out)
    (h : MacWF m) (hmp : m.maxPower ≤ 127) (hv : ∀ ev ∈ evs, validEv m.region.id ev = true)
    (hr : run g (m, s) evs = .ok (ms', outs)) : ∀ out ∈ outs, OutLegal m.region.id m.maxPower m.antennaGain out := by
  intro out ho
  exact historyC_tx_legal g m s (evs.map .base) ms' _ h hmp (List.forall_mem_map.mpr hv) (runC_base g (m, s) ms' evs outs hr)
    { out := out } (List.mem_map_of_mem ho)

/-- **C09 on the async front-end, for EVERY script, both classes**: the outputs of the extended
history of a session are, call by call, what the front-end handed to the radio (`ObsRel`), and all of
them are legal -/
theorem asyncC_tx_legal {σ} (g : Rng σ) (cfg : DevCfg) (d : DevRun) (rs : σ) (h : MacWF d.m) (hmp : d.m.maxPower ≤ 127)
    (ops : List AsyncOp) (hv : ∀ op ∈ ops, op.valid d.m.region.id = true)
    (obs : List OpObs) (d' : DevRun) (rs' : σ) (hrun : asyncOps g cfg d rs ops = .ok (obs, d', rs')) :
    ∃ outs, AllRel ObsRel obs outs ∧ ∀ out ∈ outs, OutLegal d.m.region.id d.m.maxPower d.m.antennaGain out.out := by
  obtain ⟨outs, hr, hobs⟩ := asyncOps_runC g cfg d rs ops obs d' rs' hrun
  exact ⟨outs, hobs, historyC_tx_legal g d.m rs _ _ outs h hmp (abstractSessionC_valid cfg _ ops hv) hr⟩

/-! non-vacuity: a Class C session with a frame heard between TX and RX1 -/
def demoHistoryC : List EvC :=
  [ .base (.joinAbp 7 1 2),
    .uplinkC true [1] 1 false none
      [(.data { len := 14, confirmed := true, fcnt16 := 3, micFcnt := some 3, fopts := [], fport := some 2, payload := [3] }, 5)] none [] none ]

example : ∀ ev ∈ demoHistoryC, validEvC .EU868 ev = true := by decide
example : (runC lcg (MacState.init (RegionState.init .EU868) 14 0, 1) demoHistoryC).toOption.map (fun r => r.2.length) = some 2 := by
  decide +kernel

end C09

#print axioms C09.selectTxChannel_legal
#print axioms C09.legal_in_band
#print axioms C09.send_legal
#print axioms C09.join_legal
#print axioms C09.history_tx_legal
#print axioms C09.select_accept_nonempty
#print axioms C09.dynJoinLoop_sound
#print axioms C09.dynDataLoop_sound
#print axioms C09.dynDataLoop_first
#print axioms C09.fixedMaskLoop_sound
#print axioms C09.init_chanInv
#print axioms C09.newChannel_chanInv
#print axioms C09.joinAccept_chanInv
#print axioms C09.txPowerFor_le
#print axioms C09.send_power_limit
#print axioms C09.stepC_legal
#print axioms C09.historyC_tx_legal
#print axioms C09.asyncC_tx_legal
