import LoraVerif.Props.TieA.C05
import LoraVerif.Props.TieA.C06
import LoraVerif.Props.TieA.C07
import LoraVerif.Props.TieA.C08
import LoraVerif.Props.TieA.C09
import LoraVerif.Props.TieA.C10
import LoraVerif.Props.TieA.C11
import LoraVerif.Props.TieA.C12
/-!
# Tie A, property by property: the static parameters, the small pure helpers and the whole-method ties each rests on

One file per property (`Props/TieA/Cxx.lean`, namespace `Cxx`, theorem names `tieA_…`): each proves
that a constant / table / comparison the hand model (`Model/Region.lean`, `Model/Mac.lean`) carries
as a hand copy EQUALS, for all arguments, the item `tools/translate` regenerates from the current
Rust source (`Gen/RegionStatic`, `Gen/MacStatic`, `Gen/UplinkStatic`, `Gen/SessionStatic`,
`Gen/CmdTables`), followed by the whole-method ties the property rests on, stated for it.  `./check Cxx` builds
`Props/Tied/Cxx.lean` = `Props/Cxx.lean` + `Props/TieA/Cxx.lean` + the tie modules it names.  This module only collects
the per-property files under one build target; nothing imports it.
-/
