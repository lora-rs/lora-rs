import LoraVerif.Model.Aes
import LoraVerif.Lemmas.C02Lemmas
import LoraVerif.Lemmas.C02JoinLemmas
import LoraVerif.Lemmas.SpecRoundTrip
import LoraVerif.Lemmas.C02Vectors
import LoraVerif.Lemmas.AesLemmas
import LoraVerif.Props.C01
/-!
# C02 — received frames are authenticated and decoded exactly per spec, else untouched

Model: `Codec.parse*`, `DataPayload.view` (every accessor), `DataPayload.validateMic`,
`Codec.decryptInPlace`, `Codec.checkMicAndDecryptInPlace`, the JoinRequest / JoinAccept parsers
(hand transliteration of `lorawan-encoding/src/parser.rs` + `securityhelpers.rs`, tied to the real code
by the correspondence run of `harness/src/c02.rs`).  Specification: `Spec.decodeData`,
`Spec.dataAuthentic`, `Spec.decryptData`, … (`Spec/LoRaWAN.lean`).  The theorems hold for an arbitrary
`Cipher` (the JoinAccept round trip for one whose decryption inverts its encryption, which the AES of
`Model/Aes.lean` does); in-place operations return the caller's buffer explicitly, so "untouched" is a
statement.

The only other hypothesis, where present, is a length bound: the byte string (for the round trip, the FRMPayload)
has at most 4064 bytes.  The keystream loop numbers its blocks in a `u8` starting at 1 and panics when a 255th is due, so
254 blocks of 16 bytes pass; the property's quantifier is 0..255.
-/
open Lora Lora.Codec Lora.CodecLemmas Lora.C01Lemmas Lora.C02Lemmas

namespace C02

/-- **C02 (structure).** For every byte string: parsing and then running every accessor of the view
(`frame_type`, `is_uplink`, `is_confirmed`, `fhdr().dev_addr()`, `fctrl()` and its five accessors,
`fcnt()`, `f_opts()`, `f_port()`, the FRMPayload range, `mic()`) yields exactly what the independent
decoder yields — the same fields or the same refusal — and never panics. -/
theorem parse_eq_spec (b : Bytes) : (dataViewOf b).map DataView.toSpec = Outcome.ofExcept (Spec.decodeData b) :=
  Lora.C02Lemmas.parse_eq_spec b

/-- **C02 (authentication).** For every byte string, key and 32-bit counter, `validate_mic` (after
`parse`) answers exactly as the specification: the same refusal for an unparseable string, else
`true` iff the MIC computed over B0 | msg with the given counter and the frame's own direction equals
the transmitted one. -/
theorem validate_mic_eq_spec (c : Cipher) (k : Key) (N : UInt32) (b : Bytes) :
    ((parseData b).bind fun p => p.validateMic ⟨c, k⟩ N)
      = Outcome.ofExcept ((Spec.decodeData b).map fun v => Spec.dataAuthentic c k N b v) := by
  unfold parseData
  rcases frame_cases b with ⟨e, hm, hs⟩ | ⟨F, rfl⟩
  · rw [hm, hs]; rfl
  · simp only [F.validate, F.decode, bind, pure, bind_ok, Except.map, Outcome.ofExcept, F.validateMic, Spec.dataAuthentic,
      F.msgOf]
    exact congrArg Outcome.ok BEq.comm

/-- `validate_mic` in the words of the property: authentic exactly when the independently computed
MIC equals the MIC in the frame. -/
theorem validate_mic_iff (c : Cipher) (k : Key) (N : UInt32) (b : Bytes) (p : DataPayload)
    (hp : parseData b = .ok p) :
    ∃ v, Spec.decodeData b = .ok v ∧
      (p.validateMic ⟨c, k⟩ N = .ok true ↔
        Spec.dataMic c k (Spec.dirOf v.ftype) v.devAddr N (Spec.msgOf b) = v.mic) ∧
      (p.validateMic ⟨c, k⟩ N = .ok false ↔
        Spec.dataMic c k (Spec.dirOf v.ftype) v.devAddr N (Spec.msgOf b) ≠ v.mic) := by
  rcases frame_cases b with ⟨e, hm, _⟩ | ⟨F, rfl⟩
  · simp [parseData, hm, bind, Outcome.bind] at hp
  · have h := validate_mic_eq_spec c k N F.bytes
    rw [hp, F.decode, bind_ok] at h
    refine ⟨_, F.decode, ?_, ?_⟩ <;> rw [h] <;> simp [Except.map, Outcome.ofExcept, Spec.dataAuthentic]

/-- what `decrypt_in_place` owes the specification: its refusal with the buffer untouched, or the buffer with FRMPayload
replaced by its plaintext, accepted with the layout returned and read as before but for FRMPayload -/
def DecryptSpec (c : Cipher) (b : Bytes) (nwk app : Option Key) (N : UInt32) : Prop :=
  match Spec.decryptData c nwk app N b with
  | .error e => decryptInPlace c b nwk app N = (.err e, b)
  | .ok (v, plain) =>
    ∃ l, decryptInPlace c b nwk app N = (.ok ⟨Spec.withPayload b v plain, l⟩, Spec.withPayload b v plain)
      ∧ Layout.validate (Spec.withPayload b v plain) = .ok l
      ∧ Spec.decodeData (Spec.withPayload b v plain) = .ok { v with frm := plain }

/-- `decrypt_eq_spec` with the bound where the code needs it: the keystream loop runs over FRMPayload only -/
theorem decrypt_eq_spec' (c : Cipher) (b : Bytes) (nwk app : Option Key) (N : UInt32)
    (hlen : ∀ v, Spec.decodeData b = .ok v → v.frm.length ≤ 4064) : DecryptSpec c b nwk app N := by
  unfold DecryptSpec
  rcases frame_cases b with ⟨e, hm, hs⟩ | ⟨F, rfl⟩
  · simp only [Spec.decryptData, hs, decryptInPlace, hm]
  · rw [F.decryptData, F.decrypt c nwk app N (hlen _ F.decode)]
    by_cases h : F.frm = []
    · simp only [if_pos h]
      rw [F.withPayload, ← h, F.setFrm_frm]
      exact ⟨_, rfl, F.validate, F.decode⟩
    · simp only [if_neg h]
      cases Spec.receiveKey nwk app F.view with
      | none => rfl
      | some k =>
        -- the buffer afterwards is the frame `F.crypt c k N`: accepted with the layout of `F`, read as `F` but for FRMPayload
        simp only [F.withPayload, F.setFrm_crypt]
        exact ⟨_, rfl, (F.crypt c k N).validate.trans (congrArg _ (F.crypt_layout c k N)),
          (F.crypt c k N).decode.trans (congrArg _ (F.crypt_view c k N))⟩

/-- **C02 (decryption).** For every byte string (up to 4064 bytes), optional keys and counter,
`decrypt_in_place` does what the specification says: the same refusal with the buffer untouched, or
the buffer with FRMPayload replaced by the specification's plaintext (key selected by FPort: NwkSKey
for port 0, AppSKey otherwise; counter = upper half of the caller's, lower half from the wire), and
a view whose layout is the one parsing the new buffer yields. -/
theorem decrypt_eq_spec (c : Cipher) (b : Bytes) (nwk app : Option Key) (N : UInt32) (hlen : b.length ≤ 4064) :
    match Spec.decryptData c nwk app N b with
    | .error e => decryptInPlace c b nwk app N = (.err e, b)
    | .ok (v, plain) =>
      ∃ l, decryptInPlace c b nwk app N = (.ok ⟨Spec.withPayload b v plain, l⟩, Spec.withPayload b v plain)
        ∧ Layout.validate (Spec.withPayload b v plain) = .ok l
        ∧ Spec.decodeData (Spec.withPayload b v plain) = .ok { v with frm := plain } :=
  decrypt_eq_spec' c b nwk app N fun v hv => Nat.le_trans (frm_length_le b v hv) hlen

/-- a failing `decrypt_in_place` leaves the caller's buffer as it was (all lengths, no hypothesis) -/
theorem decrypt_fail_untouched (c : Cipher) (b : Bytes) (nwk app : Option Key) (N : UInt32) (e : Err)
    (h : (decryptInPlace c b nwk app N).1 = .err e) : (decryptInPlace c b nwk app N).2 = b := by
  rcases decrypt_untouched_or_ok c b nwk app N with h1 | ⟨p, h2⟩
  · exact h1
  · rw [h2] at h; cases h

/-- **C02 (checked decoding).** `check_mic_and_decrypt_in_place` refuses an unparseable string with
the parser's error, refuses with `InvalidMic` exactly when the specification says "not authentic",
and otherwise is `decrypt_in_place` with the NwkSKey present. -/
theorem checked_decrypt_eq_spec (c : Cipher) (b : Bytes) (nwk : Key) (app : Option Key) (N : UInt32) :
    checkMicAndDecryptInPlace c b nwk app N =
      match Spec.decodeData b with
      | .error e => (.err e, b)
      | .ok v => if Spec.dataAuthentic c nwk N b v then decryptInPlace c b (some nwk) app N else (.err .invalidMic, b) := by
  have hmic := validate_mic_eq_spec c nwk N b
  unfold checkMicAndDecryptInPlace
  rcases frame_cases b with ⟨e, hm, hs⟩ | ⟨F, rfl⟩
  · simp only [parseData, hm, hs, bind, Outcome.bind]
  · simp only [parseData, F.validate, F.decode, bind, pure, bind_ok, Except.map, Outcome.ofExcept] at hmic ⊢
    rw [hmic]
    cases Spec.dataAuthentic c nwk N F.bytes F.view <;> rfl

/-- **C02 (else untouched).** Whenever checked decoding of a data frame fails — unparseable, wrong
MIC, missing key — the caller's buffer is byte-identical to what was received. -/
theorem checked_decrypt_fail_untouched (c : Cipher) (b : Bytes) (nwk : Key) (app : Option Key) (N : UInt32) (e : Err)
    (h : (checkMicAndDecryptInPlace c b nwk app N).1 = .err e) :
    (checkMicAndDecryptInPlace c b nwk app N).2 = b := by
  rw [checked_decrypt_eq_spec] at h ⊢
  cases hs : Spec.decodeData b with
  | error e' => rfl
  | ok v =>
    rw [hs] at h
    simp only at h ⊢
    cases ha : Spec.dataAuthentic c nwk N b v with
    | false => rfl
    | true =>
      rw [ha] at h
      exact decrypt_fail_untouched c b (some nwk) app N e h

/-- **C02 (counter reconstruction).** `((fcnt >> 16) << 16) | wire` is the specification's "upper
half from the receiver, lower half from the wire", and it is the sender's counter whenever the
receiver's counter agrees with it in the upper half. -/
theorem full_fcnt_eq (N : UInt32) (wire : UInt16) :
    ((N >>> 16) <<< 16) ||| wire.toUInt32 = Spec.fullFcnt N wire
    ∧ (N.toNat % 65536 = wire.toNat → Spec.fullFcnt N wire = N)
    ∧ ∀ M : UInt32, M.toNat / 65536 = N.toNat / 65536 → M.toNat % 65536 = wire.toNat → Spec.fullFcnt N wire = M :=
  ⟨fullFcnt_wire N wire, fullFcnt_of_halves N N wire rfl, fun M => fullFcnt_of_halves N M wire⟩

/-- **C02 (involution).** Decrypting twice restores the ciphertext: if `decrypt_in_place` succeeds, a
second `decrypt_in_place` (same keys, same counter) on the resulting buffer succeeds and gives back
the received bytes. -/
theorem decrypt_involutive (c : Cipher) (b : Bytes) (nwk app : Option Key) (N : UInt32) (p : DataPayload) (b' : Bytes)
    (hlen : b.length ≤ 4064) (h : decryptInPlace c b nwk app N = (.ok p, b')) :
    ∃ p', decryptInPlace c b' nwk app N = (.ok p', b) := by
  rcases frame_cases b with ⟨e, hm, hs⟩ | ⟨F, rfl⟩
  · simp [decryptInPlace, hm] at h
  · have hmax := Nat.le_trans (frm_length_le _ _ F.decode) hlen
    rw [F.decrypt c nwk app N hmax] at h
    by_cases hf : F.frm = []
    · rw [if_pos hf] at h
      cases h
      exact ⟨_, (F.decrypt c nwk app N hmax).trans (if_pos hf)⟩
    · rw [if_neg hf] at h
      cases hk : Spec.receiveKey nwk app F.view with
      | none => rw [hk] at h; cases h
      | some k =>
        rw [hk] at h
        cases h
        -- the decrypted frame has the same FPort, hence selects the same key, and `crypt` undoes itself
        have hl : (F.crypt c k N).frm.length = F.frm.length := by rw [F.crypt_frm]; exact cryptPayload_length ..
        have hk' : Spec.receiveKey nwk app (F.crypt c k N).view = some k := by rw [F.crypt_view]; exact hk
        rw [(F.crypt c k N).decrypt c nwk app N (hl ▸ hmax),
          if_neg (fun e => hf (List.length_eq_zero_iff.mp (hl ▸ congrArg List.length e))), hk']
        simp only [F.crypt_crypt]
        exact ⟨_, rfl⟩

/-- The model's round trip from the parser's specification as it is stated (`checked_decrypt_eq_spec`,
`decrypt_eq_spec'`, `parse_eq_spec`) and the specification's own round trip: no function of the model is unfolded. -/
theorem roundtrip_of_spec (c : Cipher) (s : Spec.DataDesc) (nwk : Key) (app : Option Key) (frame : Bytes)
    (hspec : SpecRoundTrip c s nwk app frame)
    (hmax : ∀ port pld, s.body = some (port, pld) → pld.length ≤ 4064) :
    ∃ p clear v, checkMicAndDecryptInPlace c frame nwk app s.fcnt = (.ok p, clear) ∧ p.bytes = clear
      ∧ (p.view).map DataView.toSpec = .ok v ∧ v.toDesc s.fcnt v.frm = s.norm := by
  obtain ⟨v, plain, hv, ha, hd, hdesc, hn⟩ := hspec
  have h1 := checked_decrypt_eq_spec c frame nwk app s.fcnt
  rw [hv] at h1
  replace h1 := h1.trans (if_pos ha)
  have h2 := decrypt_eq_spec' c frame (some nwk) app s.fcnt fun v' hv' => by
    obtain rfl : v = v' := Except.ok.inj (hv.symm.trans hv')
    exact hn _ hmax
  rw [DecryptSpec, hd] at h2
  obtain ⟨l, h2a, h2b, h2c⟩ := h2
  refine ⟨_, _, { v with frm := plain }, h1.trans h2a, rfl, ?_, hdesc⟩
  -- the accessors of the result: `parse_eq_spec` on the decrypted buffer, whose layout is the one returned
  have h3 := parse_eq_spec (Spec.withPayload frame v plain)
  unfold dataViewOf parseData at h3
  simp only [h2b, h2c, bind, pure, bind_ok, Outcome.ofExcept] at h3
  exact h3

/-- Any frame the SPECIFICATION's encoder produces (whoever built it) is accepted by the checked decoding and read back
as the description it was encoded from, up to `norm`. -/
theorem roundtrip_desc (c : Cipher) (s : Spec.DataDesc) (nwk : Key) (app : Option Key) (encKey : Key)
    (hfo : s.fopts.length ≤ 15) (hkey : Spec.payloadKey nwk app s = .ok encKey)
    (hmax : ∀ port pld, s.body = some (port, pld) → pld.length ≤ 4064) :
    let msg := Spec.dataMsg c encKey s
    let frame := msg ++ Spec.dataMic c nwk (Spec.dirOf s.ftype) s.devAddr s.fcnt msg
    ∃ p clear v, checkMicAndDecryptInPlace c frame nwk app s.fcnt = (.ok p, clear) ∧ p.bytes = clear
      ∧ (p.view).map DataView.toSpec = .ok v ∧ v.toDesc s.fcnt v.frm = s.norm :=
  roundtrip_of_spec c s nwk app _ (spec_roundtrip c s nwk app encKey hfo hkey) hmax

/-- **C02 (round trip).** Parsing any built frame returns the description it was built from: if
`build_into` yields a frame, then `check_mic_and_decrypt_in_place` on that frame with the same keys
and counter succeeds, and the accessors of the result denote the (normalised) description — all
header fields, FOpts, port and the plaintext.  `norm` clears the flag that does not exist in the
frame's direction (ADRACKReq on downlinks, FPending on uplinks), which the builder does not write. -/
theorem parse_build (c : Cipher) (d : DataFrame) (buf : Bytes) (nwk : Key) (app : Option Key) (frame : Bytes)
    (hmax : payloadLen d ≤ 4064) (hb : d.buildInto c buf nwk app = .ok frame) :
    ∃ p clear v, checkMicAndDecryptInPlace c frame nwk app d.fcnt = (.ok p, clear) ∧ p.bytes = clear
      ∧ (p.view).map DataView.toSpec = .ok v ∧ v.toDesc d.fcnt v.frm = d.toSpec.norm := by
  obtain ⟨key, hk, hfo, rfl⟩ := C01.build_data_ok c d buf nwk app frame hmax hb
  refine roundtrip_desc c d.toSpec nwk app key hfo hk fun port pld hbody => ?_
  unfold payloadLen at hmax
  unfold DataFrame.toSpec at hbody
  cases hp : d.payload with
  | none => rw [hp] at hbody; cases hbody
  | data p nz bytes => rw [hp] at hbody hmax; cases hbody; exact hmax
  | macCommands cmds => rw [hp] at hbody hmax; cases hbody; exact hmax

/-- **C02 (JoinRequest).** parse + every accessor = the specification's decoder, for all byte strings -/
theorem parse_join_request_eq_spec (b : Bytes) :
    ((parseJoinRequest b).bind joinRequestView).map JoinRequestView.toSpec = Outcome.ofExcept (Spec.decodeJoinRequest b) := by
  rcases join_request_cases b with ⟨e, hm, hs⟩ | ⟨hb, hm, hs⟩
  · rw [hm, hs]; rfl
  · rw [hm, hs, bind_ok]
    unfold joinRequestView
    have f := field_eq b
    simp only [bind, f 1 9 8 rfl (by omega), f 9 17 8 rfl (by omega), f 17 19 2 rfl (by omega),
      extractMic_eq b (by omega), hb, bind_ok, pure, Outcome.map, Outcome.ofExcept, JoinRequestView.toSpec, leValue_eq]

/-- `JoinRequestPayload::validate_mic` = the specification's verdict, for all byte strings and keys -/
theorem join_request_mic_eq_spec (c : Cipher) (k : Key) (b : Bytes) :
    ((parseJoinRequest b).bind fun x => joinRequestValidateMic x ⟨c, k⟩)
      = Outcome.ofExcept ((Spec.decodeJoinRequest b).map fun v => Spec.joinRequestAuthentic c k b v) := by
  rcases join_request_cases b with ⟨e, hm, hs⟩ | ⟨hb, hm, hs⟩
  · rw [hm, hs]; rfl
  · have hmsg := slice_msgOf b
    rw [hb] at hmsg
    rw [hm, hs, bind_ok]
    unfold joinRequestValidateMic
    simp only [bind, hmsg, extractMic_eq b (by omega), hb, bind_ok, pure, Except.map, Outcome.ofExcept, Spec.joinRequestAuthentic]
    exact congrArg Outcome.ok BEq.comm

/-- **C02 (JoinAccept decryption).** `decrypt_in_place` on a JoinAccept refuses exactly the strings
the specification refuses (buffer untouched) and otherwise leaves MHDR | aes128_encrypt-ECB of the rest
in the buffer, for all byte strings. -/
theorem join_accept_decrypt_eq_spec (c : Cipher) (k : Key) (b : Bytes) :
    joinAcceptDecryptInPlace b ⟨c, k⟩ =
      match Spec.checkJoinAccept b with
      | .error e => (.err e, b)
      | .ok _ => (.ok (Spec.joinAcceptClear c k b), Spec.joinAcceptClear c k b) := by
  unfold joinAcceptDecryptInPlace
  rw [validate_ja_structure_spec]
  cases hs : Spec.checkJoinAccept b with
  | error e => rfl
  | ok u =>
    simp only [Outcome.ofExcept]
    obtain ⟨mhdr, rest, rfl, hl⟩ := ja_cases b hs
    rw [ecb_tail (c.enc k) (Crypto.encryptBlock ⟨c, k⟩) (fun _ => rfl) mhdr rest]
    rfl

/-- every accessor of a decrypted JoinAccept (incl. `c_f_list` for type 0 / 1 / RFU) = the specification's
reading, for every 17- or 33-byte string -/
theorem join_accept_view_eq_spec (clear : Bytes) (hl : clear.length = 17 ∨ clear.length = 33) :
    (joinAcceptView clear).map JoinAcceptView.toSpec = .ok (Spec.joinAcceptView clear) := by
  cases clear with
  | nil => simp at hl
  | cons mhdr p =>
    have hp : p.length = 16 ∨ p.length = 32 := by simp only [List.length_cons] at hl; omega
    obtain ⟨cf, hcf, hcf'⟩ := cfList_eq mhdr p hp
    have f := field_eq (mhdr :: p)
    have h10 : 10 < p.length := by omega
    have h11 : 11 < p.length := by omega
    unfold joinAcceptView Spec.joinAcceptView
    simp only [bind, f 1 4 3 rfl (by omega), f 4 7 3 rfl (by omega), f 7 11 4 rfl (by omega),
      getByte_eq (mhdr :: p) 11 (by omega), getByte_eq (mhdr :: p) 12 (by omega), hcf, extractMic_eq (mhdr :: p) (by omega),
      bind_ok, pure, Outcome.map, JoinAcceptView.toSpec, hcf', leValue_eq, and_0f,
      last4_cons mhdr p (by omega), List.drop_succ_cons, List.drop_zero, List.getElem_cons_succ,
      List.drop_eq_getElem_cons h10, List.drop_eq_getElem_cons h11]

/-- `DecryptedJoinAcceptPayload::validate_mic` = "aes128_cmac(AppKey, MHDR | … )[0..3] equals the last
four octets", for every 17- or 33-byte string -/
theorem join_accept_mic_eq_spec (c : Cipher) (k : Key) (clear : Bytes) (hl : clear.length = 17 ∨ clear.length = 33) :
    joinAcceptValidateMic clear ⟨c, k⟩
      = .ok (Spec.joinMic c k (Spec.msgOf clear) == (Spec.joinAcceptView clear).mic) := by
  have h4 : 4 ≤ clear.length := by omega
  unfold joinAcceptValidateMic usizeSub
  rw [if_pos h4]
  simp only [bind, bind_ok, slice_msgOf, extractMic_eq clear h4, pure]
  cases clear with
  | nil => cases h4
  | cons mhdr p =>
    rw [last4_cons mhdr p (by simp only [List.length_cons] at hl; omega)]
    exact congrArg Outcome.ok BEq.comm

/-- **C02 (JoinAccept, checked).** `check_mic_and_decrypt_in_place` on a JoinAccept: the
specification's refusal with the buffer untouched; otherwise the buffer holds the decrypted frame and
the result is `Ok` exactly when the specification finds it authentic, `InvalidMic` otherwise. -/
theorem join_accept_check_eq_spec (c : Cipher) (k : Key) (b : Bytes) :
    joinAcceptCheckMicAndDecryptInPlace b ⟨c, k⟩ =
      match Spec.decodeJoinAccept c k b with
      | .error e => (.err e, b)
      | .ok (clear, _, authentic) => (if authentic then .ok clear else .err .invalidMic, clear) := by
  unfold joinAcceptCheckMicAndDecryptInPlace Spec.decodeJoinAccept
  rw [join_accept_decrypt_eq_spec]
  cases hs : Spec.checkJoinAccept b with
  | error e => rfl
  | ok u =>
    obtain ⟨mhdr, rest, rfl, hl⟩ := ja_cases b hs
    simp only []
    rw [join_accept_mic_eq_spec c k _ (by rw [clear_length c k mhdr rest]; omega)]
    generalize (Spec.joinMic c k _ == _) = authentic
    cases authentic <;> rfl

/-- `derive_nwkskey` / `derive_appskey` = aes128_encrypt(AppKey, tag | AppNonce | NetID | DevNonce | pad16) -/
theorem derive_session_key_eq_spec (c : Cipher) (k : Key) (clear : Bytes) (tag : UInt8) (dn : DevNonce)
    (hl : clear.length = 17 ∨ clear.length = 33) :
    deriveSessionKey clear tag dn ⟨c, k⟩
      = .ok (Spec.sessionKey c k tag (Spec.joinAcceptView clear).joinNonce (Spec.joinAcceptView clear).netId
          (Spec.fromLe dn.toList)).toList := by
  obtain ⟨d0, d1, hd⟩ := vec2_toList dn
  cases clear with
  | nil => simp at hl
  | cons mhdr p =>
    obtain ⟨j0, j1, j2, n0, n1, n2, _, _, rest, rfl⟩ := list8 p (by simp only [List.length_cons] at hl; omega)
    simp only [deriveSessionKey, bind, hd, Spec.sessionKey, Spec.joinAcceptView, List.drop_succ_cons, List.drop_zero,
      List.take_succ_cons, List.take_zero, le3_fromLe, le2_fromLe]
    simp [setByte, slice, arr, copyFromSlice, Outcome.bind, Crypto.encryptBlock, Block.ofList?, List.replicate]
    rfl

/-- **C02 (classification).** `parse` classifies every byte string as the specification does and the
classified view reads as the specification's: JoinRequest fields, the opaque (still encrypted)
JoinAccept, or the data-frame view; same refusals (TooShort, UnsupportedMajorVersion,
UnsupportedMessageType for RFU/Proprietary, and the per-type structure errors). -/
theorem parse_top_eq_spec (b : Bytes) : (parse b).bind phyToSpec = Outcome.ofExcept (Spec.decode b) := by
  unfold parse Spec.decode
  cases b with
  | nil => rfl
  | cons mhdr rest =>
    simp only [major_iff mhdr]
    by_cases hmaj : mhdr.toNat % 4 ≠ 0
    · rw [if_pos hmaj, if_pos hmaj]
      rfl
    · rw [if_neg hmaj, if_neg hmaj]
      -- what each of the three parsers contributes, before the message type selects one
      have hjr : ((parseJoinRequest (mhdr :: rest)).bind fun b => pure (PhyPayload.joinRequest b)).bind phyToSpec
          = Outcome.ofExcept ((Spec.decodeJoinRequest (mhdr :: rest)).map Spec.Decoded.joinRequest) := by
        rw [Outcome.bind_bind]
        simp only [pure, bind_ok, phyToSpec]
        rw [Outcome.bind_map_comp, Outcome.ofExcept_map, ← parse_join_request_eq_spec, Outcome.map_map]
        rfl
      have hja : ((parseJoinAccept (mhdr :: rest)).bind fun b => pure (PhyPayload.joinAccept b)).bind phyToSpec
          = Outcome.ofExcept ((Spec.checkJoinAccept (mhdr :: rest)).map fun _ => Spec.Decoded.joinAccept (mhdr :: rest)) := by
        simp only [parseJoinAccept, bind, validate_ja_structure_spec]
        cases Spec.checkJoinAccept (mhdr :: rest) <;> rfl
      have hdata : ((parseData (mhdr :: rest)).bind fun p => pure (PhyPayload.data p)).bind phyToSpec
          = Outcome.ofExcept ((Spec.decodeData (mhdr :: rest)).map Spec.Decoded.data) := by
        rw [Outcome.bind_bind]
        simp only [pure, bind_ok, phyToSpec]
        rw [Outcome.bind_map_comp, Outcome.ofExcept_map, ← parse_eq_spec, Outcome.map_map]
        rfl
      have hlt : mhdr.toNat / 32 < 8 := Nat.div_lt_of_lt_mul mhdr.toNat_lt
      match hq : mhdr.toNat / 32, hlt with
      | 0, _ => rw [shift_lit mhdr 0 (by omega) hq]; exact hjr
      | 1, _ => rw [shift_lit mhdr 1 (by omega) hq]; exact hja
      | 2, _ => rw [shift_lit mhdr 2 (by omega) hq]; exact hdata
      | 3, _ => rw [shift_lit mhdr 3 (by omega) hq]; exact hdata
      | 4, _ => rw [shift_lit mhdr 4 (by omega) hq]; exact hdata
      | 5, _ => rw [shift_lit mhdr 5 (by omega) hq]; exact hdata
      | 6, _ => rw [shift_lit mhdr 6 (by omega) hq]; rfl
      | 7, _ => rw [shift_lit mhdr 7 (by omega) hq]; rfl
      | n + 8, h => omega

theorem jaFits_toSpec (d : JoinAccept) : jaFits d.toSpec := by
  have h3 : ∀ v : Vector UInt8 3, leValue v.toList < 2 ^ 24 := fun v => by have := leValue_lt v.toList; simpa using this
  have h9 : ∀ v : Vector UInt8 9, leValue v.toList < 2 ^ 72 := fun v => by have := leValue_lt v.toList; simpa using this
  refine ⟨h3 _, h3 _, ?_⟩
  intro l hl
  unfold JoinAccept.toSpec at hl
  simp only at hl
  cases hcf : d.cFList with
  | none => rw [hcf] at hl; cases hl
  | some cf =>
    rw [hcf] at hl
    simp only [Option.map_some, Option.some.injEq] at hl
    subst hl
    cases cf with
    | dynamicChannel f => exact ⟨h3 _, h3 _, h3 _, h3 _, h3 _⟩
    | fixedChannel m => exact h9 _

/-- **C02 (JoinAccept round trip).** For a cipher whose decryption inverts its encryption (as AES
does): decrypting-and-checking a built JoinAccept with the same key succeeds, leaves the plaintext
frame in the buffer, and every accessor (nonce, NetID, DevAddr, DLSettings, RxDelay (low nibble),
CFList type 0/1 or absent) reads back the description it was built from. -/
theorem join_accept_round_trip (c : Cipher) (hc : LawfulCipher c) (d : JoinAccept) (buf : Bytes) (k : Key) (frame : Bytes)
    (hb : d.buildInto buf ⟨c, k⟩ = .ok frame) :
    ∃ clear mic, joinAcceptCheckMicAndDecryptInPlace frame ⟨c, k⟩ = (.ok clear, clear)
      ∧ (joinAcceptView clear).map JoinAcceptView.toSpec = .ok (jaExpected d.toSpec mic) := by
  have hb := C01.build_join_accept_ok c d buf k frame hb
  have hs := spec_join_accept_roundtrip c hc k d.toSpec (jaFits_toSpec d)
  simp only [] at hs
  rw [hb] at hs
  generalize hclr : Spec.joinAcceptMsg d.toSpec ++ Spec.joinMic c k (Spec.joinAcceptMsg d.toSpec) = clear at hs
  have hl : clear.length = 17 ∨ clear.length = 33 := by
    rw [← hclr, List.length_append, ja_msg_length, joinMic_length]
    split <;> simp
  refine ⟨clear, Spec.joinMic c k (Spec.joinAcceptMsg d.toSpec), ?_, ?_⟩
  · rw [join_accept_check_eq_spec, hs]
    rfl
  · rw [join_accept_view_eq_spec _ hl, ← hclr, ja_view_of_msg _ _ (joinMic_length ..) (jaFits_toSpec d)]

/-- The JoinAccept round trip for the concrete AES-128 of `Model/Aes.lean` — no hypothesis left:
`LawfulCipher aes` is a theorem (`Lora.aes_lawful`). -/
theorem join_accept_round_trip_aes (d : JoinAccept) (buf : Bytes) (k : Key) (frame : Bytes)
    (hb : d.buildInto buf ⟨aes, k⟩ = .ok frame) :
    ∃ clear mic, joinAcceptCheckMicAndDecryptInPlace frame ⟨aes, k⟩ = (.ok clear, clear)
      ∧ (joinAcceptView clear).map JoinAcceptView.toSpec = .ok (jaExpected d.toSpec mic) :=
  join_accept_round_trip aes aes_lawful d buf k frame hb

/-- **C02 (JoinRequest round trip).** Parsing a built JoinRequest returns the EUIs and nonce it was
built from, and its MIC validates under the same key. -/
theorem join_request_round_trip (c : Cipher) (d : JoinRequest) (buf : Bytes) (k : Key) (frame : Bytes)
    (hb : d.buildInto buf ⟨c, k⟩ = .ok frame) :
    ((parseJoinRequest frame).bind joinRequestView).map JoinRequestView.toSpec
        = .ok { joinEui := d.toSpec.joinEui, devEui := d.toSpec.devEui, devNonce := d.toSpec.devNonce
                mic := Spec.joinMic c k (Spec.joinRequestMsg d.toSpec) }
    ∧ ((parseJoinRequest frame).bind fun x => joinRequestValidateMic x ⟨c, k⟩) = .ok true := by
  have hb := C01.build_join_request_ok c d buf k frame hb
  obtain ⟨v, hdec, rfl, hauth⟩ := spec_join_request_roundtrip c k d.toSpec
  rw [parse_join_request_eq_spec, join_request_mic_eq_spec, ← hb, hdec]
  exact ⟨rfl, congrArg Outcome.ok hauth⟩

/-! ## Non-vacuity: the published frames of `lorawan-encoding/tests/lorawan.rs`

`Lemmas/C02Vectors.lean` runs the model (Lean AES, kernel evaluation) on the repository's pinned
frames.  Here the hypotheses of the theorems are shown satisfiable on them, and through the theorems
the *specification* gives the same verdicts. -/

section Vectors
open C02Vectors

/-- the published uplink parses; every accessor as the tests expect (`header_accessors`) -/
example : dataViewOf upFrame = .ok
    { frameType := .unconfirmedUp, isUplink := true, isConfirmed := false, devAddr := [0x04, 0x03, 0x02, 0x01],
      fctrlRaw := 0x80, adr := true, adrAckReq := false, ack := false, fPending := false, fOptsLen := 0, fcnt := 1,
      fOpts := [], fPort := some 1, frm := [0xa6, 0x94, 0x64, 0x26, 0x15], mic := [0xd6, 0xc3, 0xb5, 0x82] } := by
  decide +kernel
example : upFrame.length ≤ 4064 := by decide
-- structural refusals are inhabited
example : Outcome.ofExcept (Spec.decodeData (upFrame.take 11)) = .err .tooShort := by decide +kernel
example : Outcome.ofExcept (Spec.decodeData (0x41 :: upFrame.drop 1)) = .err .unsupportedMajorVersion := by decide +kernel
example : Outcome.ofExcept (Spec.decodeData [0x80, 0x04, 0x03, 0x02, 0x01, 0x0f, 0xff, 0x04, 0x01, 0x02, 0x03, 0x04])
    = .err .truncatedFhdr := by decide +kernel

/-- `checked_decrypt_fail_untouched` has an inhabited hypothesis: a frame with one flipped MIC bit fails
with `InvalidMic`, and the theorem (not evaluation) says the buffer is the received one -/
example : (checkMicAndDecryptInPlace aes upBad k02 (some k01) 1).2 = upBad :=
  checked_decrypt_fail_untouched aes upBad k02 (some k01) 1 .invalidMic (by rw [bad_checked])

/-- through `checked_decrypt_eq_spec`: the specification finds the published uplink authentic for counter 1 -/
example : ∃ v, Spec.decodeData upFrame = .ok v ∧ Spec.dataAuthentic aes k02 1 upFrame v = true := by
  have hu := up_checked
  rw [checked_decrypt_eq_spec] at hu
  cases hd : Spec.decodeData upFrame with
  | error e => rw [hd] at hu; cases hu
  | ok v =>
    refine ⟨v, rfl, ?_⟩
    rw [hd] at hu
    cases ha : Spec.dataAuthentic aes k02 1 upFrame v with
    | true => rfl
    | false => simp only [ha, Bool.false_eq_true, if_false] at hu

/-- … and not authentic for the counter 65537 of another epoch (`validate_mic_eq_spec`) -/
example : ∃ v, Spec.decodeData upFrame = .ok v ∧ Spec.dataAuthentic aes k02 65537 upFrame v = false := by
  have h := validate_mic_eq_spec aes k02 65537 upFrame
  rw [up_mic_other_epoch] at h
  cases hd : Spec.decodeData upFrame with
  | error e => rw [hd] at h; cases h
  | ok v =>
    rw [hd] at h
    exact ⟨v, rfl, (Outcome.ok.inj h).symm⟩

/-- the published JoinAccept: through `join_accept_check_eq_spec` the specification decrypts it to the
plaintext the tests pin and finds it authentic -/
example : ∃ v, Spec.decodeJoinAccept aes appKey [0x20, 0x49, 0x3e, 0xeb, 0x51, 0xfb, 0xa2, 0x11, 0x6f, 0x81, 0x0e, 0xdb, 0x37,
      0x42, 0x97, 0x51, 0x42]
    = .ok ([0x20, 0xc7, 0x0b, 0x57, 0x01, 0x11, 0x22, 0x80, 0x19, 0x03, 0x02, 0x00, 0x00, 0x43, 0x48, 0x5b, 0xbc], v, true) := by
  have h := ja_checked
  rw [join_accept_check_eq_spec] at h
  split at h
  · cases h
  · next clear v a hd =>
    obtain ⟨ha, rfl⟩ := Prod.mk.inj h
    cases a
    · contradiction
    · exact ⟨v, hd⟩

-- the hypothesis of `join_accept_round_trip` is satisfiable, by the very cipher the driver runs
example : LawfulCipher aes := aes_lawful

end Vectors

#print axioms parse_eq_spec
#print axioms validate_mic_eq_spec
#print axioms validate_mic_iff
#print axioms decrypt_eq_spec
#print axioms checked_decrypt_eq_spec
#print axioms checked_decrypt_fail_untouched
#print axioms decrypt_involutive
#print axioms full_fcnt_eq
#print axioms roundtrip_desc
#print axioms parse_build
#print axioms parse_join_request_eq_spec
#print axioms join_request_mic_eq_spec
#print axioms join_accept_decrypt_eq_spec
#print axioms join_accept_view_eq_spec
#print axioms join_accept_mic_eq_spec
#print axioms join_accept_check_eq_spec
#print axioms derive_session_key_eq_spec
#print axioms parse_top_eq_spec
#print axioms join_accept_round_trip
#print axioms join_accept_round_trip_aes
#print axioms Lora.aes_lawful
#print axioms join_request_round_trip

end C02
