import LoraVerif.Props.C10
import LoraVerif.Spec.Regional
/-!
# The regional tables of the code are RP002's (for C05's size clause, and for C10 and C09)

The size clause of C05 compares the frame with `RfConfig.maxPayload` of the window it was received
in.  These theorems pin that number to the regional parameters, for the tables REGENERATED from the
current source on every run (`Gen.Region.*_DATARATES`):

* `datarate_tables_rp002`: in every region, every data rate the code defines carries exactly the
  maximum MACPayload size RP002 gives for its spreading factor and bandwidth (`Spec.Regional.maxM`,
  written from the regional-parameter tables).  This is the theorem that
  fails for a table entry copied from another region (EU433 DR2 carried AS923's 123 until /repo
  13ccc9c).
* `window_limit_rp002`: whatever window `build_rf_config` hands out — including the fallback to the
  RX2 rate when the regional RX1 rate is undefined — its size limit is RP002's maximum for the
  spreading factor and bandwidth the window is actually opened at.
* likewise the regional default RX2 frequency (`C10.rx2_default_freq_rp002`) and the maximum EIRP
  (`C09.tx_power_le_max_eirp_rp002`, `C09.tx_power_0_defined`) are RP002's.

Nothing here rests on `Props/C05.lean` (the module is named after its first user); `Props/C10` is imported for
`C10.window_dr_defined`, which says at which data rate a window is opened.
-/
open Model Gen.Region Spec.Regional

namespace C05

theorem datarate_tables_rp002 : ∀ r ∈ RegionId.all, ∀ od ∈ datarates r, ∀ d, od = some d →
    maxM (specName r) d.spreading_factor.factor d.bandwidth.hz = some d.max_mac_payload_size := by
  decide +kernel

/-- the same for one lookup -/
theorem getDatarate_rp002 (r : RegionId) (k : Nat) (d : Datarate) (h : getDatarate r k = some d) :
    maxM (specName r) d.spreading_factor.factor d.bandwidth.hz = some d.max_mac_payload_size :=
  datarate_tables_rp002 r r.mem_all _ (List.mem_of_getElem? (getDatarate_eq_some.mp h)) d rfl

theorem window_limit_rp002 (m : MacState) (f : Nat) (dr txdr : DR) (r : RfConfig)
    (h : buildRfConfig m f dr txdr = .ok r) :
    maxM (specName m.region.id) r.sf r.bwHz = some r.maxPayload := by
  obtain ⟨d, rfl, k, hk⟩ := C10.window_dr_defined m f dr txdr r h
  exact getDatarate_rp002 _ k d hk

/-- non-vacuity: EU433 DR2 is SF10/125 kHz and limited to 59 octets -/
example : (getDatarate .EU433 2).map (fun d => (d.spreading_factor.factor, d.bandwidth.hz, d.max_mac_payload_size)) = some (10, 125000, 59) := by decide

end C05

namespace C10

/-- the regional default RX2 frequency is RP002's; for the AS923 groups it is 923.2 MHz shifted by the
group's offset like every other default frequency (AS923-3 carried 916.5 MHz until /repo's fix of the
RX2 default; `C10.tieA_rx2Frequency` ties `rx2Frequency` to the regenerated constant) -/
theorem rx2_default_freq_rp002 : ∀ r ∈ RegionId.all, rx2Frequency r = rx2DefaultFreq r.name := by decide +kernel

end C10

namespace C09

/-- "the regional maximum EIRP" of C09 is RP002's: whatever TXPower index (every `u8`) the region's
REGENERATED `tx_power_adjust` accepts, the level it yields is at most RP002's maximum EIRP of the
region, and index 0 yields a level (EU433 carried 16 dBm where RP002 gives 12.15 dBm until /repo's
fix; `C09`'s power theorems bound every transmission by `txPowerAdjust r 0` less the antenna gain) -/
theorem tx_power_le_max_eirp_rp002 (r : RegionId) (p : Nat) (hp : p < 256) (v : Nat)
    (h : txPowerAdjust r p = .ok (some v)) : (v : Int) ≤ maxEirpDbm r.name := by
  have := powOk_all r r.mem_all p (List.mem_range.mpr hp)
  unfold powOk at this
  rw [h] at this
  exact of_decide_eq_true this

theorem tx_power_0_defined : ∀ r ∈ RegionId.all,
    (match txPowerAdjust r 0 with | .ok (some v) => decide ((v : Int) ≤ maxEirpDbm r.name) | _ => false) = true := by
  decide +kernel

/-- non-vacuity: EU433 TXPower 0 is 12 dBm, TXPower 5 is 2 dBm -/
example : (match txPowerAdjust .EU433 0, txPowerAdjust .EU433 5 with | .ok (some a), .ok (some b) => a == 12 && b == 2 | _, _ => false) = true := by decide

end C09

#print axioms C09.tx_power_le_max_eirp_rp002
#print axioms C09.tx_power_0_defined
#print axioms C10.rx2_default_freq_rp002
#print axioms C05.datarate_tables_rp002
#print axioms C05.getDatarate_rp002
#print axioms C05.window_limit_rp002
