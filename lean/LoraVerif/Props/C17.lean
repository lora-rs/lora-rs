import LoraVerif.Gen.Modulation
import LoraVerif.Gen.PhyArith
import LoraVerif.Spec.Airtime
import LoraVerif.Spec.SemtechArith
import LoraVerif.Model.PhyArith
import LoraVerif.Lemmas.RtLemmas
import LoraVerif.Lemmas.PhyArithLemmas
import LoraVerif.Props.C16
/-!
# C17 — programmed frequency, TX power and RX timeout decode to what was requested

`Gen.PhyArith` / `Gen.Modulation` are regenerated from the drivers' sources on every run (tie A:
`convert_freq_in_hz_to_pll_step`, `freq_to_pll_step`, `pll_step_to_freq`, `linearize_rssi`,
`PaTable::lookup` and the three PA tables, the limits and offsets, `delay_in_symbols`); the
fragments inside async driver methods are the hand model `Model.PhyArith` (tie B, compared with the
real drivers on their whole finite domains by `harness/src/c17.rs`).  `Spec.Semtech` decodes the
written bytes the way the chip does.
-/
open Gen.Modulation Gen.PhyArith Spec.Semtech Model.PhyArith Rt

namespace C17

/-- **SX126x frequency.** For every `u32` frequency below 4.096 GHz (the chips cover 137–1020 MHz)
the conversion does not overflow, the word is the step *nearest* to the request (error at most half
a step, < 0.48 Hz: `|pll·15625 − f·2^14| ≤ 7812`), it is the datasheet value, and the four bytes
`set_channel` writes reassemble to it. -/
theorem pll126_nearest (f : Int) (h0 : 0 ≤ f) (h1 : f < 4096000000) :
    ∃ p, Sx126x.convert_freq_in_hz_to_pll_step f = some p ∧
      (p * 15625 - f * 16384).natAbs ≤ 7812 ∧ Sx126xNearest f p ∧ p = sx126xPll f ∧
      sx126xSetChannel f = some p := by
  refine ⟨(f * 16384 + 7812) / 15625, Sx126x.convert_freq_in_hz_to_pll_step_closed f h0 h1, by omega, ?_, ?_, ?_⟩
  · unfold Sx126xNearest; omega
  · unfold sx126xPll; omega
  · unfold sx126xSetChannel
    rw [Sx126x.convert_freq_in_hz_to_pll_step_closed f h0 h1]
    generalize hp : (f * 16384 + 7812) / 15625 = p
    have hp0 : 0 ≤ p := by omega
    have hp1 : p < 4294967296 := by omega
    simp (disch := omega) only [Option.bind_eq_bind, Option.bind_some, shrC_u32_24, shrC_u32_16, shrC_u32_8,
      Option.pure_def, andI_255]
    congr 1
    have e1 : p / 65536 / 256 = p / 16777216 := by omega
    have e2 : p / 256 / 256 = p / 65536 := by omega
    omega

/-- **SX127x frequency.** For every `u32` frequency the conversion does not overflow and the word is
the synthesiser step *nearest* to the request (`2·|f·2^19 − pll·32·10^6| ≤ 32·10^6`: error at most
half a 61.04 Hz step, hence well under the 62 Hz the property allows); it is the reference
driver's value; converting it back lands within 31 Hz of the request; and for every frequency
below 1.024 GHz it fits the 24-bit register and the three bytes `set_channel` writes reassemble
to it. -/
theorem pll127_nearest (f : Int) (h0 : 0 ≤ f) (h1 : f ≤ 4294967295) :
    ∃ p, freq_to_pll_step f = some p ∧
      2 * (f * 2 ^ 19 - p * 32000000).natAbs ≤ 32000000 ∧ p = sx127xPll f ∧
      (∃ g, pll_step_to_freq p = some g ∧ f - 31 ≤ g ∧ g ≤ f + 30) ∧
      (f < 1023999969 → Sx127xNearest f p ∧ Sx127xWithinStep f p ∧ sx127xSetChannel f = some p) := by
  refine ⟨(f * 524288 + 16000000) / 32000000, freq_to_pll_step_closed f h0 h1, by omega, by unfold sx127xPll; omega, ?_, ?_⟩
  · refine ⟨((f * 524288 + 16000000) / 32000000) * 32000000 / 524288, pll_step_to_freq_closed _ (by omega) (by omega), by omega, by omega⟩
  · intro hf
    refine ⟨by unfold Sx127xNearest; omega, by unfold Sx127xWithinStep; omega, ?_⟩
    unfold sx127xSetChannel
    rw [freq_to_pll_step_closed f h0 h1]
    generalize hp : (f * 524288 + 16000000) / 32000000 = p
    have hp0 : 0 ≤ p := by omega
    have hp1 : p < 16777216 := by omega
    simp only [Option.bind_eq_bind, Option.bind_some, shrC_u32_16, shrC_u32_8, Option.pure_def,
      andI_ff0000_shr hp0, andI_00ff00_shr hp0, andI_255 hp0]
    congr 1
    have e4 : p / 256 / 256 = p / 65536 := by omega
    omega

/-- what the model's `set_tx_power_and_ramp_time` result is as an observation -/
def paObs : Out (Int × Int × Int × Int) → Option (Option (Nat × Nat × Nat × Int))
  | .ok (d, h, s, p) => some (some (d.toNat, h.toNat, s.toNat, p))
  | .err => some none
  | .panic => none

/-- the requirement, on the model's own output -/
def pa126Holds (c : Chip) (hp : Bool) (req : Int) (rf : Option Int) : Bool :=
  match paObs (sx126xSetTxPower c hp req rf) with
  | some o => PaOk126x c (isHighPower c hp) req rf o
  | none => false

def below400 (rf : Option Int) : Bool := match rf with | some f => decide (f < 400000000) | none => false

/-- The requirement depends on the request only through its clamp into the PA's range `[lo, hi]` (the table lookup
clamps, and `req ≥ 15` is `clamp ≥ 15` as `lo < 15 ≤ hi`), and on the channel only through "below 400 MHz". -/
theorem pa126_clamp (c : Chip) (hp : Bool) (req : Int) (rf : Option Int) (lo hi : Int)
    (hT : (paTableOf c hp).min_dbm = lo) (hmx : lastMax (paTableOf c hp) = some hi)
    (hr : paRange126x (isHighPower c hp) = (lo, hi)) (h15 : lo < 15 ∧ 15 ≤ hi) :
    pa126Holds c hp req rf = pa126Holds c hp (clampI lo hi req) (if below400 rf then some 0 else none) := by
  have hge : decide (req ≥ 15) = decide (clampI lo hi req ≥ 15) := by
    unfold clampI; simp only [decide_eq_decide]; omega
  have hidem : clampI lo hi (clampI lo hi req) = clampI lo hi req := clamp_idem lo hi req
  unfold pa126Holds sx126xSetTxPower PaOk126x
  rw [lookup_clamp _ req hi hmx, lookup_clamp _ (clampI lo hi req) hi hmx, hT, hr, hidem, hge]
  rcases rf with _ | f
  · rfl
  · by_cases hf : f < 400000000 <;> simp only [below400, hf, decide_true, decide_false, if_true, Bool.false_eq_true, if_false] <;> rfl

theorem pa126_of_range (c : Chip) (hp : Bool) (req : Int) (rf : Option Int) (lo hi : Int) (n : Nat)
    (h15 : lo < 15 ∧ 15 ≤ hi ∧ hi < lo + n)
    (h : (paTableOf c hp).min_dbm = lo ∧ lastMax (paTableOf c hp) = some hi ∧
      paRange126x (isHighPower c hp) = (lo, hi) ∧
      ∀ i : Fin n, ∀ b : Bool, pa126Holds c hp (lo + i) (if b then some 0 else none) = true) :
    pa126Holds c hp req rf = true := by
  rw [pa126_clamp c hp req rf lo hi h.1 h.2.1 h.2.2.1 ⟨h15.1, h15.2.1⟩]
  exact of_clamp (P := fun k => ∀ b : Bool, pa126Holds c hp k (if b then some 0 else none) = true) lo hi n
    (by omega) h.2.2.2 req _

/-- **SX126x TX power.** For the SX1261, the SX1262 and both PAs of the STM32WL, for EVERY integer
request (no bound at all — `i32` extremes included) and whether or not the driver knows the channel:
the generated table lookup does not panic, the programmed `(paDutyCycle, hpMax, deviceSel, power)`
is a documented combination whose output power is exactly the request clamped into the selected
PA's range (so never above the request inside the range), the low-power PA is never driven with
`paDutyCycle > 4` below 400 MHz, and the driver refuses only what the chip cannot do there. -/
theorem pa126 (c : Chip) (hp : Bool) (req : Int) (rf : Option Int)
    (hc : c = .sx1261 ∨ c = .sx1262 ∨ c = .stm32wl) : pa126Holds c hp req rf = true := by
  -- `use_high_power_pa` only matters on the STM32WL
  rcases hc with rfl | rfl | rfl
  · exact pa126_of_range .sx1261 false req rf (-17) 15 33 (by omega) (by decide +kernel)
  · exact pa126_of_range .sx1262 false req rf (-9) 22 32 (by omega) (by decide +kernel)
  · cases hp
    · exact pa126_of_range _ _ req rf (-17) 15 33 (by omega) (by decide +kernel)
    · exact pa126_of_range _ _ req rf (-9) 22 32 (by omega) (by decide +kernel)

def pa1276Holds (req : Int) (boost : Bool) : Bool :=
  match sx1276SetTxPower req boost with
  | some (cfg, dac, _) => decide (0 ≤ cfg ∧ cfg ≤ 255) && PaOk127x .sx1276 boost req cfg.toNat dac.toNat
  | none => false

def pa1272Holds (req : Int) (boost : Bool) : Bool :=
  match sx1272SetTxPower req boost with
  | some (cfg, dac) => decide (0 ≤ cfg ∧ cfg ≤ 255) && PaOk127x .sx1272 boost req cfg.toNat dac.toNat
  | none => false

theorem pa1276_clamp (req : Int) (boost : Bool) :
    pa1276Holds req boost = pa1276Holds (clampI (paRange127x .sx1276 boost).1 (paRange127x .sx1276 boost).2 req) boost := by
  cases boost <;>
    simp only [pa1276Holds, sx1276SetTxPower, PaOk127x, paRange127x, clampI, clamp_idem, Bool.false_eq_true, if_false, if_true]

/-- **SX1276 TX power.** For EVERY integer request and either output pin: no panic, `RegPaConfig` is
a byte that selects the wired pin, and the output power the datasheet formula gives for
`RegPaConfig`/`RegPaDac` is never above the request clamped into the pin's range (RFO −4..14 dBm,
PA_BOOST 2..20 dBm) and less than 1 dB below it (exactly equal except on RFO at ≤ 0 dBm, where
`Pmax = 10.8 dBm` puts it 0.2 dB lower). -/
theorem pa1276 (req : Int) (boost : Bool) : pa1276Holds req boost = true := by
  rw [pa1276_clamp]
  cases boost
  · exact of_clamp (P := fun k => pa1276Holds k false = true) (-4) 14 19 (by omega) (by decide +kernel) req
  · exact of_clamp (P := fun k => pa1276Holds k true = true) 2 20 19 (by omega) (by decide +kernel) req

theorem pa1272_clamp (req : Int) (boost : Bool) :
    pa1272Holds req boost = pa1272Holds (clampI (paRange127x .sx1272 boost).1 (paRange127x .sx1272 boost).2 req) boost := by
  cases boost
  · simp only [pa1272Holds, sx1272SetTxPower, PaOk127x, paRange127x, clampI, clamp_idem, Bool.false_eq_true, if_false]
  · -- the three clamps of the PA_BOOST branch and its `> 17` test see the request only through `clamp 2 20`
    have h17 : (Max.max (2 : Int) (Min.min 20 req) > 17) = (req > 17) := by simp only [eq_iff_iff]; omega
    have h5 : Max.max (5 : Int) (Min.min 20 (Max.max 2 (Min.min 20 req))) = Max.max 5 (Min.min 20 req) := by omega
    have h2 : Max.max (2 : Int) (Min.min 17 (Max.max 2 (Min.min 20 req))) = Max.max 2 (Min.min 17 req) := by omega
    simp only [pa1272Holds, sx1272SetTxPower, PaOk127x, paRange127x, clampI, clamp_idem, h17, h5, h2, if_true]

/-- **SX1272 TX power.** Same for the SX1272 (RFO −1..14 dBm, PA_BOOST 2..20 dBm with the +20 dBm
`PaDac` setting above 17 dBm); here the decoded power equals the clamped request exactly. -/
theorem pa1272 (req : Int) (boost : Bool) : pa1272Holds req boost = true := by
  rw [pa1272_clamp]
  cases boost
  · exact of_clamp (P := fun k => pa1272Holds k false = true) (-1) 14 16 (by omega) (by decide +kernel) req
  · exact of_clamp (P := fun k => pa1272Holds k true = true) 2 20 19 (by omega) (by decide +kernel) req

def symb126Holds (n : Int) : Bool :=
  match sx126xSymbTimeout n with
  | some (cmd, reg) => decide (0 ≤ cmd) && (match reg with | some r => decide (0 ≤ r) | none => true) &&
      SymbOk126x n.toNat cmd.toNat (reg.map Int.toNat)
  | none => false

theorem symb126_big (n : Int) (h : 248 < n) : sx126xSymbTimeout n = some (248, some 249) := by
  unfold sx126xSymbTimeout
  have h1 : Min.min n SX126X_MAX_LORA_SYMB_NUM_TIMEOUT = 248 := by
    show Min.min n 248 = 248; omega
  have h2 : n > 0 := by omega
  rw [h1]; simp only [h2, if_true]
  decide

/-- **SX126x RX timeout.** For every symbol count (any non-negative integer, so all of `u16`): the
mantissa/exponent loop terminates without `u8` overflow, the `SetLoRaSymbNumTimeout` argument and
the value written to register 0x0706 denote the same count `mant·2^(2·exp+1)`, which is at least
`min n 248` and at most the chip maximum 248; for `n = 0` only a zero command is sent. -/
theorem symb126 (n : Int) (h0 : 0 ≤ n) : symb126Holds n = true := by
  by_cases h : n ≤ 248
  · exact forall_int_range 0 249 (fun k => symb126Holds k = true) (by decide +kernel) n h0 (by omega)
  · have hn : 248 < n := by omega
    unfold symb126Holds
    rw [symb126_big n hn]
    have : min n.toNat 248 = 248 := by omega
    have h3 : (n.toNat != 0) = true := by simp; omega
    simp [SymbOk126x, this, h3, symb126x]

/-- **SX127x RX timeout.** For every symbol count `n ≥ 0` (all of `u16`) and every prior content of
`RegModemConfig2`: the ten-bit `SymbTimeout` the chip reads from `RegModemConfig2[1:0]` and
`RegSymbTimeoutLsb` equals `n` clamped into the chip's range 4..1023 — never shorter than requested
up to the chip maximum — and the other six bits of `RegModemConfig2` are preserved. -/
theorem symb127 (n prior : Int) (h0 : 0 ≤ n) (hp0 : 0 ≤ prior) (hp1 : prior ≤ 255) :
    ∃ cfg2 lsb, sx127xSymbTimeout n prior = some (cfg2, lsb) ∧ 0 ≤ cfg2 ∧ cfg2 ≤ 255 ∧ 0 ≤ lsb ∧
      (symb127x cfg2.toNat lsb.toNat : Int) = clampI 4 1023 n ∧ cfg2 / 4 = prior / 4 ∧
      SymbOk127x n.toNat cfg2.toNat lsb.toNat = true := by
  unfold sx127xSymbTimeout
  have hmin : SX127X_MIN_LORA_SYMB_NUM_TIMEOUT = 4 := rfl
  have hmax : SX127X_MAX_LORA_SYMB_NUM_TIMEOUT = 1023 := rfl
  rw [hmin, hmax]
  simp only [Option.bind_eq_bind, shrC_u16_8, Option.bind_some, Option.pure_def]
  generalize hk : Min.min (Max.max n 4) 1023 = k
  have hk0 : 4 ≤ k := by omega
  have hk1 : k ≤ 1023 := by omega
  have hkc : k = clampI 4 1023 n := by unfold clampI; omega
  rw [andI_3 (by omega), andI_255 (by omega), wrap_id_u8 (by omega) (by omega), wrap_id_u8 (by omega) (by omega)]
  rw [or_and_fc prior (k / 256 % 4) hp0 (by omega) (by omega) (by omega)]
  -- the two bytes and the request as naturals, so that no `toNat` is left in the arithmetic
  obtain ⟨c, hc⟩ := Int.eq_ofNat_of_zero_le (show 0 ≤ prior / 4 * 4 + k / 256 % 4 by omega)
  obtain ⟨l, hl⟩ := Int.eq_ofNat_of_zero_le (show 0 ≤ k % 256 by omega)
  obtain ⟨N, rfl⟩ := Int.eq_ofNat_of_zero_le h0
  rw [hc, hl]
  have h : ((c % 4 * 256 + l : Nat) : Int) = k := by omega
  have hl1 : l < 256 := by omega
  refine ⟨_, _, rfl, by omega, by omega, by omega, h.trans hkc, by omega, ?_⟩
  clear hc hl
  simp only [SymbOk127x, symb127x, Int.toNat_natCast, Bool.and_eq_true, ge_iff_le, decide_eq_true_eq]
  omega

/-- with a symbol time of at least 64 µs (SF5 at 500 kHz) the ceiling is at most `a / 64 + 1` -/
theorem ceil_bounds {a T : Int} (ha : 0 ≤ a) (hT : 64 ≤ T) :
    0 ≤ Spec.Airtime.ceilDiv a T ∧ Spec.Airtime.ceilDiv a T ≤ a / 64 + 1 := by
  rw [← Spec.Airtime.ceilDiv_eq_ite (by omega)]
  have hq0 : 0 ≤ a / T := Int.ediv_nonneg ha (by omega)
  have hr0 : 0 ≤ a % T := Int.emod_nonneg _ (by omega)
  have hdm := Int.mul_ediv_add_emod a T
  have h64 := Int.mul_le_mul_of_nonneg_right hT hq0
  split <;> omega

theorem delay_closed (p : BaseBandModulationParams) (ms : Int) (hT : 64 ≤ p.t_sym_us ∧ p.t_sym_us ≤ 524455)
    (h0 : 0 ≤ ms) (h1 : ms ≤ 4000) :
    p.delay_in_symbols ms = some (Spec.Airtime.ceilDiv (ms * 1000) p.t_sym_us) := by
  unfold BaseBandModulationParams.delay_in_symbols
  have hc := ceil_bounds (by omega : 0 ≤ ms * 1000) hT.1
  rw [← Spec.Airtime.ceilDiv_eq_ite (by omega)] at hc ⊢
  have hq0 : 0 ≤ ms * 1000 / p.t_sym_us := Int.ediv_nonneg (by omega) (by omega)
  have hr0 : 0 ≤ ms * 1000 % p.t_sym_us := Int.emod_nonneg _ (by omega)
  have hr1 : ms * 1000 % p.t_sym_us < p.t_sym_us := Int.emod_lt_of_pos _ (by omega)
  simp (disch := omega) only [ck_u32, divC_pos, remC_pos, wrap_id_u16, Option.bind_some, Option.bind_eq_bind,
    Option.pure_def]

theorem rxsym_closed (sf : SpreadingFactor) (bw : Bandwidth) (ms : Int) (h0 : 0 ≤ ms) (h1 : ms ≤ 4000) :
    rxModeSymbols sf bw ms = some (13 + Spec.Airtime.ceilDiv (ms * 1000) (Spec.Airtime.tsym sf.factor bw.hz)) := by
  have hT := C16.tsym_bounds sf bw
  have hc := ceil_bounds (by omega : 0 ≤ ms * 1000) hT.1
  unfold rxModeSymbols
  rw [C16.new_spec, Option.bind_eq_bind, Option.bind_some, delay_closed _ ms hT h0 h1]
  dsimp only [C16.params]
  exact ck_u16 (by omega) (by omega)

/-- the requirement on the model's own output: the window `RxMode::from` asks for covers
preamble + margin -/
def rxsymHolds (sf : SpreadingFactor) (bw : Bandwidth) (ms : Int) : Bool :=
  match rxModeSymbols sf bw ms with
  | some n => WindowCovers sf.factor bw.hz ms n
  | none => false

/-- A window of `13 + ⌈ms·1000 / t_sym⌉` symbols covers preamble and margin for ANY spreading factor and
bandwidth: `⌈a / T⌉·T ≥ a`, and truncating the symbol time errs to the safe side, `t_sym·BW ≤ 2^SF·10^6`. -/
theorem covers_of_ceil (sf hz ms : Int) (hz0 : 0 ≤ hz) (hT : 0 < Spec.Airtime.tsym sf hz) (h0 : 0 ≤ ms) :
    WindowCovers sf hz ms (13 + Spec.Airtime.ceilDiv (ms * 1000) (Spec.Airtime.tsym sf hz)) = true := by
  have hc := Spec.Airtime.le_ceilDiv_mul (ms * 1000) hT
  generalize Spec.Airtime.ceilDiv (ms * 1000) (Spec.Airtime.tsym sf hz) = c at *
  have hTh : Spec.Airtime.tsym sf hz * hz ≤ 2 ^ sf.toNat * 1000000 :=
    Int.ediv_mul_le _ (by rintro rfl; simp [Spec.Airtime.tsym] at hT)
  have hP : (0 : Int) ≤ 2 ^ sf.toNat := Int.pow_nonneg (by omega)
  refine decide_eq_true ?_
  generalize Spec.Airtime.tsym sf hz = T at *
  generalize (2 : Int) ^ sf.toNat = P at *
  have hc0 : 0 ≤ c := Int.nonneg_of_mul_nonneg_left (by omega) hT
  have h1 := Int.mul_le_mul_of_nonneg_left hTh hc0
  have h2 := Int.mul_le_mul_of_nonneg_right hc hz0
  grind

/-- **LoRaWAN adapter.** For every spreading factor, bandwidth and margin `0 ≤ ms ≤ 4000`:
`RxMode::from(Single { ms })` computes — without `u32`/`u16` overflow — a symbol count `n` whose
window covers the 12.25-symbol preamble plus the margin with the exact symbol time:
`n · 2^SF/BW ≥ 12.25 · 2^SF/BW + ms/1000`. -/
theorem rxsym (sf : SpreadingFactor) (bw : Bandwidth) (ms : Int) (h0 : 0 ≤ ms) (h1 : ms ≤ 4000) :
    rxsymHolds sf bw ms = true := by
  have hT := (C16.tsym_bounds sf bw).1
  unfold rxsymHolds
  rw [rxsym_closed sf bw ms h0 h1]
  exact covers_of_ceil _ _ ms (by cases bw <;> decide) (by omega) h0

theorem s8_byte (b : Int) (h0 : 0 ≤ b) (h1 : b ≤ 255) : s8 b.toNat = if b ≥ 128 then b - 256 else b := by
  unfold s8
  have : (b.toNat % 256 : Nat) = b.toNat := by omega
  rw [this]
  split <;> split <;> omega

theorem s8_bounds (b : Nat) : -128 ≤ s8 b ∧ s8 b ≤ 127 := by unfold s8; omega

/-- **SX126x packet status.** For all raw status bytes (the third byte is not used): no overflow
(the rounding `+ 2` is added in `i16`: raw SNR 126/127 would overflow `i8`), and the reported RSSI is within 0.5 dB
of `−raw/2` dBm, the reported SNR within 0.5 dB of `int8(raw)/4` dB. -/
theorem pkt126 (b0 b1 : Int) (h00 : 0 ≤ b0) (h01 : b0 ≤ 255) (h10 : 0 ≤ b1) (h11 : b1 ≤ 255) :
    ∃ r s, sx126xPktStatus b0 b1 = some (r, s) ∧ PktOk126x b0.toNat b1.toNat r s = true ∧
      (2 * r + b0).natAbs ≤ 1 ∧ (4 * s - s8 b1.toNat).natAbs ≤ 2 := by
  have hs := s8_bounds b1.toNat
  unfold sx126xPktStatus PktOk126x
  rw [wrap_i8_byte b1 h10 h11, ← s8_byte b1 h10 h11, Int.toNat_of_nonneg h00]
  generalize s8 b1.toNat = sv at *
  simp (disch := omega) only [ck_i32, ck_i16, shrC_i32_1, shrC_i16_2, wrap_id_i16, Option.bind_eq_bind,
    Option.bind_some, Option.pure_def]
  refine ⟨_, _, rfl, ?_, by omega, by omega⟩
  simp only [Bool.and_eq_true, decide_eq_true_eq]
  omega

theorem rssi126 (b0 : Int) (h00 : 0 ≤ b0) (h01 : b0 ≤ 255) :
    ∃ r, sx126xRssi b0 = some r ∧ RssiOk126x b0.toNat r = true := by
  unfold sx126xRssi
  simp (disch := omega) only [ck_i32, shrC_i32_1, wrap_id_i16, Option.bind_eq_bind, Option.bind_some, Option.pure_def]
  refine ⟨_, rfl, ?_⟩
  simp only [RssiOk126x, decide_eq_true_eq, Int.toNat_of_nonneg h00]
  omega

/-- the generated `linearize_rssi` is `round(16/15 · raw)`, no `i16` overflow for any byte -/
theorem linearize_closed (raw : Int) (h0 : 0 ≤ raw) (h1 : raw ≤ 255) : linearize_rssi raw = some ((raw * 16 + 7) / 15) := by
  unfold linearize_rssi
  rt_simp
  rfl

theorem rssi_offset_spec (c : Chip) (frf : Int) (hc : c = .sx1272 ∨ c = .sx1276) (h0 : 0 ≤ frf) (h1 : frf < 16777216) :
    sx127xRssiOffset c frf = some (rssiOffset127x c frf.toNat) := by
  rcases hc with rfl | rfl
  · rfl
  · -- the model compares the frequency read back from the word, the datasheet rule the word itself
    have hiff : frf * 32000000 / 524288 > SX1276_RF_MID_BAND_THRESH ↔ frf.toNat * 32000000 > 525000000 * 2 ^ 19 := by
      show _ > (525000000 : Int) ↔ _; omega
    simp only [sx127xRssiOffset, rssiOffset127x, pll_step_to_freq_closed frf h0 (by omega), Option.bind_eq_bind,
      Option.bind_some, Option.pure_def, hiff]
    rfl

theorem rssiOffset_bounds (c : Chip) (frf : Nat) (hc : c = .sx1272 ∨ c = .sx1276) :
    -164 ≤ rssiOffset127x c frf ∧ rssiOffset127x c frf ≤ -139 := by
  unfold rssiOffset127x; rcases hc with rfl | rfl <;> simp only [] <;> (try split) <;> omega

/-- **SX127x packet status.** For both chips, every 24-bit `Frf` word and all raw `PacketSnr` /
`PacketRssi` bytes: no `i16` overflow, the reported SNR is `int8(raw)/4` rounded to the nearest dB
and the reported RSSI is within 1 dB of `offset + 16/15·PacketRssi (+ PacketSnr/4 if negative)`. -/
theorem pkt127 (c : Chip) (snr rssi frf : Int) (hc : c = .sx1272 ∨ c = .sx1276)
    (hs0 : 0 ≤ snr) (hs1 : snr ≤ 255) (hr0 : 0 ≤ rssi) (hr1 : rssi ≤ 255) (hf0 : 0 ≤ frf) (hf1 : frf < 16777216) :
    ∃ r s, sx127xPktStatus c snr rssi frf = some (r, s) ∧ PktOk127x c frf.toNat rssi.toNat snr.toNat r s = true := by
  have hoff := rssiOffset_bounds c frf.toNat hc
  have hsb := s8_bounds snr.toNat
  unfold sx127xPktStatus PktOk127x
  rw [rssi_offset_spec c frf hc hf0 hf1, linearize_closed rssi hr0 hr1, wrap_i8_byte snr hs0 hs1,
    ← s8_byte snr hs0 hs1, Int.toNat_of_nonneg hr0]
  generalize rssiOffset127x c frf.toNat = off at *
  generalize s8 snr.toNat = sv at *
  by_cases hv : (sv + 2) / 4 ≥ 0 <;>
  · simp (disch := omega) only [hv, ck_i16, shrC_i16_2, if_true, if_false, Option.bind_eq_bind, Option.bind_some,
      Option.pure_def]
    refine ⟨_, _, rfl, ?_⟩
    simp only [Bool.and_eq_true, decide_eq_true_eq]
    omega

/-- **SX127x instantaneous RSSI**: `offset + raw`, exactly, no overflow. -/
theorem rssi127 (c : Chip) (raw frf : Int) (hc : c = .sx1272 ∨ c = .sx1276)
    (hr0 : 0 ≤ raw) (hr1 : raw ≤ 255) (hf0 : 0 ≤ frf) (hf1 : frf < 16777216) :
    ∃ r, sx127xRssi c raw frf = some r ∧ RssiOk127x c frf.toNat raw.toNat r = true := by
  unfold sx127xRssi
  rw [rssi_offset_spec c frf hc hf0 hf1]
  have hoff := rssiOffset_bounds c frf.toNat hc
  simp (disch := omega) only [ck_i16, Option.bind_eq_bind, Option.bind_some]
  exact ⟨_, rfl, by simp [RssiOk127x, Int.toNat_of_nonneg hr0]⟩

/-! ## Non-vacuity: concrete instances of every hypothesis set, on LoRaWAN-relevant inputs -/
example : Sx126x.convert_freq_in_hz_to_pll_step 868100000 = some 910268826 := by decide
example : sx126xSetChannel 868100000 = some 910268826 := by decide
example : freq_to_pll_step 868100000 = some 14222950 ∧ pll_step_to_freq 14222950 = some 868099975 := by decide
example : freq_to_pll_step 867700000 = some 0xD8ECCD := by decide
example : sx127xSetChannel 433175000 = some 7097139 := by decide
example : sx126xSetTxPower .sx1262 true 14 (some 868100000) = .ok (2, 2, 0, 22) := by decide
example : sx126xSetTxPower .stm32wl true 14 (some 868100000) = .ok (2, 2, 0, 14) := by decide
example : sx126xSetTxPower .sx1261 false 15 (some 169400000) = .err := by decide
example : sx126xSetTxPower .sx1261 false (-2147483648) none = .ok (1, 0, 1, -14) := by decide
example : paOut126x .sx1261 1 0 1 (-14) = some (-17) := by decide
example : sx1276SetTxPower 20 true = some (0x8f, 0x87, 0x3b) ∧ paOut127x .sx1276 0x8f 0x87 = 200 := by decide
example : sx1276SetTxPower (-3) false = some (0x01, 0x84, 0x2b) ∧ paOut127x .sx1276 0x01 0x84 = -32 := by decide
example : sx126xSymbTimeout 63 = some (64, some 65) ∧ symb126x 65 = 64 := by decide
example : sx126xSymbTimeout 65 = some (72, some 73) ∧ symb126x 73 = 72 := by decide
example : sx127xSymbTimeout 5000 0xff = some (0xff, 0xff) ∧ symb127x 0xff 0xff = 1023 := by decide
example : rxModeSymbols ._7 ._125KHz 50 = some 62 ∧ WindowCovers 7 125000 50 62 = true ∧ WindowCovers 7 125000 50 61 = false := by decide
example : sx126xPktStatus 160 127 = some (-80, 32) := by decide
example : sx127xPktStatus .sx1276 0xE8 60 14222950 = some (-99, -6) := by decide

end C17

#print axioms C17.pll126_nearest
#print axioms C17.pll127_nearest
#print axioms C17.pa126
#print axioms C17.pa1276
#print axioms C17.pa1272
#print axioms C17.symb126
#print axioms C17.symb127
#print axioms C17.rxsym
#print axioms C17.pkt126
#print axioms C17.rssi126
#print axioms C17.pkt127
#print axioms C17.rssi127
