import LoraVerif.Props.C05
/-!
# C07 — frames that are not accepted change nothing

"Rejected" is defined on the reference codec's view of the byte string (`RxView`), never by the
implementation's own decision: unparseable bytes, a data frame whose MIC verifies under no counter
(forged, bit-flipped, other session) or under a counter that is not fresh (replay, far future), a
JoinAccept whose MIC does not verify.

Whole histories: a script deletes rejected frames wherever they are heard, and the thinned history ends in
the same state with the same outputs (`history_rejected_invisible`); conversely they can be inserted
(`history_rejected_insertable`).  The same over the extended histories of `Model/HistoryC.lean`, where
frames are also heard inside the receive procedure, over the async front-end, and for `rxc_listen`.
Each history theorem is its own induction over the events (two runs, not one, are followed: none of the
generic inductions of `Lemmas/Trace.lean` applies); the step lemmas compare two steps AS COMPUTATIONS
(`step_mask_eq`: equal, failures included; `stepC_uplinkC_thin`: in simulation `Model.SimX`, failures included), which
the case principle `step_cases` of a step that returned does not give, so they go through the equations of
`Lemmas/Cycle.lean`.

The file opens with the property's statement on `Mac::handle_rx` itself, frame by frame (`rejected_noop`,
`rejected_list_noop`, `twin`); the histories do not go through it.  It speaks of `Rejected`, on `C05.Accept` (the model's
counter reconstruction `nextFcntDown`); the histories speak of `RejWin` / `RejRxc`, on `Model.accepts` (the
reference's `Fresh`).  For a 16-bit wire counter and a stored counter that fits a `u32` the two tests are one
(`nextFcntDown_iff`, `accepts_eq_filter`).
-/
open Model

namespace C07

/-- the reference view rejects the frame in state `m` for a window limited to `mp` bytes of MAC payload -/
def Rejected (m : MacState) (v : RxView) (mp : Nat) : Prop :=
  match v with
  | .garbage => True
  | .joinAccept j => (match m.st with | .otaa _ => j.micOk = false | _ => True)
  | .data d =>
    match m.st with
    | .joined s => d.len ≤ mp + 5 ∧ ¬ ∃ N, C05.Accept s d mp N
    | _ => True

/-- a frame the reference rejects is answered `NoUpdate` (not at all by a device without a session that
listens in Class C) and leaves the whole MAC state — session, configuration, channel plan, pending
answers, counters — exactly as it was.  A frame longer than the window's limit is the one exception the
property allows: `Rejected` excludes it by `len ≤ max + 5`. -/
theorem rejected_noop (m : MacState) (v : RxView) (mp : Nat) (snr : Int) (classC : Bool)
    (h : Rejected m v mp) :
    macHandleRx m v mp snr classC = .ok (some { resp := .noUpdate, downlink := none }, m)
    ∨ macHandleRx m v mp snr classC = .ok (none, m) := by
  unfold macHandleRx
  cases hst : m.st with
  | unjoined =>
    cases classC
    · exact .inl rfl
    · exact .inr rfl
  | otaa o =>
    cases classC
    · left
      cases v with
      | garbage => rfl
      | data d => rfl
      | joinAccept j =>
        unfold Rejected at h
        simp only [hst] at h
        simp only [h, Bool.false_eq_true, if_false]
        rfl
    · exact .inr rfl
  | joined s =>
    left
    cases v with
    | garbage => rfl
    | joinAccept j => rfl
    | data d =>
      unfold Rejected at h
      simp only [hst] at h
      -- a rejected frame leaves `Session::handle_rx` by one of its `NoUpdate` exits, before any MAC command is handled
      have hs : sessionHandleRx s m.cfg m.region d mp snr classC =
          .ok ({ resp := .noUpdate, downlink := none }, s, m.cfg, m.region) := by
        rw [sessionHandleRx_eq, if_neg (Nat.not_lt.mpr h.1)]
        cases hn : nextFcntDown s.fcntDown d.fcnt16 with
        | none => rfl
        | some N =>
          have hm : (d.micFcnt == some N) = false := beq_eq_false_iff_ne.mpr fun hm => h.2 ⟨N, h.1, hn, hm⟩
          simp only [Option.filter, hm]
          rfl
      simp only [hs, bind, Except.bind, pure, Except.pure]
      rw [MacState.eta_joined hst]

/-- a rejected frame is still rejected after a rejected frame (the state did not change) -/
def AllRejected (m : MacState) (fs : List (RxView × Nat × Int × Bool)) : Prop :=
  ∀ f ∈ fs, Rejected m f.1 f.2.1

def feed (m : MacState) : List (RxView × Nat × Int × Bool) → M MacState
  | [] => pure m
  | (v, mp, snr, cc) :: rest => do
    let (_, m') ← macHandleRx m v mp snr cc
    feed m' rest

theorem rejected_list_noop (m : MacState) (fs : List (RxView × Nat × Int × Bool)) (h : AllRejected m fs) :
    feed m fs = .ok m := by
  induction fs with
  | nil => rfl
  | cons f rest ih =>
    obtain ⟨v, mp, snr, cc⟩ := f
    have h1 : Rejected m v mp := h (v, mp, snr, cc) List.mem_cons_self
    have hrest : AllRejected m rest := fun g hg => h g (List.mem_cons_of_mem _ hg)
    unfold feed
    rcases rejected_noop m v mp snr cc h1 with e | e <;> simp only [e, bind, Except.bind] <;> exact ih hrest

/-- **twin runs.** Whatever the device does next is a function `k` of its MAC state (the model is
deterministic: later uplinks, radio configurations and responses are computed from the state and
the later events only); a run that first hears rejected frames continues exactly like the twin that
never heard them. -/
theorem twin {α} (m : MacState) (fs : List (RxView × Nat × Int × Bool)) (h : AllRejected m fs)
    (k : MacState → M α) : (feed m fs >>= k) = k m := by
  rw [rejected_list_noop m fs h]; rfl

/-! non-vacuity: a joined session and a forged frame -/
def m0 : MacState := macJoinAbp (MacState.init (RegionState.init .EU868) 14 0) 7 1 2
def forged : RxData := { len := 13, confirmed := false, fcnt16 := 5, micFcnt := none, fopts := [], fport := none, payload := [] }
example : Rejected m0 (.data forged) 59 := by
  unfold Rejected m0 macJoinAbp; simp [forged, C05.Accept]
example : macHandleRx m0 (.data forged) 59 0 false = .ok (some { resp := .noUpdate, downlink := none }, m0) := by rfl


/-- the REFERENCE rejects frame `f` heard in a Class A window of an uplink, `gh` being the reference
tracker when the uplink is sent: anything that is not a data frame (garbage, a JoinAccept sent to a
joined device), and a data frame that fits the window but whose MIC verifies under no fresh counter
(forged, corrupted, other session, replayed, too far ahead).  Oversized frames are NOT rejected
frames (they may end the procedure).  A device without a session opens no window at all. -/
def RejWin (gh : Gh) (f : RxView × Int) (mp : Nat) : Prop :=
  match gh with
  | none => True
  | some last =>
    match f.1 with
    | .data d => d.len ≤ mp + 5 ∧ accepts last d mp = none
    | _ => True

def RejJoin (f : RxView × Int) : Prop :=
  match f.1 with
  | .joinAccept j => j.micOk = false
  | _ => True

def RejRxc (gh : Gh) (v : RxView) (mp : Nat) : Prop :=
  match gh with
  | none => True
  | some last =>
    match v with
    | .data d => accepts last d mp = none
    | _ => True

instance (gh : Gh) (f : RxView × Int) (mp : Nat) : Decidable (RejWin gh f mp) := by
  unfold RejWin
  cases gh with
  | none => exact isTrue trivial
  | some last => obtain ⟨v, snr⟩ := f; cases v <;> (simp only; infer_instance)

instance (f : RxView × Int) : Decidable (RejJoin f) := by
  unfold RejJoin
  obtain ⟨v, snr⟩ := f; cases v <;> (simp only; infer_instance)

instance (gh : Gh) (v : RxView) (mp : Nat) : Decidable (RejRxc gh v mp) := by
  unfold RejRxc
  cases gh with
  | none => exact isTrue trivial
  | some last => cases v <;> (simp only; infer_instance)

def heard (P : RxView × Int → Prop) : Option (RxView × Int) → Prop
  | some f => P f
  | none => True

instance (P : RxView × Int → Prop) [DecidablePred P] (o : Option (RxView × Int)) : Decidable (heard P o) := by
  cases o <;> (unfold heard; infer_instance)

/-- what a deletion script does to one event: keep it, delete a Class C reception, or delete the
frames heard in RX1 / RX2 of an uplink or join attempt -/
inductive Del where
  | keep
  | drop
  | mask (rx1 rx2 : Bool)
  deriving DecidableEq, Repr

def maskRx (b : Bool) (f : Option (RxView × Int)) : Option (RxView × Int) := if b then none else f

def maskEv (b1 b2 : Bool) : Ev → Ev
  | .uplink data fport conf fault rx1 rx2 mp1 mp2 => .uplink data fport conf fault (maskRx b1 rx1) (maskRx b2 rx2) mp1 mp2
  | .joinOtaa fault rx1 rx2 mp1 mp2 => .joinOtaa fault (maskRx b1 rx1) (maskRx b2 rx2) mp1 mp2
  | ev => ev

def thinEvs : List Del → List Ev → List Ev
  | .keep :: ds, ev :: evs => ev :: thinEvs ds evs
  | .drop :: ds, _ :: evs => thinEvs ds evs
  | .mask b1 b2 :: ds, ev :: evs => maskEv b1 b2 ev :: thinEvs ds evs
  | _, evs => evs

def thinOuts : List Del → List Out → List Out
  | .keep :: ds, o :: os => o :: thinOuts ds os
  | .drop :: ds, _ :: os => thinOuts ds os
  | .mask _ _ :: ds, o :: os => o :: thinOuts ds os
  | _, os => os

/-- the deletion hits only frames the reference rejects at that point of the history -/
def LegalDel (gh : Gh) : Del → Ev → Prop
  | .keep, _ => True
  | .drop, .rxc v _ mp => RejRxc gh v mp
  | .drop, _ => False
  | .mask b1 b2, .uplink _ _ _ _ rx1 rx2 mp1 mp2 =>
    (b1 = true → heard (RejWin gh · mp1) rx1) ∧ (b2 = true → heard (RejWin gh · mp2) rx2)
  | .mask b1 b2, .joinOtaa _ rx1 rx2 _ _ =>
    (b1 = true → heard RejJoin rx1) ∧ (b2 = true → heard RejJoin rx2)
  | .mask _ _, _ => True

def Legal : Gh → List Del → List Ev → Prop
  | gh, d :: ds, ev :: evs => LegalDel gh d ev ∧ Legal (ghStep gh ev) ds evs
  | _, _, _ => True

instance (gh : Gh) (d : Del) (ev : Ev) : Decidable (LegalDel gh d ev) := by
  cases d <;> cases ev <;> (simp only [LegalDel]; infer_instance)

instance : (gh : Gh) → (ds : List Del) → (evs : List Ev) → Decidable (Legal gh ds evs)
  | _, [], _ => isTrue (by simp [Legal])
  | _, _ :: _, [] => isTrue (by simp [Legal])
  | gh, d :: ds, ev :: evs =>
    have := instDecidableLegal (ghStep gh ev) ds evs
    by simp only [Legal]; infer_instance

theorem rejRxc_spec {last : Option Nat} {v : RxView} {mp : Nat} (h : RejRxc (some last) v mp) : specRxc last v mp = none := by
  cases v with
  | data d => simp only [specRxc, show accepts last d mp = none from h, Option.map_none]
  | garbage => rfl
  | joinAccept j => rfl

theorem rejWin_spec {last : Option Nat} {f : Option (RxView × Int)} {mp : Nat} (h : heard (RejWin (some last) · mp) f) :
    specWindow last f mp = .nothing := by
  match f, h with
  | none, _ => rfl
  | some (.garbage, _), _ => rfl
  | some (.joinAccept _, _), _ => rfl
  | some (.data d, _), h =>
    have hlen : ¬ d.len > mp + 5 := Nat.not_lt.mpr h.1
    simp only [specWindow, hlen, if_false, show accepts last d mp = none from h.2]

theorem rejJoin_spec {f : Option (RxView × Int)} (h : heard RejJoin f) : joinAcc f = none := by
  match f, h with
  | none, _ => rfl
  | some (.garbage, _), _ => rfl
  | some (.data _, _), _ => rfl
  | some (.joinAccept j, _), h => simp only [joinAcc, show j.micOk = false from h, Bool.false_eq_true, if_false]

theorem maskRx_congr {β} (F : Option (RxView × Int) → β) {b : Bool} {f : Option (RxView × Int)} (h : b = true → F f = F none) :
    F (maskRx b f) = F f := by
  cases b
  · rfl
  · exact (h rfl).symm

theorem specWindow_mask (last : Option Nat) (b : Bool) (f : Option (RxView × Int)) (mp : Nat)
    (h : b = true → heard (RejWin (some last) · mp) f) : specWindow last (maskRx b f) mp = specWindow last f mp :=
  maskRx_congr (specWindow last · mp) fun hb => rejWin_spec (h hb)

theorem joinAcc_mask (b : Bool) (f : Option (RxView × Int)) (h : b = true → heard RejJoin f) :
    joinAcc (maskRx b f) = joinAcc f :=
  maskRx_congr joinAcc fun hb => rejJoin_spec (h hb)

theorem rxOk_mask (b : Bool) (f : Option (RxView × Int)) (h : rxOk f = true) : rxOk (maskRx b f) = true := by
  cases b
  · exact h
  · rfl

theorem step_mask_eq {σ} (g : Rng σ) (m : MacState) (rs : σ) (gh : Gh) (hr : GhRel m gh) (ev : Ev) (hv : evOk ev = true)
    (b1 b2 : Bool) (hl : LegalDel gh (.mask b1 b2) ev) : step g (m, rs) (maskEv b1 b2 ev) = step g (m, rs) ev := by
  cases ev with
  | joinAbp da nwk app => rfl
  | setAdr on => rfl
  | setDr dr => rfl
  | rxc v snr mp => rfl
  | joinOtaa fault rx1 rx2 mp1 mp2 =>
    simp only [maskEv, step]
    cases hj : macJoinOtaa g m rs with
    | error e => rfl
    | ok r =>
      obtain ⟨jo, m1, rs1⟩ := r
      have hst1 := macJoinOtaa_st hj
      simp only [bind, Except.bind, classACycle_otaa m1 _ hst1, faultedCycle_otaa m1 _ hst1, specJoinFaulted, specJoin,
        joinAcc_mask b1 rx1 hl.1, joinAcc_mask b2 rx2 hl.2]
  | uplink data fport conf fault rx1 rx2 mp1 mp2 =>
    simp only [evOk, Bool.and_eq_true] at hv
    simp only [maskEv, step]
    cases gh with
    | none =>
      rw [macSend_notJoined g m hr]
      rfl
    | some last =>
      obtain ⟨s, hst, rfl, hlo⟩ := hr
      cases hs : macSend g m data fport conf rs with
      | error e => rfl
      | ok r =>
        obtain ⟨o, m1, rs1⟩ := r
        obtain ⟨so, rfl, hsent⟩ := macSend_sent hst hs
        have hst1 := hsent.st
        have hl1 : LastOk (sentSession s conf).fcntDown := hlo
        have e1 : specWindow (sentSession s conf).fcntDown (maskRx b1 rx1) mp1 = specWindow (sentSession s conf).fcntDown rx1 mp1 :=
          specWindow_mask s.fcntDown b1 rx1 mp1 hl.1
        have e2 : specWindow (sentSession s conf).fcntDown (maskRx b2 rx2) mp2 = specWindow (sentSession s conf).fcntDown rx2 mp2 :=
          specWindow_mask s.fcntDown b2 rx2 mp2 hl.2
        simp only [bind, Except.bind,
          classACycle_joined m1 _ hst1 hl1 _ _ mp1 mp2 (rxOk_mask b1 rx1 hv.1) (rxOk_mask b2 rx2 hv.2),
          classACycle_joined m1 _ hst1 hl1 _ _ mp1 mp2 hv.1 hv.2,
          fun k => faultedCycle_joined m1 _ hst1 hl1 k _ _ mp1 mp2 (rxOk_mask b1 rx1 hv.1) (rxOk_mask b2 rx2 hv.2),
          fun k => faultedCycle_joined m1 _ hst1 hl1 k _ _ mp1 mp2 hv.1 hv.2, specFaulted, specCycle, e1, e2]

theorem step_drop_eq {σ} (g : Rng σ) (m m' : MacState) (rs rs' : σ) (gh : Gh) (hr : GhRel m gh) (ev : Ev) (hv : evOk ev = true)
    (hl : LegalDel gh .drop ev) (out : Out) (h : step g (m, rs) ev = .ok ((m', rs'), out)) : m' = m ∧ rs' = rs := by
  cases step_cases g hr hv h with
  | rxcIdle => exact ⟨rfl, rfl⟩
  | rxc _ _ _ ha => rw [rxcActs, rejRxc_spec hl] at ha; exact ⟨ha, rfl⟩
  | _ => exact hl.elim

theorem thinEvs_nil (ds : List Del) : thinEvs ds [] = [] := by
  cases ds with | nil => rfl | cons d ds => cases d <;> rfl

theorem thinOuts_nil (ds : List Del) : thinOuts ds [] = [] := by
  cases ds with | nil => rfl | cons d ds => cases d <;> rfl

theorem thinOuts_nil_left (os : List Out) : thinOuts [] os = os := by cases os <;> rfl

/-- **C07 over every history.**  Take any history `evs` and any script `ds` deleting frames the
REFERENCE rejects at the point where they are heard — a Class C reception (`drop`), the frame heard
in RX1 and/or RX2 of an uplink or of a join attempt (`mask`) — anywhere, any number of them.  The
thinned history runs to the SAME final state and random stream and produces the SAME output at
every remaining event (uplink bytes, counters, MAC answers, ACK bit, radio configurations,
responses): the device is indistinguishable from the twin that never heard those frames.  (Applied
to every prefix: the same state before every remaining event.) -/
theorem history_rejected_invisible {σ} (g : Rng σ) (m : MacState) (rs : σ) (gh : Gh) (hr : GhRel m gh)
    (evs : List Ev) (hv : ∀ ev ∈ evs, evOk ev = true) (ds : List Del) (hl : Legal gh ds evs)
    (ms' : MacState × σ) (outs : List Out) (h : run g (m, rs) evs = .ok (ms', outs)) :
    run g (m, rs) (thinEvs ds evs) = .ok (ms', thinOuts ds outs) := by
  induction evs generalizing m rs gh ds outs with
  | nil =>
    obtain ⟨rfl, rfl⟩ := run_nil_iff.mp h
    rw [thinEvs_nil, thinOuts_nil]
    rfl
  | cons ev rest ih =>
    cases ds with
    | nil => exact h
    | cons d ds =>
      obtain ⟨⟨m1, rs1⟩, o, os, hstep, hrest, rfl⟩ := run_cons_iff.mp h
      have hve := hv ev List.mem_cons_self
      simp only [Legal] at hl
      have ih' := ih m1 rs1 (ghStep gh ev) (step_ghRel g m m1 rs rs1 ev o gh hr hve hstep)
        (fun e he => hv e (List.mem_cons_of_mem _ he)) ds hl.2 os hrest
      cases d with
      | keep => exact run_cons_iff.mpr ⟨_, _, _, hstep, ih', rfl⟩
      | mask b1 b2 => exact run_cons_iff.mpr ⟨_, _, _, (step_mask_eq g m rs gh hr ev hve b1 b2 hl.1).trans hstep, ih', rfl⟩
      | drop =>
        obtain ⟨rfl, rfl⟩ := step_drop_eq g m m1 rs rs1 gh hr ev hve hl.1 o hstep
        exact ih'

/-- **the converse: rejected frames can be INSERTED anywhere.**  If the thinned history runs, so
does the history with the rejected frames present — to the same final state and random stream, with
the same outputs at the events of the thinned history — from any well-formed state under valid
events.  Together with `history_rejected_invisible`: the two runs of the pair exist together and
agree. -/
theorem history_rejected_insertable {σ} (g : Rng σ) (m : MacState) (rs : σ) (gh : Gh) (hr : GhRel m gh) (hwf : MacWF m)
    (evs : List Ev) (hv : ∀ ev ∈ evs, evOk ev = true ∧ validEv m.region.id ev = true) (ds : List Del) (hl : Legal gh ds evs)
    (ms' : MacState × σ) (outs' : List Out) (h : run g (m, rs) (thinEvs ds evs) = .ok (ms', outs')) :
    ∃ outs, run g (m, rs) evs = .ok (ms', outs) ∧ thinOuts ds outs = outs' := by
  induction evs generalizing m rs gh ds outs' with
  | nil =>
    rw [thinEvs_nil] at h
    obtain ⟨rfl, rfl⟩ := run_nil_iff.mp h
    exact ⟨[], rfl, thinOuts_nil ds⟩
  | cons ev rest ih =>
    have hve := hv ev List.mem_cons_self
    -- an event that stays (as it is, or masked: the same step), then the induction hypothesis
    have stay : ∀ ds' ev', step g (m, rs) ev' = step g (m, rs) ev → Legal (ghStep gh ev) ds' rest →
        run g (m, rs) (ev' :: thinEvs ds' rest) = .ok (ms', outs') →
        ∃ o os, run g (m, rs) (ev :: rest) = .ok (ms', o :: os) ∧ o :: thinOuts ds' os = outs' := by
      intro ds' ev' he hl' h
      obtain ⟨⟨m1, rs1⟩, o, os', hstep, hrest, rfl⟩ := run_cons_iff.mp h
      rw [he] at hstep
      have hk : Keeps m m1 := step_keeps hwf rfl hve.2 hstep
      obtain ⟨os, hos, rfl⟩ := ih m1 rs1 (ghStep gh ev) (step_ghRel g m m1 rs rs1 ev o gh hr hve.1 hstep) hk.1
        (fun e he => by rw [hk.2.1]; exact hv e (List.mem_cons_of_mem _ he)) ds' hl' os' hrest
      exact ⟨o, os, run_cons_iff.mpr ⟨_, _, _, hstep, hos, rfl⟩, rfl⟩
    cases ds with
    | nil => exact ⟨outs', h, thinOuts_nil_left outs'⟩
    | cons d ds =>
      simp only [Legal] at hl
      cases d with
      | keep =>
        obtain ⟨o, os, h1, h2⟩ := stay ds ev rfl hl.2 h
        exact ⟨o :: os, h1, h2⟩
      | mask b1 b2 =>
        obtain ⟨o, os, h1, h2⟩ := stay ds _ (step_mask_eq g m rs gh hr ev hve.1 b1 b2 hl.1) hl.2 h
        exact ⟨o :: os, h1, h2⟩
      | drop =>
        cases ev with
        | rxc v snr mp =>
          obtain ⟨m1, o, hstep⟩ := step_rxc_returns g m rs v snr mp hwf hve.2
          obtain ⟨rfl, _⟩ := step_drop_eq g m m1 rs rs gh hr _ hve.1 hl.1 o hstep
          obtain ⟨os, hos, hth⟩ := ih m1 rs _ (step_ghRel g m1 m1 rs rs _ o gh hr hve.1 hstep) hwf
            (fun e he => hv e (List.mem_cons_of_mem _ he)) ds hl.2 outs' h
          exact ⟨o :: os, run_cons_iff.mpr ⟨_, _, _, hstep, hos, rfl⟩, hth⟩
        | _ => exact hl.1.elim

/-! non-vacuity: a session; a replay in RX1, garbage between uplinks, a forged frame in RX1 and a
JoinAccept in RX2 are deleted — same final state, same remaining outputs -/
def lcg : Rng Nat := fun x => ((x * 1103515245 + 12345) / 65536, x * 1103515245 + 12345)

def fr (w : Nat) (N : Option Nat) : RxView :=
  .data { len := 14, confirmed := true, fcnt16 := w, micFcnt := N, fopts := [0x06], fport := some 1, payload := [w] }

/-- an authentic JoinAccept; bad only in that it reaches a device that has a session -/
def badJa : RxView := .joinAccept { micOk := true, devAddr := 9, dlSettings := 0, rxDelay := 1, cfList := none, nwkKey := 5, appKey := 6 }

def demoHistory : List Ev :=
  [ .joinAbp 7 1 2,
    .uplink [1] 1 false none (some (fr 5 (some 5), 0)) none 51 51,
    .uplink [2] 1 false none (some (fr 5 (some 5), 0)) (some (fr 6 (some 6), 3)) 51 51,
    .rxc .garbage 0 51,
    .uplink [3] 1 true none (some (fr 9 none, 0)) (some (badJa, 0)) 51 51 ]

def demoScript : List Del := [.keep, .keep, .mask true false, .drop, .mask true true]

example : Legal none demoScript demoHistory := by decide
example : ∀ ev ∈ demoHistory, evOk ev = true := by decide
example : thinEvs demoScript demoHistory =
  [ .joinAbp 7 1 2,
    .uplink [1] 1 false none (some (fr 5 (some 5), 0)) none 51 51,
    .uplink [2] 1 false none none (some (fr 6 (some 6), 3)) 51 51,
    .uplink [3] 1 true none none none 51 51 ] := by rfl
example : (run lcg (MacState.init (RegionState.init .EU868) 14 0, 1) demoHistory).toOption.map (fun r => r.2.length) = some 5 := by
  decide +kernel

/-! ## extended histories: deleting rejected frames heard INSIDE the receive procedure is invisible

`Model/HistoryC.lean`: a Class C device hands the frames it hears on the RXC parameters between TX and
RX1 (`c1`) and between RX1 and RX2 (`c2`) to `handle_rxc` in the middle of the procedure.  A deletion
script of an extended history also deletes frames from `c1` / `c2` (flag lists), each judged by the reference under
the counter the reference holds AT THAT POINT of the procedure (`LegalCs`, `lastAfterCs`). -/

/-- what an extended deletion script does to one event: keep it, delete a Class C reception between
uplinks, or delete frames heard during a receive procedure: from `c1` (flag per frame, `true` =
delete), RX1, from `c2`, RX2 -/
inductive DelC where
  | keep
  | drop
  | thin (k1 : List Bool) (b1 : Bool) (k2 : List Bool) (b2 : Bool)
  deriving DecidableEq, Repr

def thinCs {α} : List Bool → List α → List α
  | true :: ks, _ :: cs => thinCs ks cs
  | false :: ks, c :: cs => c :: thinCs ks cs
  | _, cs => cs

/-- during a JOIN procedure ANY frame heard on the RXC parameters may be deleted: a device without a
session accepts none of them (`joinC_rxc_frames_invisible` below) -/
def thinEvC (k1 : List Bool) (b1 : Bool) (k2 : List Bool) (b2 : Bool) : EvC → EvC
  | .uplinkC cc data fport conf fault c1 rx1 c2 rx2 =>
    .uplinkC cc data fport conf fault (thinCs k1 c1) (maskRx b1 rx1) (thinCs k2 c2) (maskRx b2 rx2)
  | .joinC cc fault c1 rx1 c2 rx2 => .joinC cc fault (thinCs k1 c1) (maskRx b1 rx1) (thinCs k2 c2) (maskRx b2 rx2)
  | .base e => .base (maskEv b1 b2 e)

def thinEvsC : List DelC → List EvC → List EvC
  | .keep :: ds, ev :: evs => ev :: thinEvsC ds evs
  | .drop :: ds, _ :: evs => thinEvsC ds evs
  | .thin k1 b1 k2 b2 :: ds, ev :: evs => thinEvC k1 b1 k2 b2 ev :: thinEvsC ds evs
  | _, evs => evs

def thinOutsC : List DelC → List OutC → List OutC
  | .keep :: ds, o :: os => o :: thinOutsC ds os
  | .drop :: ds, _ :: os => thinOutsC ds os
  | .thin _ _ _ _ :: ds, o :: os => o :: thinOutsC ds os
  | _, os => os

/-- an output without the `NoUpdate` entries of its `heard` list (one per rejected frame heard on the
RXC parameters inside the procedure; they carry nothing: no response, no downlink) -/
def strip (oc : OutC) : OutC := { oc with heard := oc.heard.filter (· != noUp) }

/-- the reference's counter after one more frame heard on the RXC parameters (what `ghStep` does on `.rxc`) -/
def nextLast (last : Option Nat) (v : RxView) (mpc : Nat) : Option Nat :=
  match specRxc last v mpc with
  | some (N, _) => some N
  | none => last

def lastAfterCs (last : Option Nat) (mpc : Nat) (cs : List (RxView × Int)) : Option Nat :=
  cs.foldl (fun l c => nextLast l c.1 mpc) last

def LegalCs (mpc : Nat) : Option Nat → List Bool → List (RxView × Int) → Prop
  | last, k :: ks, c :: cs => (k = true → RejRxc (some last) c.1 mpc) ∧ LegalCs mpc (nextLast last c.1 mpc) ks cs
  | _, _, _ => True

instance (mpc : Nat) : (last : Option Nat) → (ks : List Bool) → (cs : List (RxView × Int)) → Decidable (LegalCs mpc last ks cs)
  | _, [], _ => isTrue (by simp [LegalCs])
  | _, _ :: _, [] => isTrue (by simp [LegalCs])
  | last, k :: ks, c :: cs =>
    have := instDecidableLegalCs mpc (nextLast last c.1 mpc) ks cs
    by simp only [LegalCs]; infer_instance

/-- the deletion hits only frames the reference rejects at that point of the extended history
(`out`: the output of the event — the payload limits of the two windows are those of the uplink the
MAC built) -/
def LegalDelC (gh : Gh) (e : EvL) (out : OutC) : DelC → Prop
  | .keep => True
  | .drop =>
    (match e.2 with
     | .base ev => LegalDel gh .drop ev
     | _ => False)
  | .thin k1 b1 k2 b2 =>
    (match e.2 with
     | .base ev => LegalDel gh (.mask b1 b2) ev
     | .joinC _ _ _ rx1 _ rx2 => (b1 = true → heard RejJoin rx1) ∧ (b2 = true → heard RejJoin rx2)
     | .uplinkC cc _ _ _ _ c1 rx1 c2 rx2 =>
       (match gh, out.out with
        | some last, .up so _ _ =>
          (cc = true → LegalCs e.1 last k1 c1) ∧
          (b1 = true → heard (RejWin (some (if cc then lastAfterCs last e.1 c1 else last)) · so.tx.rx1.maxPayload.toNat) rx1) ∧
          (cc = true → LegalCs e.1 (lastAfterCs last e.1 c1) k2 c2) ∧
          (b2 = true → heard (RejWin (some (if cc then lastAfterCs (lastAfterCs last e.1 c1) e.1 c2 else last)) · so.tx.rx2.maxPayload.toNat) rx2)
        | _, _ => True))

def LegalC : Gh → List DelC → List (EvL × OutC) → Prop
  | gh, d :: ds, x :: t => LegalDelC gh x.1 x.2 d ∧ LegalC (ghNextC gh x.1 x.2) ds t
  | _, _, _ => True

theorem thinCs_ok (ks : List Bool) (cs : List (RxView × Int)) (h : csOk cs = true) : csOk (thinCs ks cs) = true := by
  fun_induction thinCs ks cs with
  | case1 ks c cs ih =>
    rw [csOk_cons] at h
    exact ih h.2
  | case2 ks c cs ih =>
    rw [csOk_cons] at h ⊢
    exact ⟨h.1, ih h.2⟩
  | case3 ks cs _ _ => exact h

theorem refRxcs_last (mpc : Nat) (cs : List (RxView × Int)) :
    ∀ p : PSt, (refRxcs p mpc cs).st.last = lastAfterCs p.last mpc cs := by
  induction cs with
  | nil => intro p; rfl
  | cons c rest ih =>
    intro p
    obtain ⟨v, snr⟩ := c
    unfold refRxcs
    simp only [lastAfterCs, List.foldl_cons, nextLast]
    cases hs : specRxc p.last v mpc with
    | none => simp only []; exact ih p
    | some q => obtain ⟨N, d⟩ := q; simp only []; exact ih ⟨some N, bumpFu p.fu⟩

theorem filter_append_eq {a a' b b' : List RxOut} (ha : a'.filter (· != noUp) = a.filter (· != noUp))
    (hb : b'.filter (· != noUp) = b.filter (· != noUp)) : (a' ++ b').filter (· != noUp) = (a ++ b).filter (· != noUp) := by
  rw [List.filter_append, List.filter_append, ha, hb]

/-- two results of a stage of the receive procedure, of the full and of the thinned run: same answer, same state, the
reports equal up to the `NoUpdate` entries; `P`: what the stage promises of the full run's answer and state -/
def Thin {ρ : Type} (P : ρ → MacState → Prop) (a b : ρ × List RxOut × MacState) : Prop :=
  b.1 = a.1 ∧ b.2.2 = a.2.2 ∧ b.2.1.filter (· != noUp) = a.2.1.filter (· != noUp) ∧ P a.1 a.2.2

/-! Thinning by a legal script commutes with every stage of the receive procedure of a device with a session
— `rxcs`, `between`, `winC`, `cycleC` — up to the `NoUpdate` entries of the reports: same end, same state.
Each stage also says in which state the next one starts (session, its counter as the reference tracks it), and
the RXC payload limit `mpc` is a variable of these lemmas, not `rxcMp` of their state: the second window starts
in a later state under the same limit.  From `between` on the stages are simulations (`Model.SimX`, full run against thinned
run) for ANY set `X` of extra faults: both sides take every step by a rule, so no proof looks at a failing run, and with
`X` empty the thinned stage fails wherever the full one does (`stepC_unthin` rests on that). -/
section joined
variable {m : MacState} {s : Session} (hst : m.st = .joined s) (hl : LastOk s.fcntDown)
include hst hl

theorem rxc_joined (v : RxView) (mp : Nat) (snr : Int) (hv : viewOk v = true) :
    ∃ o m1 s1, macHandleRx m v mp snr true = .ok (some o, m1) ∧ m1.st = .joined s1 ∧ LastOk s1.fcntDown ∧
      s1.fcntDown = nextLast s.fcntDown v mp := by
  unfold nextLast
  cases hs : specRxc s.fcntDown v mp with
  | none => exact ⟨noUp, m, s, macHandleRxc_joined_none m s hst hl v mp snr hv hs, hst, hl, rfl⟩
  | some q =>
    obtain ⟨N, d⟩ := q
    obtain ⟨hrx, ha, hw⟩ := macHandleRxc_joined_some m s hst hl v mp snr hv N d hs
    have hfd : (acceptFinish s d N (ctxC m s)).2.1.fcntDown = some N := by rw [acceptFinish_session_eq]
    exact ⟨_, _, _, hrx, acceptState_st m s d N (ctxC m s), hfd ▸ fresh_lastOk hw (accepts_some.mp ha).2.1, hfd⟩

theorem rxcs_thin (mp : Nat) (cs : List (RxView × Int)) (hv : csOk cs = true) (ks : List Bool)
    (hleg : LegalCs mp s.fcntDown ks cs) :
    ∃ os os' m', rxcs m mp cs = .ok (os, true, m') ∧ rxcs m mp (thinCs ks cs) = .ok (os', true, m') ∧
      os'.filter (· != noUp) = os.filter (· != noUp) := by
  fun_induction thinCs ks cs generalizing m s with
  | case1 ks c cs ih =>
    -- the frame is deleted: the reference rejects it, the model answers `NoUpdate` and stays where it is
    obtain ⟨v, snr⟩ := c
    rw [csOk_cons] at hv
    simp only [LegalCs] at hleg
    have hs := rejRxc_spec (hleg.1 trivial)
    simp only [nextLast, hs] at hleg
    obtain ⟨os, os', m', h1, h2, h3⟩ := ih hst hl hv.2 hleg.2
    exact ⟨noUp :: os, os', m', (Except.bind_of_ok (macHandleRxc_joined_none m s hst hl v mp snr hv.1 hs) _).trans
      (Except.bind_of_ok h1 _), h2, by rw [h3]; rfl⟩
  | case2 ks c cs ih =>
    obtain ⟨v, snr⟩ := c
    rw [csOk_cons] at hv
    simp only [LegalCs] at hleg
    obtain ⟨o, m1, s1, hrx, hst1, hl1, hfd⟩ := rxc_joined hst hl v mp snr hv.1
    obtain ⟨os, os', m', h1, h2, h3⟩ := ih hst1 hl1 hv.2 (hfd ▸ hleg.2)
    exact ⟨o :: os, o :: os', m', (Except.bind_of_ok hrx _).trans (Except.bind_of_ok h1 _),
      (Except.bind_of_ok hrx _).trans (Except.bind_of_ok h2 _), by simp only [List.filter_cons, h3]⟩
  | case3 ks cs _ _ =>
    obtain ⟨m', _, h, _⟩ := rxcs_joined mp cs hv m s hst hl
    exact ⟨_, _, m', h, h, rfl⟩

theorem window_mask_joined (f : Option (RxView × Int)) (mp : Nat) (b : Bool) (hf : rxOk f = true)
    (hb : b = true → heard (RejWin (some s.fcntDown) · mp) f) : window m (maskRx b f) mp = window m f mp := by
  rw [window_joined m s hst hl _ mp (rxOk_mask b f hf), window_joined m s hst hl f mp hf, specWindow_mask s.fcntDown b f mp hb]

variable {X : Fault → Prop}

theorem between_thin (cc : Bool) (cs : List (RxView × Int)) (hv : csOk cs = true) (ks : List Bool) (mpc : Nat) (hmpc : rxcMp m = mpc)
    (hk : cc = true → LegalCs mpc s.fcntDown ks cs) :
    SimX X (between cc m cs) (between cc m (thinCs ks cs))
      fun a b => a.2.1 = true ∧ b.2 = a.2 ∧ b.1.filter (· != noUp) = a.1.filter (· != noUp) ∧
        ∃ s1, a.2.2.st = .joined s1 ∧ LastOk s1.fcntDown ∧ s1.fcntDown = (if cc then lastAfterCs s.fcntDown mpc cs else s.fcntDown) ∧
          rxcMp a.2.2 = mpc := by
  subst hmpc
  unfold between
  cases cc with
  | false => exact SimX.pure ⟨rfl, rfl, rfl, s, hst, hl, rfl, rfl⟩
  | true =>
    simp only [if_true]
    refine SimX.same _ fun rf hrf => ?_
    rw [rxcMp_of_ok hrf]
    obtain ⟨osA, osB, m2, h1, h2, h3⟩ := rxcs_thin hst hl (rxcMp m) cs hv ks (hk rfl)
    obtain ⟨m3, s3, h4, _, hst3, hp3, hl3, _⟩ := rxcs_joined (rxcMp m) cs hv m s hst hl
    cases h1.symm.trans h4
    rw [h1, h2]
    exact SimX.ok ⟨rfl, rfl, h3, s3, hst3, hl3, (congrArg PSt.last hp3).trans (refRxcs_last _ cs _), (rxcs_params _ _ _ _ _ _ h4).rxcMp⟩

theorem winC_thin (cc : Bool) (cs : List (RxView × Int)) (f : Option (RxView × Int)) (mp : Nat) (eb ea : Bool) (hv : csOk cs = true) (hf : rxOk f = true)
    (ks : List Bool) (b : Bool) (mpc : Nat) (hmpc : rxcMp m = mpc) (hk : cc = true → LegalCs mpc s.fcntDown ks cs)
    (hb : b = true → heard (RejWin (some (if cc then lastAfterCs s.fcntDown mpc cs else s.fcntDown)) · mp) f) :
    SimX X (winC cc m cs f mp eb ea) (winC cc m (thinCs ks cs) (maskRx b f) mp eb ea)
      (Thin fun r m' => r = some none → ∃ s', m'.st = .joined s' ∧ LastOk s'.fcntDown ∧
        s'.fcntDown = (if cc then lastAfterCs s.fcntDown mpc cs else s.fcntDown) ∧ rxcMp m' = mpc) := by
  unfold winC
  refine (between_thin hst hl cc cs hv ks mpc hmpc hk).bind fun ⟨os1, fin, m1⟩ ⟨osB, _, _⟩ ⟨hfin, he, hfil, s1, hst1, hl1, hfd1, hmp1⟩ => ?_
  cases hfin; cases he
  rw [← hfd1] at hb
  simp only [Bool.not_true, Bool.false_or]
  cases eb with
  | true => exact SimX.pure ⟨rfl, rfl, hfil, fun e => nomatch e⟩
  | false =>
    simp only [Bool.false_eq_true, if_false]
    rw [window_mask_joined hst1 hl1 f mp b hf hb]
    refine SimX.same _ fun ⟨o, m2⟩ hw => SimX.same _ fun u _ => ?_
    cases ea with
    | true => exact SimX.pure ⟨rfl, rfl, filter_append_eq hfil rfl, fun e => nomatch e⟩
    | false =>
      refine SimX.pure ⟨rfl, rfl, filter_append_eq hfil rfl, fun e => ?_⟩
      -- a window that yields nothing leaves the state `between` left
      cases e
      cases window_none_state m1 f mp _ hw
      exact ⟨s1, hst1, hl1, hfd1, hmp1⟩

theorem cycleC_thin (cc : Bool) (fault : Option FaultPos) (c1 : List (RxView × Int)) (rx1 : Option (RxView × Int)) (c2 : List (RxView × Int))
    (rx2 : Option (RxView × Int)) (mp1 mp2 : Nat) (hv1 : csOk c1 = true) (hf1 : rxOk rx1 = true) (hv2 : csOk c2 = true)
    (hf2 : rxOk rx2 = true) (k1 : List Bool) (b1 : Bool) (k2 : List Bool) (b2 : Bool)
    (mpc : Nat) (hmpc : rxcMp m = mpc) (hk1 : cc = true → LegalCs mpc s.fcntDown k1 c1)
    (hb1 : b1 = true → heard (RejWin (some (if cc then lastAfterCs s.fcntDown mpc c1 else s.fcntDown)) · mp1) rx1)
    (hk2 : cc = true → LegalCs mpc (lastAfterCs s.fcntDown mpc c1) k2 c2)
    (hb2 : b2 = true → heard (RejWin (some (if cc then lastAfterCs (lastAfterCs s.fcntDown mpc c1) mpc c2 else s.fcntDown)) · mp2) rx2) :
    SimX X (cycleC cc m fault c1 rx1 c2 rx2 mp1 mp2)
      (cycleC cc m fault (thinCs k1 c1) (maskRx b1 rx1) (thinCs k2 c2) (maskRx b2 rx2) mp1 mp2) (Thin fun _ _ => True) := by
  unfold cycleC
  split
  · exact SimX.pure ⟨rfl, rfl, rfl, trivial⟩
  refine (winC_thin hst hl cc c1 rx1 mp1 _ _ hv1 hf1 k1 b1 mpc hmpc hk1 hb1).bind fun ⟨r1, h1, ma⟩ ⟨_, h1', _⟩ ⟨e1, e2, hfil1, hnext⟩ => ?_
  cases e1; cases e2
  match r1 with
  | none => exact SimX.pure ⟨rfl, rfl, hfil1, trivial⟩
  | some (some o) => exact SimX.pure ⟨rfl, rfl, hfil1, trivial⟩
  | some none =>
    obtain ⟨sa, hsta, hla, hfda, hmp⟩ := hnext rfl
    refine (winC_thin hsta hla cc c2 rx2 mp2 _ _ hv2 hf2 k2 b2 mpc hmp (fun hcc => by rw [hfda, if_pos hcc]; exact hk2 hcc)
      (fun hb => by rw [hfda]; cases cc <;> exact hb2 hb)).bind fun ⟨r2, h2, mb⟩ ⟨_, h2', _⟩ ⟨e1, e2, hfil2, _⟩ => ?_
    cases e1; cases e2
    rcases r2 with _ | _ | _ <;> exact SimX.pure ⟨rfl, rfl, filter_append_eq hfil1 hfil2, trivial⟩

end joined

section joining
variable (cc : Bool) {m : MacState} {o : OtaaState} (hst : m.st = .otaa o)
include hst

theorem winC_thin_otaa (cs cs' : List (RxView × Int))
    (f : Option (RxView × Int)) (mp : Nat) (eb ea : Bool) (b : Bool) (hb : b = true → heard RejJoin f) :
    winC cc m cs' (maskRx b f) mp eb ea = winC cc m cs f mp eb ea := by
  unfold winC
  rw [between_notJoined_eq cc m (fun s hs => by rw [hst] at hs; cases hs) cs' cs]
  cases hbw : between cc m cs with
  | error e => rfl
  | ok r =>
    obtain ⟨os, fin, m1⟩ := r
    obtain ⟨_, rfl, _⟩ := between_notJoined cc m (fun s hs => by rw [hst] at hs; cases hs) cs os fin m1 hbw
    simp only [bind, Except.bind]
    rw [window_otaa m1 o hst, window_otaa m1 o hst, joinAcc_mask b f hb]

theorem winC_otaa_none (cs : List (RxView × Int))
    (f : Option (RxView × Int)) (mp : Nat) (eb ea : Bool) (os : List RxOut) (m' : MacState)
    (h : winC cc m cs f mp eb ea = .ok (some none, os, m')) : m' = m := by
  have hw := winC_otaa cc m o hst cs f mp eb ea _ os m' h
  split at hw
  · cases hw.1
  · split at hw
    · have := hw.2.1; split at this <;> cases this
    · exact hw.1

theorem cycleC_thin_otaa (fault : Option FaultPos)
    (c1 c1' : List (RxView × Int)) (rx1 : Option (RxView × Int)) (c2 c2' : List (RxView × Int)) (rx2 : Option (RxView × Int))
    (mp1 mp2 : Nat) (b1 b2 : Bool) (hb1 : b1 = true → heard RejJoin rx1) (hb2 : b2 = true → heard RejJoin rx2) :
    cycleC cc m fault c1' (maskRx b1 rx1) c2' (maskRx b2 rx2) mp1 mp2 = cycleC cc m fault c1 rx1 c2 rx2 mp1 mp2 := by
  unfold cycleC
  by_cases htx : fault = some .tx
  · simp only [htx, if_true]
  · simp only [htx, if_false]
    rw [winC_thin_otaa cc hst c1 c1' rx1 mp1 _ _ b1 hb1]
    cases hw1 : winC cc m c1 rx1 mp1 (fault == some .before1) (fault == some .close1) with
    | error e => rfl
    | ok r =>
      match r with
      | (none, h1, ma) => rfl
      | (some (some x), h1, ma) => rfl
      | (some none, h1, ma) =>
        cases winC_otaa_none cc hst c1 rx1 mp1 _ _ h1 ma hw1
        simp only [bind, Except.bind]
        rw [winC_thin_otaa cc hst c2 c2' rx2 mp2 _ _ b2 hb2]

end joining

theorem stepC_joinC_thin {σ} (g : Rng σ) (ms : MacState × σ) (cc : Bool) (fault : Option FaultPos)
    (c1 c1' : List (RxView × Int)) (rx1 : Option (RxView × Int)) (c2 c2' : List (RxView × Int)) (rx2 : Option (RxView × Int))
    (b1 b2 : Bool) (hb1 : b1 = true → heard RejJoin rx1) (hb2 : b2 = true → heard RejJoin rx2) :
    stepC g ms (.joinC cc fault c1' (maskRx b1 rx1) c2' (maskRx b2 rx2)) = stepC g ms (.joinC cc fault c1 rx1 c2 rx2) := by
  simp only [stepC]
  cases hj : macJoinOtaa g ms.1 ms.2 with
  | error e => rfl
  | ok r =>
    obtain ⟨jo, m1, rs1⟩ := r
    have hst1 := macJoinOtaa_st hj
    simp only [bind, Except.bind, cycleC_thin_otaa cc hst1 fault c1 c1' rx1 c2 c2' rx2 _ _ b1 b2 hb1 hb2]

/-- **while joining, what is heard on the RXC parameters changes NOTHING**: the join procedure of a Class C device with ANY frames heard between
TX and RX1 and between RX1 and RX2 — garbage, frames of other devices, even a JoinAccept on the wrong
parameters — is, as a computation, the join procedure of the twin that heard none of them: same
state, same random stream, same output, same failures.  For every state, class, fault position and
every frame list. -/
theorem joinC_rxc_frames_invisible {σ} (g : Rng σ) (ms : MacState × σ) (cc : Bool) (fault : Option FaultPos)
    (c1 c2 : List (RxView × Int)) (rx1 rx2 : Option (RxView × Int)) :
    stepC g ms (.joinC cc fault c1 rx1 c2 rx2) = stepC g ms (.joinC cc fault [] rx1 [] rx2) :=
  stepC_joinC_thin g ms cc fault [] c1 rx1 [] c2 rx2 false false (fun e => by cases e) (fun e => by cases e)

theorem stepC_thin_eq {σ} (g : Rng σ) (m : MacState) (rs : σ) (gh : Gh) (hr : GhRel m gh) (ev : EvC) (hv : evOkC ev = true)
    (out : OutC) (k1 : List Bool) (b1 : Bool) (k2 : List Bool) (b2 : Bool)
    (hl : LegalDelC gh (rxcMp m, ev) out (.thin k1 b1 k2 b2)) :
    stepC g (m, rs) (thinEvC k1 b1 k2 b2 ev) = stepC g (m, rs) ev ∨
      ∃ last cc data fport conf fault c1 rx1 c2 rx2, gh = some last ∧ ev = .uplinkC cc data fport conf fault c1 rx1 c2 rx2 := by
  cases ev with
  | base e => exact .inl (by simp only [thinEvC, stepC, step_mask_eq g m rs gh hr e hv b1 b2 hl])
  | joinC cc fault c1 rx1 c2 rx2 => exact .inl (stepC_joinC_thin g (m, rs) cc fault c1 _ rx1 c2 _ rx2 b1 b2 hl.1 hl.2)
  | uplinkC cc data fport conf fault c1 rx1 c2 rx2 =>
    cases gh with
    | none =>
      left
      simp only [thinEvC, stepC, macSend_notJoined g m hr]
      rfl
    | some last => exact .inr ⟨last, _, _, _, _, _, _, _, _, _, rfl, rfl⟩

/-- the step of an uplink on a device with a session against the step under thinned lists, `so` being the uplink `send`
builds (legality reads its window limits): a simulation for any set of extra faults, as `cycleC_thin` is -/
theorem stepC_uplinkC_thin {σ} {X : Fault → Prop} {g : Rng σ} {m m1 : MacState} {rs rs1 : σ} {s : Session} {data : List Nat}
    {fport : Nat} {conf : Bool} {so : SendOut} (hlo : LastOk s.fcntDown)
    (hs : Sent g m rs s data fport conf so m1 rs1) (cc : Bool) (fault : Option FaultPos) {c1 c2 : List (RxView × Int)}
    {rx1 rx2 : Option (RxView × Int)} (hv1 : csOk c1 = true) (hf1 : rxOk rx1 = true) (hv2 : csOk c2 = true) (hf2 : rxOk rx2 = true)
    (k1 : List Bool) (b1 : Bool) (k2 : List Bool) (b2 : Bool)
    (hl : LegalDelC (some s.fcntDown) (rxcMp m, .uplinkC cc data fport conf fault c1 rx1 c2 rx2) { out := .up so none none }
      (.thin k1 b1 k2 b2)) :
    SimX X (stepC g (m, rs) (.uplinkC cc data fport conf fault c1 rx1 c2 rx2))
      (stepC g (m, rs) (.uplinkC cc data fport conf fault (thinCs k1 c1) (maskRx b1 rx1) (thinCs k2 c2) (maskRx b2 rx2)))
      fun a b => b.1 = a.1 ∧ strip b.2 = strip a.2 := by
  simp only [stepC, hs.send, bind, Except.bind]
  refine (cycleC_thin hs.st hlo cc fault c1 rx1 c2 rx2 _ _ hv1 hf1 hv2 hf2 k1 b1 k2 b2 (rxcMp m) hs.params.rxcMp hl.1 hl.2.1
    hl.2.2.1 hl.2.2.2).bind fun ⟨fin, hd, m2⟩ ⟨_, hd', _⟩ ⟨e1, e2, hfil, _⟩ => ?_
  cases e1; cases e2
  cases fin <;> exact SimX.pure ⟨rfl, by simp only [strip, hfil]⟩

/-- **thinning one extended event by rejected frames**: same state, same random stream, same output
up to the `NoUpdate` entries of the deleted frames -/
theorem stepC_thin {σ} (g : Rng σ) (m m' : MacState) (rs rs' : σ) (gh : Gh) (hr : GhRel m gh) (ev : EvC) (hv : evOkC ev = true)
    (out : OutC) (h : stepC g (m, rs) ev = .ok ((m', rs'), out)) (k1 : List Bool) (b1 : Bool) (k2 : List Bool) (b2 : Bool)
    (hl : LegalDelC gh (rxcMp m, ev) out (.thin k1 b1 k2 b2)) :
    ∃ out', stepC g (m, rs) (thinEvC k1 b1 k2 b2 ev) = .ok ((m', rs'), out') ∧ strip out' = strip out := by
  rcases stepC_thin_eq g m rs gh hr ev hv out k1 b1 k2 b2 hl with
    he | ⟨last, cc, data, fport, conf, fault, c1, rx1, c2, rx2, rfl, rfl⟩
  · exact ⟨out, he.trans h, rfl⟩
  · cases stepC_cases g hr hv h with
    | upC hst hlo hs =>
      simp only [evOkC, Bool.and_eq_true] at hv
      obtain ⟨⟨_, out'⟩, h', e1, hstrip⟩ := (stepC_uplinkC_thin (X := fun _ => False) hlo hs cc fault hv.1.1.1 hv.1.1.2 hv.1.2
        hv.2 k1 b1 k2 b2 hl).elim_ok h
      cases e1
      exact ⟨out', h', hstrip⟩

theorem stepC_drop {σ} (g : Rng σ) (m m' : MacState) (rs rs' : σ) (gh : Gh) (hr : GhRel m gh) (ev : EvC) (hv : evOkC ev = true)
    (out : OutC) (h : stepC g (m, rs) ev = .ok ((m', rs'), out)) (hl : LegalDelC gh (rxcMp m, ev) out .drop) :
    m' = m ∧ rs' = rs := by
  cases ev with
  | base e => exact step_drop_eq g m m' rs rs' gh hr e hv hl out.out (stepC_base g _ _ e out h).1
  | _ => exact hl.elim

theorem thinEvsC_nil (ds : List DelC) : thinEvsC ds [] = [] := by
  cases ds with | nil => rfl | cons d ds => cases d <;> rfl

theorem thinOutsC_nil (ds : List DelC) : thinOutsC ds [] = [] := by
  cases ds with | nil => rfl | cons d ds => cases d <;> rfl

theorem thinOutsC_nil_left (os : List OutC) : thinOutsC [] os = os := by cases os <;> rfl

/-- **C07 over every extended history.**  Take any extended history (Class C receptions inside the
receive procedure included) and any script deleting frames the REFERENCE rejects at the point where
they are heard — between uplinks (`drop`); during `send` + receive procedure: on the RXC parameters
before RX1, in RX1, on the RXC parameters before RX2, in RX2, each under the counter the reference
holds at that very point of the procedure; in RX1/RX2 of a join procedure — anywhere, any number.
The thinned history runs to the SAME final state and random stream, and produces the SAME output at
every remaining event (uplink bytes, counters, MAC answers, ACK bit, radio configurations, responses,
delivered payloads); its `heard` lists lack the `NoUpdate` entries of the deleted frames, nothing else. -/
theorem historyC_rejected_invisible {σ} (g : Rng σ) (m : MacState) (rs : σ) (gh : Gh) (hr : GhRel m gh)
    (evs : List EvC) (hv : ∀ ev ∈ evs, evOkC ev = true) (ds : List DelC) (ms' : MacState × σ) (outs : List OutC)
    (h : runC g (m, rs) evs = .ok (ms', outs)) (hl : LegalC gh ds ((annotC g (m, rs) evs).zip outs)) :
    ∃ outs', runC g (m, rs) (thinEvsC ds evs) = .ok (ms', outs') ∧ outs'.map strip = (thinOutsC ds outs).map strip := by
  induction evs generalizing m rs gh ds outs with
  | nil =>
    obtain ⟨rfl, rfl⟩ := runC_nil_iff.mp h
    rw [thinEvsC_nil, thinOutsC_nil]
    exact ⟨[], rfl, rfl⟩
  | cons ev rest ih =>
    cases ds with
    | nil => exact ⟨outs, h, rfl⟩
    | cons d ds =>
      obtain ⟨⟨m1, rs1⟩, o, os, hstep, hrest, rfl⟩ := runC_cons_iff.mp h
      have hve := hv ev List.mem_cons_self
      rw [annotC_cons g (m, rs) (m1, rs1) ev rest o hstep, List.zip_cons_cons] at hl
      simp only [LegalC] at hl
      obtain ⟨outs2, hrun2, hmap2⟩ := ih m1 rs1 _ (stepC_ghRel g m m1 rs rs1 ev o gh hr hve hstep)
        (fun e he => hv e (List.mem_cons_of_mem _ he)) ds os hrest hl.2
      cases d with
      | keep =>
        exact ⟨o :: outs2, runC_cons_iff.mpr ⟨_, _, _, hstep, hrun2, rfl⟩, by simp only [thinOutsC, List.map_cons, hmap2]⟩
      | thin k1 b1 k2 b2 =>
        obtain ⟨o', hstep', hstrip⟩ := stepC_thin g m m1 rs rs1 gh hr ev hve o hstep k1 b1 k2 b2 hl.1
        exact ⟨o' :: outs2, runC_cons_iff.mpr ⟨_, _, _, hstep', hrun2, rfl⟩, by simp only [thinOutsC, List.map_cons, hmap2, hstrip]⟩
      | drop =>
        obtain ⟨rfl, rfl⟩ := stepC_drop g m m1 rs rs1 gh hr ev hve o hstep hl.1
        exact ⟨outs2, hrun2, hmap2⟩

instance (gh : Gh) (e : EvL) (out : OutC) (d : DelC) : Decidable (LegalDelC gh e out d) := by
  obtain ⟨mpc, ev⟩ := e
  obtain ⟨oo, hd⟩ := out
  cases d with
  | keep => exact isTrue trivial
  | drop => cases ev <;> (simp only [LegalDelC]; infer_instance)
  | thin k1 b1 k2 b2 =>
    cases ev with
    | base e => simp only [LegalDelC]; infer_instance
    | joinC cc fault c1 rx1 c2 rx2 => simp only [LegalDelC]; infer_instance
    | uplinkC cc data fport conf fault c1 rx1 c2 rx2 =>
      cases gh with
      | none => exact isTrue (by simp [LegalDelC])
      | some last =>
        cases oo with
        | up so r dl => simp only [LegalDelC]; infer_instance
        | done => exact isTrue (by simp [LegalDelC])
        | notJoined => exact isTrue (by simp [LegalDelC])
        | join o r => exact isTrue (by simp [LegalDelC])
        | rxc rf o => exact isTrue (by simp [LegalDelC])

instance : (gh : Gh) → (ds : List DelC) → (t : List (EvL × OutC)) → Decidable (LegalC gh ds t)
  | _, [], _ => isTrue (by simp [LegalC])
  | _, _ :: _, [] => isTrue (by simp [LegalC])
  | gh, d :: ds, x :: t =>
    have := instDecidableLegalC (ghNextC gh x.1 x.2) ds t
    by simp only [LegalC]; infer_instance

/-- **C07 on the async front-end, for EVERY script, both classes.**  Two sessions of the async
front-end model from the same device state, the second of which hears what the first hears minus
frames the reference rejects where they are heard (its extended history is the first's, thinned by a
legal deletion script): if both return, they end in the same MAC state and generator state, and their
outputs (`ObsRel`: the front-end's answers and the frames handed to the radio, call by call) are those
of two runs that agree at every remaining event up to `NoUpdate` entries. -/
theorem asyncC_rejected_invisible {σ} (g : Rng σ) (cfg : DevCfg) (d : DevRun) (rs : σ) (gh : Gh) (hr : GhRel d.m gh)
    (ops ops' : List AsyncOp) (hv : ∀ op ∈ ops, op.allView viewOk = true) (ds : List DelC)
    (habs : abstractSessionC cfg ops' = thinEvsC ds (abstractSessionC cfg ops))
    (obs obs' : List OpObs) (d1 d2 : DevRun) (rs1 rs2 : σ)
    (h : asyncOps g cfg d rs ops = .ok (obs, d1, rs1)) (h' : asyncOps g cfg d rs ops' = .ok (obs', d2, rs2)) :
    ∃ outs outs', AllRel ObsRel obs outs ∧ AllRel ObsRel obs' outs' ∧
      (LegalC gh ds ((annotC g (d.m, rs) (abstractSessionC cfg ops)).zip outs) →
        d2.m = d1.m ∧ rs2 = rs1 ∧ outs'.map strip = (thinOutsC ds outs).map strip) := by
  obtain ⟨outs, hrun, hobs⟩ := asyncOps_runC g cfg d rs ops obs d1 rs1 h
  obtain ⟨outs', hrun', hobs'⟩ := asyncOps_runC g cfg d rs ops' obs' d2 rs2 h'
  refine ⟨outs, outs', hobs, hobs', fun hl => ?_⟩
  obtain ⟨outs2, hrun2, hmap⟩ :=
    historyC_rejected_invisible g d.m rs gh hr _ (abstractOps_evOkC cfg ops hv) ds _ outs hrun hl
  rw [habs] at hrun'
  unfold abstractSessionC at hrun'
  rw [hrun2] at hrun'
  simp only [Except.ok.injEq, Prod.mk.injEq] at hrun'
  obtain ⟨⟨e1, e2⟩, rfl⟩ := hrun'
  exact ⟨e1.symm, e2.symm, hmap⟩

/-! non-vacuity: a Class C session; a replay heard between TX and RX1 right after the frame it
replays, garbage before RX2 and a forged frame in RX2 are deleted — same final state, same outputs
up to the `NoUpdate` entries -/
def demoHistoryC : List EvC :=
  [ .base (.joinAbp 7 1 2),
    .uplinkC true [1] 1 false none [(fr 5 (some 5), 0), (fr 5 (some 5), 0)] none [(.garbage, 0), (fr 6 (some 6), 0)] (some (fr 9 none, 0)),
    .base (.rxc .garbage 0 51),
    .uplinkC true [2] 1 true none [] none [] none ]

def demoScriptC : List DelC := [.keep, .thin [false, true] false [true, false] true, .drop, .keep]

def m0C : MacState × Nat := (MacState.init (RegionState.init .EU868) 14 0, 1)

example : ∀ ev ∈ demoHistoryC, evOkC ev = true := by decide
example : thinEvsC demoScriptC demoHistoryC =
  [ .base (.joinAbp 7 1 2),
    .uplinkC true [1] 1 false none [(fr 5 (some 5), 0)] none [(fr 6 (some 6), 0)] none,
    .uplinkC true [2] 1 true none [] none [] none ] := by rfl
example : (runC lcg m0C demoHistoryC).toOption.map
    (fun r => decide (LegalC none demoScriptC ((annotC lcg m0C demoHistoryC).zip r.2))) = some true := by decide +kernel
example : (runC lcg m0C demoHistoryC).toOption.map (fun r => r.2.map (fun o => o.heard.length)) = some [0, 4, 0, 0] := by
  decide +kernel
example : (runC lcg m0C (thinEvsC demoScriptC demoHistoryC)).toOption.map (fun r => r.2.map (fun o => o.heard.length)) = some [0, 2, 0] := by
  decide +kernel
/-- deleting an ACCEPTED frame is not legal -/
example : (runC lcg m0C demoHistoryC).toOption.map
    (fun r => decide (LegalC none [.keep, .thin [true] false [] false] ((annotC lcg m0C demoHistoryC).zip r.2))) = some false := by
  decide +kernel

theorem evOkC_thin (k1 : List Bool) (b1 : Bool) (k2 : List Bool) (b2 : Bool) (ev : EvC) (h : evOkC ev = true) :
    evOkC (thinEvC k1 b1 k2 b2 ev) = true := by
  cases ev with
  | base e =>
    cases e with
    | uplink data fport conf fault rx1 rx2 mp1 mp2 =>
      simp only [thinEvC, maskEv, evOkC, evOk, Bool.and_eq_true] at h ⊢
      exact ⟨rxOk_mask _ _ h.1, rxOk_mask _ _ h.2⟩
    | joinOtaa fault rx1 rx2 mp1 mp2 =>
      simp only [thinEvC, maskEv, evOkC, evOk, Bool.and_eq_true] at h ⊢
      exact ⟨rxOk_mask _ _ h.1, rxOk_mask _ _ h.2⟩
    | _ => exact h
  | uplinkC cc data fport conf fault c1 rx1 c2 rx2 =>
    simp only [thinEvC, evOkC, Bool.and_eq_true] at h ⊢
    exact ⟨⟨⟨thinCs_ok _ _ h.1.1.1, rxOk_mask _ _ h.1.1.2⟩, thinCs_ok _ _ h.1.2⟩, rxOk_mask _ _ h.2⟩
  | joinC cc fault c1 rx1 c2 rx2 =>
    simp only [thinEvC, evOkC, Bool.and_eq_true] at h ⊢
    exact ⟨⟨⟨thinCs_ok _ _ h.1.1.1, rxOk_mask _ _ h.1.1.2⟩, thinCs_ok _ _ h.1.2⟩, rxOk_mask _ _ h.2⟩

set_option linter.unusedVariables false in
/-- **the converse of `stepC_thin`**: if the THINNED event returns, the full one — with the rejected
frames present — returns too, in the same state and random stream, with the same output up to the
`NoUpdate` entries of the inserted frames.  Neither the well-formedness of the state nor the validity of the event is used:
by `stepC_uplinkC_thin` without extra faults the thinned step fails wherever the full one does.  Legality is
judged with the output of the thinned step (same uplink built, which is all it reads) -/
theorem stepC_unthin {σ} (g : Rng σ) (m m' : MacState) (rs rs' : σ) (gh : Gh) (hr : GhRel m gh) (hwf : MacWF m) (ev : EvC)
    (hv : evOkC ev = true) (hva : validEvC m.region.id ev = true) (k1 : List Bool) (b1 : Bool) (k2 : List Bool) (b2 : Bool)
    (out' : OutC) (h' : stepC g (m, rs) (thinEvC k1 b1 k2 b2 ev) = .ok ((m', rs'), out'))
    (hl : LegalDelC gh (rxcMp m, ev) out' (.thin k1 b1 k2 b2)) :
    ∃ out, stepC g (m, rs) ev = .ok ((m', rs'), out) ∧ strip out' = strip out := by
  rcases stepC_thin_eq g m rs gh hr ev hv out' k1 b1 k2 b2 hl with
    he | ⟨last, cc, data, fport, conf, fault, c1, rx1, c2, rx2, rfl, rfl⟩
  · exact ⟨out', he ▸ h', rfl⟩
  · cases stepC_cases g hr (evOkC_thin k1 b1 k2 b2 _ hv) h' with
    | upC hst hlo hs =>
      simp only [evOkC, Bool.and_eq_true] at hv
      have hsim := stepC_uplinkC_thin (X := fun _ => False) hlo hs cc fault hv.1.1.1 hv.1.1.2 hv.1.2 hv.2 k1 b1 k2 b2 hl
      cases hfull : stepC g (m, rs) (.uplinkC cc data fport conf fault c1 rx1 c2 rx2) with
      | error e =>
        rcases hsim.elim_error hfull with h | h
        · exact h.elim
        · cases h'.symm.trans h
      | ok r =>
        obtain ⟨b, hb, e1, hstrip⟩ := hsim.elim_ok hfull
        cases h'.symm.trans hb
        obtain ⟨_, out⟩ := r
        cases e1
        exact ⟨out, rfl, hstrip⟩

/-- the annotated trace of the FULL history, rebuilt from the run of the THINNED one: a kept or thinned
event carries the RXC payload limit and the output of its counterpart in the thinned run (same state
before it, same uplink built — which is all `LegalDelC` and the tracker read); a dropped Class C
reception between uplinks is judged from the tracker alone, its annotation and output play no part -/
def fillC : List DelC → List EvC → List (EvL × OutC) → List (EvL × OutC)
  | .drop :: ds, ev :: evs, t => ((0, ev), { out := .done }) :: fillC ds evs t
  | .keep :: ds, ev :: evs, x :: t => ((x.1.1, ev), x.2) :: fillC ds evs t
  | .thin _ _ _ _ :: ds, ev :: evs, x :: t => ((x.1.1, ev), x.2) :: fillC ds evs t
  | _, _, _ => []

theorem ghNextC_out (gh : Gh) (e : EvL) (o o' : OutC) (h : o'.out = o.out) : ghNextC gh e o' = ghNextC gh e o := by
  unfold ghNextC
  rw [h]


/-- **C07 over every extended history, the converse: rejected frames can be INSERTED anywhere.**  If the
thinned extended history runs, so does the history with the rejected frames present — between
uplinks, on the RXC parameters before RX1 / before RX2 inside a receive procedure, in RX1 / RX2 of an
uplink or a join procedure, each judged by the reference under the counter it holds at that very
point — to the SAME final state and random stream, with the same outputs at the events of the thinned
history up to the `NoUpdate` entries of the inserted frames.  From any well-formed state under valid
events.  Together with `historyC_rejected_invisible`: the two runs of the pair exist together and
agree.  (Legality is stated on `fillC`, the annotated trace of the full history rebuilt from the run
that is GIVEN — the thinned one: per kept / thinned event the RXC payload limit of the state before it
and the uplink built there, which is all that legality and the tracker read.) -/
theorem historyC_rejected_insertable {σ} (g : Rng σ) (m : MacState) (rs : σ) (gh : Gh) (hr : GhRel m gh) (hwf : MacWF m)
    (evs : List EvC) (hv : ∀ ev ∈ evs, evOkC ev = true ∧ validEvC m.region.id ev = true) (ds : List DelC)
    (ms' : MacState × σ) (outs' : List OutC) (h : runC g (m, rs) (thinEvsC ds evs) = .ok (ms', outs'))
    (hl : LegalC gh ds (fillC ds evs ((annotC g (m, rs) (thinEvsC ds evs)).zip outs'))) :
    ∃ outs, runC g (m, rs) evs = .ok (ms', outs) ∧ outs'.map strip = (thinOutsC ds outs).map strip := by
  induction evs generalizing m rs gh ds outs' with
  | nil =>
    rw [thinEvsC_nil] at h
    obtain ⟨rfl, rfl⟩ := runC_nil_iff.mp h
    exact ⟨[], rfl, by rw [thinOutsC_nil]⟩
  | cons ev rest ih =>
    have hve := hv ev List.mem_cons_self
    -- an event that stays, as it is or thinned (`o'`: the output in the given run, `o`: of the full step), then the
    -- induction hypothesis; the tracker reads the uplink built, which `strip` keeps
    have stay : ∀ (ds : List DelC) (m1 : MacState) (rs1 : σ) (o o' : OutC) (os' : List OutC),
        stepC g (m, rs) ev = .ok ((m1, rs1), o) → strip o' = strip o → runC g (m1, rs1) (thinEvsC ds rest) = .ok (ms', os') →
        LegalC (ghNextC gh (rxcMp m, ev) o') ds (fillC ds rest ((annotC g (m1, rs1) (thinEvsC ds rest)).zip os')) →
        ∃ os, runC g (m, rs) (ev :: rest) = .ok (ms', o :: os) ∧ os'.map strip = (thinOutsC ds os).map strip := by
      intro ds m1 rs1 o o' os' hstep hstrip hrest hl
      have hk : Keeps m m1 := stepC_keeps hwf rfl hve.2 hstep
      have hr1 := stepC_ghRel g m m1 rs rs1 ev o gh hr hve.1 hstep
      rw [← ghNextC_out gh (rxcMp m, ev) o o' (congrArg OutC.out hstrip : (strip o').out = (strip o).out)] at hr1
      obtain ⟨os, hos, hth⟩ := ih m1 rs1 _ hr1 hk.1
        (fun e he => by rw [hk.2.1]; exact hv e (List.mem_cons_of_mem _ he)) ds os' hrest hl
      exact ⟨os, runC_cons_iff.mpr ⟨_, _, _, hstep, hos, rfl⟩, hth⟩
    cases ds with
    | nil => exact ⟨outs', h, by rw [thinOutsC_nil_left]⟩
    | cons d ds =>
      cases d with
      | keep =>
        simp only [thinEvsC] at h hl
        obtain ⟨⟨m1, rs1⟩, o, os', hstep, hrest, rfl⟩ := runC_cons_iff.mp h
        rw [annotC_cons g (m, rs) (m1, rs1) ev _ o hstep, List.zip_cons_cons] at hl
        simp only [fillC, LegalC] at hl
        obtain ⟨os, hos, hth⟩ := stay ds m1 rs1 o o os' hstep rfl hrest hl.2
        exact ⟨o :: os, hos, by simp only [thinOutsC, List.map_cons, hth]⟩
      | thin k1 b1 k2 b2 =>
        simp only [thinEvsC] at h hl
        obtain ⟨⟨m1, rs1⟩, o', os', hstep', hrest, rfl⟩ := runC_cons_iff.mp h
        rw [annotC_cons g (m, rs) (m1, rs1) _ _ o' hstep', List.zip_cons_cons] at hl
        simp only [fillC, LegalC] at hl
        obtain ⟨o, hstep, hstrip⟩ := stepC_unthin g m m1 rs rs1 gh hr hwf ev hve.1 hve.2 k1 b1 k2 b2 o' hstep' hl.1
        obtain ⟨os, hos, hth⟩ := stay ds m1 rs1 o o' os' hstep hstrip hrest hl.2
        exact ⟨o :: os, hos, by simp only [thinOutsC, List.map_cons, hth, hstrip]⟩
      | drop =>
        simp only [thinEvsC] at h hl
        simp only [fillC, LegalC] at hl
        obtain ⟨hld, hlr⟩ := hl
        cases ev with
        | base e =>
          cases e with
          | rxc v snr mp =>
            obtain ⟨m1, o, hstep⟩ := stepC_rxc_returns g m rs v snr mp hwf hve.2
            obtain ⟨rfl, _⟩ := stepC_drop g m m1 rs rs gh hr _ hve.1 o hstep hld
            -- the tracker does not read the annotation and the output of a Class C reception between uplinks
            have hr1 : GhRel m1 (ghNextC gh (0, .base (.rxc v snr mp)) { out := .done }) :=
              stepC_ghRel g m1 m1 rs rs _ o gh hr hve.1 hstep
            obtain ⟨os, hos, hth⟩ := ih m1 rs _ hr1 hwf (fun e he => hv e (List.mem_cons_of_mem _ he)) ds outs' h hlr
            exact ⟨o :: os, runC_cons_iff.mpr ⟨_, _, _, hstep, hos, rfl⟩, by simp only [thinOutsC]; exact hth⟩
          | _ => exact hld.elim
        | _ => exact hld.elim

/-- **the converse on the async front-end, for EVERY script, both classes.**  A session `ops'` of the
async front-end model returns; `ops` is a session from the same device state that hears, in addition,
frames the reference rejects where they are heard (`abstractSessionC ops'` is `abstractSessionC ops`
thinned by a legal script).  Then the extended history of `ops` runs to the final MAC state and
generator state of `ops'`, with the same outputs up to `NoUpdate` entries, and the session `ops` itself
either returns — in that MAC state and generator state, with those outputs call by call — or stops with
one of the front-end's OWN failures (`Extra`: the `u32` arithmetic `delay + tx_ms − lead` of a window timer over
the board's constants, or the model's bound on the frames heard in one `between_windows`; never a failure of the MAC). -/
theorem asyncC_rejected_insertable {σ} (g : Rng σ) (cfg : DevCfg) (d : DevRun) (rs : σ) (gh : Gh) (hr : GhRel d.m gh) (hwf : MacWF d.m)
    (ops ops' : List AsyncOp) (hv : ∀ op ∈ ops, op.allView viewOk = true ∧ op.valid d.m.region.id = true) (ds : List DelC)
    (habs : abstractSessionC cfg ops' = thinEvsC ds (abstractSessionC cfg ops))
    (obs' : List OpObs) (d2 : DevRun) (rs2 : σ) (h' : asyncOps g cfg d rs ops' = .ok (obs', d2, rs2)) :
    ∃ outs', AllRel ObsRel obs' outs' ∧
      (LegalC gh ds (fillC ds (abstractSessionC cfg ops) ((annotC g (d.m, rs) (abstractSessionC cfg ops')).zip outs')) →
        ∃ outs, runC g (d.m, rs) (abstractSessionC cfg ops) = .ok ((d2.m, rs2), outs) ∧
          outs'.map strip = (thinOutsC ds outs).map strip ∧
          (match asyncOps g cfg d rs ops with
           | .ok (obs, d1, rs1) => d1.m = d2.m ∧ rs1 = rs2 ∧ AllRel ObsRel obs outs
           | .error e => Extra e)) := by
  obtain ⟨outs', hrun', hobs'⟩ := asyncOps_runC g cfg d rs ops' obs' d2 rs2 h'
  refine ⟨outs', hobs', fun hl => ?_⟩
  rw [habs] at hrun' hl
  obtain ⟨outs, hrun, hmap⟩ :=
    historyC_rejected_insertable g d.m rs gh hr hwf _ (abstractSessionC_ok cfg _ ops hv) ds _ outs' hrun' hl
  refine ⟨outs, hrun, hmap, ?_⟩
  have hsim := asyncOps_sim g cfg d rs ops
  unfold abstractSessionC at hrun
  cases hx : asyncOps g cfg d rs ops with
  | ok a =>
    obtain ⟨obs, d1, rs1⟩ := a
    obtain ⟨b, hb, hrel⟩ := hsim.elim_ok hx
    rw [hrun] at hb
    cases hb
    exact ⟨hrel.m, hrel.rng, hrel.obs⟩
  | error e =>
    rw [hx] at hsim
    rcases hsim with hX | hE
    · exact hX
    · rw [hrun] at hE; cases hE

/-! non-vacuity of the converse on `demoHistoryC` / `demoScriptC`: the script is legal on the trace
rebuilt from the THINNED run; inserting a frame the reference ACCEPTS is not -/
example : MacWF m0C.1 := by decide
example : ∀ ev ∈ demoHistoryC, validEvC .EU868 ev = true := by decide
example : (runC lcg m0C (thinEvsC demoScriptC demoHistoryC)).toOption.map
    (fun r => decide (LegalC none demoScriptC (fillC demoScriptC demoHistoryC ((annotC lcg m0C (thinEvsC demoScriptC demoHistoryC)).zip r.2))))
    = some true := by decide +kernel
example : (runC lcg m0C (thinEvsC [.keep, .thin [true] false [] false] demoHistoryC)).toOption.map
    (fun r => decide (LegalC none [.keep, .thin [true] false [] false] (fillC [.keep, .thin [true] false [] false] demoHistoryC
      ((annotC lcg m0C (thinEvsC [.keep, .thin [true] false [] false] demoHistoryC)).zip r.2)))) = some false := by decide +kernel

/-! ### a frame heard by a JOINING Class C device

`Mac::handle_rxc` answers `Err(NotJoined)` while the device is joining; `between_windows` takes that
answer as `NoUpdate` and goes on to RX1 / RX2, where the JoinAccept arrives (`rxcs` in
`Model/HistoryC.lean`).  So a frame heard on the RXC parameters during a join procedure — garbage, a frame
of another device — is ignored: `joinC_rxc_frames_invisible` above is stated for ANY frame lists and
not only for rejected frames, and a deletion script may delete any frame from `c1`/`c2` of a join
procedure.  (Propagating the error instead would abort the join on one stray frame, while the twin that
did not hear it joins: lora-rs finding `C07-join-aborted-by-rxc-frame`; the op lines below replay it.) -/

/-- the same JoinAccept where it is awaited: in a window of a join procedure -/
def goodJa : RxView := badJa

/-- the join procedure of a Class C device that hears garbage between TX and RX1, and a frame of
somebody else between RX1 and RX2 … -/
def joinNoise : List EvC := [ .joinC true none [(.garbage, 0)] none [(fr 3 none, 0), (.garbage, 1)] (some (goodJa, 0)) ]
/-- … and of its twin that does not -/
def joinQuiet : List EvC := [ .joinC true none [] none [] (some (goodJa, 0)) ]

def isJoined (m : MacState) : Bool := match m.st with | .joined _ => true | _ => false

/-- both join (`JoinSuccess` in RX2) -/
example :
    (runC lcg m0C joinQuiet).toOption.map (fun r => (r.2.map (fun o => match o.out with | .join _ resp => some resp | _ => none),
        isJoined r.1.1)) = some ([some (some .joinSuccess)], true) ∧
    (runC lcg m0C joinNoise).toOption.map (fun r => (r.2.map (fun o => match o.out with | .join _ resp => some resp | _ => none),
        isJoined r.1.1)) = some ([some (some .joinSuccess)], true) := by
  constructor <;> decide +kernel

example : thinEvsC [.thin [true] false [true, true] false] joinNoise = joinQuiet := by rfl

/-- op lines for the REAL async front-end (`lvharness eval`) and the Lean device model (`lvdriver`): the
quiet twin opens RX1 and RX2 and answers `Ok(NoJoinAccept)`; the device that hears one garbage byte on
the RXC parameters must do the same (a front-end that propagates `Err(NotJoined)` answers `Err(Mac)` after
the first `rx_continuous`, neither window opened); a Class A device (third line) never listens there -/
def joinC_rxc_frame_ops : List String :=
  [ "C07 adev EU868 1 - 15 40 1 57 ; ajoin | O O O O O O O O O O O O ; snap",
    "C07 adev EU868 1 - 15 40 1 57 ; ajoin | O O R0/ff/g O O O O O O O O O ; snap",
    "C07 adev EU868 1 - 15 40 0 57 ; ajoin | O O R0/ff/g O O O O O O O O O ; snap" ]

/-! ## `Device::rxc_listen`

Deleting frames the REFERENCE rejects from the script of one listen call.  Before the first accepted
frame the counter the reference holds does not move, and after it this call hears nothing: every frame
of the script is judged under the counter `last` the call starts with (`RejRxc`). -/

/-- delete the marked frames from a script (only frames can be deleted; the script is followed up to the
radio answer that ends the listening) -/
def thinScript : List Bool → List ScriptItem → List ScriptItem
  | true :: ks, .frame _ _ :: rest => thinScript ks rest
  | false :: ks, .frame snr v :: rest => .frame snr v :: thinScript ks rest
  | _, s => s

def LegalScript (last : Option Nat) (mp : Nat) : List Bool → List ScriptItem → Prop
  | k :: ks, .frame _ v :: rest => (k = true → RejRxc (some last) v mp) ∧ LegalScript last mp ks rest
  | _, _ => True

instance (last : Option Nat) (mp : Nat) : (ks : List Bool) → (s : List ScriptItem) → Decidable (LegalScript last mp ks s)
  | [], _ => isTrue (by simp [LegalScript])
  | _ :: _, [] => isTrue (by simp [LegalScript])
  | _ :: _, .ok :: _ => isTrue (by simp [LegalScript])
  | _ :: _, .err :: _ => isTrue (by simp [LegalScript])
  | k :: ks, .frame _ v :: rest =>
    have := instDecidableLegalScript last mp ks rest
    by simp only [LegalScript]; infer_instance

theorem thinScript_all (P : RxView → Bool) (ks : List Bool) (s : List ScriptItem) (h : s.all (ScriptItem.allView P) = true) :
    (thinScript ks s).all (ScriptItem.allView P) = true := by
  fun_induction thinScript ks s with
  | case1 ks snr v rest ih => exact ih (Bool.and_eq_true _ _ ▸ List.all_cons ▸ h).2
  | case2 ks snr v rest ih =>
    simp only [List.all_cons, Bool.and_eq_true] at h ⊢
    exact ⟨h.1, ih h.2⟩
  | case3 ks s _ _ => exact h

theorem thinScript_first (last : Option Nat) (mp : Nat) (ks : List Bool) (s : List ScriptItem) (h : LegalScript last mp ks s) :
    (firstAccepted last mp (leadFrames (thinScript ks s)).1).map (·.2) = (firstAccepted last mp (leadFrames s).1).map (·.2) ∧
      listenEndsErr (thinScript ks s) = listenEndsErr s := by
  fun_induction thinScript ks s with
  | case1 ks snr v rest ih =>
    simp only [LegalScript] at h
    obtain ⟨h1, h2⟩ := ih h.2
    have hs := rejRxc_spec (h.1 trivial)
    simp only [leadFrames, firstAccepted, hs, listenEndsErr, Option.map_map]
    exact ⟨by rw [h1]; cases firstAccepted last mp (leadFrames rest).1 <;> rfl, h2⟩
  | case2 ks snr v rest ih =>
    simp only [LegalScript] at h
    obtain ⟨h1, h2⟩ := ih h.2
    simp only [leadFrames, firstAccepted, listenEndsErr]
    refine ⟨?_, h2⟩
    cases specRxc last v mp with
    | some p => rfl
    | none =>
      -- the position of the first accepted frame moves, its counter and contents do not
      simp only [Option.map_map]
      have : ∀ x : Option (Nat × Nat × RxData), x.map ((fun y => y.2) ∘ fun y => (y.1 + 1, y.2)) = x.map (·.2) := by
        intro x; cases x <;> rfl
      rw [this, this, h1]
  | case3 ks s _ _ => exact ⟨rfl, rfl⟩

/-- **C07 for `rxc_listen`: rejected frames are invisible.**  A device with a session (tracker `some last`),
any script with 16-bit wire counters, any deletion of frames the reference rejects (forged, replayed, too
far ahead, oversized for the RXC data rate, not a data frame): the call on the thinned script returns
the SAME answer, the SAME MAC state and the SAME downlink queue as the call that heard them. -/
theorem async_listen_rejected_invisible (r : DevRun) (last : Option Nat) (hr : GhRel r.m (some last))
    (hv : r.script.all (ScriptItem.allView viewOk) = true) (ks : List Bool)
    (hleg : LegalScript last (rxcMp r.m) ks r.script) (res : ListenResult) (r' : DevRun)
    (h : asyncListen r = .ok (res, r')) :
    ∃ r'', asyncListen { r with script := thinScript ks r.script } = .ok (res, r'') ∧
      r''.m = r'.m ∧ r''.downlinks = r'.downlinks := by
  unfold asyncListen at h ⊢
  obtain ⟨rf, hrf, h⟩ := Except.bind_eq_ok h
  obtain ⟨s, hst, rfl, hl⟩ := hr
  obtain ⟨res0, r0, h0, hnf⟩ := listenLoop_joined rf.maxPayload.toNat (r.script.length + 1) r s hst hl hv (Nat.lt_succ_self _)
  rw [h0] at h
  simp only [Except.ok.injEq, Prod.mk.injEq] at h
  obtain ⟨rfl, rfl⟩ := h
  obtain ⟨res1, r1, h1, hnf1⟩ := listenLoop_joined rf.maxPayload.toNat ((thinScript ks r.script).length + 1)
    { r with script := thinScript ks r.script } s hst hl (thinScript_all viewOk ks r.script hv) (Nat.lt_succ_self _)
  simp only [hrf, bind, Except.bind]
  rw [rxcMp_of_ok hrf] at hnf hnf1
  obtain ⟨hfa, hend⟩ := thinScript_first s.fcntDown (rxcMp r.m) ks r.script hleg
  unfold ListenNF at hnf hnf1
  simp only [] at hnf1
  refine ⟨r1, ?_⟩
  rw [h1]
  cases hx : firstAccepted s.fcntDown (rxcMp r.m) (leadFrames r.script).1 with
  | none =>
    rw [hx] at hfa
    simp only [Option.map_none, Option.map_eq_none_iff] at hfa
    simp only [hx, hfa, hend] at hnf hnf1
    refine ⟨?_, by rw [hnf1.1, hnf.1], by rw [hnf1.2.1, hnf.2.1]⟩
    rw [hnf1.2.2.1, hnf.2.2.1]
  | some x =>
    obtain ⟨k, N, d⟩ := x
    rw [hx] at hfa
    simp only [Option.map_some, Option.map_eq_some_iff] at hfa
    obtain ⟨⟨k', N', d'⟩, hy, hyx⟩ := hfa
    simp only [Prod.mk.injEq] at hyx
    obtain ⟨rfl, rfl⟩ := hyx
    simp only [hx, hy] at hnf hnf1
    refine ⟨?_, by rw [hnf1.1, hnf.1], by rw [hnf1.2.1, hnf.2.1]⟩
    rw [hnf1.2.2.1, hnf.2.2.1]

/-! non-vacuity: the script of `C05.listenStart` (forged, replay, too far ahead, authentic, one more) with the
three rejected frames deleted -/

example : LegalScript (some 10) (rxcMp C05.listenStart.m) [true, true, true, false] C05.listenStart.script := by decide +kernel
example : (thinScript [true, true, true, false] C05.listenStart.script).length = 2 := by decide
example : (asyncListen { C05.listenStart with script := thinScript [true, true, true, false] C05.listenStart.script }).toOption.map
    (fun x => (x.1, x.2.m.fcntUp?)) = (asyncListen C05.listenStart).toOption.map (fun x => (x.1, x.2.m.fcntUp?)) := by decide +kernel
/-- the accepted frame is not deletable -/
example : ¬ LegalScript (some 10) (rxcMp C05.listenStart.m) [false, false, false, true] C05.listenStart.script := by decide +kernel

end C07

#print axioms C07.rejected_noop
#print axioms C07.rejected_list_noop
#print axioms C07.twin
#print axioms C07.step_mask_eq
#print axioms C07.step_drop_eq
#print axioms C07.history_rejected_invisible
#print axioms C07.history_rejected_insertable
#print axioms C07.stepC_thin
#print axioms C07.historyC_rejected_invisible
#print axioms C07.asyncC_rejected_invisible
#print axioms C07.stepC_unthin
#print axioms C07.historyC_rejected_insertable
#print axioms C07.asyncC_rejected_insertable
#print axioms C07.joinC_rxc_frames_invisible
#print axioms C07.async_listen_rejected_invisible
