import LoraVerif.Props.C09
import LoraVerif.Lemmas.RefineCalls
import LoraVerif.Lemmas.RefineNb
import LoraVerif.Lemmas.ChainC
/-!
# C10 — receive windows follow the regional parameters in force when the uplink was sent

The regional tables (the GENERATED `get_rx_datarate` functions against the RP002 closed forms of
`Spec/Regional.lean`: finite, evaluated by the kernel) are in `Lemmas/RegionTables.lean`, under this property's
namespace; here is how `rxWindows` composes the windows from them, the delays, and the front-ends' timer arithmetic.  `WindowsOf m tx t` says what the windows of a
frame sent on channel `tx` are under the parameters of state `m`.  `send_windows` / `join_windows` show
it of the state the frame was built in (the windows are returned BY VALUE: later MAC commands cannot
alter them), `history_windows` / `historyC_windows` / `asyncC_windows` at every position of every
(extended) history, `async_send_windows` / `async_join_windows` / `nb_windows` of the calls the device
front-ends make.  The windows are a fact about `send` / `join_otaa` alone: the step lemmas have no reference
tracker in their hypotheses and invert `step` / `stepC` directly (the case principle `step_cases` needs one).
-/
open Model Gen.Region

namespace C10

/-- RX delay conversion of RXTimingSetupReq / JoinAccept RxDelay: 0 and 1 mean one second -/
theorem del_to_delay : ∀ d ∈ ([0, 1, 2, 3, 4, 5, 6, 7, 8, 9, 10, 11, 12, 13, 14, 15] : List Int),
    Gen.Session.del_to_delay_ms d = some (if d < 2 then 1000 else d * 1000) := by decide +kernel

/-- RX1 at the negotiated delay (join: 5 s), RX2 exactly one second later -/
theorem delay_spec (m : MacState) :
    macRxDelay m false false = m.cfg.rx1Delay ∧ macRxDelay m false true = m.cfg.rx1Delay + 1000 ∧
    macRxDelay m true false = 5000 ∧ macRxDelay m true true = 6000 := by
  refine ⟨rfl, rfl, ?_, ?_⟩ <;> simp [macRxDelay, Gen.Session.JOIN_ACCEPT_DELAY1, Gen.Session.JOIN_ACCEPT_DELAY2]

/-- every window the MAC hands out uses a data rate the region defines (the fallback of
`build_rf_config` never yields an undefined one: it would be a panic, which C04 excludes) -/
theorem window_dr_defined (m : MacState) (f : Nat) (dr txdr : DR) (r : RfConfig) (h : buildRfConfig m f dr txdr = .ok r) :
    ∃ d, r = rfOf d f ∧ (∃ k, getDatarate m.region.id k = some d) := by
  unfold buildRfConfig at h
  simp only [bind, Except.bind, pure, Except.pure] at h
  split at h
  · rename_i d hd
    simp only [Except.ok.injEq] at h
    exact ⟨d, h.symm, _, hd⟩
  · split at h
    · cases h
    · split at h
      · rename_i d hd
        simp only [Except.ok.injEq] at h
        exact ⟨d, h.symm, _, hd⟩
      · cases h

def rx2Freq (m : MacState) : Nat := match m.cfg.rx2Frequency with | some f => f | none => rx2Frequency m.region.id

def rx2Dr (m : MacState) (txDr : DR) : M DR :=
  match m.cfg.rx2DataRate with
  | some d => drOfNat d
  | none => rxDatarate m.region.id txDr m.cfg.rx1DrOffset Window._2

theorem buildRfConfig_frequency {m : MacState} {f : Nat} {dr txdr : DR} {r : RfConfig} (h : buildRfConfig m f dr txdr = .ok r) :
    r.frequency = f := by
  obtain ⟨d, rfl, _⟩ := window_dr_defined m f dr txdr r h
  rfl

theorem rx2RfConfig_spec {m : MacState} {txDr : DR} {rf : RfConfig} (h : rx2RfConfig m txDr = .ok rf) :
    ∃ d2, rx2Dr m txDr = .ok d2 ∧ buildRfConfig m (rx2Freq m) d2 txDr = .ok rf ∧ rf.frequency = rx2Freq m := by
  obtain ⟨d2, hd2, h⟩ := Except.bind_eq_ok h
  exact ⟨d2, hd2, h, buildRfConfig_frequency h⟩

/-- the windows of an uplink: RX1 on the downlink frequency paired with the channel, at the table rate for (uplink
data rate, RX1DROffset); RX2 on the negotiated-or-default frequency and rate -/
theorem rxWindows_spec (m : MacState) (tx : TxChannel) (rx1 rx2 : RfConfig) (h : rxWindows m tx = .ok (rx1, rx2)) :
    rx1.frequency = tx.rx1Frequency ∧ rx2.frequency = rx2Freq m ∧
    (∃ d1, rxDatarate m.region.id tx.dr m.cfg.rx1DrOffset Window._1 = .ok d1 ∧
      buildRfConfig m tx.rx1Frequency d1 tx.dr = .ok rx1) ∧
    (∃ d2, rx2Dr m tx.dr = .ok d2 ∧ buildRfConfig m (rx2Freq m) d2 tx.dr = .ok rx2) := by
  obtain ⟨d1, hd1, h⟩ := Except.bind_eq_ok h
  obtain ⟨r1, hr1, h⟩ := Except.bind_eq_ok h
  obtain ⟨r2, hr2, h⟩ := Except.bind_eq_ok h
  cases Except.pure_eq_ok h
  obtain ⟨d2, hd2, hb2, hf2⟩ := rx2RfConfig_spec hr2
  exact ⟨buildRfConfig_frequency hr1, hf2, ⟨d1, hd1, hr1⟩, ⟨d2, hd2, hb2⟩⟩

/-- the timer value of the front-ends: delay + tx time − lead; no u32 overflow/underflow whenever
the lead does not exceed delay + tx time -/
theorem startDelay_spec (delay txMs lead : Nat) (h1 : delay + txMs ≤ 4294967295) (h2 : lead ≤ delay + txMs) :
    startDelay delay txMs lead = .ok (delay + txMs - lead) :=
  startDelay_ok_iff.mpr ⟨h1, h2, rfl⟩

example : (EU868Region.get_rx_datarate ._5 4 ._1).map drOf = some 1 := by decide
example : (US915Region.get_rx_datarate ._0 3 ._1).map drOf = some 8 := by decide
example : startDelay 1000 57 15 = .ok 1042 := by rfl


/-- the downlink frequency PAIRED with the uplink channel the frame went out on, in plan state `rs`
(the channel list, which channel selection does not touch): dynamic plans — the channel's own
frequency unless a DlChannelReq gave it a separate downlink frequency; fixed plans — downlink
channel `ch mod 8` of uplink channel `ch` -/
def Paired (rs : RegionState) (tx : TxChannel) : Prop :=
  match rs.plan with
  | .dyn p => ∃ (i : Nat) (c : Channel), p.channels[i]? = some (some c) ∧ tx.frequency = c.freq ∧ tx.rx1Frequency = c.rx1Frequency
  | .fix _ => ∃ ch f f1, (uplinkChannels rs.id)[ch]? = some f ∧ (downlinkChannels rs.id)[ch % 8]? = some f1 ∧
      tx.frequency = f.toNat ∧ tx.rx1Frequency = f1.toNat

theorem selectTxChannel_paired {σ} (g : Rng σ) (rs rs' : RegionState) (dr : DR) (frame : FrameKind) (s s' : σ) (tx : TxChannel)
    (h : selectTxChannel g rs dr frame s = .ok (tx, rs', s')) : Paired rs tx := by
  unfold Paired
  cases selectTxChannel_selected g rs rs' dr frame s s' tx h with
  | dynJoin hp _ hc _ => simp only [hp]; exact ⟨_, _, hc, rfl, rfl⟩
  | dynData hp _ _ hc _ => simp only [hp]; exact ⟨_, _, hc, rfl, rfl⟩
  | fix hp _ _ hf hf1 => simp only [hp]; exact ⟨_, _, _, hf, hf1, rfl, rfl⟩


/-- **the receive windows of a frame sent on channel `tx`, under the parameters of state `m`** (the
state in which the frame was built): the TxConfig is that channel at its data rate; RX1 is on the
downlink frequency paired with that channel, at the regional table's rate for (data rate actually
used, RX1DROffset of `m`); RX2 on `m`'s negotiated-or-default frequency and data rate; both are LoRa
data rates the region defines -/
structure WindowsOf (m : MacState) (tx : TxChannel) (t : TxOut) : Prop where
  rf : t.rf = rfOf tx.datarate tx.frequency
  actual : getDatarate m.region.id tx.dr.toInt.toNat = some tx.datarate
  paired : Paired m.region tx
  rx1Frq : t.rx1.frequency = tx.rx1Frequency
  rx2Frq : t.rx2.frequency = rx2Freq m
  rx1Rate : ∃ d1, rxDatarate m.region.id tx.dr m.cfg.rx1DrOffset Window._1 = .ok d1 ∧
    buildRfConfig m tx.rx1Frequency d1 tx.dr = .ok t.rx1
  rx2Rate : ∃ d2, rx2Dr m tx.dr = .ok d2 ∧ buildRfConfig m (rx2Freq m) d2 tx.dr = .ok t.rx2
  defined1 : ∃ d k, t.rx1 = rfOf d tx.rx1Frequency ∧ getDatarate m.region.id k = some d
  defined2 : ∃ d k, t.rx2 = rfOf d (rx2Freq m) ∧ getDatarate m.region.id k = some d

theorem windowsOf_sel {σ} (g : Rng σ) {m m1 : MacState} (hwf : MacWF m) {dr : DR} {frame : FrameKind} {rs rs' : σ}
    {tx : TxChannel} {region' : RegionState} (hsel : selectTxChannel g m.region dr frame rs = .ok (tx, region', rs'))
    (hp : SameParams m m1) {pw : Int} {r1 r2 : RfConfig} (hrw : rxWindows m1 tx = .ok (r1, r2)) :
    WindowsOf m tx { pw := pw, rf := rfOf tx.datarate tx.frequency, rx1 := r1, rx2 := r2 } := by
  obtain ⟨h1, h2, ⟨d1, hd1, hb1⟩, ⟨d2, hd2, hb2⟩⟩ := rxWindows_spec m tx r1 r2 (hp.rxWindows tx ▸ hrw)
  obtain ⟨dd1, hdd1, k1, hk1⟩ := window_dr_defined m _ _ _ _ hb1
  obtain ⟨dd2, hdd2, k2, hk2⟩ := window_dr_defined m _ _ _ _ hb2
  exact ⟨rfl, (C09.selectTxChannel_legal g m.region region' dr frame rs rs' tx hwf.region hsel).2.1,
    selectTxChannel_paired g m.region region' dr frame rs rs' tx hsel, h1, h2, ⟨d1, hd1, hb1⟩, ⟨d2, hd2, hb2⟩,
    ⟨dd1, k1, hdd1, hk1⟩, ⟨dd2, k2, hdd2, hk2⟩⟩

/-- **a data uplink**: its windows are those of the channel and data rate actually used, under the
parameters in force BEFORE `send` (which `send` does not change: the delays the front-end then reads
are the negotiated RX1 delay and that plus one second) -/
theorem send_windows {σ} (g : Rng σ) (m m1 : MacState) (hwf : MacWF m) (data : List Nat) (fport : Nat) (conf : Bool)
    (rs rs' : σ) (so : SendOut) (h : macSend g m data fport conf rs = .ok (some so, m1, rs')) :
    ∃ tx, WindowsOf m tx so.tx ∧ macRxDelay m1 false false = m.cfg.rx1Delay ∧ macRxDelay m1 false true = m.cfg.rx1Delay + 1000 := by
  have hp : SameParams m m1 := macSend_params g m data fport conf rs _ h
  cases hst : m.st with
  | joined s =>
    obtain ⟨dr, tx, region', pw, r1, r2, _, _, hsel, _, hrw, ho⟩ := macSend_joined g m s hst data fport conf rs rs' _ m1 h
    cases ho
    exact ⟨tx, windowsOf_sel g hwf hsel hp hrw, hp.macRxDelay false false, hp.macRxDelay false true⟩
  | otaa o => rw [macSend_notJoined g m (fun s hs => by rw [hst] at hs; cases hs)] at h; cases h
  | unjoined => rw [macSend_notJoined g m (fun s hs => by rw [hst] at hs; cases hs)] at h; cases h

/-- **a join request**: the same, with the fixed join delays 5 s / 6 s -/
theorem join_windows {σ} (g : Rng σ) (m m1 : MacState) (hwf : MacWF m) (rs rs' : σ) (jo : JoinOut)
    (h : macJoinOtaa g m rs = .ok (jo, m1, rs')) :
    ∃ tx, WindowsOf m tx jo.tx ∧ macRxDelay m1 true false = 5000 ∧ macRxDelay m1 true true = 6000 := by
  obtain ⟨dr, tx, region', pw, r1, r2, _, hsel, _, hrw, rfl⟩ := macJoinOtaa_ok g m rs rs' jo m1 h
  exact ⟨tx, windowsOf_sel g hwf hsel (macJoinOtaa_params g m rs _ h) hrw, (delay_spec m1).2.2.1, (delay_spec m1).2.2.2⟩

/-- **the RXC configuration of state `mi`** (`get_rxc_config`): the RX2 frequency in force in `mi` at
the RX2 data rate in force in `mi` for `mi`'s own uplink data rate -/
def RxcOf (mi : MacState) (rf : RfConfig) : Prop :=
  macRxcConfig mi = .ok rf ∧ ∃ txDr d2, drOfNat mi.cfg.dataRate = .ok txDr ∧ rx2Dr mi txDr = .ok d2 ∧
    buildRfConfig mi (rx2Freq mi) d2 txDr = .ok rf ∧ rf.frequency = rx2Freq mi

theorem rxcOf_of (m : MacState) (rf : RfConfig) (hrf : macRxcConfig m = .ok rf) : RxcOf m rf := by
  obtain ⟨txDr, htx, h⟩ := Except.bind_eq_ok hrf
  obtain ⟨d2, hd2, hb, hf⟩ := rx2RfConfig_spec h
  exact ⟨hrf, txDr, d2, htx, hd2, hb, hf⟩

/-- what the event at a position of a history must have handed to the radio, `mi` being the state
before it (for a Class C reception: what `RxcOf mi rf` says of `rf` besides `macRxcConfig mi = .ok rf`) -/
def StepWindows {σ} (g : Rng σ) (mi : MacState) (rsi : σ) (ev : Ev) (out : Out) : Prop :=
  match ev, out with
  | .uplink data fport conf _ _ _ _ _, .up so _ _ =>
    ∃ tx m1 rs1, macSend g mi data fport conf rsi = .ok (some so, m1, rs1) ∧ WindowsOf mi tx so.tx ∧
      macRxDelay m1 false false = mi.cfg.rx1Delay ∧ macRxDelay m1 false true = mi.cfg.rx1Delay + 1000
  | .joinOtaa _ _ _ _ _, .join jo _ =>
    ∃ tx m1 rs1, macJoinOtaa g mi rsi = .ok (jo, m1, rs1) ∧ WindowsOf mi tx jo.tx ∧
      macRxDelay m1 true false = 5000 ∧ macRxDelay m1 true true = 6000
  | .rxc _ _ _, .rxc rf _ =>
    ∃ txDr d2, drOfNat mi.cfg.dataRate = .ok txDr ∧ rx2Dr mi txDr = .ok d2 ∧ buildRfConfig mi (rx2Freq mi) d2 txDr = .ok rf ∧
      rf.frequency = rx2Freq mi
  | _, _ => True

theorem step_windows {σ} (g : Rng σ) (m m' : MacState) (rs rs' : σ) (ev : Ev) (out : Out) (hwf : MacWF m)
    (h : step g (m, rs) ev = .ok ((m', rs'), out)) : StepWindows g m rs ev out := by
  cases ev with
  | joinAbp da nwk app => cases Except.pure_eq_ok h; trivial
  | setAdr on => cases Except.pure_eq_ok h; trivial
  | setDr dr => cases Except.pure_eq_ok h; trivial
  | rxc v snr mp =>
    obtain ⟨rf, hrf, h⟩ := Except.bind_eq_ok h
    obtain ⟨⟨o, m2⟩, _, h⟩ := Except.bind_eq_ok h
    cases Except.pure_eq_ok h
    exact (rxcOf_of m rf hrf).2
  | joinOtaa fault rx1 rx2 mp1 mp2 =>
    obtain ⟨jo, m1, o, hj, _, _, ht⟩ := step_joinOtaa_inv g m m' rs rs' fault rx1 rx2 mp1 mp2 out h
    obtain ⟨tx, hw, d1, d2⟩ := join_windows g m m1 hwf rs rs' jo hj
    have : ∃ resp, out = .join jo resp := by split at ht <;> exact ⟨_, ht.2⟩
    obtain ⟨resp, rfl⟩ := this
    exact ⟨tx, m1, rs', hj, hw, d1, d2⟩
  | uplink data fport conf fault rx1 rx2 mp1 mp2 =>
    obtain ⟨⟨o, m1, rs1⟩, hsend, h⟩ := Except.bind_eq_ok h
    cases o with
    | none => cases Except.pure_eq_ok h; trivial
    | some so =>
      obtain ⟨tx, hw, d1, d2⟩ := send_windows g m m1 hwf data fport conf rs rs1 so hsend
      -- with or without a radio fault, the output carries the frame `send` built
      cases fault <;>
        (obtain ⟨_, _, h⟩ := Except.bind_eq_ok h
         cases Except.pure_eq_ok h
         exact ⟨tx, m1, _, hsend, hw, d1, d2⟩)

theorem chain_wf {σ} (g : Rng σ) (ms ms' : MacState × σ) (t : List (Ev × Out)) (hwf : MacWF ms.1)
    (hv : ∀ x ∈ t, validEv ms.1.region.id x.1 = true) (h : Chain g ms t ms') :
    MacWF ms'.1 ∧ ms'.1.region.id = ms.1.region.id :=
  Model.chain_wf g ms ms' t hwf hv h

/-- **C10 over every history.**  Take any history of valid events from a well-formed state, any
random stream, and ANY position `i` of it.  With `mi` the state the history reached just before
event `i`: an uplink hands the radio the TxConfig of the channel selected and RX1/RX2 configurations
that are exactly those of that channel and data rate under `mi`'s parameters — RX1 on the paired
downlink frequency (DlChannelReq mappings included) at the regional table's rate for (rate actually
used, `mi`'s RX1DROffset), RX2 on `mi`'s negotiated-or-default frequency and rate, delays `mi`'s RX1
delay and + 1 s (join: 5 s / 6 s) — whatever MAC commands arrive later; a Class C reception listens
with `mi`'s RX2 parameters. -/
theorem history_windows {σ} (g : Rng σ) (m : MacState) (rs : σ) (hwf : MacWF m) (evs : List Ev)
    (hv : ∀ ev ∈ evs, validEv m.region.id ev = true) (ms' : MacState × σ) (outs : List Out)
    (h : run g (m, rs) evs = .ok (ms', outs)) (i : Nat) (ev : Ev) (out : Out)
    (hi : (evs.zip outs)[i]? = some (ev, out)) :
    ∃ mi rsi, Chain g (m, rs) ((evs.zip outs).take i) (mi, rsi) ∧ MacWF mi ∧ mi.region.id = m.region.id ∧
      StepWindows g mi rsi ev out := by
  have hc := run_chain g (m, rs) ms' evs outs h
  obtain ⟨⟨mi, rsi⟩, ⟨mi', rsi'⟩, h1, hstep, _⟩ := chain_at g (m, rs) ms' (evs.zip outs) i ev out hc hi
  obtain ⟨hwfi, hidi⟩ := Model.chain_wf g (m, rs) (mi, rsi) _ hwf
    (fun x hx => hv x.1 (List.of_mem_zip (List.mem_of_mem_take hx)).1) h1
  exact ⟨mi, rsi, h1, hwfi, hidi, step_windows g mi mi' rsi rsi' ev out hwfi hstep⟩


/-! non-vacuity of the history theorem: DlChannelReq for channels 0–2 accepted in RX1 of the first
uplink, RXParamSetupReq (RX2 → DR3) + RXTimingSetupReq (3 s) accepted in RX2 of the second.  The
second uplink already opens RX1 on the new downlink frequency; its RX2 — handed out before the
RXParamSetupReq arrived — is still the default SF12, the third uplink's RX2 is SF9. -/
def lcg : Rng Nat := fun x => ((x * 1103515245 + 12345) / 65536, x * 1103515245 + 12345)

def dl (w : Nat) (fopts : List Nat) : Option (RxView × Int) :=
  some (.data { len := 30, confirmed := false, fcnt16 := w, micFcnt := some w, fopts := fopts, fport := some 1, payload := [1] }, 5)

def demoHistory : List Ev :=
  [ .joinAbp 7 1 2,
    .uplink [1] 1 false none (dl 1 [0x0A, 0, 0xD2, 0xAD, 0x84, 0x0A, 1, 0xD2, 0xAD, 0x84, 0x0A, 2, 0xD2, 0xAD, 0x84]) none 51 51,
    .uplink [2] 1 false none none (dl 2 [0x05, 0x23, 0xD2, 0xAD, 0x84, 0x08, 0x03]) 51 51,
    .uplink [3] 1 false none none none 51 51 ]

def winOf (o : Out) : List Int :=
  match o with
  | .up so _ _ => [so.tx.rf.frequency, so.tx.rx1.frequency, so.tx.rx1.sf, so.tx.rx2.frequency, so.tx.rx2.sf]
  | _ => []

example : ∀ ev ∈ demoHistory, validEv .EU868 ev = true := by decide
example : MacWF (MacState.init (RegionState.init .EU868) 14 0) := by decide
example : (run lcg (MacState.init (RegionState.init .EU868) 14 0, 1) demoHistory).toOption.map
      (fun r => (r.2.map winOf, r.1.1.cfg.rx1Delay)) =
    some ([[], [868300000, 868300000, 12, 869525000, 12], [868500000, 869525000, 12, 869525000, 12],
           [868300000, 869525000, 12, 869525000, 9]], 3000) := by decide +kernel

/-- what the receive procedure started in `m1` (the state `send` / `join_otaa` left, `mi` being the
state the event starts in) uses BETWEEN the windows: a Class C device listens on `get_rxc_config` of
`mi` — before RX1, and again before RX2 whatever it heard and accepted before RX1 —, and the RX2 delay
read after RX1 closed without a response is still the one of the state the frame was built in -/
def BetweenOf (cc join : Bool) (mi m1 : MacState) (fault : Option FaultPos) (c1 : List (RxView × Int))
    (rx1 : Option (RxView × Int)) (mp1 : Nat) : Prop :=
  (cc = true → ∃ rf, RxcOf mi rf ∧ macRxcConfig m1 = .ok rf ∧
    ∀ h1 ma, winC cc m1 c1 rx1 mp1 (fault == some .before1) (fault == some .close1) = .ok (some none, h1, ma) →
      macRxcConfig ma = .ok rf) ∧
  (∀ h1 ma, winC cc m1 c1 rx1 mp1 (fault == some .before1) (fault == some .close1) = .ok (some none, h1, ma) →
    macRxDelay ma join true = macRxDelay m1 join true)

theorem betweenOf_of (cc join : Bool) (mi m1 : MacState) (fault : Option FaultPos) (c1 : List (RxView × Int))
    (rx1 : Option (RxView × Int)) (mp1 : Nat) (hwfi : MacWF mi) (hp : SameParams mi m1) : BetweenOf cc join mi m1 fault c1 rx1 mp1 := by
  constructor
  · intro _
    obtain ⟨rf, hrf, _⟩ := macRxcConfig_tot mi hwfi
    exact ⟨rf, rxcOf_of mi rf hrf, hp.macRxcConfig ▸ hrf,
      fun h1 ma hw => (hp.trans (winC_none_params _ _ _ _ _ _ _ _ _ hw)).macRxcConfig ▸ hrf⟩
  · exact fun h1 ma hw => (winC_none_params _ _ _ _ _ _ _ _ _ hw).macRxDelay join true

def StepWindowsC {σ} (g : Rng σ) (mi : MacState) (rsi : σ) (ev : EvC) (out : OutC) : Prop :=
  match ev, out.out with
  | .base e, o => StepWindows g mi rsi e o
  | .uplinkC cc data fport conf fault c1 rx1 _ _, .up so _ _ =>
    ∃ tx m1 rs1, macSend g mi data fport conf rsi = .ok (some so, m1, rs1) ∧ WindowsOf mi tx so.tx ∧
      macRxDelay m1 false false = mi.cfg.rx1Delay ∧ macRxDelay m1 false true = mi.cfg.rx1Delay + 1000 ∧
      BetweenOf cc false mi m1 fault c1 rx1 so.tx.rx1.maxPayload.toNat
  | .joinC cc fault c1 rx1 _ _, .join jo _ =>
    ∃ tx m1 rs1, macJoinOtaa g mi rsi = .ok (jo, m1, rs1) ∧ WindowsOf mi tx jo.tx ∧
      macRxDelay m1 true false = 5000 ∧ macRxDelay m1 true true = 6000 ∧
      BetweenOf cc true mi m1 fault c1 rx1 jo.tx.rx1.maxPayload.toNat
  | _, _ => True

theorem stepC_windows {σ} (g : Rng σ) (m m' : MacState) (rs rs' : σ) (ev : EvC) (out : OutC) (hwf : MacWF m)
    (h : stepC g (m, rs) ev = .ok ((m', rs'), out)) : StepWindowsC g m rs ev out := by
  cases ev with
  | base e =>
    obtain ⟨hs, _⟩ := stepC_base g _ _ e out h
    exact step_windows g m m' rs rs' e out.out hwf hs
  | uplinkC cc data fport conf fault c1 rx1 c2 rx2 =>
    obtain ⟨⟨o, m1, rs1⟩, hsend, h⟩ := Except.bind_eq_ok h
    cases o with
    | none => cases Except.pure_eq_ok h; trivial
    | some so =>
      obtain ⟨tx, hw, d1, d2⟩ := send_windows g m m1 hwf data fport conf rs rs1 so hsend
      have hb := betweenOf_of cc false m m1 fault c1 rx1 so.tx.rx1.maxPayload.toNat hwf (macSend_params g m data fport conf rs _ hsend)
      obtain ⟨⟨fin, hd, m2⟩, _, h⟩ := Except.bind_eq_ok h
      cases fin <;> (cases Except.pure_eq_ok h; exact ⟨tx, m1, _, hsend, hw, d1, d2, hb⟩)
  | joinC cc fault c1 rx1 c2 rx2 =>
    obtain ⟨⟨jo, m1, rs1⟩, hj, h⟩ := Except.bind_eq_ok h
    obtain ⟨tx, hw, d1, d2⟩ := join_windows g m m1 hwf rs rs1 jo hj
    have hb := betweenOf_of cc true m m1 fault c1 rx1 jo.tx.rx1.maxPayload.toNat hwf (macJoinOtaa_params g m rs _ hj)
    obtain ⟨⟨fin, hd, m2⟩, _, h⟩ := Except.bind_eq_ok h
    cases fin <;> (cases Except.pure_eq_ok h; exact ⟨tx, m1, _, hj, hw, d1, d2, hb⟩)

/-- **C10 over every EXTENDED history.**  Take any extended history (Class C receptions inside the
receive procedure included) of valid events from a well-formed state, any random stream, and ANY
position `i` of it.  With `mi` the state the history reached just before event `i`: `send` / `join` +
receive procedure hands the radio the TxConfig of the channel selected and RX1/RX2 configurations that
are exactly those of that channel and data rate under `mi`'s parameters (`WindowsOf`, as for plain
histories), with `mi`'s RX1 delay and + 1 s (join: 5 s / 6 s) — and that RX2 delay is still what the MAC
answers after RX1 closed without a response, whatever was heard and accepted on the RXC parameters
before; a Class C device listens between TX and RX1, and again between RX1 and RX2, on `get_rxc_config`
of `mi` (`RxcOf`: `mi`'s RX2 frequency and data rate; the annotation of the event is that
configuration's payload limit) — although frames accepted there have moved the counters in between.  Events of
`Model/History.lean` as in `history_windows`. -/
theorem historyC_windows {σ} (g : Rng σ) (m : MacState) (rs : σ) (hwf : MacWF m) (evs : List EvC)
    (hv : ∀ ev ∈ evs, validEvC m.region.id ev = true) (ms' : MacState × σ) (outs : List OutC)
    (h : runC g (m, rs) evs = .ok (ms', outs)) (i : Nat) (ev : EvL) (out : OutC)
    (hi : ((annotC g (m, rs) evs).zip outs)[i]? = some (ev, out)) :
    ∃ mi rsi, ChainC g (m, rs) (((annotC g (m, rs) evs).zip outs).take i) (mi, rsi) ∧ MacWF mi ∧ mi.region.id = m.region.id ∧
      ev.1 = rxcMp mi ∧ StepWindowsC g mi rsi ev.2 out := by
  obtain ⟨⟨mi, rsi⟩, ⟨mi', rsi'⟩, h1, hmp, hstep, _⟩ := chainC_at g (m, rs) ms' _ i ev out (runC_chain g (m, rs) ms' evs outs h) hi
  obtain ⟨hwfi, hidi⟩ := chainC_wf g (m, rs) (mi, rsi) _ hwf
    (fun x hx => hv _ (mem_annot_zip g _ evs outs x (List.mem_of_mem_take hx))) h1
  exact ⟨mi, rsi, h1, hwfi, hidi, hmp, stepC_windows g mi mi' rsi rsi' ev.2 out hwfi hstep⟩

/-- **C10 on the async front-end, for EVERY script, both classes**: a session of the async front-end
model that returns is a run of the extended history of its calls (same final MAC state and generator
state, the front-end's answers and transmitted frames call by call), and `StepWindowsC` holds at every
position of it.  (`async_send_windows` / `async_join_windows` read the radio and timer CALLS of one
`send` / `join` off the script; this is the statement along whole sessions.) -/
theorem asyncC_windows {σ} (g : Rng σ) (cfg : DevCfg) (d : DevRun) (rs : σ) (hwf : MacWF d.m)
    (ops : List AsyncOp) (hv : ∀ op ∈ ops, op.valid d.m.region.id = true)
    (obs : List OpObs) (d' : DevRun) (rs' : σ) (h : asyncOps g cfg d rs ops = .ok (obs, d', rs')) :
    ∃ outs, runC g (d.m, rs) (abstractSessionC cfg ops) = .ok ((d'.m, rs'), outs) ∧ AllRel ObsRel obs outs ∧
      ∀ (i : Nat) (ev : EvL) (out : OutC), ((annotC g (d.m, rs) (abstractSessionC cfg ops)).zip outs)[i]? = some (ev, out) →
        ∃ mi rsi, ChainC g (d.m, rs) (((annotC g (d.m, rs) (abstractSessionC cfg ops)).zip outs).take i) (mi, rsi) ∧ MacWF mi ∧
          mi.region.id = d.m.region.id ∧ ev.1 = rxcMp mi ∧ StepWindowsC g mi rsi ev.2 out := by
  obtain ⟨outs, hrun, hobs⟩ := asyncOps_runC g cfg d rs ops obs d' rs' h
  refine ⟨outs, hrun, hobs, fun i ev out hi => ?_⟩
  exact historyC_windows g d.m rs hwf _ (abstractSessionC_valid cfg _ ops hv) _ outs hrun i ev out hi


/-! non-vacuity over extended histories: a Class C device.  Procedure 1: a frame accepted on the RXC
parameters between TX and RX1, then RXParamSetupReq (RX2 → DR3, RX1DROffset 2) + RXTimingSetupReq (3 s)
accepted in RX1.  Procedure 2 opens RX2 at SF9 and listens between the windows with the NEW RXC
configuration (payload limit 123 instead of 59), where it accepts another frame; then a join procedure
that hears frames on the RXC parameters.  Procedure 1 itself — built before the commands arrived —
has RX2 at SF12 and RXC limit 59. -/
def dlC (w : Nat) : RxView × Int :=
  (.data { len := 14, confirmed := false, fcnt16 := w, micFcnt := some w, fopts := [], fport := some 1, payload := [w] }, 5)

def demoHistoryC : List EvC :=
  [ .base (.joinAbp 7 1 2),
    .uplinkC true [1] 1 false none [dlC 1] (dl 2 [0x05, 0x23, 0xD2, 0xAD, 0x84, 0x08, 0x03]) [] none,
    .uplinkC true [2] 1 false none [] none [dlC 3] none,
    .joinC true none [dlC 9] none [(.garbage, 0)] none ]

def winOfC (o : OutC) : List Int :=
  match o.out with
  | .join jo _ => [jo.tx.rf.frequency, jo.tx.rx1.frequency, jo.tx.rx1.sf, jo.tx.rx2.frequency, jo.tx.rx2.sf]
  | oo => winOf oo

example : ∀ ev ∈ demoHistoryC, validEvC .EU868 ev = true := by decide
example : (runC lcg (MacState.init (RegionState.init .EU868) 14 0, 1) demoHistoryC).toOption.map
      (fun r => (r.2.map winOfC, r.2.map (fun o => o.heard.length), r.1.1.cfg.rx1Delay)) =
    some ([[], [868300000, 868300000, 12, 869525000, 12], [868500000, 868500000, 12, 869525000, 9],
           [868100000, 868100000, 12, 869525000, 9]], [0, 2, 1, 0], 3000) := by decide +kernel
example : limitsC lcg (MacState.init (RegionState.init .EU868) 14 0, 1) demoHistoryC = [59, 59, 123, 123] := by decide +kernel

/-- **async `send`, every script, both classes**: the frame goes out with the TxConfig, and the
windows are opened with the RX1 / RX2 configurations, of the channel and data rate actually used under
the parameters of the state `send` met (`WindowsOf`); the timers are that state's RX1 delay (+ 1 s)
+ time on air − lead, whatever is handled in between (Class C frames: MAC commands ignored; a frame in RX1
answered `NoUpdate`: nothing changes) -/
theorem async_send_windows {σ} (g : Rng σ) (cfg : DevCfg) (d : DevRun) (hwf : MacWF d.m) (data : List Nat) (port : Nat)
    (conf : Bool) (rs : σ) (res : DevResult) (d' : DevRun) (rs' : σ)
    (h : asyncSend g cfg d data port conf rs = .ok (res, d', rs')) :
    (∃ m1 rs1, macSend g d.m data port conf rs = .ok (none, m1, rs1) ∧ d'.calls = d.calls) ∨
    ∃ so m1 rs1 tx, macSend g d.m data port conf rs = .ok (some so, m1, rs1) ∧ WindowsOf d.m tx so.tx ∧
      (d'.calls = Call.tx so.tx (frameLen so.frame) :: d.calls ∨
       ∃ seg1 seg2, d'.calls = seg2 ++ seg1 ++ Call.reset :: Call.tx so.tx (frameLen so.frame) :: d.calls ∧
         (∀ c ∈ seg1, WinCall cfg so.tx.rx1 (d.m.cfg.rx1Delay + cfg.txMs - cfg.lead) c) ∧
         (∀ c ∈ seg2, WinCall cfg so.tx.rx2 (d.m.cfg.rx1Delay + 1000 + cfg.txMs - cfg.lead) c)) := by
  rcases asyncSend_calls g cfg d data port conf rs res d' rs' h with hn | ⟨so, m1, rs1, hsend, hc⟩
  · exact Or.inl hn
  · obtain ⟨tx, hw, hd1, hd2⟩ := send_windows g d.m m1 hwf data port conf rs rs1 so hsend
    refine Or.inr ⟨so, m1, rs1, tx, hsend, hw, ?_⟩
    unfold TxCalls at hc
    rw [hd1, hd2] at hc
    exact hc

/-- **async `join`**: the same with the join delays 5 s / 6 s -/
theorem async_join_windows {σ} (g : Rng σ) (cfg : DevCfg) (d : DevRun) (hwf : MacWF d.m) (rs : σ)
    (res : DevResult) (d' : DevRun) (rs' : σ) (h : asyncJoin g cfg d rs = .ok (res, d', rs')) :
    ∃ jo m1 rs1 tx, macJoinOtaa g d.m rs = .ok (jo, m1, rs1) ∧ WindowsOf d.m tx jo.tx ∧
      (d'.calls = Call.tx jo.tx 23 :: d.calls ∨
       ∃ seg1 seg2, d'.calls = seg2 ++ seg1 ++ Call.reset :: Call.tx jo.tx 23 :: d.calls ∧
         (∀ c ∈ seg1, WinCall cfg jo.tx.rx1 (5000 + cfg.txMs - cfg.lead) c) ∧
         (∀ c ∈ seg2, WinCall cfg jo.tx.rx2 (6000 + cfg.txMs - cfg.lead) c)) := by
  obtain ⟨jo, m1, rs1, hjoin, hc⟩ := asyncJoin_calls g cfg d rs res d' rs' h
  obtain ⟨tx, hw, hd1, hd2⟩ := join_windows g d.m m1 hwf rs rs1 jo hjoin
  refine ⟨jo, m1, rs1, tx, hjoin, hw, ?_⟩
  unfold TxCalls at hc
  rw [hd1, hd2] at hc
  exact hc

/-- **non-blocking front-end**: while an exchange is in progress, the windows the state machine
carries are `WindowsOf` the state in which the frame was built (`pre`, the history's state), and the
delays it reads from the MAC are that state's -/
theorem nb_windows {σ} (g : Rng σ) (pre : MacState × σ) (x : NbGhost) (r : NbRun) (rs : σ) (hwf : MacWF pre.1)
    (hinv : NbInv g pre (some x) r rs) :
    ∃ join tx txc, (r.st = .sendingData join tx ∨ (∃ second t, r.st = .waitingForRxWindow join tx second t) ∨
        (∃ second t, r.st = .waitingForRx join tx second t)) ∧ WindowsOf pre.1 txc tx ∧
      macRxDelay r.m join false = (if join then 5000 else pre.1.cfg.rx1Delay) ∧
      macRxDelay r.m join true = (if join then 6000 else pre.1.cfg.rx1Delay + 1000) := by
  have key : ∀ join tx second, InFlight g pre (some x) join tx second r.m rs →
      ∃ txc, WindowsOf pre.1 txc tx ∧ macRxDelay r.m join false = (if join then 5000 else pre.1.cfg.rx1Delay) ∧
        macRxDelay r.m join true = (if join then 6000 else pre.1.cfg.rx1Delay + 1000) := by
    rintro join tx second ⟨k, a, c, e, hs, _⟩
    unfold Started at hs
    cases k with
    | some dpc =>
      obtain ⟨rfl, o, hsend, rfl⟩ := hs
      exact send_windows g pre.1 r.m hwf _ _ _ pre.2 rs o hsend
    | none =>
      obtain ⟨rfl, o, hjoin, rfl⟩ := hs
      exact join_windows g pre.1 r.m hwf pre.2 rs o hjoin
  unfold NbInv at hinv
  cases hst : r.st with
  | idle => rw [hst] at hinv; cases hinv.1
  | sendingData join tx =>
    rw [hst] at hinv
    obtain ⟨txc, hw⟩ := key join tx false hinv.1
    exact ⟨join, tx, txc, Or.inl rfl, hw⟩
  | waitingForRxWindow join tx second t =>
    rw [hst] at hinv
    obtain ⟨txc, hw⟩ := key join tx second hinv
    exact ⟨join, tx, txc, Or.inr (Or.inl ⟨second, t, rfl⟩), hw⟩
  | waitingForRx join tx second t =>
    rw [hst] at hinv
    obtain ⟨txc, hw⟩ := key join tx second hinv
    exact ⟨join, tx, txc, Or.inr (Or.inr ⟨second, t, rfl⟩), hw⟩

/-- … and at the window's time it requests exactly that window from the radio: RX1 first, then RX2 -/
theorem nb_rxRequest {σ} (g : Rng σ) (cfg : NbCfg) (r : NbRun) (rs : σ) (items : List NbItem) (join : Bool) (tx : TxOut)
    (second : Bool) (t : Nat) (hst : r.st = .waitingForRxWindow join tx second t) (resp : NbResp) (r' : NbRun) (rs' : σ)
    (h : nbEvent g cfg r rs .timeout items = .ok (resp, r', rs')) :
    r'.calls = NbCall.rxRequest (if second then tx.rx2 else tx.rx1) :: r.calls := by
  have hs := nbStep_spec g cfg { r with script := items } .timeout rs
  rw [show nbStep g cfg { r with script := items } .timeout rs = _ from h] at hs
  cases hs with
  | refuse hr => rw [show r.st = _ from hst] at hr; cases hr
  | radioErr => show nbCall r.st .timeout :: r.calls = _; rw [hst]; rfl
  | opened hst' => cases hst.symm.trans hst'; rfl
  | nextWindow hst' | complete hst' => cases hst.symm.trans hst'

/-- the hypotheses are satisfiable: a `send` of a Class A device in EU868 sets the timers 1000 + 57 − 15 and
2000 + 57 − 15 -/
example : (asyncSend (fun (x : Nat) => (x, x + 1)) { lead := 15, buffer := 40, classC := false, txMs := 57 }
      { m := macJoinAbp (MacState.init (RegionState.init .EU868) 14 0) 7 1 2, script := [], calls := [], downlinks := [] }
      [1] 1 false 1).toOption.map (fun r => r.2.1.calls.filterMap (fun c => match c with | .at t => some t | _ => none)) =
    some [2042, 1042] := by decide +kernel


end C10

#print axioms C10.async_send_windows
#print axioms C10.async_join_windows
#print axioms C10.nb_windows
#print axioms C10.nb_rxRequest
#print axioms C10.rx1_eu868
#print axioms C10.rx1_eu433
#print axioms C10.rx1_us915
#print axioms C10.rx1_au915
#print axioms C10.rx1_as923
#print axioms C10.rx1_in865_partial
#print axioms C10.rx_datarate_total
#print axioms C10.rx2_default
#print axioms C10.del_to_delay
#print axioms C10.delay_spec
#print axioms C10.rxWindows_spec
#print axioms C10.window_dr_defined
#print axioms C10.startDelay_spec
#print axioms C10.selectTxChannel_paired
#print axioms C10.send_windows
#print axioms C10.join_windows
#print axioms C10.step_windows
#print axioms C10.chain_wf
#print axioms C10.history_windows
#print axioms C10.stepC_windows
#print axioms C10.historyC_windows
#print axioms C10.asyncC_windows
