import LoraVerif.Model.Mac
import LoraVerif.Lemmas.Ghost
import LoraVerif.Lemmas.StepWalk
import LoraVerif.Lemmas.GhostC
import LoraVerif.Lemmas.RefineC
import LoraVerif.Lemmas.Answers
/-!
# C08 — MAC command handling is consistent and atomic: the device does what it answers

The device model is `Model/Mac.lean` / `Model/Region.lean` (tied to the real MAC by the correspondence
suite C08, which also evaluates an independent RP002/LoRaWAN oracle on the implementation's own
outputs).  The commands on their own and the command streams of one downlink (`Answers`,
`handleCmds_answers`, `accept_answers`) are in `Lemmas/Answers.lean`; here the histories: what every
uplink carries (`history_answers`) and what an accepted downlink did to the device
(`history_effects`), plain, extended (Class C receptions inside the receive procedure) and on the
async front-end.
-/
open Model

namespace C08

/-- the MAC-command field of an uplink: FOpts, or the FRMPayload of a port-0 frame -/
def macField (u : UplinkDesc) : List Nat := if u.fport != 0 then u.fopts else u.payload

/-- the answers to both command streams of a frame (FOpts, then a port-0 payload), by shape -/
def frameShape (r : RegionId) (d : RxData) (snr : Int) (as : List Ans) : Prop :=
  ∃ as1 as2, Shape r snr (cmdsOf d.fopts) as1 ∧
    (if d.fport = some 0 then Shape r snr (cmdsOf d.payload) as2 else as2 = []) ∧ as = as1 ++ as2

/-- reference state for the answers: the session tracker of C05 and the whole answers the next uplink owes -/
abbrev AG := Gh × List Ans

/-- **one event, seen from the answer queue.**  An uplink of a joined device carries exactly the owed
answers (in FOpts, or as port-0 payload); if the reference accepts a frame in one of its Class A
windows (also when a radio fault cuts the procedure short afterwards), the device then owes exactly the
longest fitting prefix of the answers to that frame's requests — everything owed before is gone;
otherwise it goes on owing the sticky answers (RXParamSetupAns, RXTimingSetupAns, DlChannelAns) only.
Class C receptions and the ADR/data-rate calls do not touch the queue; activation empties it. -/
def AnsStep (r : RegionId) (g : AG) (ev : Ev) (out : Out) (g' : AG) : Prop :=
  g'.1 = ghStep g.1 ev ∧
  match ev, g.1 with
  | .uplink _ _ _ fault rx1 rx2 mp1 mp2, some last =>
    (∃ so resp dl, out = .up so resp dl ∧ macField so.frame = wires g.2) ∧
    (match upRes last fault rx1 rx2 mp1 mp2 with
     | .accepted _ d snr => ∃ as, frameShape r d snr as ∧ g'.2 = fit 15 as
     | _ => g'.2 = g.2.filter (fun a => isSticky a.1))
  | .joinAbp _ _ _, _ => g'.2 = []
  | .joinOtaa _ _ _ _ _, _ => g'.2 = []
  | _, _ => g'.2 = g.2

def Owes (m : MacState) (q : List Ans) : Prop := ∀ s, m.st = .joined s → s.pending = wires q ∧ Whole q

/-- the tie: the tracker is the state's, the state is well-formed in region `r`, and it owes `g.2` (the last
clause, written out, is `Owes m g.2`) -/
def AnsRel (r : RegionId) (m : MacState) (g : AG) : Prop :=
  GhRel m g.1 ∧ MacWF m ∧ m.region.id = r ∧ ∀ s, m.st = .joined s → s.pending = wires g.2 ∧ Whole g.2

theorem frameShape_whole {r : RegionId} {d : RxData} {snr : Int} {as : List Ans} (h : frameShape r d snr as) : Whole as := by
  obtain ⟨as1, as2, h1, h2, rfl⟩ := h
  refine whole_append h1.whole ?_
  split at h2
  · exact h2.whole
  · subst h2; intro a ha; cases ha

theorem Owes.timeout {m : MacState} {q : List Ans} (h : Owes m q) : Owes (timeoutState m) q := by
  intro s' hs'
  by_cases hj : ∃ s, m.st = .joined s
  · obtain ⟨s, hs⟩ := hj
    obtain ⟨s2, hs2, _, _, _, hp, _⟩ := timeoutState_session m s hs
    cases hs2.symm.trans hs'
    rw [hp]; exact h s hs
  · exact h s' (timeoutState_notJoined m (fun s hs => hj ⟨s, hs⟩) ▸ hs')

theorem Owes.accept (m : MacState) (s : Session) (d : RxData) (N : Nat) {ctx : MacCtx} {q : List Ans}
    (hp : ctx.pending = wires q) (hw : Whole q) : Owes (acceptState m s d N ctx) q := by
  intro s' hs'
  cases hs'.symm.trans ((acceptState_st m s d N ctx).trans (congrArg _ (acceptFinish_session_eq s d N ctx)))
  exact ⟨hp, hw⟩

theorem Owes.sent {σ} {g : Rng σ} {m m1 : MacState} {rs rs' : σ} {s : Session} {q : List Ans} {data : List Nat} {fport : Nat}
    {conf : Bool} {so : SendOut} (h : Owes m q) (hst : m.st = .joined s) (hs : Sent g m rs s data fport conf so m1 rs') :
    Owes m1 (q.filter (fun a => isSticky a.1)) ∧ macField so.frame = wires q := by
  obtain ⟨hp, hw⟩ := h s hst
  constructor
  · intro s' hs'
    cases hs'.symm.trans hs.st
    refine ⟨?_, whole_filter hw _⟩
    simp only [sentSession]
    rw [hp]
    exact retainSticky_spec q hw _ (Nat.lt_succ_self _)
  · rw [hs.frame, ← hp]; simp only [macField, descOf]; split <;> rfl

theorem accept_frameShape (pending : List Nat) (cfg : Config) (region : RegionState) (d : RxData) (snr : Int) (ctx : MacCtx)
    (h : acceptCmds pending cfg region d snr false = .ok ctx) :
    ∃ as, frameShape region.id d snr as ∧ ctx.pending = wires (fit 15 as) := by
  obtain ⟨as1, as2, cfg1, rg1, m1, ha1, ha2, hp⟩ := accept_answers pending cfg region d snr ctx h
  obtain ⟨hs1, hid1⟩ := ha1.shape
  refine ⟨as1 ++ as2, ⟨as1, as2, hs1, ?_, rfl⟩, hp⟩
  by_cases hport : d.fport = some 0
  · rw [if_pos hport] at ha2 ⊢
    obtain ⟨m2, ha2⟩ := ha2
    exact hid1 ▸ ha2.shape.1
  · rw [if_neg hport] at ha2 ⊢
    exact ha2.1

theorem Owes.acceptA {m : MacState} {s : Session} {d : RxData} {snr : Int} {ctx : MacCtx} (N : Nat)
    (h : acceptCmds s.pending m.cfg m.region d snr false = .ok ctx) :
    ∃ as, frameShape m.region.id d snr as ∧ Owes (acceptState m s d N ctx) (fit 15 as) := by
  obtain ⟨as, hshape, hpc⟩ := accept_frameShape _ _ _ d snr ctx h
  exact ⟨as, hshape, .accept m s d N hpc (whole_prefix (frameShape_whole hshape) (fit_prefix _ _))⟩

def ActsQ (r : RegionId) : List Act → List Ans → List Ans → Prop
  | [], q, q' => q' = q
  | .accC _ _ :: rest, q, q' => ActsQ r rest q q'
  | .accA _ d snr :: rest, _, q' => ∃ as, frameShape r d snr as ∧ ActsQ r rest (fit 15 as) q'
  | .tmo :: rest, q, q' => ActsQ r rest q q'

theorem actsQ_plain {r : RegionId} {w : WinRes} {fault : Option Nat} {q q' : List Ans} :
    ActsQ r (plainActs w fault) q q' →
      match w with
      | .accepted _ d snr => ∃ as, frameShape r d snr as ∧ q' = fit 15 as
      | _ => q' = q := by
  cases w <;> cases fault <;> exact id

theorem acts_ans (r : RegionId) (acts : List Act) :
    ∀ (m m' : MacState) (q : List Ans), m.region.id = r → Owes m q → Acts m acts m' → ∃ q', ActsQ r acts q q' ∧ Owes m' q' := by
  induction acts with
  | nil =>
    intro m m' q _ ho h
    cases h
    exact ⟨q, rfl, ho⟩
  | cons a rest ih =>
    intro m m' q hid ho h
    cases a with
    | accC N d =>
      obtain ⟨s, hs, _, h⟩ := h
      exact ih _ m' q ((acceptState_cfg m s d N (ctxC m s)).2 ▸ hid) (.accept m s d N (ho s hs).1 (ho s hs).2) h
    | accA N d snr =>
      obtain ⟨s, ctx, hs, _, hc, h⟩ := h
      obtain ⟨as, hshape, ho1⟩ := Owes.acceptA N hc
      have hid1 : (acceptState m s d N ctx).region.id = r := by
        rw [(acceptState_cfg m s d N ctx).2, acceptCmds_region_id _ _ _ d snr ctx hc]; exact hid
      obtain ⟨q', hA, ho'⟩ := ih _ m' _ hid1 ho1 h
      exact ⟨q', ⟨as, hid ▸ hshape, hA⟩, ho'⟩
    | tmo => exact ih _ m' q ((timeoutState_region m).symm ▸ hid) ho.timeout h

theorem step_ansRel {σ} (g : Rng σ) (r : RegionId) (m m' : MacState) (rs rs' : σ) (ev : Ev) (out : Out) (ag : AG)
    (hr : AnsRel r m ag) (hv : evOk ev = true ∧ validEv r ev = true) (h : step g (m, rs) ev = .ok ((m', rs'), out)) :
    ∃ ag', AnsStep r ag ev out ag' ∧ AnsRel r m' ag' := by
  obtain ⟨gh, pend⟩ := ag
  obtain ⟨hgh, hwf, hid, hpend⟩ := hr
  simp only at hgh hpend
  have hk : Keeps m m' := step_keeps hwf hid hv.2 h
  suffices hs : ∃ pend', AnsStep r (gh, pend) ev out (ghStep gh ev, pend') ∧ Owes m' pend' by
    obtain ⟨pend', h1, h2⟩ := hs
    exact ⟨(ghStep gh ev, pend'), h1, step_ghRel g m m' rs rs' ev out gh hgh hv.1 h, hk.1, hk.2.1.trans hid, h2⟩
  cases step_cases g hgh hv.1 h with
  | joinAbp => exact ⟨[], ⟨rfl, by cases gh <;> rfl⟩, fun s hs => by cases hs; exact ⟨rfl, fun a ha => by cases ha⟩⟩
  | setDr => exact ⟨pend, ⟨rfl, by cases gh <;> rfl⟩, hpend⟩
  | setAdr =>
    refine ⟨pend, ⟨rfl, by cases gh <;> rfl⟩, fun s' hs' => ?_⟩
    obtain ⟨s, hs, rfl⟩ := macSetAdr_joined hs'
    exact hpend s hs
  | joined _ _ _ _ hacc =>
    refine ⟨[], ⟨rfl, by cases gh <;> rfl⟩, fun s hs => ?_⟩
    cases hs.symm.trans (otaaAccept_st _ _ _ hacc)
    exact ⟨rfl, fun a ha => by cases ha⟩
  | joinFailed _ hst1 => exact ⟨[], ⟨rfl, by cases gh <;> rfl⟩, fun s hs => by cases hs.symm.trans hst1⟩
  | rxcIdle | upIdle => exact ⟨pend, ⟨rfl, rfl⟩, hpend⟩
  | rxc _ _ _ ha =>
    obtain ⟨q', hA, ho'⟩ := acts_ans r _ m m' pend hid hpend ha
    refine ⟨pend, ⟨rfl, rfl⟩, ?_⟩
    unfold rxcActs at hA
    split at hA <;> exact (show q' = pend from hA) ▸ ho'
  | up hst _ hs ha =>
    obtain ⟨h1, hmac⟩ := Owes.sent hpend hst hs
    obtain ⟨q', hA, ho'⟩ := acts_ans r _ _ m' _ (hs.id.trans hid) h1 ha
    exact ⟨q', ⟨rfl, ⟨_, _, _, rfl, hmac⟩, actsQ_plain hA⟩, ho'⟩

/-- **C08 over every history**: from any well-formed state the reference state `ag` describes, for
every history of valid events (frames with 16-bit wire counters) and every random stream, there is a
run of the reference (`TraceR`) in which EVERY uplink carries exactly the answers owed at that point,
and the owed answers evolve as `AnsStep` says: after a downlink accepted in a Class A window — one
answer per handled request in request order, LinkADRReq blocks answered with identical copies, cut
only at the 15-byte limit; sticky answers repeated in every uplink until the next such downlink, all
others sent once. -/
theorem history_answers {σ} (g : Rng σ) (r : RegionId) (m : MacState) (rs : σ) (ag : AG) (hr : AnsRel r m ag)
    (evs : List Ev) (hv : ∀ ev ∈ evs, evOk ev = true ∧ validEv r ev = true) (ms' : MacState × σ) (outs : List Out)
    (h : run g (m, rs) evs = .ok (ms', outs)) : TraceR (AnsStep r) ag (evs.zip outs) := by
  have hc := run_chain g (m, rs) ms' evs outs h
  exact chain_traceR g (AnsStep r) (AnsRel r) (fun ev => evOk ev = true ∧ validEv r ev = true)
    (fun m s ev m' s' out gh hr hv hs => step_ansRel g r m m' s s' ev out gh hr hv hs)
    (m, rs) ms' (evs.zip outs) ag hr (fun x hx => hv x.1 (List.of_mem_zip hx).1) hc

theorem ansRel_init (r : RegionId) (maxPower : Nat) (gain : Int) (hg : gainOk r gain = true) :
    AnsRel r (MacState.init (RegionState.init r) maxPower gain) (none, []) :=
  ⟨ghRel_init _ _ _, macWF_init r maxPower gain hg, by cases r <;> rfl, fun s hs => by cases hs⟩

theorem history_answers_init {σ} (g : Rng σ) (r : RegionId) (maxPower : Nat) (gain : Int) (hg : gainOk r gain = true) (rs : σ)
    (evs : List Ev) (hv : ∀ ev ∈ evs, evOk ev = true ∧ validEv r ev = true) (ms' : MacState × σ) (outs : List Out)
    (h : run g (MacState.init (RegionState.init r) maxPower gain, rs) evs = .ok (ms', outs)) :
    TraceR (AnsStep r) (none, []) (evs.zip outs) :=
  history_answers g r _ rs (none, []) (ansRel_init r maxPower gain hg) evs hv ms' outs h

/-- **what an accepted Class A downlink did to the device**, `mi` the state before the uplink, `mi'`
after the receive procedure (no radio fault): configuration and channel plan of `mi'` are exactly the
result of the frame's command streams (`Answers`: every acknowledged request took effect as
commanded, every rejected one changed nothing) applied to `mi`'s configuration and to the channel
plan as channel selection left it; the queue of `mi'` is the fitting prefix of the answers. -/
def Effects {σ} (g : Rng σ) (mi : MacState) (rsi : σ) (data : List Nat) (fport : Nat) (conf : Bool) (d : RxData) (snr : Int)
    (mi' : MacState) : Prop :=
  ∃ so m1 rs1 as1 as2 cfg1 rg1 mk s',
    macSend g mi data fport conf rsi = .ok (some so, m1, rs1) ∧ m1.cfg = mi.cfg ∧
    Answers snr (cmdsOf d.fopts) (mi.cfg, m1.region, channelMaskGet m1.region) as1 (cfg1, rg1, mk) ∧
    (if d.fport = some 0 then ∃ m2, Answers snr (cmdsOf d.payload) (cfg1, rg1, channelMaskGet rg1) as2 (mi'.cfg, mi'.region, m2)
     else as2 = [] ∧ mi'.cfg = cfg1 ∧ mi'.region = rg1) ∧
    mi'.st = .joined s' ∧ s'.pending = wires (fit 15 (as1 ++ as2))

def OnlyAccC (acts : List Act) : Prop := ∀ a ∈ acts, ∃ N d, a = .accC N d

theorem acts_onlyAccC (acts : List Act) (ho : OnlyAccC acts) :
    ∀ (m m' : MacState) (s : Session), m.st = .joined s → Acts m acts m' →
      ∃ s', m'.st = .joined s' ∧ m'.cfg = m.cfg ∧ m'.region = m.region ∧ s'.pending = s.pending := by
  induction acts with
  | nil => intro m m' s hst h; simp only [Acts] at h; subst h; exact ⟨s, hst, rfl, rfl, rfl⟩
  | cons a rest ih =>
    intro m m' s hst h
    obtain ⟨N, d, rfl⟩ := ho a List.mem_cons_self
    simp only [Acts] at h
    obtain ⟨s0, hs0, _, h⟩ := h
    rw [hst] at hs0; cases hs0
    obtain ⟨s', hst', hc, hr, hp⟩ := ih (fun a ha => ho a (List.mem_cons_of_mem _ ha)) _ m' _ (acceptState_st m s d N (ctxC m s)) h
    refine ⟨s', hst', ?_, ?_, ?_⟩
    · rw [hc, (acceptState_cfg m s d N (ctxC m s)).1]; rfl
    · rw [hr, (acceptState_cfg m s d N (ctxC m s)).2]; rfl
    · rw [hp, acceptFinish_session_eq]; rfl

/-- `Effects` from the acts of the procedure: Class C acceptances change neither configuration nor
channel plan nor the queue; the Class A acceptance that ends them handles the frame's commands -/
theorem acts_effects {σ} {g : Rng σ} {m m1 m' : MacState} {rs rs' : σ} {s : Session} {data : List Nat} {fport : Nat}
    {conf : Bool} {so : SendOut} (hs : Sent g m rs s data fport conf so m1 rs') {pre : List Act} {N : Nat} {d : RxData} {snr : Int}
    (hpre : OnlyAccC pre)
    (hacts : Acts m1 (pre ++ [.accA N d snr]) m') : Effects g m rs data fport conf d snr m' := by
  obtain ⟨m2, h1, h2⟩ := hacts.split
  obtain ⟨s2, hst2, hc2, hr2, hp2⟩ := acts_onlyAccC pre hpre m1 m2 _ hs.st h1
  obtain ⟨s3, ctx, hs3, _, hc, rfl⟩ := h2
  cases hst2.symm.trans hs3
  obtain ⟨as1, as2, cfg1, rg1, mk, ha1, ha2, hp⟩ := accept_answers _ _ _ d snr ctx hc
  rw [hc2, hs.cfg, hr2] at ha1
  obtain ⟨hcfg', hreg'⟩ := acceptState_cfg m2 s2 d N ctx
  exact ⟨so, m1, rs', as1, as2, cfg1, rg1, mk, _, hs.send, hs.cfg, ha1, hcfg'.symm ▸ hreg'.symm ▸ ha2,
    acceptState_st _ _ d N ctx, (congrArg Session.pending (acceptFinish_session_eq _ d N ctx)).trans hp⟩

/-- the tracker comes as `gh` with `gh = some last`, the shape in which `history_effects` has it -/
theorem step_effects {σ} (g : Rng σ) (m m' : MacState) (rs rs' : σ) (gh : Gh) (hr : GhRel m gh) (data : List Nat) (fport : Nat)
    (conf : Bool) (rx1 rx2 : Option (RxView × Int)) (mp1 mp2 : Nat) (hv : evOk (.uplink data fport conf none rx1 rx2 mp1 mp2) = true)
    (out : Out) (h : step g (m, rs) (.uplink data fport conf none rx1 rx2 mp1 mp2) = .ok ((m', rs'), out))
    (last : Option Nat) (hgh : gh = some last) (N : Nat) (d : RxData) (snr : Int)
    (hacc : specCycle last rx1 rx2 mp1 mp2 = .accepted N d snr) : Effects g m rs data fport conf d snr m' := by
  subst hgh
  cases step_cases g hr hv h with
  | up _ _ hs ha =>
    rw [show upRes _ none rx1 rx2 mp1 mp2 = .accepted N d snr from hacc] at ha
    exact acts_effects hs (pre := []) (fun _ h => nomatch h) ha

/-- **C08 effects over every history**: at every uplink of every history in whose Class A windows the
reference accepts a frame (no radio fault), `Effects` holds between the state before and the state
after — the state that all later transmissions and receive windows are computed from (C09, C10). -/
theorem history_effects {σ} (g : Rng σ) (m : MacState) (rs : σ) (gh : Gh) (hr : GhRel m gh) (evs : List Ev)
    (hv : ∀ ev ∈ evs, evOk ev = true) (ms' : MacState × σ) (outs : List Out) (h : run g (m, rs) evs = .ok (ms', outs))
    (i : Nat) (data : List Nat) (fport : Nat) (conf : Bool) (rx1 rx2 : Option (RxView × Int)) (mp1 mp2 : Nat) (out : Out)
    (hi : (evs.zip outs)[i]? = some (.uplink data fport conf none rx1 rx2 mp1 mp2, out))
    (last : Option Nat) (hlast : ghRun gh (evs.take i) = some last) (N : Nat) (d : RxData) (snr : Int)
    (hacc : specCycle last rx1 rx2 mp1 mp2 = .accepted N d snr) :
    ∃ mi rsi mi' rsi', Chain g (m, rs) ((evs.zip outs).take i) (mi, rsi) ∧
      Chain g (mi', rsi') ((evs.zip outs).drop (i + 1)) ms' ∧ Effects g mi rsi data fport conf d snr mi' := by
  have hc := run_chain g (m, rs) ms' evs outs h
  have hlen := run_outs_length g (m, rs) ms' evs outs h
  obtain ⟨⟨mi, rsi⟩, ⟨mi', rsi'⟩, h1, hstep, h2⟩ := chain_at g (m, rs) ms' (evs.zip outs) i _ out hc hi
  have hvz : ∀ x ∈ evs.zip outs, evOk x.1 = true := fun x hx => hv x.1 (List.of_mem_zip hx).1
  have hri := chain_ghRel g (m, rs) (mi, rsi) _ gh hr (fun x hx => hvz x (List.mem_of_mem_take hx)) h1
  have hmap : ((evs.zip outs).take i).map (·.1) = evs.take i := by
    rw [List.map_take, List.map_fst_zip]; omega
  rw [hmap, hlast] at hri
  exact ⟨mi, rsi, mi', rsi', h1, h2, step_effects g mi mi' rsi rsi' _ hri data fport conf rx1 rx2 mp1 mp2
    (hvz _ (List.mem_of_getElem? hi)) out hstep last rfl N d snr hacc⟩

/-! non-vacuity: RXParamSetupReq + DevStatusReq in FOpts of a downlink accepted in RX1; the next
uplink carries both answers, the one after only the sticky RXParamSetupAns, and after the next
accepted Class A downlink nothing -/
def lcg : Rng Nat := fun x => ((x * 1103515245 + 12345) / 65536, x * 1103515245 + 12345)

def dl (w : Nat) (fopts : List Nat) : Option (RxView × Int) :=
  some (.data { len := 20, confirmed := false, fcnt16 := w, micFcnt := some w, fopts := fopts, fport := some 1, payload := [1] }, 5)

def demoHistory : List Ev :=
  [ .joinAbp 7 1 2,
    .uplink [1] 1 false none (dl 1 [0x05, 0x23, 0xD2, 0xAD, 0x84, 0x06]) none 51 51,
    .uplink [2] 1 false none none none 51 51,
    .uplink [3] 1 false none none (dl 2 []) 51 51,
    .uplink [4] 1 false none none none 51 51,
    .uplink [] 0 false none none none 51 51 ]

def macFields (outs : List Out) : List (List Nat) :=
  outs.filterMap (fun o => match o with | .up so _ _ => some (macField so.frame) | _ => none)

example : ∀ ev ∈ demoHistory, evOk ev = true ∧ validEv .EU868 ev = true := by decide
example : (run lcg (MacState.init (RegionState.init .EU868) 14 0, 1) demoHistory).toOption.map (fun r => macFields r.2)
    = some [[], [0x05, 7, 0x06, 255, 5], [0x05, 7], [], []] := by decide +kernel

/-! ## extended histories: Class C receptions — in or out of the receive procedure — leave the queue alone

`Model/HistoryC.lean`: frames heard on the RXC parameters between TX and RX1 and between RX1 and RX2 go
to `handle_rxc` in the middle of the procedure.  The reference procedure (`upRefC`, `Lemmas/CycleC.lean`)
decides on the ACTS of the procedure; the owed answers move along them (`ActsQ`): a Class C acceptance
(`accC`) and `rx2_complete` (`tmo`) leave them alone, a frame accepted in a Class A window (`accA`)
replaces them by the fitting prefix of the answers to ITS requests.  Since at most one `accA` occurs in
a procedure and nothing but timeouts follows it, what the device owes afterwards are the answers of the
last Class A acceptance — whatever was heard on the RXC parameters around it. -/

/-- validity of an extended event for the history theorems: 16-bit wire counters, the application contract -/
def evValidC (r : RegionId) (ev : EvC) : Prop := evOkC ev = true ∧ validEvC r ev = true

/-- **one extended event, seen from the answer queue**: events of `Model/History.lean` as `AnsStep` says
(a join procedure: the plain `joinOtaa` it amounts to); the uplink of a device with a session carries
exactly the owed answers, and the device then owes what `ActsQ` makes of the sticky ones along the acts
the REFERENCE decides on for this procedure. -/
def AnsStepC (r : RegionId) (g : AG) (e : EvL) (out : OutC) (g' : AG) : Prop :=
  match e.2 with
  | .base ev => AnsStep r g ev out.out g'
  | .joinC _ fault _ rx1 _ rx2 => AnsStep r g (joinPlain fault rx1 rx2) out.out g'
  | .uplinkC cc _ _ conf fault c1 rx1 c2 rx2 =>
    g'.1 = ghNextC g.1 e out ∧
    (match g.1 with
     | some last =>
       ∃ so resp dl, out.out = .up so resp dl ∧ macField so.frame = wires g.2 ∧
         ActsQ r (upRefC cc last conf e.1 fault c1 rx1 c2 rx2 so).acts (g.2.filter (fun a => isSticky a.1)) g'.2
     | none => g'.2 = g.2)

theorem stepC_ansRel {σ} (g : Rng σ) (r : RegionId) (m m' : MacState) (rs rs' : σ) (ev : EvC) (out : OutC) (ag : AG)
    (hr : AnsRel r m ag) (hv : evValidC r ev) (h : stepC g (m, rs) ev = .ok ((m', rs'), out)) :
    ∃ ag', AnsStepC r ag (rxcMp m, ev) out ag' ∧ AnsRel r m' ag' := by
  obtain ⟨gh, pend⟩ := ag
  have hgh' := stepC_ghRel g m m' rs rs' _ out gh hr.1 hv.1 h
  have hk : Keeps m m' := stepC_keeps hr.2.1 hr.2.2.1 hv.2 h
  cases stepC_cases g hr.1 hv.1 h with
  | base he hs => exact step_ansRel g r m m' rs rs' _ _ _ hr ⟨he, hv.2⟩ hs
  | joinC he hs => exact step_ansRel g r m m' rs rs' _ _ _ hr ⟨he, validEv_joinPlain hv.2⟩ hs
  | upIdle => exact ⟨(none, pend), ⟨rfl, rfl⟩, hr⟩
  | upC hst _ hs ha =>
    obtain ⟨_, _, hid, hpend⟩ := hr
    obtain ⟨h1, hmac⟩ := Owes.sent hpend hst hs
    obtain ⟨q', hA, ho'⟩ := acts_ans r _ _ m' _ (hs.id.trans hid) h1 ha
    exact ⟨(_, q'), ⟨rfl, _, _, _, rfl, hmac, hA⟩, hgh', hk.1, hk.2.1.trans hid, ho'⟩

/-- **C08 over every extended history** (Class C receptions inside the receive procedure included):
as `history_answers`, with `AnsStepC`; Class C receptions, between uplinks or in the middle of a receive
procedure, do not touch the queue. -/
theorem historyC_answers {σ} (g : Rng σ) (r : RegionId) (m : MacState) (rs : σ) (ag : AG) (hr : AnsRel r m ag)
    (evs : List EvC) (hv : ∀ ev ∈ evs, evValidC r ev) (ms' : MacState × σ) (outs : List OutC)
    (h : runC g (m, rs) evs = .ok (ms', outs)) : TraceRG (AnsStepC r) ag ((annotC g (m, rs) evs).zip outs) := by
  have hc := runC_chain g (m, rs) ms' evs outs h
  exact chainC_traceR g (AnsStepC r) (AnsRel r) (evValidC r)
    (fun m s ev m' s' out gh hr hv hs => stepC_ansRel g r m m' s s' ev out gh hr hv hs)
    (m, rs) ms' _ ag hr (fun x hx => hv _ (mem_annot_zip g _ evs outs x hx)) hc

/-- **C08 on the async front-end, for EVERY script, both classes** -/
theorem asyncC_answers {σ} (g : Rng σ) (cfg : DevCfg) (r : RegionId) (d : DevRun) (rs : σ) (ag : AG)
    (hr : AnsRel r d.m ag) (ops : List AsyncOp) (hv : ∀ op ∈ ops, op.allView viewOk = true ∧ op.valid r = true)
    (obs : List OpObs) (d' : DevRun) (rs' : σ) (h : asyncOps g cfg d rs ops = .ok (obs, d', rs')) :
    ∃ outs, TraceRG (AnsStepC r) ag ((annotC g (d.m, rs) (abstractSessionC cfg ops)).zip outs) ∧ AllRel ObsRel obs outs := by
  obtain ⟨outs, hrun, hobs⟩ := asyncOps_runC g cfg d rs ops obs d' rs' h
  exact ⟨outs, historyC_answers g r d.m rs ag hr _ (abstractSessionC_ok cfg r ops hv) _ outs hrun, hobs⟩

/-- **what a downlink accepted in a Class A window of an extended receive procedure did to the
device** (`Effects`, as for the plain procedure), whatever was accepted on the RXC parameters before
it: the reference's acts for the procedure are Class C acceptances followed by the Class A acceptance
of `d` that ends it. -/
theorem stepC_effects {σ} (g : Rng σ) (m m' : MacState) (rs rs' : σ) (s : Session) (hst : m.st = .joined s)
    (hl : LastOk s.fcntDown) (cc : Bool) (data : List Nat) (fport : Nat) (conf : Bool) (fault : Option FaultPos)
    (c1 : List (RxView × Int)) (rx1 : Option (RxView × Int)) (c2 : List (RxView × Int)) (rx2 : Option (RxView × Int))
    (hv : evOkC (.uplinkC cc data fport conf fault c1 rx1 c2 rx2) = true) (out : OutC)
    (h : stepC g (m, rs) (.uplinkC cc data fport conf fault c1 rx1 c2 rx2) = .ok ((m', rs'), out))
    (pre : List Act) (N : Nat) (d : RxData) (snr : Int) (hpre : OnlyAccC pre)
    (hacc : ∀ so m1 rs1, macSend g m data fport conf rs = .ok (some so, m1, rs1) →
      (upRefC cc s.fcntDown conf (rxcMp m) fault c1 rx1 c2 rx2 so).acts = pre ++ [.accA N d snr]) :
    Effects g m rs data fport conf d snr m' := by
  have hr := GhRel.some hst hl
  generalize s.fcntDown = last at hr hacc
  cases stepC_cases g hr hv h with
  | upC _ _ hs ha => exact acts_effects hs hpre (hacc _ _ _ hs.send ▸ ha)

/-! non-vacuity: a Class C device; RXParamSetupReq + DevStatusReq accepted in RX1 AFTER a Class C frame
was accepted between TX and RX1; in the next procedure another Class C frame is accepted between the
windows: the sticky RXParamSetupAns is still owed after it -/
def dlC (w : Nat) : RxView × Int :=
  (.data { len := 14, confirmed := false, fcnt16 := w, micFcnt := some w, fopts := [], fport := some 1, payload := [w] }, 5)

def demoHistoryC : List EvC :=
  [ .base (.joinAbp 7 1 2),
    .uplinkC true [1] 1 false none [dlC 1] (dl 2 [0x05, 0x23, 0xD2, 0xAD, 0x84, 0x06]) [] none,
    .uplinkC true [2] 1 false none [] none [dlC 3] none,
    .uplinkC true [3] 1 false none [] none [] none ]

example : ∀ ev ∈ demoHistoryC, evOkC ev = true ∧ validEvC .EU868 ev = true := by decide
/-- the hypothesis of `stepC_effects` on the second event of `demoHistoryC`: a Class C acceptance, then
the Class A acceptance of the frame with the commands -/
example :
    (match macSend lcg (macJoinAbp (MacState.init (RegionState.init .EU868) 14 0) 7 1 2) [1] 1 false 1 with
     | .ok (some so, _, _) =>
       decide ((upRefC true none false (rxcMp (macJoinAbp (MacState.init (RegionState.init .EU868) 14 0) 7 1 2)) none [dlC 1]
         (dl 2 [0x05, 0x23, 0xD2, 0xAD, 0x84, 0x06]) [] none so).acts.map (fun a => match a with | .accC N _ => (0, N) | .accA N _ _ => (1, N) | .tmo => (2, 0))
         = [(0, 1), (1, 2)])
     | _ => false) = true := by decide +kernel
example : (runC lcg (MacState.init (RegionState.init .EU868) 14 0, 1) demoHistoryC).toOption.map
      (fun r => (macFields (r.2.map (·.out)), r.2.map (fun o => o.heard.length)))
    = some ([[], [0x05, 7, 0x06, 255, 5], [0x05, 7]], [0, 2, 1, 0]) := by decide +kernel

/-! ### … and INDEXED over every extended history

`history_effects` for `runC`: the position is one of the ANNOTATED trace of the run (`annotC`: the event
with the RXC payload limit of the state it starts in), the reference counter is the tracker moved
across the first `i` annotated events (`ghNextC`: in-procedure acceptances included), and the
hypothesis is the reference's verdict on event `i` for the uplink the run reports there. -/

/-- **C08 effects over every EXTENDED history.**  Take any extended history (Class C receptions inside
the receive procedure included), any random stream, and ANY position `i` holding `send` + receive
procedure.  If, under the counter `last` the reference tracker holds before event `i`, the reference's
verdict on that procedure (`upRefC`, for the uplink `so` the run reports at `i`) is: Class C
acceptances only (`pre`, any number, anywhere between TX and the window), then the Class A acceptance of
`d` — then `Effects` holds between the state `mi` the history reached just before event `i` and the
state `mi'` just after it. -/
theorem historyC_effects {σ} (g : Rng σ) (m : MacState) (rs : σ) (gh : Gh) (hr : GhRel m gh) (evs : List EvC)
    (hv : ∀ ev ∈ evs, evOkC ev = true) (ms' : MacState × σ) (outs : List OutC) (h : runC g (m, rs) evs = .ok (ms', outs))
    (i : Nat) (mpc : Nat) (cc : Bool) (data : List Nat) (fport : Nat) (conf : Bool) (fault : Option FaultPos)
    (c1 : List (RxView × Int)) (rx1 : Option (RxView × Int)) (c2 : List (RxView × Int)) (rx2 : Option (RxView × Int)) (out : OutC)
    (hi : ((annotC g (m, rs) evs).zip outs)[i]? = some ((mpc, .uplinkC cc data fport conf fault c1 rx1 c2 rx2), out))
    (last : Option Nat) (hlast : ghostAfterG ghNextC gh (((annotC g (m, rs) evs).zip outs).take i) = some last)
    (so : SendOut) (resp : Option Response) (dl : Option (Nat × List Nat)) (hout : out.out = .up so resp dl)
    (pre : List Act) (N : Nat) (d : RxData) (snr : Int) (hpre : OnlyAccC pre)
    (hacc : (upRefC cc last conf mpc fault c1 rx1 c2 rx2 so).acts = pre ++ [.accA N d snr]) :
    ∃ mi rsi mi' rsi', ChainC g (m, rs) (((annotC g (m, rs) evs).zip outs).take i) (mi, rsi) ∧
      ChainC g (mi', rsi') (((annotC g (m, rs) evs).zip outs).drop (i + 1)) ms' ∧ Effects g mi rsi data fport conf d snr mi' := by
  have hc := runC_chain g (m, rs) ms' evs outs h
  obtain ⟨⟨mi, rsi⟩, ⟨mi', rsi'⟩, h1, hmp, hstep, h2⟩ := chainC_at g (m, rs) ms' _ i _ out hc hi
  have hvz : ∀ x ∈ (annotC g (m, rs) evs).zip outs, evOkC x.1.2 = true := fun x hx => hv _ (mem_annot_zip g _ evs outs x hx)
  have hri := chainC_ghRel g (m, rs) (mi, rsi) _ gh hr (fun x hx => hvz x (List.mem_of_mem_take hx)) h1
  rw [hlast] at hri
  have hve := hvz _ (List.mem_of_getElem? hi)
  simp only at hmp hstep hve
  cases stepC_cases g hri hve hstep with
  | upC _ _ hs ha =>
    cases hout
    rw [← hmp, hacc] at ha
    exact ⟨mi, rsi, mi', rsi', h1, h2, acts_effects hs hpre ha⟩

/-- **C08 effects on the async front-end, for EVERY script, both classes.**  A session of the async
front-end model that returns is a run of the extended history `abstractSessionC` of its calls, to the
front-end's final MAC state and generator state, with the front-end's answers call by call (`ObsRel`);
at every position of it that holds a `send` whose procedure the reference judges "Class C acceptances,
then the Class A acceptance of `d`", `Effects` holds between the MAC states before and after that call. -/
theorem asyncC_effects {σ} (g : Rng σ) (cfg : DevCfg) (d : DevRun) (rs : σ) (gh : Gh) (hr : GhRel d.m gh)
    (ops : List AsyncOp) (hv : ∀ op ∈ ops, op.allView viewOk = true)
    (obs : List OpObs) (d' : DevRun) (rs' : σ) (h : asyncOps g cfg d rs ops = .ok (obs, d', rs')) :
    ∃ outs, runC g (d.m, rs) (abstractSessionC cfg ops) = .ok ((d'.m, rs'), outs) ∧ AllRel ObsRel obs outs ∧
      ∀ (i mpc : Nat) (cc : Bool) (data : List Nat) (fport : Nat) (conf : Bool) (fault : Option FaultPos)
        (c1 : List (RxView × Int)) (rx1 : Option (RxView × Int)) (c2 : List (RxView × Int)) (rx2 : Option (RxView × Int)) (out : OutC),
        ((annotC g (d.m, rs) (abstractSessionC cfg ops)).zip outs)[i]? =
            some ((mpc, .uplinkC cc data fport conf fault c1 rx1 c2 rx2), out) →
        ∀ (last : Option Nat), ghostAfterG ghNextC gh (((annotC g (d.m, rs) (abstractSessionC cfg ops)).zip outs).take i) = some last →
        ∀ (so : SendOut) (resp : Option Response) (dl : Option (Nat × List Nat)), out.out = .up so resp dl →
        ∀ (pre : List Act) (N : Nat) (dd : RxData) (snr : Int), OnlyAccC pre →
          (upRefC cc last conf mpc fault c1 rx1 c2 rx2 so).acts = pre ++ [.accA N dd snr] →
          ∃ mi rsi mi' rsi', ChainC g (d.m, rs) (((annotC g (d.m, rs) (abstractSessionC cfg ops)).zip outs).take i) (mi, rsi) ∧
            ChainC g (mi', rsi') (((annotC g (d.m, rs) (abstractSessionC cfg ops)).zip outs).drop (i + 1)) (d'.m, rs') ∧
            Effects g mi rsi data fport conf dd snr mi' := by
  obtain ⟨outs, hrun, hobs⟩ := asyncOps_runC g cfg d rs ops obs d' rs' h
  refine ⟨outs, hrun, hobs, ?_⟩
  intro i mpc cc data fport conf fault c1 rx1 c2 rx2 out hi last hlast so resp dl hout pre N dd snr hpre hacc
  exact historyC_effects g d.m rs gh hr _ (abstractOps_evOkC cfg ops hv) _ outs hrun i mpc cc data fport conf fault c1 rx1 c2 rx2 out hi
    last hlast so resp dl hout pre N dd snr hpre hacc

/-- the hypotheses of `historyC_effects` at position `i` of an annotated trace, computed: the
reference's acts for that procedure under the tracker's counter (0 = Class C acceptance, 1 = Class A
acceptance, 2 = `rx2_complete`, each with its counter) -/
def effectsHyp (t : List (EvL × OutC)) (gh : Gh) (i : Nat) : Option (List (Nat × Nat)) :=
  match t[i]?, ghostAfterG ghNextC gh (t.take i) with
  | some ((mpc, .uplinkC cc _ _ conf fault c1 rx1 c2 rx2), out), some last =>
    (match out.out with
     | .up so _ _ =>
       some ((upRefC cc last conf mpc fault c1 rx1 c2 rx2 so).acts.map
         (fun a => match a with | .accC N _ => (0, N) | .accA N _ _ => (1, N) | .tmo => (2, 0)))
     | _ => none)
  | _, _ => none

/-- non-vacuity of `historyC_effects` on `demoHistoryC`: at position 1 the tracker (started at `none`,
moved across the `joinAbp`) holds "no downlink yet", and the reference's acts are a Class C acceptance
(counter 1, heard between TX and RX1) followed by the Class A acceptance of the frame with the commands
(counter 2); at position 2 the procedure ends by `rx2_complete` after a Class C acceptance — the
hypothesis fails there, as it must -/
example : (runC lcg (MacState.init (RegionState.init .EU868) 14 0, 1) demoHistoryC).toOption.map
      (fun r => (effectsHyp ((annotC lcg (MacState.init (RegionState.init .EU868) 14 0, 1) demoHistoryC).zip r.2) none 1,
                 effectsHyp ((annotC lcg (MacState.init (RegionState.init .EU868) 14 0, 1) demoHistoryC).zip r.2) none 2))
    = some (some [(0, 1), (1, 2)], some [(0, 3), (2, 0)]) := by decide +kernel

end C08

#print axioms C08.step_ansRel
#print axioms C08.history_answers
#print axioms C08.history_answers_init
#print axioms C08.step_effects
#print axioms C08.history_effects
#print axioms C08.stepC_ansRel
#print axioms C08.historyC_answers
#print axioms C08.asyncC_answers
#print axioms C08.stepC_effects
#print axioms C08.historyC_effects
#print axioms C08.asyncC_effects
