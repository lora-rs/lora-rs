import LoraVerif.Model.Aes
import LoraVerif.Lemmas.C01Lemmas
-- the three known-answer modules hold examples only; importing them here puts them into what `./check C01` builds
import LoraVerif.Lemmas.AesKat
import LoraVerif.Lemmas.CmacKat
import LoraVerif.Lemmas.CmacKat2
import LoraVerif.Lemmas.C01Vectors
/-!
# C01 — every frame the library builds is byte-exact LoRaWAN 1.0.x

Model: `Codec.DataFrame.buildInto`, `Codec.JoinRequest.buildInto`, `Codec.JoinAccept.buildInto`
(hand transliteration of `lorawan-encoding/src/creator.rs` + `securityhelpers.rs`, tied to the real
code by the correspondence run of `harness/src/c01.rs`).  Specification: `Spec.encodeData`,
`Spec.encodeJoinRequest`, `Spec.encodeJoinAccept` (`Spec/LoRaWAN.lean`, written from the LoRaWAN
1.0.x text).  All theorems hold for an arbitrary `Cipher` (any three functions `enc dec cmac`) and
every caller buffer (any length, any prior content).

`Outcome.ofExcept` embeds the specification's `Except Err Bytes` into the model's three-valued
outcome; an equation `model = ofExcept spec` therefore also says *the builder never panics*.

The only hypothesis: `payloadLen d ≤ 4064` for data frames.  Beyond 4064 bytes (254 blocks) the `u8`
block counter of `encrypt_frm_data_payload` overflows; the property's quantifier (FRMPayload 0..242)
and the 255-byte PHY limit are far inside.
-/
open Lora Lora.Codec Lora.CodecLemmas Lora.C01Lemmas

namespace C01

/-- **C01 (data frames).** `DataFrame::build_into` -/
theorem build_data_eq_spec (c : Cipher) (d : DataFrame) (buf : Bytes) (nwk : Key) (app : Option Key)
    (hmax : payloadLen d ≤ 4064) :
    d.buildInto c buf nwk app = Outcome.ofExcept (Spec.encodeData c nwk app d.toSpec buf.length) := by
  unfold DataFrame.buildInto Spec.encodeData
  have hfo : d.toSpec.fopts = d.fOpts := rfl
  rw [hfo]
  by_cases h15 : d.fOpts.length > 15
  · simp only [h15, if_true, Outcome.ofExcept]
  · simp only [h15, if_false]
    have hfo15 : d.fOpts.length ≤ 15 := by omega
    cases hp : d.payload with
    | none =>
      have hbody : d.toSpec.body = none := by simp [DataFrame.toSpec, hp]
      simp only [Spec.payloadKey, hbody]
      exact writeFrame_eq c d buf nwk none [] nwk hfo15 (by simp) (fun _ => rfl) hbody
    | data port nz bytes =>
      have hbody : d.toSpec.body = some (port, bytes) := by simp [DataFrame.toSpec, hp]
      simp only [Spec.payloadKey, hbody, nz, if_false]
      cases app with
      | none => rfl
      | some k =>
        simp only []
        exact writeFrame_eq c d buf nwk (some port) bytes k hfo15 (by simpa [payloadLen, hp] using hmax) (by simp) hbody
    | macCommands cmds =>
      have hbody : d.toSpec.body = some (0, cmds) := by simp [DataFrame.toSpec, hp]
      simp only [Spec.payloadKey, hbody, if_true, hfo]
      by_cases he : d.fOpts = []
      · simp only [he, List.isEmpty_nil, List.length_nil, Bool.not_true, Bool.false_eq_true, if_false, ne_eq, not_true_eq_false]
        exact writeFrame_eq c d buf nwk (some 0) cmds nwk hfo15 (by simpa [payloadLen, hp] using hmax) (by simp) hbody
      · simp [he, Outcome.ofExcept]

theorem payloadKey_error_iff (nwk : Key) (app : Option Key) (s : Spec.DataDesc) :
    (∃ e, Spec.payloadKey nwk app s = .error e) ↔
      (∃ pld, s.body = some (0, pld) ∧ s.fopts ≠ []) ∨ (∃ port pld, s.body = some (port, pld) ∧ port ≠ 0 ∧ app = none) := by
  unfold Spec.payloadKey
  cases hb : s.body with
  | none => simp
  | some pp =>
    obtain ⟨port, pld⟩ := pp
    by_cases hp : port = 0
    · subst hp
      by_cases hf : s.fopts = [] <;> simp [hf]
    · cases app <;> simp [hp]

theorem encodeData_error_iff (c : Cipher) (nwk : Key) (app : Option Key) (s : Spec.DataDesc) (n : Nat) :
    (∃ e, Spec.encodeData c nwk app s n = .error e) ↔ Spec.DataForbidden app s n := by
  unfold Spec.encodeData Spec.DataForbidden
  by_cases h15 : s.fopts.length > 15
  · simp [h15]
  · simp only [h15, if_false, false_or, ← or_assoc, ← payloadKey_error_iff nwk app s]
    cases Spec.payloadKey nwk app s with
    | error e => simp
    | ok k =>
      simp only []
      by_cases hn : n < (Spec.dataMsg c k s).length + 4
      · rw [if_pos hn, dataMsg_length] at *
        exact ⟨fun _ => Or.inr hn, fun _ => ⟨_, rfl⟩⟩
      · rw [if_neg hn, dataMsg_length] at *
        constructor
        · rintro ⟨_, he⟩; cases he
        · rintro (⟨_, he⟩ | h)
          · cases he
          · exact absurd h hn

/-- **C01 (refusals).** The builder refuses exactly the descriptions the specification forbids
(FOpts longer than 15 bytes, FOpts together with port 0, missing AppSKey for application data, buffer
too small); it then returns an error and no frame, and otherwise it returns a frame — it never panics. -/
theorem build_data_refused_iff (c : Cipher) (d : DataFrame) (buf : Bytes) (nwk : Key) (app : Option Key)
    (hmax : payloadLen d ≤ 4064) :
    ((∃ e, d.buildInto c buf nwk app = .err e) ↔ Spec.DataForbidden app d.toSpec buf.length)
    ∧ ((∃ frame, d.buildInto c buf nwk app = .ok frame) ↔ ¬ Spec.DataForbidden app d.toSpec buf.length)
    ∧ d.buildInto c buf nwk app ≠ .panic := by
  rw [build_data_eq_spec c d buf nwk app hmax, ← encodeData_error_iff c nwk app d.toSpec buf.length]
  cases Spec.encodeData c nwk app d.toSpec buf.length <;> simp [Outcome.ofExcept]

/-- **C01 (JoinRequest).** `JoinRequest::build_into` -/
theorem build_join_request_eq_spec (c : Cipher) (d : JoinRequest) (buf : Bytes) (appKey : Key) :
    d.buildInto buf ⟨c, appKey⟩ = Outcome.ofExcept (Spec.encodeJoinRequest c appKey d.toSpec buf.length) := by
  unfold JoinRequest.buildInto Spec.encodeJoinRequest
  refine take_bind _ _ _ _ _ ?_ fun out hlen => ?_
  · simp [Spec.joinRequestMsg, le_length]
  simp (disch := simp [hlen]) only [bind, copy_next, set_next, Outcome.bind_ok]
  rw [writeMic_tail _ _ _ (by simp [hlen])]
  simp [Spec.joinRequestMsg, Spec.joinMic, JoinRequest.toSpec, Spec.mhdrJoinRequest, le_mod]

/-- **C01 (JoinAccept)**, without CFList and with CFList type 0 and 1, including the AES-decrypt
wrapping of everything after MHDR and `rx_delay & 0x0f`. -/
theorem build_join_accept_eq_spec (c : Cipher) (d : JoinAccept) (buf : Bytes) (appKey : Key) :
    d.buildInto buf ⟨c, appKey⟩ = Outcome.ofExcept (Spec.encodeJoinAccept c appKey d.toSpec buf.length) := by
  unfold JoinAccept.buildInto Spec.encodeJoinAccept
  have hcl := cfBytes_length d.cFList
  have hml : (Spec.joinAcceptMsg d.toSpec).length = 13 + (cfBytes d.cFList).length := by
    rw [ja_msg_eq]; simp [le_length]; omega
  refine take_bind _ _ _ _ _ ?_ fun out hlen => ?_
  · rw [hml, hcl]; split <;> rfl
  -- the room is 13 octets, the CFList if there is one, and the MIC
  replace hlen : out.length = 13 + ((cfBytes d.cFList).length + 4) := by rw [hlen, hcl]; split <;> rfl
  simp only [bind, List.nil_append]
  rw [ja_fixed d out _ hlen, Outcome.bind_ok, writeCfList_next _ _ _ (by simp [le_length]) (by simp [hlen]), Outcome.bind_ok,
    writeMic_tail _ _ _ (by simp [hlen]; omega), Outcome.bind_ok]
  simp only [List.cons_append]
  rw [ja_finish]
  simp [ja_msg_eq, Spec.joinMic, Spec.mhdrJoinAccept, le_length]

theorem build_data_ok (c : Cipher) (d : DataFrame) (buf : Bytes) (nwk : Key) (app : Option Key) (frame : Bytes)
    (hmax : payloadLen d ≤ 4064) (hb : d.buildInto c buf nwk app = .ok frame) :
    ∃ key, Spec.payloadKey nwk app d.toSpec = .ok key ∧ d.toSpec.fopts.length ≤ 15 ∧
      Spec.dataMsg c key d.toSpec ++ Spec.dataMic c nwk (Spec.dirOf d.toSpec.ftype) d.toSpec.devAddr d.toSpec.fcnt
        (Spec.dataMsg c key d.toSpec) = frame := by
  rw [build_data_eq_spec c d buf nwk app hmax] at hb
  unfold Spec.encodeData at hb
  split at hb
  · cases hb
  · cases hk : Spec.payloadKey nwk app d.toSpec with
    | error e => rw [hk] at hb; cases hb
    | ok key =>
      rw [hk] at hb
      simp only at hb
      split at hb
      · cases hb
      · cases hb
        exact ⟨key, rfl, by omega, rfl⟩

theorem build_join_request_ok (c : Cipher) (d : JoinRequest) (buf : Bytes) (k : Key) (frame : Bytes)
    (hb : d.buildInto buf ⟨c, k⟩ = .ok frame) :
    Spec.joinRequestMsg d.toSpec ++ Spec.joinMic c k (Spec.joinRequestMsg d.toSpec) = frame := by
  rw [build_join_request_eq_spec] at hb
  unfold Spec.encodeJoinRequest at hb
  simp only at hb
  split at hb
  · cases hb
  · cases hb; rfl

theorem build_join_accept_ok (c : Cipher) (d : JoinAccept) (buf : Bytes) (k : Key) (frame : Bytes)
    (hb : d.buildInto buf ⟨c, k⟩ = .ok frame) :
    Spec.mhdrJoinAccept :: Spec.ecb (c.dec k)
      (((Spec.joinAcceptMsg d.toSpec).drop 1 ++ Spec.joinMic c k (Spec.joinAcceptMsg d.toSpec)).length / 16)
      ((Spec.joinAcceptMsg d.toSpec).drop 1 ++ Spec.joinMic c k (Spec.joinAcceptMsg d.toSpec)) = frame := by
  rw [build_join_accept_eq_spec] at hb
  unfold Spec.encodeJoinAccept at hb
  simp only at hb
  split at hb
  · cases hb
  · cases hb; rfl

/-! ## Non-vacuity: the published frames of `lorawan-encoding/tests/lorawan.rs`

`Lemmas/C01Vectors.lean` evaluates the model (with the Lean AES, in the kernel) on the descriptions
behind the repository's test vectors and obtains exactly those vectors.  Here: the hypotheses of
the theorems hold of these descriptions, and through the theorems the *specification* yields the
same published bytes (so both sides of every equation are inhabited by real frames, and by real
refusals). -/

section Vectors
open C01Vectors

example : payloadLen upDesc ≤ 4064 := by decide

/-- the specification's encoder yields the repository's `phy_dataup_payload` -/
example : Spec.encodeData aes k02 (some k01) upDesc.toSpec 64
    = .ok [0x40, 0x04, 0x03, 0x02, 0x01, 0x80, 0x01, 0x00, 0x01, 0xa6, 0x94, 0x64, 0x26, 0x15, 0xd6, 0xc3, 0xb5, 0x82] := by
  have h := build_data_eq_spec aes upDesc (List.replicate 64 0) k02 (some k01) (by decide)
  rw [up_model] at h
  simp only [List.length_replicate] at h
  cases hs : Spec.encodeData aes k02 (some k01) upDesc.toSpec 64 with
  | ok b => rw [hs] at h; simp only [Outcome.ofExcept, Outcome.ok.injEq] at h; rw [h]
  | error e => rw [hs] at h; simp [Outcome.ofExcept] at h

/-- … and `phy_datadown_payload` (32-bit counter 76543, downlink direction bit) -/
example : Outcome.ofExcept (Spec.encodeData aes k02 (some k01) downDesc.toSpec 64)
    = .ok [0xa0, 0x04, 0x03, 0x02, 0x01, 0x80, 0xff, 0x2a, 0x2a, 0x0a, 0xf1, 0xa3, 0x6a, 0x05, 0xd0, 0x12, 0x5f, 0x88,
           0x5d, 0x88, 0x1d, 0x49, 0xe1] := by
  have h := build_data_eq_spec aes downDesc (List.replicate 64 0xaa) k02 (some k01) (by decide)
  rw [down_model] at h
  simpa using h.symm

/-- refusals are inhabited: the same description without AppSKey, and with a buffer one byte short -/
example : Spec.DataForbidden none upDesc.toSpec 64 :=
  ((build_data_refused_iff aes upDesc (List.replicate 64 0) k02 none (by decide)).1.1 ⟨_, up_missing_key⟩)
example : Spec.DataForbidden (some k01) upDesc.toSpec 17 := by
  have := (build_data_refused_iff aes upDesc (List.replicate 17 0) k02 (some k01) (by decide)).1.1 ⟨_, up_short_buffer⟩
  simpa using this
example : ¬ Spec.DataForbidden (some k01) upDesc.toSpec 64 := by
  have := (build_data_refused_iff aes upDesc (List.replicate 64 0) k02 (some k01) (by decide)).2.1.1 ⟨_, up_model⟩
  simpa using this

/-- the specification's JoinRequest encoder yields `phy_join_request_payload` -/
example : Outcome.ofExcept (Spec.encodeJoinRequest aes k01 jrDesc.toSpec 23)
    = .ok [0x00, 0x04, 0x03, 0x02, 0x01, 0x04, 0x03, 0x02, 0x01, 0x05, 0x04, 0x03, 0x02, 0x05, 0x04, 0x03, 0x02, 0x2d, 0x10,
           0x6a, 0x99, 0x0e, 0x12] := by
  have h := build_join_request_eq_spec aes jrDesc (List.replicate 23 0) k01
  rw [jr_model] at h
  simpa using h.symm

/-- the specification's JoinAccept encoder yields `phy_join_accept_payload` -/
example : Outcome.ofExcept (Spec.encodeJoinAccept aes appKey jaDesc.toSpec 17)
    = .ok [0x20, 0x49, 0x3e, 0xeb, 0x51, 0xfb, 0xa2, 0x11, 0x6f, 0x81, 0x0e, 0xdb, 0x37, 0x42, 0x97, 0x51, 0x42] := by
  have h := build_join_accept_eq_spec aes jaDesc (List.replicate 17 0) appKey
  rw [ja_model] at h
  simpa using h.symm

end Vectors

#print axioms build_data_eq_spec
#print axioms build_data_refused_iff
#print axioms build_join_request_eq_spec
#print axioms build_join_accept_eq_spec

end C01
