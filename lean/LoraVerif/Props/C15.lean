import LoraVerif.Gen.Modulation
import LoraVerif.Spec.Airtime
import LoraVerif.Spec.SemtechArith
import LoraVerif.Model.PhyArith
import LoraVerif.Props.C16
/-!
# C15 — low-data-rate optimisation is decided identically everywhere

`Gen.Modulation` is regenerated from `lora-modulation/src/lib.rs` on every run (tie A); the drivers'
`create_modulation_params` / `set_modulation_params` fragments are the hand model `Model.PhyArith`,
tied to the real drivers exhaustively over chip × SF × BW × band × prior register content by
`harness/src/c15.rs` (tie B).  The drivers call the generated
`BaseBandModulationParams::new`, so the decision itself is tie A for all four implementations.

The rule the property states is about the symbol time `2^SF / BW` of the bandwidth the chip
realises.  The specification therefore carries its OWN table of the ten bandwidths
(`Spec.Airtime.Bw.hz6`, exact, in sixths of a hertz) and every theorem below compares the code's
decision with `Spec.Airtime.ldroPhys` on that table — not with a rule evaluated on the code's own
`Bandwidth::hz()` constants: such a rule shares their rounding, and with 15 630 Hz standing for the
15.625 kHz setting it leaves SF8 (16.384 ms) OFF without any theorem noticing (DESIGN §9.36).
-/
open Gen.Modulation Spec.Semtech Model.PhyArith

namespace C15

/-- **The code's bandwidth constants.** The symbol-time rule evaluated on the whole-hertz constant
`Bandwidth::hz()` decides like the rule on the physical bandwidth of the setting, for every spreading
factor: no rounded constant sits on the other side of the 16.38 ms boundary from the bandwidth it
stands for.  (`hz()` = 15 630 for the 15.625 kHz setting broke exactly this at SF8: 16.379 ms instead
of 16.384 ms.  Only the decision is constrained — any constant that decides alike is accepted.) -/
theorem hz_constants_faithful (sf : SpreadingFactor) (bw : Bandwidth) :
    Spec.Airtime.ldro sf.factor bw.hz = Spec.Airtime.ldroPhys sf.factor (specBw bw) := by
  revert sf bw; apply C16.forall_sf_bw; decide +kernel

/-- **Side lemma.** On the 80-entry table the thresholds 16.38 ms (datasheets), 16.384 ms (= 2^14 µs,
the calculator's constant) and the calculator's truncated-microsecond comparison select the same
pairs: no pair has a symbol time in [16.380, 16.384) ms (the boundary pairs SF11/125 kHz,
SF12/250 kHz, SF10/62.5 kHz, SF9/31.25 kHz, SF8/15.625 kHz, SF7/7.8125 kHz are all exactly
16.384 ms, on). -/
theorem thresholds_agree (sf : SpreadingFactor) (bw : Bandwidth) :
    Spec.Airtime.ldroPhys sf.factor (specBw bw) = decide (2 ^ sf.factor.toNat * 6000000 ≥ 16384 * (specBw bw).hz6) ∧
    Spec.Airtime.ldroPhys sf.factor (specBw bw) = decide (Spec.Airtime.tsym sf.factor bw.hz ≥ 16384) := by
  revert sf bw; apply C16.forall_sf_bw; decide +kernel

/-- **Airtime calculator.** `BaseBandModulationParams::new` never overflows and its `ldro` flag is the
exact (untruncated, unrounded) symbol-time rule on the physical bandwidth, `2^SF / BW ≥ 16.38 ms`, for
all 80 pairs and every coding rate. -/
theorem modulation_ldro (sf : SpreadingFactor) (bw : Bandwidth) (cr : CodingRate) :
    (BaseBandModulationParams.new sf bw cr).map (·.ldro) = some (Spec.Airtime.ldroPhys sf.factor (specBw bw)) := by
  rw [C16.new_spec, (thresholds_agree sf bw).2]
  rfl

theorem sfOk_eq (c : Chip) (sf : SpreadingFactor) : sfOk c sf = supportsSf c sf.factor := by
  cases c <;> cases sf <;> rfl
theorem bwOk_eq (c : Chip) (bw : Bandwidth) : bwOk c bw = supportsBw c (specBw bw) := by
  cases c <;> cases bw <;> rfl
theorem wide_eq (bw : Bandwidth) :
    (bw == Bandwidth._250KHz || bw == Bandwidth._500KHz) = (specBw bw == .k250 || specBw bw == .k500) := by
  cases bw <;> rfl

theorem ldroField_eq (sf : SpreadingFactor) (bw : Bandwidth) (cr : CodingRate) :
    ldroField sf bw cr = some (Rt.b2i (Spec.Airtime.ldroPhys sf.factor (specBw bw))) := by
  have := congrArg (Option.map Rt.b2i) (modulation_ldro sf bw cr)
  rwa [Option.map_map] at this

/-- **Drivers.** For every chip variant, every SF, BW, CR and *every* RF frequency (unbounded `Int`):
`create_modulation_params` fails exactly on the pairs the chip does not offer, and otherwise returns
— without panic — the symbol-time rule's decision as 0/1.  (`Spec.Semtech.ldro` is an abbreviation of
`Spec.Airtime.ldroPhys`, the rule on the physical bandwidth that the other statements name; `Spec.Airtime.ldro` is
the rule on the code's whole-hertz constant.) -/
theorem driver_ldro (c : Chip) (sf : SpreadingFactor) (bw : Bandwidth) (cr : CodingRate) (rf : Int) :
    createModParams c sf bw cr rf =
      if supports c sf.factor (specBw bw) rf then .ok (Rt.b2i (Spec.Semtech.ldro sf.factor (specBw bw))) else .err := by
  unfold createModParams supports supportsAt
  rw [sfOk_eq, bwOk_eq, wide_eq, ldroField_eq]
  cases supportsSf c sf.factor <;> cases supportsBw c (specBw bw) <;>
    cases (specBw bw == .k250 || specBw bw == .k500) && decide (rf < 400000000) <;> rfl

theorem and_even (x m : Nat) (hm : m % 2 = 0) : (x &&& m) % 2 = 0 := by
  rw [Nat.and_mod_two_pow (n := 1), show m % 2 ^ 1 = 0 from hm]; exact Nat.and_zero _

theorem or_mod_two (a b : Nat) : (a ||| b) % 2 = a % 2 ||| b % 2 := Nat.or_mod_two_pow (n := 1)

/-- SX1272: the prior content is masked with `0b110` and the other two fields are shifted left, so bit 0 of
`RegModemConfig1` is the flag — whatever the prior content and the codes of bandwidth and coding rate -/
theorem bit_sx1272 (f prior b c : Nat) (hf : f < 2) : ldroBit .sx1272 (ldroByte .sx1272 f prior b c) = f := by
  have h6 : (prior &&& 0b110) % 2 = 0 := and_even prior 0b110 rfl
  have hb : (b <<< 6) % 256 % 2 = 0 := by rw [Nat.shiftLeft_eq]; omega
  have hc : (c <<< 3) % 256 % 2 = 0 := by rw [Nat.shiftLeft_eq]; omega
  simp only [ldroBit, ldroByte, Nat.and_one_is_mod]
  rw [Nat.mod_mod_of_dvd _ (by decide : 2 ∣ 256), or_mod_two, or_mod_two, or_mod_two, h6, hb, hc]
  simp only [Nat.zero_or]
  omega

/-- SX1276: the mask `0xf3` clears bit 3 of the prior `RegModemConfig3`, the flag is OR-ed in there -/
theorem bit_sx1276 (f prior b c : Nat) (hf : f < 2) : ldroBit .sx1276 (ldroByte .sx1276 f prior b c) = f := by
  simp only [ldroBit, ldroByte, Nat.and_one_is_mod, Nat.shiftRight_or_distrib, Nat.shiftRight_and_distrib, or_mod_two]
  have h : (prior >>> 3 &&& 0xf3 >>> 3) % 2 = 0 := and_even _ _ rfl
  rw [h, Nat.zero_or]
  have : f = 0 ∨ f = 1 := by omega
  rcases this with rfl | rfl <;> rfl

/-- **Programmed bit.** Whatever the prior content of the read-modified-written register (all 256
values) and whatever the coding rate / bandwidth sharing that register, the flag the chip finds at
its datasheet position equals the `low_data_rate_optimize` field (0 or 1). -/
theorem programmed_bit (c : Chip) (f : Fin 2) (prior : Fin 256) (bw : Bandwidth) (cr : CodingRate) :
    ldroBit c (ldroByte c f.val prior.val (sx1272BwCode bw) (crCode cr)) = f.val := by
  cases c
  case sx1272 => exact bit_sx1272 _ _ _ _ f.isLt
  case sx1276 => exact bit_sx1276 _ _ _ _ f.isLt
  all_goals rfl

/-- **C15 (main).** For every chip and every (SF, BW, CR, RF) the chip supports, the airtime
calculator's flag, the driver's `low_data_rate_optimize` field and the bit the chip decodes from
the programmed byte (for any prior register content) are all equal to the symbol-time rule on the
physical bandwidth. -/
theorem ldro_everywhere (c : Chip) (sf : SpreadingFactor) (bw : Bandwidth) (cr : CodingRate) (rf : Int)
    (prior : Fin 256) (hs : supports c sf.factor (specBw bw) rf = true) :
    ∃ f : Int, createModParams c sf bw cr rf = .ok f ∧
      f = Rt.b2i (Spec.Airtime.ldroPhys sf.factor (specBw bw)) ∧
      (BaseBandModulationParams.new sf bw cr).map (fun p => Rt.b2i p.ldro) = some f ∧
      (ldroBit c (ldroByte c f.toNat prior.val (sx1272BwCode bw) (crCode cr)) : Int) = f := by
  refine ⟨Rt.b2i (Spec.Airtime.ldroPhys sf.factor (specBw bw)), ?_, rfl, ldroField_eq sf bw cr, ?_⟩
  · rw [driver_ldro, hs]; rfl
  · cases Spec.Airtime.ldroPhys sf.factor (specBw bw)
    · exact congrArg Int.ofNat (programmed_bit c 0 prior bw cr)
    · exact congrArg Int.ofNat (programmed_bit c 1 prior bw cr)

/-- **Cross-check of the specification against the vendor table.** Semtech's `ral_compute_lora_ldro`
(a per-bandwidth table) equals the symbol-time rule for every pair with BW ≥ 62.5 kHz — in
particular for every LoRaWAN data rate — and is never *off* where the rule says *on*
(the vendor table is coarser below: it also enables LDRO for SF9/41.67 kHz = 12.3 ms and for every
SF at ≤ 31.25 kHz). -/
theorem ral_agrees (sf : SpreadingFactor) (bw : Bandwidth) :
    ((specBw bw).hz6 ≥ 375000 → ralLdro sf.factor (specBw bw) = Spec.Airtime.ldroPhys sf.factor (specBw bw)) ∧
    (Spec.Airtime.ldroPhys sf.factor (specBw bw) = true → ralLdro sf.factor (specBw bw) = true) := by
  revert sf bw; apply C16.forall_sf_bw; decide +kernel

/-! Non-vacuity: the LoRaWAN boundary pairs named in the property text, on chips that support them. -/
example : supports .sx1276 11 .k125 868100000 = true := by decide
example : createModParams .sx1276 ._11 ._125KHz ._4_5 868100000 = .ok 1 := by decide
example : createModParams .sx1272 ._12 ._250KHz ._4_5 868100000 = .ok 1 := by decide
example : createModParams .sx1262 ._10 ._62KHz ._4_5 868100000 = .ok 1 := by decide
example : createModParams .lr1110 ._12 ._41KHz ._4_8 433050000 = .ok 1 := by decide
example : createModParams .sx1261 ._8 ._15KHz ._4_5 169400000 = .ok 1 := by decide   -- 16.384 ms
example : createModParams .sx1261 ._7 ._7KHz ._4_5 169400000 = .ok 1 := by decide    -- 16.384 ms
example : createModParams .sx1261 ._8 ._20KHz ._4_5 169400000 = .ok 0 := by decide   -- 12.288 ms
example : createModParams .sx1276 ._12 ._500KHz ._4_5 169400000 = .err := by decide   -- band rule
example : ldroBit .sx1276 (ldroByte .sx1276 1 0xff 0 1) = 1 ∧ ldroBit .sx1276 (ldroByte .sx1276 0 0xff 0 1) = 0 := by decide
/-- the specification's table disagrees with a rule evaluated on the rounded 15 630 Hz exactly at SF8 -/
example : Spec.Airtime.ldro 8 15630 = false ∧ Spec.Airtime.ldroPhys 8 .k15 = true ∧ Spec.Airtime.ldro 8 15625 = true := by decide

end C15

#print axioms C15.modulation_ldro
#print axioms C15.driver_ldro
#print axioms C15.programmed_bit
#print axioms C15.ldro_everywhere
#print axioms C15.hz_constants_faithful
#print axioms C15.thresholds_agree
#print axioms C15.ral_agrees
