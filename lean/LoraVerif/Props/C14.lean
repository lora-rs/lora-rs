import LoraVerif.Model.PhyState
import LoraVerif.Model.Chip
import LoraVerif.Lemmas.PhyLemmas
import LoraVerif.Lemmas.PhyHistory
import LoraVerif.Lemmas.PhyOps126
import LoraVerif.Lemmas.PhyOps127
import LoraVerif.Props.C14IrqMode -- nothing of it is used here: imported so that what `./check C14` builds contains it
/-!
# C14 — the PHY driver and the radio chip never disagree about the radio's state

Model: `Model/PhyState.lean` (`LoRa<RK>` of lib.rs over the SX126x / SX127x `RadioKind` models), the
chip's abstract state is computed from the I/O transcript by `Model/Chip.lean`.  The model is tied to
the real `LoRa` by the C14 correspondence, which compares result, transcript and
`verif_state()` call by call and evaluates the invariants I1–I5 on every generated scenario
(all call sequences up to depth 3/4 × interrupt outcomes × a fault at every I/O step × a drop at
every `await_irq`).

Proved here for ALL histories (any calls, chip contents and answers, interrupt outcomes, a fault at
any I/O step and a drop at any `await_irq` of every call), for both chip families and the LoRaWAN
adapter: `c14_invariants` — I1–I5 (the adapter's calls: I1–I4, it has no mode to refuse) hold after every call, by induction over the call list with the
invariant `Inv` of `Lemmas/PhyInv.lean` (per-call preservation: `Model.Phy.apiStep_inv`,
`adapterStep_inv`; per-operation obligations: `Sx126x.opsSpec`, `Sx127x.opsSpec`; the tie between
the proof calculus and the interpreter: `wp_sound`).
Also: I5 on its own for any radio kind (`wrong_mode_refused`), the error path of I4 with the exact
transcript suffix (`fail_to_standby_spec126`), chip-side facts about the tracker, and the three
defects the invariants exposed, shown on the pre-fix model (`*_unfixed_counterexample`) and absent
after the fixes (`*_fixed`).
-/
open Model.Phy

namespace C14

variable {σ μ : Type}

/-- which driver modes an operation needs -/
def modeOk : ApiCall μ → RadioMode → Bool
  | .tx, m => m == .transmit
  | .startRx, .receive _ => true
  | .startRx, _ => false
  | .completeRx _ _, .receive _ => true
  | .completeRx _ _, _ => false
  | .rx _ _, .receive _ => true
  | .rx _ _, _ => false
  | .rxSwitchChannel _, .receive _ => true
  | .rxSwitchChannel _, _ => false
  | .cad _, m => m == .cad
  | _, _ => true

/-- **I5.** For every radio kind, every driver state, every world and every environment: an
operation invoked in the wrong mode returns `InvalidRadioMode`, leaves the driver's bookkeeping
untouched and performs no I/O at all (empty transcript: the chip is not commanded). -/
theorem wrong_mode_refused (rk : RadioKindOps σ μ) (c : ApiCall μ) (env : Env) (d : DriverState σ) (w : World)
    (h : modeOk c d.radioMode = false) :
    let r := apiStep rk c env (d, w)
    r.1 = .err .InvalidRadioMode ∧ r.2.1 = d ∧ r.2.2.log = [] := by
  cases c <;> simp [modeOk] at h
  case tx => simp [apiStep, apiProg, tx, bind, M.bind', M.get, M.throw, h]
  case cad => simp [apiStep, apiProg, cad, bind, M.bind', M.get, M.throw, h]
  -- the four operations that `match` on `Receive(_)`
  all_goals
    cases hm : d.radioMode <;>
      simp_all [apiStep, apiProg, startRx, completeRx, rx, rxSwitchChannel, bind, M.bind', M.get, M.throw]

/-- a whole history without a tracker (I5 needs none, and no `OpsSpec`): the calls with their environments, threaded
through `apiStep`.  C14 itself is stated over `runTracked` below. -/
def runHistory (rk : RadioKindOps σ μ) : List (ApiCall μ × Env) → DriverState σ × World →
    List (ApiCall μ × Out ApiResult × List Ev × DriverState σ)
  | [], _ => []
  | (c, env) :: rest, s =>
    let r := apiStep rk c env s
    (c, r.1, r.2.2.log, s.1) :: runHistory rk rest r.2

/-- **I5 over all histories** (induction on the history): whatever was called before, with whatever
interrupt outcomes, faults and drops — a call made in the wrong mode commands nothing. -/
theorem refused_calls_never_touch_the_chip (rk : RadioKindOps σ μ) (h : List (ApiCall μ × Env)) (s : DriverState σ × World) :
    ∀ e ∈ runHistory rk h s, modeOk e.1 e.2.2.2.radioMode = false → e.2.1 = .err .InvalidRadioMode ∧ e.2.2.1 = [] := by
  induction h generalizing s with
  | nil => simp [runHistory]
  | cons ce rest ih =>
    obtain ⟨c, env⟩ := ce
    intro e he hm
    simp only [runHistory, List.mem_cons] at he
    rcases he with rfl | he
    · have := wrong_mode_refused rk c env s.1 s.2 hm
      exact ⟨this.1, this.2.2⟩
    · exact ih _ e he hm

/-- a write followed by switching the RF switch off: either all three steps happened, in this order,
or an infrastructure error (both chips' `set_standby` have this shape) -/
theorem run_write_rfOff (bs : Bytes) (w : World) :
    let r := run (Prog.bind (intfWrite bs) (fun _ => Prog.req .rfOff)) w
    (r.1 = .ok () ∧ r.2.log = w.log ++ [⟨.spi bs 0, .done⟩, ⟨.busy, .done⟩, ⟨.rfOff, .done⟩]) ∨
    r.1 = .err .SPI ∨ r.1 = .err .Busy ∨ r.1 = .err .RfSwitchRx := by
  intro r
  simp only [r, run_bind, run_intfWrite]
  by_cases h1 : w.fault = some w.step
  · simp [h1]
  · by_cases h2 : w.fault = some (w.step + 1)
    · simp [h2]
    · simp only [h1, h2, if_false, run_rfOff]
      by_cases h3 : w.fault = some (w.step + 2)
      · simp [h3]
      · simp [h3, List.append_assoc]

/-- **I4, per call, for any radio kind** whose `set_standby` is one write followed by the RF switch and whose
`ensure_ready` only appends to the transcript and fails only with an infrastructure error (both chips: `hsb`, `her`
are all that is used of them).  Whatever the state, the transcript so far and the scheduled fault: if the error path
`ensure_ready; set_standby; radio_mode = Standby; return Err(e)` reports the radio's own error `e` (a TX/RX timeout),
then no infrastructure fault happened inside it, the last three events are the executed standby write (+BUSY, RF
switch off) and the driver says `Standby`. -/
theorem fail_to_standby_spec (rk : RadioKindOps σ μ) (bs : Bytes)
    (hsb : rk.setStandby = Prog.bind (intfWrite bs) (fun _ => Prog.req .rfOff))
    (her : ∀ m w, ((run (rk.ensureReady m) w).1 = .ok () ∧ ∃ l, (run (rk.ensureReady m) w).2.log = w.log ++ l) ∨
      (run (rk.ensureReady m) w).1 = .err .SPI ∨ (run (rk.ensureReady m) w).1 = .err .Busy)
    (e : RadioError) (he : e = .TransmitTimeout ∨ e = .ReceiveTimeout) (d : DriverState σ) (w : World) :
    let r := (failToStandby rk e : M σ Unit) (d, w)
    r.1 = .err e → r.2.1.radioMode = .standby ∧
      ∃ pre, r.2.2.log = w.log ++ pre ++ [⟨.spi bs 0, .done⟩, ⟨.busy, .done⟩, ⟨.rfOff, .done⟩] := by
  intro r hr
  have hne : e ≠ .SPI ∧ e ≠ .Busy ∧ e ≠ .RfSwitchRx := by rcases he with rfl | rfl <;> simp
  simp only [r, failToStandby, bind, M.bind', M.get, M.call, setMode, M.modify, M.throw, hsb] at hr ⊢
  have h1 := her d.radioMode w
  generalize run (rk.ensureReady d.radioMode) w = r1 at h1 hr ⊢
  obtain ⟨o1, w1⟩ := r1
  rcases h1 with ⟨ho, l, hl⟩ | ho | ho
  · simp only at ho hl; subst ho
    simp only at hr ⊢
    have h2 := run_write_rfOff bs w1
    generalize run (Prog.bind (intfWrite bs) fun _ => Prog.req .rfOff) w1 = r2 at h2 hr ⊢
    obtain ⟨o2, w2⟩ := r2
    rcases h2 with ⟨ho2, hl2⟩ | ho2 | ho2 | ho2
    · simp only at ho2 hl2; subst ho2
      simp only at hr ⊢
      exact ⟨trivial, l, by rw [hl2, hl]⟩
    all_goals (simp only at ho2; subst ho2; simp_all)
  all_goals (simp only at ho; subst ho; simp_all)

/-- SX126x `ensure_ready`: it only ever appends to the transcript, and fails only with an infrastructure error -/
theorem ensureReady126_spec (m : RadioMode) (w : World) :
    let r := run (Sx126x.ensureReady m) w
    (r.1 = .ok () ∧ ∃ l, r.2.log = w.log ++ l) ∨ r.1 = .err .SPI ∨ r.1 = .err .Busy := by
  intro r
  simp only [r, Sx126x.ensureReady_eq]
  split
  · simp only [run_intfWrite]
    by_cases h1 : w.fault = some w.step
    · simp [h1]
    · by_cases h2 : w.fault = some (w.step + 1)
      · simp [h2]
      · simp [h1, h2]
  · simp only [run_busy]
    by_cases h1 : w.fault = some w.step <;> simp [h1]

/-- **I4, per call (SX126x)**: `fail_to_standby_spec` for this chip. -/
theorem fail_to_standby_spec126 (cfg : Sx126x.Config) (e : RadioError) (he : e = .TransmitTimeout ∨ e = .ReceiveTimeout)
    (d : DriverState Unit) (w : World) :
    let r := (failToStandby (sx126xOps cfg) e : M Unit Unit) (d, w)
    r.1 = .err e → r.2.1.radioMode = .standby ∧
      ∃ pre, r.2.2.log = w.log ++ pre ++ [⟨.spi [0x80, 0x00] 0, .done⟩, ⟨.busy, .done⟩, ⟨.rfOff, .done⟩] :=
  fail_to_standby_spec (sx126xOps cfg) _ Sx126x.setStandby_eq ensureReady126_spec e he d w

/-- chip side: whatever happened before, a transcript that ends with an executed SetStandby leaves
the SX126x in standby -/
theorem track_ends_in_standby126 (n : Needs) (t : ChipTrack) (pre : List Ev) :
    (track .sx126x n t (pre ++ [⟨.spi [0x80, 0x00] 0, .done⟩, ⟨.busy, .done⟩, ⟨.rfOff, .done⟩])).mode = .standby := by
  simp +decide [track, List.foldl_append, trackEv, step126, apply126, decode126]

theorem track_ends_in_standby127 (n : Needs) (t : ChipTrack) (pre : List Ev) :
    (track .sx127x n t (pre ++ [⟨.spi [0x81, 0x81] 0, .done⟩, ⟨.busy, .done⟩, ⟨.rfOff, .done⟩])).mode = .standby := by
  simp [track, List.foldl_append, trackEv, step127]

/-- **I4 (SX126x), chip and driver together.** -/
theorem i4_standby_after_reported_failure126 (cfg : Sx126x.Config) (e : RadioError)
    (he : e = .TransmitTimeout ∨ e = .ReceiveTimeout) (d : DriverState Unit) (w : World) (n : Needs) (t : ChipTrack)
    (hlog : w.log = []) :
    let r := (failToStandby (sx126xOps cfg) e : M Unit Unit) (d, w)
    r.1 = .err e → r.2.1.radioMode = .standby ∧ (track .sx126x n t r.2.2.log).mode = .standby := by
  intro r hr
  obtain ⟨h1, pre, h2⟩ := fail_to_standby_spec126 cfg e he d w hr
  refine ⟨h1, ?_⟩
  rw [h2, hlog, List.nil_append]
  exact track_ends_in_standby126 n t pre

/-- **I4 (SX127x), chip and driver together** (`ensure_ready` is a no-op on this chip). -/
theorem i4_standby_after_reported_failure127 (cfg : Sx127x.Config) (e : RadioError)
    (he : e = .TransmitTimeout ∨ e = .ReceiveTimeout) (d : DriverState Sx127x.Data) (w : World) (n : Needs) (t : ChipTrack)
    (hlog : w.log = []) :
    let r := (failToStandby (sx127xOps cfg) e : M Sx127x.Data Unit) (d, w)
    r.1 = .err e → r.2.1.radioMode = .standby ∧ (track .sx127x n t r.2.2.log).mode = .standby := by
  intro r hr
  obtain ⟨h1, pre, h2⟩ := fail_to_standby_spec (sx127xOps cfg) _ Sx127x.setStandby_eq
    (fun _ w => Or.inl ⟨rfl, [], (List.append_nil _).symm⟩) e he d w hr
  refine ⟨h1, ?_⟩
  rw [h2, hlog, List.nil_append]
  exact track_ends_in_standby127 n t pre

/-- a command's own effect never clears the "commanded while asleep" flag -/
theorem apply126_keeps_flag (n : Needs) (t : ChipTrack) (op : UInt8) (args : Bytes) :
    (apply126 n t op args).commandedAsleep = t.commandedAsleep := by
  unfold apply126
  cases decode126 op <;> simp only [start]
  split <;> rfl

theorem wake_up_wakes (n : Needs) (t : ChipTrack) (h : t.mode = .sleep ∨ t.mode = .rxDuty) :
    (step126 n t [0xC0, 0x00]).mode = .standby ∧ (step126 n t [0xC0, 0x00]).commandedAsleep = t.commandedAsleep := by
  rcases h with h | h <;> simp +decide [step126, pre126, apply126, decode126, h]

/-- any transaction but the wake-up that reaches a sleeping SX126x is recorded, for good -/
theorem command_to_sleeping_chip_recorded (n : Needs) (t : ChipTrack) (h : t.mode = .sleep) (op : UInt8) (args : Bytes)
    (hop : op ≠ 0xC0) : (step126 n t (op :: args)).commandedAsleep = true := by
  have : (op == 0xC0) = false := by simpa using hop
  simp [step126, apply126_keeps_flag, pre126, this, h]

/-! ### the scenario machinery used by the examples below (SX1262 board with DC-DC, SX1276 board) -/

def cfg126 : Sx126x.Config := { chip := .sx1262, tcxo := none, useDcdc := true, rxBoost := false }
def cfg127 : Sx127x.Config := { chip := .sx1276, tcxoUsed := false, txBoost := false, rxBoost := false }
def mod126 : Sx126x.ModulationParams := { sf := ._7, bw := ._125KHz, cr := ._4_5, ldro := 0, freq := 868100000 }
def mod127 : Sx127x.ModulationParams := { sf := ._7, bw := ._125KHz, cr := ._4_5, ldro := 0, freq := 868100000 }
def rxPkt : PacketParams := { preambleLength := 8, implicitHeader := false, payloadLength := 255, crcOn := true, iqInverted := true }
def txPkt : PacketParams := { preambleLength := 8, implicitHeader := false, payloadLength := 0, crcOn := true, iqInverted := false }
def chip126 : Chip := { kind := .sx126x, regs := fun _ => 0, buffer := fun _ => 0 }
def chip127 : Chip := { kind := .sx127x, regs := fun _ => 0, buffer := fun _ => 0 }
def needs126 : Needs := needsFor true false
def needs127 : Needs := needsFor false false
def duty : RxMode := .dutyCycle 1000 2000

/-- run API programs one after the other (each with a fresh transcript) and feed every transcript to the tracker -/
def scenario {σ : Type} (kind : Kind) (needs : Needs) (s : DriverState σ × World) (t : ChipTrack) :
    List (M σ Unit × Env) → (DriverState σ × World) × ChipTrack
  | [] => (s, t)
  | (m, env) :: rest =>
    let w : World := { chip := { s.2.chip with irqScript := env.irq, irqDefault := env.irqDefault },
                       log := [], step := 0, fault := env.fault, pendAt := env.pendAt }
    let r := m (s.1, w)
    scenario kind needs r.2 (track kind needs t r.2.2.log) rest

def start126 : DriverState Unit × World := ({ rk := (), syncWord := 0x3444 }, { chip := chip126 })
def start127 : DriverState Sx127x.Data × World := ({ rk := {}, syncWord := 0x3444 }, { chip := chip127 })
def ops126 := sx126xOps cfg126
def ops127 := sx127xOps cfg127

/-- **Defect 1 (fixed).** `prepare_for_rx(DutyCycle)`, `start_rx`, then `rx_switch_channel` as it
was: SetStandby reaches the SX126x while it is duty-cycling (possibly asleep) without the wake-up. -/
theorem rx_switch_channel_unfixed_counterexample :
    (scenario .sx126x needs126 start126 {}
      [(init ops126, {}), (prepareForRx ops126 duty mod126 rxPkt, {}), (startRxUnfixed ops126, {}),
       (rxSwitchChannelUnfixed ops126 868300000, {})]).2.commandedAsleep = true := by decide +kernel

theorem rx_switch_channel_fixed :
    (scenario .sx126x needs126 start126 {}
      [(init ops126, {}), (prepareForRx ops126 duty mod126 rxPkt, {}), (startRx ops126, {}),
       (rxSwitchChannel ops126 868300000, {})]).2.commandedAsleep = false := by decide +kernel

/-- **Defect 2 (fixed).** Restarting a duty-cycle reception: `start_rx` as it was commands the
duty-cycling chip without the wake-up. -/
theorem start_rx_unfixed_counterexample :
    (scenario .sx126x needs126 start126 {}
      [(init ops126, {}), (prepareForRx ops126 duty mod126 rxPkt, {}), (startRxUnfixed ops126, {}),
       (startRxUnfixed ops126, {})]).2.commandedAsleep = true := by decide +kernel

theorem start_rx_fixed :
    (scenario .sx126x needs126 start126 {}
      [(init ops126, {}), (prepareForRx ops126 duty mod126 rxPkt, {}), (startRx ops126, {}),
       (startRx ops126, {})]).2.commandedAsleep = false := by decide +kernel

/-- **Defect 3 (fixed).** `prepare_for_tx`, then a re-`init` whose second I/O step fails (the chip
has been reset), then `tx()`: with the old `init` the driver still says `Transmit` and SetTx starts
on a chip that lost its configuration. -/
theorem init_unfixed_counterexample :
    (scenario .sx126x needs126 start126 {}
      [(init ops126, {}), (prepareForTx ops126 mod126 txPkt 14 [1, 2, 3], {}),
       (initUnfixed ops126, { fault := some 1 }), (tx ops126 8, { irqDefault := 1 })]).2.startedUnprogrammed = true := by
  decide +kernel

theorem init_fixed :
    (scenario .sx126x needs126 start126 {}
      [(init ops126, {}), (prepareForTx ops126 mod126 txPkt 14 [1, 2, 3], {}),
       (init ops126, { fault := some 1 }), (tx ops126 8, { irqDefault := 1 })]).2.startedUnprogrammed = false := by
  decide +kernel

/-! ### I1–I5 for all histories, by induction over the call list

The invariant `Inv` (Lemmas/PhyInv.lean; its fields say what it is) holds in the constructor state (`inv_new`),
every API call preserves it under every chip answer, interrupt outcome, fault position and drop position
(`Lemmas/PhyApi.lean`, one lemma per program, generic over the radio kind; `Lemmas/PhyOps126/127.lean` discharge
the per-operation obligations for the SX126x and SX127x models), and it implies I1–I4 for the call's transcript. -/

/-- the state `LoRa::new` builds before it calls `init`: `radio_mode = Sleep`, `cold_start`,
`calibrate_image` set; the tracker has seen nothing -/
theorem inv_new {σ : Type} (reg tcxo : Bool) (sb : Items) (rk : σ) (sw : Nat) :
    Inv reg tcxo sb ({ rk := rk, syncWord := sw } : DriverState σ) {} :=
  ⟨⟨rfl, rfl⟩, Link.sleep _, fun h => by simp at h, trivial⟩

/-- one executed call of a history: the call, the driver state before, the outcome, the call's
transcript, the driver state and the tracker state after -/
structure Rec (σ μ : Type) where
  call : ApiCall μ
  before : DriverState σ
  out : Out ApiResult
  log : List Ev
  after : DriverState σ
  track : ChipTrack

/-- a whole history: the calls with their environments, threaded through `apiStep`; the tracker
is fed every call's transcript -/
def runTracked (kind : Kind) (n : Needs) (rk : RadioKindOps σ μ) :
    List (ApiCall μ × Env) → DriverState σ × World → ChipTrack → List (Rec σ μ)
  | [], _, _ => []
  | (c, env) :: rest, s, t =>
    let r := apiStep rk c env s
    let t' := track kind n t r.2.2.log
    ⟨c, s.1, r.1, r.2.2.log, r.2.1, t'⟩ :: runTracked kind n rk rest r.2 t'

/-- I1–I5 of one record -/
def RecOk (reg tcxo : Bool) (e : Rec σ μ) : Prop :=
  -- I1
  e.track.commandedAsleep = false ∧
  -- I2
  (e.track.items.covers (baseItems reg tcxo) = false → e.after.coldStart = true) ∧
  -- I3
  e.track.startedUnprogrammed = false ∧
  -- I4
  (e.out.timeout = true → e.before.radioMode ≠ .receive .continuous →
    e.track.mode = .standby ∧ e.after.radioMode = .standby) ∧
  -- I5
  (modeOk e.call e.before.radioMode = false → e.out = .err .InvalidRadioMode ∧ e.log = [])

/-- I2's items are what a reception needs, less modulation and frequency -/
theorem baseItems_eq (reg tcxo : Bool) :
    baseItems reg tcxo = { (needsFor reg tcxo).rx with modulation := false, frequency := false } := rfl

/-- I2 from the invariant: while `cold_start` is down the bring-up items are programmed -/
theorem i2_of_inv {reg tcxo : Bool} {sb : Items} {d : DriverState σ} {t : ChipTrack} (i : Inv reg tcxo sb d t)
    (hcov : t.items.covers (baseItems reg tcxo) = false) : d.coldStart = true := by
  cases hcs : d.coldStart with
  | true => rfl
  | false =>
    have hb : (baseItems reg tcxo).le (bringUp reg tcxo) := by simp [Items.le, bringUp]
    rw [(Items.covers_iff _ _).2 (Items.le_trans hb (i.cold hcs))] at hcov
    exact absurd hcov (by simp)

/-- **C14 for any radio kind that satisfies `OpsSpec`**: induction over the history. -/
theorem history_ok {kind : Kind} {reg tcxo : Bool} {sb : Items} {Rdy : ChipTrack → Prop} {rk : RadioKindOps σ μ}
    (S : OpsSpec kind reg tcxo sb Rdy rk) (h : List (ApiCall μ × Env)) (hwf : ∀ ce ∈ h, ce.1.wf)
    (s : DriverState σ × World) (t : ChipTrack) (hinv : Inv reg tcxo sb s.1 t) :
    ∀ e ∈ runTracked kind (needsFor reg tcxo) rk h s t, RecOk reg tcxo e := by
  induction h generalizing s t with
  | nil => simp [runTracked]
  | cons ce rest ih =>
    obtain ⟨c, env⟩ := ce
    obtain ⟨d, w⟩ := s
    have step := apiStep_inv S c (hwf _ (List.mem_cons_self ..)) env d w t hinv
    intro e he
    simp only [runTracked, List.mem_cons] at he
    rcases he with rfl | he
    · obtain ⟨i, i4⟩ := step
      refine ⟨i.clean.1, i2_of_inv i, i.clean.2, fun ht hc => (i4 ht hc).symm, fun hm => ?_⟩
      have := wrong_mode_refused rk c env d w hm
      exact ⟨this.1, this.2.2⟩
    · exact ih (fun ce hce => hwf ce (List.mem_cons_of_mem _ hce)) _ _ step.1 e he

/-- **C14, SX126x** (SX1261 / SX1262 / STM32WL, with or without DC-DC regulator and TCXO): every
history of API calls — any calls with well-formed parameters, any chip content and answers, any
interrupt outcomes, a fault at any I/O step and a drop at any `await_irq` of every call — started in
the constructor state satisfies I1–I5 after every call. -/
theorem c14_invariants126 (cfg : Sx126x.Config) (sw : Nat) (w : World) (h : List (ApiCall Sx126x.ModulationParams × Env))
    (hwf : ∀ ce ∈ h, ce.1.wf) :
    ∀ e ∈ runTracked .sx126x (needsFor cfg.useDcdc cfg.tcxo.isSome) (sx126xOps cfg) h
        ({ rk := (), syncWord := sw }, w) {}, RecOk cfg.useDcdc cfg.tcxo.isSome e :=
  history_ok (Sx126x.opsSpec cfg) h hwf _ _ (inv_new _ _ _ _ _)

/-- **C14, SX127x** (SX1276 / SX1272, any board configuration). -/
theorem c14_invariants127 (cfg : Sx127x.Config) (d0 : Sx127x.Data) (sw : Nat) (w : World)
    (h : List (ApiCall Sx127x.ModulationParams × Env)) (hwf : ∀ ce ∈ h, ce.1.wf) :
    ∀ e ∈ runTracked .sx127x (needsFor false false) (sx127xOps cfg) h ({ rk := d0, syncWord := sw }, w) {},
      RecOk false false e :=
  history_ok (Sx127x.opsSpec cfg) h hwf _ _ (inv_new _ _ _ _ _)

structure AdpRec (σ μ : Type) where
  call : AdapterCall μ
  before : DriverState σ
  out : Out (AdapterResult × AdapterState)
  after : DriverState σ
  track : ChipTrack

def runAdapter (kind : Kind) (n : Needs) (rk : RadioKindOps σ μ) :
    List (AdapterCall μ × Env) → AdapterState → DriverState σ × World → ChipTrack → List (AdpRec σ μ)
  | [], _, _, _ => []
  | (c, env) :: rest, a, s, t =>
    let r := adapterStep rk a c env s
    let t' := track kind n t r.2.2.log
    let a' := match r.1 with | .ok (_, a') => a' | _ => a
    ⟨c, s.1, r.1, r.2.1, t'⟩ :: runAdapter kind n rk rest a' r.2 t'

def AdpRecOk (reg tcxo : Bool) (e : AdpRec σ μ) : Prop :=
  e.track.commandedAsleep = false ∧
  (e.track.items.covers (baseItems reg tcxo) = false → e.after.coldStart = true) ∧
  e.track.startedUnprogrammed = false ∧
  (adapterTimeout e.out = true → e.before.radioMode ≠ .receive .continuous →
    e.track.mode = .standby ∧ e.after.radioMode = .standby)

theorem adapter_history_ok {kind : Kind} {reg tcxo : Bool} {sb : Items} {Rdy : ChipTrack → Prop} {rk : RadioKindOps σ μ}
    (S : OpsSpec kind reg tcxo sb Rdy rk) (h : List (AdapterCall μ × Env)) (a : AdapterState)
    (s : DriverState σ × World) (t : ChipTrack) (hinv : Inv reg tcxo sb s.1 t) :
    ∀ e ∈ runAdapter kind (needsFor reg tcxo) rk h a s t, AdpRecOk reg tcxo e := by
  induction h generalizing a s t with
  | nil => simp [runAdapter]
  | cons ce rest ih =>
    obtain ⟨c, env⟩ := ce
    obtain ⟨d, w⟩ := s
    have step := adapterStep_inv S a c env d w t hinv
    intro e he
    simp only [runAdapter, List.mem_cons] at he
    rcases he with rfl | he
    · obtain ⟨i, i4⟩ := step
      exact ⟨i.clean.1, i2_of_inv i, i.clean.2, fun ht hc => (i4 ht hc).symm⟩
    · exact ih _ _ _ step.1 e he

/-- **C14, the LoRaWAN adapter on both chip families**: from the constructor state every history of `LorawanRadio`
calls keeps I1–I4.  (From any state satisfying the invariant, in particular after any API history:
`adapter_history_ok`.) -/
theorem c14_adapter126 (cfg : Sx126x.Config) (sw : Nat) (w : World) (a : AdapterState)
    (h : List (AdapterCall Sx126x.ModulationParams × Env)) :
    ∀ e ∈ runAdapter .sx126x (needsFor cfg.useDcdc cfg.tcxo.isSome) (sx126xOps cfg) h a
        ({ rk := (), syncWord := sw }, w) {}, AdpRecOk cfg.useDcdc cfg.tcxo.isSome e :=
  adapter_history_ok (Sx126x.opsSpec cfg) h a _ _ (inv_new _ _ _ _ _)

theorem c14_adapter127 (cfg : Sx127x.Config) (d0 : Sx127x.Data) (sw : Nat) (w : World) (a : AdapterState)
    (h : List (AdapterCall Sx127x.ModulationParams × Env)) :
    ∀ e ∈ runAdapter .sx127x (needsFor false false) (sx127xOps cfg) h a ({ rk := d0, syncWord := sw }, w) {},
      AdpRecOk false false e :=
  adapter_history_ok (Sx127x.opsSpec cfg) h a _ _ (inv_new _ _ _ _ _)

/-- **C14 (full).**  Over all histories and both chip families: I1–I5 for the API, I1–I4 for the adapter. -/
theorem c14_invariants :
    (∀ (cfg : Sx126x.Config) (sw : Nat) (w : World) (h : List (ApiCall Sx126x.ModulationParams × Env)),
      (∀ ce ∈ h, ce.1.wf) →
      ∀ e ∈ runTracked .sx126x (needsFor cfg.useDcdc cfg.tcxo.isSome) (sx126xOps cfg) h ({ rk := (), syncWord := sw }, w) {},
        RecOk cfg.useDcdc cfg.tcxo.isSome e) ∧
    (∀ (cfg : Sx127x.Config) (d0 : Sx127x.Data) (sw : Nat) (w : World) (h : List (ApiCall Sx127x.ModulationParams × Env)),
      (∀ ce ∈ h, ce.1.wf) →
      ∀ e ∈ runTracked .sx127x (needsFor false false) (sx127xOps cfg) h ({ rk := d0, syncWord := sw }, w) {},
        RecOk false false e) ∧
    (∀ (cfg : Sx126x.Config) (sw : Nat) (w : World) (a : AdapterState) (h : List (AdapterCall Sx126x.ModulationParams × Env)),
      ∀ e ∈ runAdapter .sx126x (needsFor cfg.useDcdc cfg.tcxo.isSome) (sx126xOps cfg) h a ({ rk := (), syncWord := sw }, w) {},
        AdpRecOk cfg.useDcdc cfg.tcxo.isSome e) ∧
    (∀ (cfg : Sx127x.Config) (d0 : Sx127x.Data) (sw : Nat) (w : World) (a : AdapterState)
      (h : List (AdapterCall Sx127x.ModulationParams × Env)),
      ∀ e ∈ runAdapter .sx127x (needsFor false false) (sx127xOps cfg) h a ({ rk := d0, syncWord := sw }, w) {},
        AdpRecOk false false e) :=
  ⟨c14_invariants126, c14_invariants127, c14_adapter126, c14_adapter127⟩

/-! ### the hypotheses are satisfiable, the statements are not vacuous -/

/-- every call of the correspondence alphabet is well-formed (`listen` gets the `Ok` of `create_modulation_params`) -/
example : ∀ ce ∈ ([(.init, {}), (.prepareForTx mod126 txPkt 14 [1, 2, 3], {}), (.tx, { irqDefault := 0x200 }),
    (.listen 868100000 (.ok mod126), { fault := some 3 }), (.sleep false, {})] : List (ApiCall Sx126x.ModulationParams × Env)),
    ce.1.wf := by
  intro ce h
  simp only [List.mem_cons, List.not_mem_nil, or_false] at h
  rcases h with rfl | rfl | rfl | rfl | rfl <;> trivial

/-- a `listen` that forwards `create_modulation_params`' error is well-formed too -/
example : (ApiCall.listen 868100000 (.error .UnavailableBandwidth) : ApiCall Sx126x.ModulationParams).wf := rfl

/-- the premise of I4 occurs: `tx` whose interrupt status says RxTxTimeout reports TransmitTimeout … -/
example : (runTracked .sx126x needs126 ops126
    [(.init, {}), (.prepareForTx mod126 txPkt 14 [1, 2, 3], {}), (.tx, { irqDefault := 0x200 })] start126 {}).map
      (fun e => e.out.timeout) = [false, false, true] := by decide +kernel

/-- … and the conclusion is about a real change of state (the chip was transmitting) -/
example : (runTracked .sx126x needs126 ops126
    [(.init, {}), (.prepareForTx mod126 txPkt 14 [1, 2, 3], {}), (.tx, { irqDefault := 0x200 })] start126 {}).map
      (fun e => (e.track.mode, e.track.items.covers needs126.tx)) =
      [(.standby, false), (.standby, true), (.standby, true)] := by decide +kernel

/-- the premise of I2 occurs: after a cold sleep the SX126x has lost its configuration and the driver knows -/
example : (runTracked .sx126x needs126 ops126 [(.init, {}), (.sleep false, {})] start126 {}).map
      (fun e => (e.track.items.covers (baseItems true false), e.after.coldStart)) = [(true, false), (false, true)] := by
  decide +kernel

/-- the premise of I5 occurs: `tx` right after the constructor -/
example : modeOk (ApiCall.tx : ApiCall Sx126x.ModulationParams) start126.1.radioMode = false := rfl

/-- SX127x: a reception that times out (RxTimeout = 0x80) ends in standby on both sides -/
example : (runTracked .sx127x needs127 ops127
    [(.init, {}), (.prepareForRx (.single 13) mod127 rxPkt, {}), (.rx rxPkt 255, { irqDefault := 0x80 })] start127 {}).map
      (fun e => (e.out.timeout, e.track.mode, e.after.radioMode)) =
      [(false, .standby, .standby), (false, .standby, .receive (.single 13)), (true, .standby, .standby)] := by
  decide +kernel

#print axioms C14.wrong_mode_refused
#print axioms C14.refused_calls_never_touch_the_chip
#print axioms C14.fail_to_standby_spec126
#print axioms C14.i4_standby_after_reported_failure126
#print axioms C14.i4_standby_after_reported_failure127
#print axioms C14.inv_new
#print axioms C14.history_ok
#print axioms C14.adapter_history_ok
#print axioms C14.c14_invariants126
#print axioms C14.c14_invariants127
#print axioms C14.c14_adapter126
#print axioms C14.c14_adapter127
#print axioms C14.c14_invariants
#print axioms Model.Phy.wp_sound
#print axioms Model.Phy.apiStep_inv
#print axioms Model.Phy.adapterStep_inv
#print axioms Model.Phy.Sx126x.opsSpec
#print axioms Model.Phy.Sx127x.opsSpec

end C14
