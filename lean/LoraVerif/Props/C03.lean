import LoraVerif.Gen.CmdTables
import LoraVerif.Lemmas.MacCmdIter
import LoraVerif.Lemmas.MacCmdAccAgree
import LoraVerif.Lemmas.FrameShapeLemmas
/-!
# C03 — parsing arbitrary bytes is total, bounds-safe and terminating

The MAC-command stream iterators: the theorems are stated for ANY command
table `T` and any `len()` helpers `vl` that return on non-empty input (`VlTotal`), then instantiated
on the six tables `Gen.CmdTables.*` that the translator regenerates from the `#[cmd(cid, len)]`
attributes of the current source on every run.  Panics are values (`Outcome.panic`), a hang is a
run that exhausts its step budget (`Run.hang`).

The frame parsers of parser.rs, on the structural model `Model/FrameShape.lean` (every index, slice and subtraction checked):
they return on every input, decryption on frames of at most 4076 octets (`decrypt_ctr_overflow` beyond).
-/
open MacCmd

namespace C03

/-- Draining the iterator over any byte string returns (no index,
slice or helper panics) and reaches `None` within `data.length + 2` calls of `next`. -/
theorem iter_terminates (T : Table) (vl : VarLen) (hvl : VlTotal T vl) (data : Bytes) :
    ∃ r, run T vl data = .ok r ∧ r.hang = false := by
  obtain ⟨r, h, ok⟩ := run_ok hvl data
  exact ⟨r, h, ok.no_hang⟩

/-- the result does not depend on the step budget once it is at least `data.length + 2`
(so the harness' budget of 300 steps for inputs ≤ 255 bytes observes the same run) -/
theorem iter_budget_irrelevant (T : Table) (vl : VarLen) (hvl : VlTotal T vl) (data : Bytes) (k : Nat) :
    runFuel T vl (data.length + 2 + k) { data := data, errored := false } = run T vl data := by
  obtain ⟨r, h, ok⟩ := run_ok hvl data
  rw [h]
  exact runFuel_mono _ _ r h ok.no_hang k

/-- The wire bytes (`cid ‖ payload`) of the yielded commands, concatenated, followed by
the unconsumed rest, are exactly the input; every yielded command is a whole command of the table: its
CID selects the first matching entry and, for a fixed-length entry, its payload has exactly the
table's length (so the command occupies `1 + len` bytes). -/
theorem iter_prefix (T : Table) (vl : VarLen) (hvl : VlTotal T vl) (data : Bytes) :
    ∃ r, run T vl data = .ok r ∧
      (r.items.map Item.wire).flatten ++ r.final.data = data ∧
      ∀ c, Item.cmd c ∈ r.items →
        c.wire.length = 1 + c.payload.length ∧
        ∃ e, T.lookup c.cid = some e ∧ e ∈ T ∧ c.variant = e.variant ∧ c.payloadTy = e.payload ∧
          ∀ l, e.len = some l → c.payload.length = l := by
  obtain ⟨r, h, ok⟩ := run_ok hvl data
  refine ⟨r, h, ok.prefix_eq, ?_⟩
  intro c hc
  obtain ⟨e, h2, h3, h4, h5, _⟩ := ok.whole c hc
  exact ⟨by simp [Cmd.wire, Nat.add_comm], e, h2, (Table.lookup_mem h2).1, h3, h4, h5⟩

/-- At most one error is yielded and it is the last item; an error leaves the iterator in
its `errored` state (every later `next` is `None`), and without an error the whole input was consumed. -/
theorem iter_fused (T : Table) (vl : VarLen) (hvl : VlTotal T vl) (data : Bytes) :
    ∃ r, run T vl data = .ok r ∧
      (∀ pre it post, r.items = pre ++ it :: post → it.isErr = true → post = []) ∧
      (∀ pre it post, r.items = pre ++ it :: post → post ≠ [] → it.isErr = false) ∧
      ((r.final.errored = true ∧ ∃ e, r.items.getLast? = some (.err e)) ∨
       (r.final.errored = false ∧ r.final.data = [] ∧ ∀ it ∈ r.items, it.isErr = false)) := by
  obtain ⟨r, h, ok⟩ := run_ok hvl data
  refine ⟨r, h, ok.fused, fun pre it post hp hpost => ?_, ?_⟩
  · cases hi : it.isErr
    · rfl
    · exact absurd (ok.fused pre it post hp hi) hpost
  · rcases ok.final_state with ⟨h1, h2 | h2⟩ | h2
    · simp at h2
    · exact Or.inl ⟨h1, h2⟩
    · exact Or.inr h2

/-- once `next` has returned `None` it keeps returning `None` (state unchanged) -/
theorem next_none_stable (T : Table) (vl : VarLen) (s s' : Iter) (h : next T vl s = .ok (none, s')) :
    s' = s ∧ next T vl s' = .ok (none, s') := by
  unfold next at h
  split at h
  · rename_i hc
    simp at h; subst h
    exact ⟨rfl, by simp [next, hc]⟩
  · generalize parseOne T vl s.data = o at h
    cases o with
    | panic m => simp at h
    | ok r =>
      simp only [Outcome.ok_bind] at h
      split at h
      · generalize sliceFrom _ _ _ = o at h
        cases o <;> simp at h
      · simp at h

/-- A command yielded by `parse_one` never extends beyond the input: either the helper's
length fits (`n ≤ data.length`, the command is exactly that prefix) or the result is an error naming the CID. -/
theorem parse_one_fits_or_error (T : Table) (vl : VarLen) (hvl : VlTotal T vl) (data : Bytes) (hne : data ≠ []) :
    (∃ c n, parseOne T vl data = .ok (.ok (c, n)) ∧ 1 ≤ n ∧ n ≤ data.length ∧ c.wire = data.take n) ∨
    (∃ cid rest, data = cid :: rest ∧
      (parseOne T vl data = .ok (.error (.unknownCid cid)) ∨ parseOne T vl data = .ok (.error (.truncated cid)))) := by
  obtain ⟨r, hr⟩ := parseOne_no_panic hvl hne
  match r, hr with
  | .ok (c, n), hr =>
    have sh := parseOne_ok_shape hr
    exact Or.inl ⟨c, n, hr, by have := sh.len; omega, sh.le, sh.wire⟩
  | .error e, hr =>
    obtain ⟨cid, rest, hd, he⟩ := parseOne_err_cid hr
    refine Or.inr ⟨cid, rest, hd, ?_⟩
    rcases he with rfl | rfl
    · exact Or.inl hr
    · exact Or.inr hr

/-- the hand-written `len()` helpers as coded: on a non-empty slice they return, and the `max(1, n)`
family returns exactly the slice length (the command extends to the end of the message) -/
theorem var_len_helpers (rest : Bytes) (hne : rest ≠ []) :
    varLen "TxFramesCtrlReqPayload" rest = .ok rest.length ∧
    varLen "EchoIncPayloadReqPayload" rest = .ok rest.length ∧
    varLen "EchoIncPayloadAnsPayload" rest = .ok rest.length ∧
    ∃ n, varLen "McGroupStatusAnsPayload" rest = .ok n ∧ 1 ≤ n ∧ n ≤ 21 := by
  cases rest with
  | nil => exact absurd rfl hne
  | cons x xs =>
    refine ⟨by simp [varLen], by simp [varLen], by simp [varLen], ?_⟩
    refine ⟨_, rfl, by omega, ?_⟩
    have := popcount4_le (x &&& 0b1111)
    simp only [mcGroupStatusRequiredLen]
    omega

/-- `Table.ofRows`, under the name the statements of this file use (C19's say `Table.ofRows`) -/
def T (rows : List Gen.CmdTables.Row) : Table := Table.ofRows rows

/-- the translator found exactly the six command sets (a seventh `CommandHandler` enum would need its own instance) -/
theorem six_sets : Gen.CmdTables.allSets.map (·.1) =
    ["DownlinkMacCommand", "UplinkMacCommand", "DownlinkDUTCommand", "UplinkDUTCommand",
     "DownlinkRemoteSetup", "UplinkRemoteSetup"] := by decide

/-- All that the theorems on a command table ask of it, decidable: no CID occurs twice (so `lookup` = "the" entry with that CID);
every CID is an octet and every fixed length at most 29; every payload type gets at least the octets its accessors reach
(`need`), a variable-length payload being never empty; the variable-length payload types are the four whose `len()` is
modelled. -/
def WF (T : Table) : Prop :=
  (T.map (·.cid)).Nodup ∧ ∀ e ∈ T, (e.cid < 256 ∧ ∀ l, e.len = some l → l ≤ 29) ∧
    need e.payload ≤ (match e.len with | some l => l | none => 1) ∧
    (e.len = none → e.payload ∈ varLenTypes)

instance (T : Table) : Decidable (WF T) := by unfold WF; infer_instance

/-- the six generated tables are well-formed: one evaluation, of which the statements about the six sets below are the parts -/
theorem six_wf : ∀ s ∈ Gen.CmdTables.allSets, WF (T s.2) := by decide +kernel

theorem WF.vlTotal {T : Table} (h : WF T) : VlTotal T varLen := varLen_total_of_known fun e he => (h.2 e he).2.2

theorem WF.lookup_self {T : Table} (h : WF T) {e : Entry} (he : e ∈ T) : T.lookup e.cid = some e := Table.lookup_self h.1 he

/-- no CID occurs twice within a set (so `lookup` = "the" entry with that CID, and no `match` arm of the
derive is unreachable) -/
theorem no_duplicate_cids : ∀ s ∈ Gen.CmdTables.allSets, (s.2.map (·.1)).Nodup := by
  intro s hs
  have := (six_wf s hs).1
  rwa [T, Table.ofRows, List.map_map] at this

/-- every CID is an octet and every fixed length is at most 29 (McGroupSetupReq's) -/
theorem cids_and_lens_bounded : ∀ s ∈ Gen.CmdTables.allSets, ∀ r ∈ s.2, r.1 < 256 ∧ ∀ l, r.2.1 = some l → l ≤ 29 :=
  fun s hs _ hr => ((six_wf s hs).2 _ (List.mem_map_of_mem hr)).1

/-- no unit-struct payload carries a `len` attribute the derive would silently ignore -/
theorem attr_len_honoured : Gen.CmdTables.attrLenIgnored = [] := by decide

def rowMatches (r : Gen.CmdTables.Row) (c : Spec.MacCmd.Cmd) : Bool :=
  r.1 == c.cid && r.2.2.1 == c.name && r.2.2.2 == c.name ++ "Payload" &&
  (match r.2.1, c.plen with
   | some n, .fixed m => n == m
   | none, .toEnd => true
   | none, .groupStatus => true
   | _, _ => false)

/-- the generated tables are the specification's tables (CID, name, payload length / variable-length rule) -/
theorem tables_eq_spec : ∀ s ∈ Gen.CmdTables.allSets,
    ∃ S, Spec.MacCmd.setByName s.1 = some S ∧ s.2.length = S.length ∧ (s.2.zip S).all (fun p => rowMatches p.1 p.2) = true := by
  decide +kernel

/-- every variable-length entry of the six tables is one of the four payload types whose `len()` is modelled -/
theorem var_len_known : ∀ s ∈ Gen.CmdTables.allSets, ∀ e ∈ T s.2, e.len = none → e.payload ∈ varLenTypes :=
  fun s hs e he => ((six_wf s hs).2 e he).2.2

theorem vl_total (s : String × List Gen.CmdTables.Row) (hs : s ∈ Gen.CmdTables.allSets) : VlTotal (T s.2) varLen :=
  (six_wf s hs).vlTotal

/-- **C03 for the six sets**: for every set and every byte string, the iterator terminates without a panic,
yields whole commands adding up to a prefix of the input, and at most one error, last. -/
theorem six_sets_total (s : String × List Gen.CmdTables.Row) (hs : s ∈ Gen.CmdTables.allSets) (data : Bytes) :
    ∃ r, run (T s.2) varLen data = .ok r ∧ r.hang = false ∧
      (r.items.map Item.wire).flatten ++ r.final.data = data ∧
      (∀ pre it post, r.items = pre ++ it :: post → it.isErr = true → post = []) := by
  obtain ⟨r, h, ok⟩ := run_ok (vl_total s hs) data
  exact ⟨r, h, ok.no_hang, ok.prefix_eq, ok.fused⟩

/-- every entry of the six generated tables gives its payload type at least the number of octets its
accessors reach (`need`, proved sufficient per payload type in `Lemmas/MacCmdAccAgree`); a
variable-length payload is never empty -/
theorem accessor_reach_within_len : ∀ s ∈ Gen.CmdTables.allSets, ∀ r ∈ s.2,
    need r.2.2.2 ≤ (match r.2.1 with | some l => l | none => 1) :=
  fun s hs _ hr => ((six_wf s hs).2 _ (List.mem_map_of_mem hr)).2.1

/-- the accessors of every command the iterator yields return, for any well-formed table -/
theorem WF.accessors_no_panic {T : Table} (hT : WF T) (cph : Cipher) (data : Bytes) (hb : IsBytes data) :
    ∃ r, run T varLen data = .ok r ∧ ∀ c, Item.cmd c ∈ r.items → AllOk (accessors cph c.payloadTy c.payload) := by
  obtain ⟨r, h, ok⟩ := run_ok hT.vlTotal data
  refine ⟨r, h, fun c hc => ?_⟩
  obtain ⟨e, h2, _, h4, h5, h6⟩ := ok.whole c hc
  have hneed := (hT.2 e (Table.lookup_mem h2).1).2.1
  refine accessors_ok cph c.payloadTy c.payload ?_ (run_payload_isBytes ok hb c hc)
  rw [h4]
  cases hl : e.len with
  | some l => rw [hl] at hneed; have := h5 l hl; simp only at hneed; omega
  | none =>
    rw [hl] at hneed
    obtain ⟨rest, _, hv⟩ := h6 hl
    have := varLen_pos hv
    simp only at hneed; omega

/-- Every accessor of every command the iterators of the six sets can yield returns
without panicking (all indices are below the generated length; `u32` products do not overflow; the
`unreachable!()` arms are unreachable), for every cipher plugged into the key accessor. -/
theorem accessors_no_panic (cph : Cipher) (s : String × List Gen.CmdTables.Row) (hs : s ∈ Gen.CmdTables.allSets)
    (data : Bytes) (hb : IsBytes data) :
    ∃ r, run (T s.2) varLen data = .ok r ∧
      ∀ c, Item.cmd c ∈ r.items → AllOk (accessors cph c.payloadTy c.payload) :=
  (six_wf s hs).accessors_no_panic cph data hb

/-! The frame parsers of parser.rs (structural model `Model/FrameShape.lean`).

`∃ r, f b = .ok r` is "does not panic" (`Outcome.panic` is the only other constructor). -/
section Frames
open FrameShape

/-- **EncryptedDataPayload::parse** (`Layout::validate`) returns for every byte string, and every accessor of the
view it yields (`fhdr`, `dev_addr`, `fctrl`, `fcnt`, `f_opts`, `f_port`, `mic`, the slices of `validate_mic`,
`frm_payload`'s range) returns as well. -/
theorem data_parse_no_panic (b : Bytes) :
    ∃ r, validate b = .ok r ∧ ∀ l, r = .ok l → ∃ v, dataAccessors b l = .ok v := by
  obtain ⟨r, hr, hok⟩ := validate_total b
  exact ⟨r, hr, fun l hl => dataAccessors_total (hok l hl)⟩

/-- **DecryptedDataPayload::decrypt_in_place** returns for every buffer of at most 4076 octets (every key
combination), and every accessor of the view returned — whatever the decryption wrote into the buffer
(`b'` of the same length) — returns.  Beyond 4076 octets the `u8` block counter of
`encrypt_frm_data_payload` can overflow (`decrypt_ctr_overflow` below); LoRa frames are ≤ 255 octets. -/
theorem decrypt_no_panic (b : Bytes) (hlen : b.length ≤ 4076) (hasNwk hasApp : Bool) :
    ∃ r, decryptData b hasNwk hasApp = .ok r ∧
      ∀ l, r = .ok l → ∀ b' : Bytes, b'.length = b.length → ∃ v, dataAccessors b' l = .ok v := by
  obtain ⟨r, hr, hok⟩ := decryptData_total hlen hasNwk hasApp
  refine ⟨r, hr, fun l hl b' hb' => dataAccessors_total ?_⟩
  rw [hb']; exact hok l hl

/-- the counter overflow that bounds `decrypt_no_panic`: a 4065-octet FRMPayload needs a 255th key-stream block -/
theorem decrypt_ctr_overflow : encLoop 5000 9 4065 0 1 = .panic "encrypt_frm_data_payload: ctr += 1" := by
  decide +kernel

/-- **JoinRequestPayload::parse** and every accessor of the view -/
theorem join_request_no_panic (b : Bytes) :
    parseJoinRequest b = .ok () → ∃ v, joinRequestAccessors b = .ok v :=
  fun h => joinRequestAccessors_total (parseJoinRequest_len h)

/-- **EncryptedJoinAcceptPayload::parse / DecryptedJoinAcceptPayload::decrypt_in_place** and every accessor of the
decrypted view incl. `c_f_list` (for every in-place block cipher) -/
theorem join_accept_no_panic (c : Cipher) (hc : c.LenPres) (b : Bytes) :
    ∃ r, decryptJoinAccept c b = .ok r ∧ ∀ b', r = .ok b' → ∃ v, joinAcceptAccessors b' = .ok v := by
  obtain ⟨r, hr, hok⟩ := decryptJoinAccept_total hc b
  refine ⟨r, hr, fun b' hb' => joinAcceptAccessors_total ?_⟩
  obtain ⟨h1, h2⟩ := hok b' hb'
  omega

/-- `parser::parse` returns a value or an error for every byte string, and whichever view
it returns can be used without panic: all accessors, and in-place decryption followed by all accessors. -/
theorem parse_no_panic (b : Bytes) :
    ∃ r, parse b = .ok r ∧
      match r with
      | .error _ => True
      | .ok .joinRequest => ∃ v, joinRequestAccessors b = .ok v
      | .ok .joinAccept => ∀ c : Cipher, c.LenPres →
          ∃ b', decryptJoinAccept c b = .ok (.ok b') ∧ ∃ v, joinAcceptAccessors b' = .ok v
      | .ok (.data l) => (∃ v, dataAccessors b l = .ok v) ∧
          (b.length ≤ 4076 → ∀ n a, ∃ r', decryptData b n a = .ok r' ∧
            ∀ l', r' = .ok l' → ∀ b' : Bytes, b'.length = b.length → ∃ v, dataAccessors b' l' = .ok v) := by
  cases b with
  | nil => exact ⟨_, rfl, trivial⟩
  | cons mhdr rest =>
    simp only [parse]
    by_cases hv : (mhdr &&& 0b11 != 0) = true
    · rw [if_pos hv]; exact ⟨_, rfl, trivial⟩
    · rw [if_neg hv]
      by_cases h0 : mhdr >>> 5 = 0
      · rw [if_pos h0]
        cases hj : parseJoinRequest (mhdr :: rest) with
        | error e => exact ⟨_, rfl, trivial⟩
        | ok u => exact ⟨_, rfl, joinRequestAccessors_total (parseJoinRequest_len hj)⟩
      · rw [if_neg h0]
        by_cases h1 : mhdr >>> 5 = 1
        · rw [if_pos h1]
          cases hj : validateJoinAccept (mhdr :: rest) with
          | error e => exact ⟨_, rfl, trivial⟩
          | ok u =>
            refine ⟨_, rfl, ?_⟩
            intro c hc
            obtain ⟨b', hr, h1, h2⟩ := decryptJoinAccept_ok hc hj
            exact ⟨b', hr, joinAcceptAccessors_total (by omega)⟩
        · rw [if_neg h1]
          by_cases h5 : mhdr >>> 5 ≤ 5
          · rw [if_pos h5]
            obtain ⟨r, hr, hok⟩ := validate_total (mhdr :: rest)
            simp only [hr, Outcome.ok_bind]
            match r, hok with
            | .error e, _ => exact ⟨_, rfl, trivial⟩
            | .ok l, hok =>
              refine ⟨_, rfl, dataAccessors_total (hok l rfl), ?_⟩
              intro hlen n a
              exact decrypt_no_panic (mhdr :: rest) hlen n a
          · rw [if_neg h5]; exact ⟨_, rfl, trivial⟩

/-! non-vacuity: the README's example uplink; an FOptsLen that does not fit; a Join-Accept with a type-1 CFList -/
example : validate [0x40, 4, 3, 2, 1, 0x80, 1, 0, 1, 0xa6, 0x94, 0x64, 0x26, 0x15, 0xd6, 0xc3, 0xb5, 0x82] =
    .ok (.ok { frameType := 2, fhdrLen := 7, fPortOffset := some 8, frmStart := 9, frmEnd := 14 }) := by rfl
example : validate [0x40, 4, 3, 2, 1, 0x8f, 1, 0, 1, 2, 3, 4, 5, 6] = .ok (.error .TruncatedFhdr) := by rfl
example : (joinAcceptAccessors (0x20 :: List.replicate 27 0 ++ [1, 9, 9, 9, 9])).isOk = true := by decide

end Frames

example : run (T Gen.CmdTables.downlinkMacCommand) varLen [0x03, 0x12, 0x04, 0x00, 0x45, 0x06, 0x0d, 1, 2] =
    .ok { items := [.cmd ⟨3, "LinkADRReq", "LinkADRReqPayload", [0x12, 0x04, 0x00, 0x45]⟩,
                    .cmd ⟨6, "DevStatusReq", "DevStatusReqPayload", []⟩, .err (.truncated 0x0d)],
          final := { data := [0x0d, 1, 2], errored := true }, hang := false } := by decide

example : run (T Gen.CmdTables.uplinkRemoteSetup) varLen [0x01, 0x01, 0, 1, 2, 3, 4, 0xff] =
    .ok { items := [.cmd ⟨1, "McGroupStatusAns", "McGroupStatusAnsPayload", [0x01, 0, 1, 2, 3, 4]⟩, .err (.unknownCid 0xff)],
          final := { data := [0xff], errored := true }, hang := false } := by decide

example : VlTotal (T Gen.CmdTables.downlinkDUTCommand) varLen :=
  vl_total ("DownlinkDUTCommand", Gen.CmdTables.downlinkDUTCommand) (by decide)

end C03

#print axioms C03.iter_terminates
#print axioms C03.iter_budget_irrelevant
#print axioms C03.iter_prefix
#print axioms C03.iter_fused
#print axioms C03.next_none_stable
#print axioms C03.parse_one_fits_or_error
#print axioms C03.var_len_helpers
#print axioms C03.no_duplicate_cids
#print axioms C03.tables_eq_spec
#print axioms C03.six_sets_total
#print axioms C03.accessor_reach_within_len
#print axioms C03.accessors_no_panic
#print axioms C03.data_parse_no_panic
#print axioms C03.decrypt_no_panic
#print axioms C03.decrypt_ctr_overflow
#print axioms C03.join_request_no_panic
#print axioms C03.join_accept_no_panic
#print axioms C03.parse_no_panic
