import LoraVerif.Props.C03
import LoraVerif.Lemmas.MacCmdSetAgree
import LoraVerif.Lemmas.MacCmdBuild
import LoraVerif.Lemmas.HexTextLemmas
/-!
# C19 — MAC-command builders, parsers and identifier text forms round-trip

Structure of the argument (model = `Model/MacCmdCreators`, `Model/MacCmdFields`, `Model/MacCmd`, `Model/HexText`;
specification = `Spec/MacCmdSpec` field layouts, `Spec/HexTextSpec`):

* **(S)** in the specification a command payload is one little-endian number and a setter replaces one bit
  field; `field_read_back`, `neighbours_undisturbed`, `fields_last_write`, `fields_untouched` prove, for ALL payloads,
  field positions and values, and for arbitrary sequences of writes, that a field reads back as the last
  value written to it reduced to the field width and that no other field changes;
* **(B)** every setter of every fixed-length creator, as coded, refines the specification's setter on every
  reachable creator state (`MacCmd.set_*` in `Lemmas/MacCmdSetAgree`, one lemma per setter: same verdict — refusal of
  out-of-range values for the fallible setters —, same payload, no panic);
* **(C)** every accessor of every payload type, as coded, returns the specification's field value on every
  payload of the table's length (`MacCmd.acc_*` in `Lemmas/MacCmdAccAgree`, one lemma per payload type), except
  `DeviceTimeAnsPayload::seconds` — **known finding**, `c19_devicetime_counterexample`, `devicetime_partial`;
* the composition (B)+(C) is spelled out for LinkADRReq (`linkADRReq_step_roundtrip`);
* **sequences**: `parse_buildSeq`, `build_mac_commands_writes_concatenation`, framing lemmas for the six generated tables;
* **text forms**: `newtype_text_roundtrip`, `key_text_roundtrip`, `eui_text_roundtrip` and equality with MSB-first hex.

The two growing creators are treated on their own invariants (`echo_builder`, `group_status_builder`).  Not proved,
correspondence only: that the items accessor of a parsed McGroupStatusAns returns the pushed (id, address) pairs in order for
an arbitrary number of pushes (the accessor side is (C) for 0..4 items).
-/
open MacCmd

namespace C19

/-- reading back the field just written gives the value reduced to the field width ("truncated to the field") -/
theorem field_read_back (p : Spec.MacCmd.Bytes) (lo w v : Nat) (h : lo + w ≤ 8 * p.length) :
    Spec.MacCmd.field (Spec.MacCmd.setFieldBytes p lo w v) lo w = v % 2 ^ w :=
  Spec.MacCmd.field_setFieldBytes_same p lo w v h

/-- a write never disturbs a field it does not overlap -/
theorem neighbours_undisturbed (p : Spec.MacCmd.Bytes) (lo w v lo' w' : Nat) (hd : lo + w ≤ lo' ∨ lo' + w' ≤ lo)
    (h : lo' + w' ≤ 8 * p.length) :
    Spec.MacCmd.field (Spec.MacCmd.setFieldBytes p lo w v) lo' w' = Spec.MacCmd.field p lo' w' :=
  Spec.MacCmd.field_setFieldBytes_other p lo w v lo' w' hd h

/-- after ANY sequence of writes a field holds the last value written to it (mod its width), if the later writes do not overlap it -/
theorem fields_last_write (p : Spec.MacCmd.Bytes) (pre post : List (Nat × Nat × Nat)) (lo w v : Nat)
    (hfit : lo + w ≤ 8 * p.length) (h : ∀ c ∈ post, c.1 + c.2.1 ≤ lo ∨ lo + w ≤ c.1) :
    Spec.MacCmd.field (Spec.MacCmd.applyAll p (pre ++ (lo, w, v) :: post)) lo w = v % 2 ^ w := by
  open Spec.MacCmd in
  have e : applyAll p (pre ++ (lo, w, v) :: post) = applyAll (setFieldBytes (applyAll p pre) lo w v) post := by
    simp [applyAll, List.foldl_append]
  rw [e, field_applyAll_untouched _ post lo w (by rw [setFieldBytes_length, applyAll_length]; exact hfit) h]
  exact field_setFieldBytes_same _ lo w v (by rw [applyAll_length]; exact hfit)

/-- a field no write overlaps keeps its value through ANY sequence of writes -/
theorem fields_untouched (p : Spec.MacCmd.Bytes) (cs : List (Nat × Nat × Nat)) (lo w : Nat) (hfit : lo + w ≤ 8 * p.length)
    (h : ∀ c ∈ cs, c.1 + c.2.1 ≤ lo ∨ lo + w ≤ c.1) :
    Spec.MacCmd.field (Spec.MacCmd.applyAll p cs) lo w = Spec.MacCmd.field p lo w :=
  Spec.MacCmd.field_applyAll_untouched p cs lo w hfit h

/-- the fields of every command of the specification's layout tables do not overlap each other unless they are the
same setter's field (checked over `Spec.MacCmd.fieldSetters`): distinct setters of one command write disjoint or
identical bit ranges -/
theorem setter_fields_disjoint_or_equal :
    ∀ name ∈ ["LinkCheckAns", "LinkADRReq", "LinkADRAns", "DutyCycleReq", "RXParamSetupReq", "RXParamSetupAns", "DevStatusAns",
        "NewChannelReq", "NewChannelAns", "RXTimingSetupReq", "TXParamSetupReq", "DlChannelReq", "DlChannelAns", "DeviceTimeAns",
        "DutVersionsAns", "RxAppCntAns", "PackageVersionAns", "McGroupStatusReq", "McGroupSetupReq", "McGroupSetupAns",
        "McGroupDeleteReq", "McGroupDeleteAns", "McGroupStatusAns"],
      ∀ a ∈ Spec.MacCmd.fieldSetters name, ∀ b ∈ Spec.MacCmd.fieldSetters name,
        (a.2.1 = b.2.1 ∧ a.2.2.1 = b.2.2.1) ∨ a.2.1 + a.2.2.1 ≤ b.2.1 ∨ b.2.1 + b.2.2.1 ≤ a.2.1 := by
  decide +kernel

/-- payload length used by the `MacCmd.acc_*` / `MacCmd.set_*` lemmas, by payload type -/
def arity : String → Option Nat
  | "LinkCheckAnsPayload" => some 2 | "LinkADRReqPayload" => some 4 | "DutyCycleReqPayload" => some 1
  | "RXParamSetupReqPayload" => some 4 | "NewChannelReqPayload" => some 5 | "RXTimingSetupReqPayload" => some 1
  | "TXParamSetupReqPayload" => some 1 | "DlChannelReqPayload" => some 4 | "DeviceTimeAnsPayload" => some 5
  | "LinkADRAnsPayload" => some 1 | "RXParamSetupAnsPayload" => some 1 | "DevStatusAnsPayload" => some 2
  | "NewChannelAnsPayload" => some 1 | "DlChannelAnsPayload" => some 1 | "AdrBitChangeReqPayload" => some 1
  | "TxPeriodicityChangeReqPayload" => some 1 | "RxAppCntAnsPayload" => some 2 | "DutVersionsAnsPayload" => some 12
  | "McGroupStatusReqPayload" => some 1 | "McGroupSetupReqPayload" => some 29 | "McGroupDeleteReqPayload" => some 1
  | "PackageVersionAnsPayload" => some 2 | "McGroupSetupAnsPayload" => some 1 | "McGroupDeleteAnsPayload" => some 1
  | _ => none

theorem lemma_lengths_are_generated : ∀ s ∈ Gen.CmdTables.allSets, ∀ r ∈ s.2,
    ∀ n, arity r.2.2.2 = some n → r.2.1 = some n := by decide +kernel

/-- For every reachable LinkADRReq creator state and every call of each of its four setters: the setter returns, agrees with the
specification's setter (verdict and payload), and the parser's accessors on the new payload are the specification's
fields of it — so by (S) the written field reads back truncated and the other fields are unchanged. -/
theorem linkADRReq_step_roundtrip (wrap : Bytes → Bytes) (cid b0 b1 b2 b3 : Nat)
    (h0 : b0 < 256) (h1 : b1 < 256) (h2 : b2 < 256) (h3 : b3 < 256) :
    ∀ call : String × Arg,
      (∃ v, v < 256 ∧ (call = ("set_data_rate", .n v) ∨ call = ("set_tx_power", .n v) ∨ call = ("set_redundancy", .n v))) ∨
      (∃ c0 c1, c0 < 256 ∧ c1 < 256 ∧ call = ("set_channel_mask", .bytes [c0, c1])) →
      ∃ r p', setLinkADRReq { data := cid :: [b0, b1, b2, b3], count := 0 } call.1 call.2 = .ok (r, { data := cid :: p', count := 0 }) ∧
        Spec.MacCmd.applySetter wrap "LinkADRReq" [b0, b1, b2, b3] call.1
          (match call.2 with | .n v => .n v | .i v => .i v | .bytes b => .bytes b | .item i a => .item i a) = some (toSpecRes r, p') ∧
        AccAgree (accLinkADRReq p') (Spec.MacCmd.decLinkADRReq p') := by
  intro call hc
  have hp : IsBytes [b0, b1, b2, b3] := by simp [*]
  -- the specification's setter returns four octets again, so the accessor lemma applies to the new payload
  have fin : ∀ (m : Outcome (SetRes × Creator)) (s : Option (Option String × Bytes)), SetAgree m cid s →
      (∀ r p', s = some (r, p') → p'.length = 4 ∧ IsBytes p') →
      ∃ r p', m = .ok (r, { data := cid :: p', count := 0 }) ∧ s = some (toSpecRes r, p') ∧
        AccAgree (accLinkADRReq p') (Spec.MacCmd.decLinkADRReq p') := by
    intro m s ⟨r, p', hm, hs⟩ hshape
    obtain ⟨hl, hb⟩ := hshape _ _ hs
    exact ⟨r, _, hm, hs, accLinkADRReq_agree (Nat.le_of_eq hl.symm) hb⟩
  rcases hc with ⟨v, hv, rfl | rfl | rfl⟩ | ⟨c0, c1, g0, g1, rfl⟩
  · exact fin _ _ (set_LinkADRReq_set_data_rate wrap cid b0 b1 b2 b3 v h0 h1 h2 h3 hv) fun r p' h =>
      Spec.MacCmd.applyField_shape (lo := 4) (w := 4) (pol := .refuse "InvalidDataRate") (a := .n v) h hp
  · exact fin _ _ (set_LinkADRReq_set_tx_power wrap cid b0 b1 b2 b3 v h0 h1 h2 h3 hv) fun r p' h =>
      Spec.MacCmd.applyField_shape (lo := 0) (w := 4) (pol := .refuse "InvalidTxPower") (a := .n v) h hp
  · exact fin _ _ (set_LinkADRReq_set_redundancy wrap cid b0 b1 b2 b3 v h0 h1 h2 h3 hv) fun r p' h =>
      Spec.MacCmd.applyField_shape (lo := 24) (w := 8) (pol := .mask) (a := .n v) h hp
  · exact fin _ _ (set_LinkADRReq_set_channel_mask wrap cid b0 b1 b2 b3 c0 c1 h0 h1 h2 h3 g0 g1) fun r p' h =>
      Spec.MacCmd.applyField_shape (lo := 8) (w := 16) (pol := .mask) (a := .bytes [c0, c1]) h hp

/-! The two growing creators `EchoIncPayloadAnsCreator` and `McGroupStatusAnsCreator`: their table entries, the invariant of the
reachable states of the second, and the octet facts its setters rest on.  These extend the creator model and are `MacCmd.`, like
what they speak of; `deviceTimeAns`, `idCipher` and `arity` only serve statements of this file and are `C19.`. -/

end C19
namespace MacCmd

def eEcho : Entry := ⟨8, none, "EchoIncPayloadAns", "EchoIncPayloadAnsPayload"⟩

def eGroupStatus : Entry := ⟨1, none, "McGroupStatusAns", "McGroupStatusAnsPayload"⟩

/-- reachable states of `McGroupStatusAnsCreator`: 22 octets, `items` = number of bits set in AnsGroupMask -/
structure GroupStatusInv (c : Creator) (cid st : Nat) (area : Bytes) : Prop where
  hdata : c.data = cid :: st :: area
  harea : area.length = 20
  hst : st < 256
  hcount : c.count = popcount4 (st &&& 15)

theorem popcount_push : ∀ st, st < 256 → ∀ id, id < 4 → (st &&& (1 <<< id) != 0) = false →
    popcount4 ((st ||| (1 <<< id)) &&& 15) = popcount4 (st &&& 15) + 1 ∧ (st ||| (1 <<< id)) < 256 ∧ popcount4 (st &&& 15) ≤ 3 := by
  decide +kernel

theorem pat_nb (st : Nat) (hst : st < 256) (m : Nat) (hm : m < 8) :
    ((st &&& 15) ||| ((m <<< 4) % 256)) &&& 15 = st &&& 15 ∧ ((st &&& 15) ||| ((m <<< 4) % 256)) < 256 ∧
    (((st &&& 15) ||| ((m <<< 4) % 256)) >>> 4) &&& 7 = m := by
  rw [pat_hi st hst m (by omega)]
  simp only [Spec.MacCmd.setField, and15, and7, Nat.shiftRight_eq_div_pow]
  omega

end MacCmd
namespace C19

/-- **EchoIncPayloadAnsCreator** in any state (also after an earlier, longer payload): `payload(b)` then `build()` gives the CID
followed by the first 241 octets of `b`, each incremented modulo 256 — exactly the specification's answer; a longer
argument is truncated, never a panic (`repo-fixes/C19-0002-EchoIncPayloadAnsCreator-payload-truncates.patch`). -/
theorem echo_builder (cid : Nat) (tail : Bytes) (ht : tail.length = 241) (cnt : Nat) (b : Bytes) (wrap : Bytes → Bytes) (p : Bytes) :
    ∃ c', setEchoIncPayloadAns { data := cid :: tail, count := cnt } "payload" (.bytes b) = .ok (.ok, c') ∧
      c'.build eEcho = .ok (cid :: (b.take 241).map (fun x => (x + 1) % 256)) ∧
      (∃ tail', c'.data = cid :: tail' ∧ tail'.length = 241) ∧
      Spec.MacCmd.applySetter wrap "EchoIncPayloadAns" p "payload" (.bytes b) = some (none, (b.take 241).map (fun x => (x + 1) % 256)) := by
  have hmin : min b.length 241 ≤ b.length := Nat.min_le_left _ _
  have hsl : slice "payload: &data[..min]" b 0 (min b.length 241) = .ok (b.take 241) := by
    rw [slice_ok (by omega) hmin]
    simp only [List.drop_zero, Nat.sub_zero]
    congr 1
    rw [List.take_eq_take_iff]
    omega
  have hn : (b.take 241).length ≤ 241 := by simp; omega
  refine ⟨{ data := cid :: ((b.take 241).map (fun x => (x + 1) % 256) ++ tail.drop (b.take 241).length), count := (b.take 241).length }, ?_, ?_, ?_, rfl⟩
  · simp only [setEchoIncPayloadAns, hsl, Outcome.ok_bind, copyInto, List.length_cons, ht, List.length_map]
    rw [if_pos ⟨by omega, by omega, by omega⟩]
    simp [Nat.add_comm 1]
  · simp only [Creator.build, Creator.len, eEcho]
    have hs : ("EchoIncPayloadAnsPayload" = "McGroupStatusAnsPayload") = False := by decide
    simp only [hs, if_false]
    rw [slice_ok (by omega) (by simp [ht])]
    simp only [List.drop_zero, Nat.sub_zero, List.take_succ_cons]
    congr 2
    have : ((b.take 241).map (fun x => (x + 1) % 256)).length = (b.take 241).length := by simp
    rw [← this, List.take_left']
    rfl
  · refine ⟨_, rfl, ?_⟩
    simp [ht]; omega

/-- **McGroupStatusAnsCreator** on every reachable state (`GroupStatusInv`: 22 octets, `items` = bits set in AnsGroupMask; a fresh
creator satisfies it): `push` refuses group ids outside AnsGroupMask and groups already reported and changes nothing
(`repo-fixes/C19-0001-McGroupStatusAnsCreator-push-refuses-bad-group-ids.patch`), otherwise sets the mask bit and appends `id ‖ McAddr` after the items present, keeping the invariant;
`nb_total_groups` leaves `v mod 8` in bits 4–6 and keeps the group mask (low nibble; bit 7 is cleared); `build()` is CID ‖ status ‖ items. No panic. -/
theorem group_status_builder (c : Creator) (cid st : Nat) (area : Bytes) (inv : GroupStatusInv c cid st area) :
    (∀ id addr, addr.length = 4 →
      (id ≥ 4 ∨ (st &&& (1 <<< id) != 0) = true → setMcGroupStatusAns c "push" (.item id addr) = .ok (.err "InvalidIndex", c)) ∧
      (id < 4 → (st &&& (1 <<< id) != 0) = false →
        ∃ c', setMcGroupStatusAns c "push" (.item id addr) = .ok (.ok, c') ∧
          GroupStatusInv c' cid (st ||| (1 <<< id)) (area.take (c.count * 5) ++ (id :: addr) ++ area.drop (c.count * 5 + 5)))) ∧
    (∀ v, ∃ st', setMcGroupStatusAns c "nb_total_groups" (.n v) = .ok (.ok, { c with data := cid :: st' :: area }) ∧
      GroupStatusInv { c with data := cid :: st' :: area } cid st' area ∧ st' &&& 15 = st &&& 15 ∧ (st' >>> 4) &&& 7 = v % 8) ∧
    c.build eGroupStatus = .ok (cid :: st :: area.take (c.count * 5)) := by
  obtain ⟨hd, hal, hst, hc⟩ := inv
  refine ⟨fun id addr ha => ?_, fun v => ?_, ?_⟩
  · constructor
    · intro h
      simp only [setMcGroupStatusAns, hd, index, List.getElem?_cons_succ, List.getElem?_cons_zero, Outcome.ok_bind]
      rcases h with h | h
      · simp [h, refuse]
      · by_cases h4 : id ≥ 4
        · simp [h4, refuse]
        · simp [h4, h, refuse]
    · intro hid hbit
      obtain ⟨hp1, hp2, hp3⟩ := popcount_push st hst id hid hbit
      have hcnt : c.count ≤ 3 := by rw [hc]; exact hp3
      refine ⟨{ data := cid :: (st ||| (1 <<< id)) :: (area.take (c.count * 5) ++ (id :: addr) ++ area.drop (c.count * 5 + 5)),
                count := c.count + 1 }, ?_, ⟨rfl, ?_, hp2, by simp only; rw [hp1, hc]⟩⟩
      · simp only [setMcGroupStatusAns, hd, index, List.getElem?_cons_succ, List.getElem?_cons_zero, Outcome.ok_bind,
          show ¬ id ≥ 4 by omega, hbit, if_false, Bool.false_eq_true, modByte, setByte, List.length_cons, hal]
        rw [if_pos (by omega)]
        simp only [Outcome.ok_bind, List.set_cons_succ, List.set_cons_zero]
        rw [if_pos (by simp [hal]; omega)]
        simp only [Outcome.ok_bind, copyInto, List.length_set, List.length_cons, hal]
        rw [if_pos ⟨by omega, by omega, by omega⟩]
        have hw := set_then_copy (cid :: (st ||| 1 <<< id) :: area) (2 + c.count * 5) id addr (by simp [hal, ha]; omega)
        rw [ha] at hw
        simp only [Outcome.ok_bind]
        rw [show 2 + c.count * 5 + 5 = 2 + c.count * 5 + 1 + 4 by omega, hw]
        simp only [writeAt, List.length_cons, ha]
        have e2 : 2 + c.count * 5 = c.count * 5 + 1 + 1 := by omega
        have e7 : c.count * 5 + 1 + 1 + (4 + 1) = (c.count * 5 + 5) + 1 + 1 := by omega
        rw [e2, e7]
        simp only [List.take_succ_cons, List.drop_succ_cons, List.cons_append, List.append_assoc]
      · simp [hal]; omega
  · have hm : v % 8 < 8 := Nat.mod_lt _ (by omega)
    obtain ⟨p1, p2, p3⟩ := pat_nb st hst (v % 8) hm
    refine ⟨(st &&& 15) ||| (((v % 8) <<< 4) % 256), ?_, ⟨rfl, hal, p2, by simp only; rw [p1, hc]⟩, p1, p3⟩
    simp [setMcGroupStatusAns, hd, modByte, index, setByte, okD, and7]
  · have h4 : c.count ≤ 4 := by rw [hc]; exact popcount4_le _
    simp only [Creator.build, Creator.len, eGroupStatus, hd]
    rw [slice_ok (by omega) (by simp [hal]; omega)]
    simp only [if_true, List.drop_zero, Nat.sub_zero]
    rw [show 1 + 1 + c.count * 5 = c.count * 5 + 1 + 1 by omega]
    simp only [List.take_succ_cons]

theorem group_status_fresh : ∃ c, Creator.new eGroupStatus = .ok c ∧ GroupStatusInv c 1 0 (List.replicate 20 0) := by
  refine ⟨_, rfl, ⟨rfl, by simp, by omega, by decide⟩⟩

def idCipher : Cipher := { enc := id, dec := id }

/-- the entry of DeviceTimeAns in the generated downlink table -/
def deviceTimeAns : Entry := { cid := 13, len := some 5, variant := "DeviceTimeAns", payload := "DeviceTimeAnsPayload" }

theorem deviceTimeAns_in_table : deviceTimeAns ∈ Table.ofRows Gen.CmdTables.downlinkMacCommand := by decide

/-- **Known finding C19-devicetime-seconds.** Building DeviceTimeAns with seconds = 0x01020304 and reading the
field back through the parser's accessor gives 0x04030201: the creator writes little-endian (as the specification
says, `set_DeviceTimeAns_set_seconds`), the accessor reads most-significant-octet first.

Full statement that therefore does NOT hold:
`∀ s < 2^32, accessor seconds (payload (build [set_seconds s])) = s`. -/
theorem c19_devicetime_counterexample :
    (buildWith idCipher deviceTimeAns [("set_seconds", .n 0x01020304)]) = .ok ([.ok], [13, 4, 3, 2, 1, 0]) ∧
    (accDeviceTimeAns [4, 3, 2, 1, 0]).head? = some ("seconds", .ok (.n 0x04030201)) ∧
    (Spec.MacCmd.decDeviceTimeAns [4, 3, 2, 1, 0]).head? = some ("seconds", .n 0x01020304) := by
  refine ⟨by decide, by decide, by decide⟩

/-- Everything about DeviceTimeAns except that one accessor: both setters refine the specification
(seconds little-endian, fractional second in 1/256 s, refusal above 10^9 ns), the `nano_seconds` accessor is the
specification's field, and the `seconds` accessor is characterised exactly (the four octets read most significant first). -/
theorem devicetime_partial (wrap : Bytes → Bytes) (cid b0 b1 b2 b3 b4 : Nat)
    (h0 : b0 < 256) (h1 : b1 < 256) (h2 : b2 < 256) (h3 : b3 < 256) (h4 : b4 < 256) :
    (∀ v, v < 4294967296 → SetAgree (setDeviceTimeAns { data := cid :: [b0, b1, b2, b3, b4], count := 0 } "set_seconds" (.n v)) cid
        (Spec.MacCmd.applySetter wrap "DeviceTimeAns" [b0, b1, b2, b3, b4] "set_seconds" (.n v))) ∧
    (∀ v, SetAgree (setDeviceTimeAns { data := cid :: [b0, b1, b2, b3, b4], count := 0 } "set_nano_seconds" (.n v)) cid
        (Spec.MacCmd.applySetter wrap "DeviceTimeAns" [b0, b1, b2, b3, b4] "set_nano_seconds" (.n v))) ∧
    AccAgree (accDeviceTimeAns [b0, b1, b2, b3, b4]).tail (Spec.MacCmd.decDeviceTimeAns [b0, b1, b2, b3, b4]).tail ∧
    (accDeviceTimeAns [b0, b1, b2, b3, b4]).head? = some ("seconds", .ok (.n (b3 + 256 * b2 + 65536 * b1 + 16777216 * b0))) ∧
    (Spec.MacCmd.decDeviceTimeAns [b0, b1, b2, b3, b4]).head? = some ("seconds", .n (b0 + 256 * b1 + 65536 * b2 + 16777216 * b3)) :=
  ⟨fun v hv => set_DeviceTimeAns_set_seconds wrap cid b0 b1 b2 b3 b4 v h0 h1 h2 h3 h4 hv,
   fun v => set_DeviceTimeAns_set_nano_seconds wrap cid b0 b1 b2 b3 b4 v h0 h1 h2 h3 h4,
   acc_DeviceTimeAns_partial b0 b1 b2 b3 b4 h0 h1 h2 h3 h4,
   acc_DeviceTimeAns_seconds b0 b1 b2 b3 b4,
   dec_DeviceTimeAns_seconds b0 b1 b2 b3 b4 h0 h1 h2 h3⟩

/-- **parse (buildSeq cs) = cs**, for any table: the iterator over the concatenated wire bytes of commands that are each
framed correctly in front of what follows yields exactly those commands, consumes everything, reports no error. -/
theorem parse_buildSeq (T : Table) (vl : VarLen) (cs : List Cmd) (h : AllFramed T vl cs) :
    run T vl (cs.map Cmd.wire).flatten =
      .ok { items := cs.map Item.cmd, final := { data := [], errored := false }, hang := false } := by
  unfold run
  exact run_flatten cs h _ (by have := flatten_length_ge cs; omega)

/-- commands of fixed-length entries are framed correctly whatever follows (any table, any position) -/
theorem fixed_commands_framed (T : Table) (vl : VarLen) (c : Cmd) (e : Entry) (hl : T.lookup c.cid = some e)
    (hlen : e.len = some c.payload.length) (hv : c.variant = e.variant) (hp : c.payloadTy = e.payload) (tail : Bytes) :
    WellFramed T vl c tail :=
  framed hl hv hp (.inl hlen)

/-- a McGroupStatusAns is self-delimiting (status octet + 5 octets per reported group) -/
theorem group_status_framed (T : Table) (c : Cmd) (e : Entry) (hl : T.lookup c.cid = some e) (hlen : e.len = none)
    (hv : c.variant = e.variant) (hp : c.payloadTy = e.payload) (hty : e.payload = "McGroupStatusAnsPayload")
    (status : Nat) (items : Bytes) (hpl : c.payload = status :: items) (hil : items.length = mcGroupStatusRequiredLen status)
    (tail : Bytes) : WellFramed T varLen c tail :=
  framed hl hv hp (.inr ⟨hlen, by simp [hpl], by rw [hty, hpl, List.length_cons, hil, Nat.add_comm]; rfl⟩)

/-- the TS009 commands without a length field round-trip in last position -/
theorem to_end_commands_framed_last (T : Table) (c : Cmd) (e : Entry) (hl : T.lookup c.cid = some e) (hlen : e.len = none)
    (hv : c.variant = e.variant) (hp : c.payloadTy = e.payload)
    (hty : e.payload = "TxFramesCtrlReqPayload" ∨ e.payload = "EchoIncPayloadReqPayload" ∨ e.payload = "EchoIncPayloadAnsPayload")
    (hne : c.payload ≠ []) : WellFramed T varLen c [] := by
  have hvl := C03.var_len_helpers c.payload hne
  refine framed hl hv hp (.inr ⟨hlen, by rwa [List.append_nil], ?_⟩)
  rw [List.append_nil]
  rcases hty with h | h | h <;> rw [h]
  · exact hvl.1
  · exact hvl.2.1
  · exact hvl.2.2.1

/-- in the six generated tables every entry is found by its own CID (no earlier entry shadows it), so every command built
for an entry of these tables is framed by that entry -/
theorem six_sets_lookup_self : ∀ s ∈ Gen.CmdTables.allSets, ∀ e ∈ Table.ofRows s.2, (Table.ofRows s.2).lookup e.cid = some e :=
  fun s hs _ he => (C03.six_wf s hs).lookup_self he

/-- **build_mac_commands** writes exactly the concatenation of the commands (`cid ‖ payload` each) to the front of the
buffer and returns its length, or refuses (`BufferTooShort`) when it does not fit; it never panics. -/
theorem build_mac_commands_writes_concatenation (cmds : List Bytes) (h : ∀ b ∈ cmds, b ≠ []) (out : Bytes) :
    buildMacCommands cmds out =
      if cmds.flatten.length > out.length then .ok none
      else .ok (some (cmds.flatten ++ out.drop cmds.flatten.length, cmds.flatten.length)) := by
  unfold buildMacCommands macCommandsLen
  rw [macCommandsLen_go cmds h 0]
  simp only [Outcome.ok_bind, Nat.zero_add]
  split
  · rfl
  · rename_i hle
    rw [buildLoop_ok cmds h out 0 (by omega)]
    simp [writeAt]

/-- **fromStr (toString x) = x** for the seven `wire_value_newtype` identifiers (DevAddr, McAddr: 4 octets / u32;
DevEui, JoinEui: 8 / u64; DevNonce: 2 / u16; JoinNonce, NetId: 3 / u32): every value. -/
theorem newtype_text_roundtrip (n bits : Nat) (wire : HexText.Bytes) (hl : wire.length = n) (hn : 0 < n)
    (hb : HexText.IsBytes wire) (hbits : 8 * n ≤ bits) :
    HexText.newtypeFromStr n bits (HexText.newtypeToString wire) = some wire := by
  open HexText in
  unfold newtypeFromStr
  rw [newtypeToString_eq wire hb]
  have hlen : (hexEncode wire.reverse).length = 2 * n := by rw [hexEncode_length]; simp [hl]
  rw [if_neg (by simp [hlen])]
  have hne : wire.reverse ≠ [] := by
    intro h; have h2 := List.reverse_eq_nil_iff.mp h; subst h2; simp at hl; omega
  have hv := leValue_lt wire hb
  have hfin : beValue wire.reverse 0 < 2 ^ bits := by
    rw [beValue_reverse]
    have : (256 : Nat) ^ wire.length = 2 ^ (8 * n) := by rw [hl, Nat.pow_mul]
    have h2 : 2 ^ (8 * n) ≤ 2 ^ bits := Nat.pow_le_pow_right (by omega) hbits
    omega
  rw [fromStrRadix16_hexEncode bits _ hne hb.reverse hfin, beValue_reverse]
  simp only [Option.map_some]
  rw [← hl, toLeBytes_leValue wire hb]

/-- and the printed form is the MSB-first hexadecimal of the specification: last wire octet first -/
theorem newtype_text_is_msb_first (wire : HexText.Bytes) (hb : HexText.IsBytes wire) :
    HexText.newtypeToString wire = Spec.HexText.ofWireLe wire := by
  rw [HexText.newtypeToString_eq wire hb, Spec.HexText.ofWireLe, HexText.msbFirst_eq _ hb.reverse]

/-- **fromStr (toString k) = k** for the nine 128-bit key types, and the text is the 16 octets in order -/
theorem key_text_roundtrip (k : HexText.Bytes) (hl : k.length = 16) (hb : HexText.IsBytes k) :
    HexText.keyFromStr (HexText.keyToString k) = .ok k ∧ HexText.keyToString k = Spec.HexText.ofKey k :=
  ⟨HexText.key_roundtrip k hl hb, by rw [HexText.keyToString, Spec.HexText.ofKey, HexText.msbFirst_eq _ hb]⟩

/-- **fromStr (toString e) = e** for keys::DevEui / keys::AppEui (stored LSB first, printed MSB first) -/
theorem eui_text_roundtrip (w : HexText.Bytes) (hl : w.length = 8) (hb : HexText.IsBytes w) :
    HexText.euiFromStr (HexText.euiToString w) = .ok w ∧ HexText.euiToString w = Spec.HexText.ofWireLe w :=
  ⟨HexText.eui_roundtrip w hl hb, by rw [HexText.euiToString, Spec.HexText.ofWireLe, HexText.msbFirst_eq _ hb.reverse]⟩

example : HexText.newtypeToString [0x04, 0x03, 0x02, 0x01] = "01020304".toList := by decide
example : HexText.newtypeFromStr 4 32 "01020304".toList = some [0x04, 0x03, 0x02, 0x01] := by decide
example : HexText.euiToString [0xf0, 0xde, 0xbc, 0x9a, 0x78, 0x56, 0x34, 0x12] = "123456789abcdef0".toList := by decide
example : (buildWith idCipher ⟨3, some 4, "LinkADRReq", "LinkADRReqPayload"⟩
    [("set_data_rate", .n 5), ("set_tx_power", .n 3), ("set_channel_mask", .bytes [0xc7, 0x0b]), ("set_redundancy", .n 0x37),
     ("set_data_rate", .n 16)]) = .ok ([.ok, .ok, .ok, .ok, .err "InvalidDataRate"], [3, 0x53, 0xc7, 0x0b, 0x37]) := by decide
example : AllFramed (Table.ofRows Gen.CmdTables.uplinkMacCommand) varLen
    [⟨3, "LinkADRAns", "LinkADRAnsPayload", [7]⟩, ⟨2, "LinkCheckReq", "LinkCheckReqPayload", []⟩] := by
  refine ⟨?_, ?_, trivial⟩ <;> (unfold WellFramed; rfl)

end C19

#print axioms C19.field_read_back
#print axioms C19.neighbours_undisturbed
#print axioms C19.fields_last_write
#print axioms C19.fields_untouched
#print axioms C19.setter_fields_disjoint_or_equal
#print axioms C19.lemma_lengths_are_generated
#print axioms C19.linkADRReq_step_roundtrip
#print axioms C19.echo_builder
#print axioms C19.group_status_builder
#print axioms C19.group_status_fresh
#print axioms C19.c19_devicetime_counterexample
#print axioms C19.devicetime_partial
#print axioms C19.parse_buildSeq
#print axioms C19.fixed_commands_framed
#print axioms C19.group_status_framed
#print axioms C19.to_end_commands_framed_last
#print axioms C19.six_sets_lookup_self
#print axioms C19.build_mac_commands_writes_concatenation
#print axioms C19.newtype_text_roundtrip
#print axioms C19.newtype_text_is_msb_first
#print axioms C19.key_text_roundtrip
#print axioms C19.eui_text_roundtrip
