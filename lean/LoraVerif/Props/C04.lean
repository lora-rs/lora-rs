import LoraVerif.Lemmas.Accept
import LoraVerif.Lemmas.RefineNb
import LoraVerif.Lemmas.DelayInv
import LoraVerif.Lemmas.RefineListen
/-!
# C04 — no received frame or network command can panic or hang the device

Panics are VALUES in the model (`Fault.panic site` for every Rust index, slice, `unwrap`,
`unreachable!` and checked-arithmetic site; `Fault.hang` for an exhausted retry loop), so "does not
panic" is a theorem about the model, not an artefact of Lean's totality.

The table, mask and retry-loop theorems at the top are the readings, for a single operation, of the `Tot` /
`Safe` lemmas of `Lemmas/MacWF*.lean` (the data-channel loop: `Model.dynDataLoop_safe`); a frame the reference
codec rejects returns and changes nothing (`C07.rejected_noop`).  The composition over whole histories
(`Model/History.lean`: `step`, `run`) is an induction with the invariant `MacWF`, which holds initially
(`init_wf`, `init_bias_wf`) and is kept by every step that returns (`step_wf`); the front-ends follow by refinement.
`ValidEv` is the application-side contract only (no payload on port 0, ≤ 222 payload bytes,
`set_datarate` to an uplink data rate of the region) plus the representation facts of the decoded
view (a CFList is five frequencies or a 9-byte mask); nothing the network controls is constrained.
`Fault.hang` (a retry loop exhausting its draw budget) cannot be excluded for an arbitrary generator:
a rejection-sampling loop accepts at the first acceptable draw.  What is proved instead is that the
accept sets are never empty in any reachable state (`run_accept_nonempty`, `accept_nonempty`): there
is a draw value on which `send` / `join_otaa` return at once — including the join-channel walk of the
fixed plans, whose invariant (banks visited cyclically, one free channel taken per visit) is part
of `MacWF`.
-/
open Model Gen.Region

namespace C04

/-- **LinkADRReq channel mask handling never panics**, whatever ChMaskCntl and mask bytes -/
theorem channelMaskUpdate_ok (rs : RegionState) (m : Mask) (cntl b0 b1 : Nat) (hm : m.length = 9) :
    ∃ r, channelMaskUpdate rs m cntl b0 b1 = .ok r ∧ ∀ m', r = some m' → m'.length = 9 :=
  channelMaskUpdate_tot rs m cntl b0 b1 hm

/-- on a 9-byte mask `is_enabled(i).unwrap()` is fine for every channel index below 72 -/
theorem isEnabled_ok (m : Mask) (i : Nat) (hm : m.length = 9) (hi : i < 72) : ∃ b, m.isEnabled i = .ok b :=
  (isEnabled_tot m i hm hi).returns

def isOk {α} (x : M α) : Bool := x.toOption.isSome

theorem isOk_iff {α} (x : M α) : isOk x = true ↔ ∃ a, x = .ok a := by
  cases x <;> simp [isOk, Except.toOption]

/-- the 16 data-rate codes: the conversion never reaches its `unreachable!()` arm; for larger bytes
the code masks with `& 0x0f` first (`Model.drOfNat_tot` is about every byte) -/
theorem drOfNat_ok : ∀ n ∈ List.range 16, isOk (drOfNat n) = true :=
  fun n _ => (isOk_iff _).mpr (drOfNat_tot n).returns

theorem rx_datarate_ok : ∀ r ∈ RegionId.all, ∀ d ∈ DR.all, ∀ off ∈ List.range 8, ∀ w ∈ Window.all,
    isOk (rxDatarate r d off w) = true := rx_datarate_all

/-- the regional TX power tables never panic for any 4-bit index -/
theorem txPowerAdjust_ok : ∀ r ∈ RegionId.all, ∀ p ∈ List.range 16, isOk (txPowerAdjust r p) = true := tx_power_all

def NoPanic {α} (x : M α) : Prop := ∀ site, x ≠ .error (.panic site)

theorem dynJoinLoop_no_panic {σ} (g : Rng σ) (n fuel : Nat) (s : σ) : NoPanic (dynJoinLoop g n fuel s) :=
  (dynJoinLoop_safe g n fuel s).no_panic

theorem fixedMaskLoop_no_panic {σ} (g : Rng σ) (mask : Mask) (bits base fuel : Nat) (s : σ)
    (hm : mask.length = 9) (hb : base + bits ≤ 72) (hbits : 0 < bits) : NoPanic (fixedMaskLoop g mask bits base fuel s) :=
  (fixedMaskLoop_safe g mask bits base fuel s hm hb hbits).no_panic

/-- a dynamic plan as every reachable one: 16 slots, 9 mask bytes, default channels defined -/
def DynWF (r : RegionId) (p : DynPlan) : Prop :=
  p.channels.length = 16 ∧ p.mask.length = 9 ∧ ∀ i, i < numJoinChannels r → ∃ c, p.channels[i]? = some (some c)

theorem init_dynWF : ∀ r ∈ RegionId.all, r.isFixed = false → DynWF r (DynPlan.init r) := by
  intro r _ hf
  have h : dynWF r (DynPlan.init r) = true := by cases r <;> first | rfl | cases hf
  obtain ⟨h1, h2, h3, _⟩ := dynWF_iff.mp h
  exact ⟨h1, h2, h3⟩

theorem usable_ok (r : RegionId) (p : DynPlan) (h : DynWF r p) (i : Nat) (hi : i < 16) : ∃ u, p.usable i = .ok u :=
  (usable_tot p h.1 h.2.1 i hi).returns

/-- the initial state of every region is well-formed, whatever the radio's maximum power, for every
antenna gain that is an `i8` with `MAX_EIRP − gain ≤ 127` (`gainOk`) -/
theorem init_wf (r : RegionId) (maxPower : Nat) (gain : Int) (hg : gainOk r gain = true) :
    MacWF (MacState.init (RegionState.init r) maxPower gain) :=
  macWF_init r maxPower gain hg

theorem init_bias_wf (r : RegionId) (maxPower : Nat) (gain : Int) (sb retries : Nat) (hg : gainOk r gain = true)
    (hsb : 1 ≤ sb ∧ sb ≤ 8) :
    MacWF (MacState.init ((RegionState.init r).setJoinBias sb retries) maxPower gain) := by
  apply MacWF.mk
  · have hfix : ∀ r : RegionId, r.isFixed = true →
        regionWF (MacState.init ((RegionState.init r).setJoinBias sb retries) maxPower gain).region = true := by
      intro r hf
      have hp : (MacState.init ((RegionState.init r).setJoinBias sb retries) maxPower gain).region.plan =
          .fix { mask := Mask.default, jc := { preferredSubband := some sb, maxRetries := retries } } := by
        simp [MacState.init, RegionState.init, RegionState.setJoinBias, hf]
      refine (regionWF_fix hp).mpr ⟨?_, rfl, jcWF_iff.mpr ⟨rfl, ?_, avInv_fresh, biasFresh_iff.mpr (fun _ _ => ⟨rfl, rfl⟩)⟩⟩
      · simp [MacState.init, RegionState.init, RegionState.setJoinBias, hf]
      · intro sb' e; cases e; exact hsb
    cases r <;> first | rfl | exact hfix _ rfl
  · cases r <;> rfl
  · cases r <;> exact hg
  · rfl

/-- **every step from a well-formed state under a valid event ends in a well-formed state** -/
theorem step_wf {σ} (g : Rng σ) (m m' : MacState) (s s' : σ) (ev : Ev) (out : Out) (h : MacWF m) (hv : ValidEv m ev)
    (hs : step g (m, s) ev = .ok ((m', s'), out)) : MacWF m' :=
  (Model.step_keeps h rfl hv hs).1

/-- … with the board constants and the region unchanged (the rest of `Model.step_keeps`) -/
theorem step_keeps {σ} (g : Rng σ) (m m' : MacState) (s s' : σ) (ev : Ev) (out : Out) (h : MacWF m) (hv : ValidEv m ev)
    (hs : step g (m, s) ev = .ok ((m', s'), out)) :
    m'.region.id = m.region.id ∧ m'.antennaGain = m.antennaGain ∧ m'.maxPower = m.maxPower :=
  (Model.step_keeps h rfl hv hs).2

/-- **no step panics**: for every received view, every MAC command byte stream, every SNR, every
payload limit, every random generator and generator state -/
theorem step_no_panic {σ} (g : Rng σ) (m : MacState) (s : σ) (ev : Ev) (h : MacWF m) (hv : ValidEv m ev) :
    ∀ site, step g (m, s) ev ≠ .error (.panic site) :=
  (step_safe g m s ev h hv).no_panic

def noTx : Ev → Bool
  | .joinAbp _ _ _ | .rxc _ _ _ | .setAdr _ | .setDr _ => true
  | _ => false

/-- **the receive side returns**: a Class C reception of ANY frame (and the configuration calls)
neither panics nor hangs — it yields a result and a well-formed state -/
theorem step_rx_returns {σ} (g : Rng σ) (m : MacState) (s : σ) (ev : Ev) (h : MacWF m) (hv : ValidEv m ev)
    (hn : noTx ev = true) : ∃ m' s' out, step g (m, s) ev = .ok ((m', s'), out) ∧ MacWF m' := by
  suffices ∃ r, step g (m, s) ev = .ok r by
    obtain ⟨⟨⟨m', s'⟩, out⟩, e⟩ := this
    exact ⟨m', s', out, e, (Model.step_keeps h rfl hv e).1⟩
  cases ev with
  | joinOtaa fault rx1 rx2 mp1 mp2 => cases hn
  | uplink data fport conf fault rx1 rx2 mp1 mp2 => cases hn
  | joinAbp da nwk app => exact ⟨_, rfl⟩
  | setAdr on => exact ⟨_, rfl⟩
  | setDr dr => exact ⟨_, rfl⟩
  | rxc v snr mp =>
    obtain ⟨m', out, e⟩ := step_rxc_returns g m s v snr mp h hv
    exact ⟨_, e⟩

/-- **no history panics.**  From the initial state of any region (any radio power, any admissible
antenna gain), for every random generator, every finite history of valid events — arbitrary
received frames, authentic frames carrying arbitrary MAC commands and JoinAccept fields, radio
faults at every position — runs without a panic, by induction over the history. -/
theorem run_no_panic {σ} (g : Rng σ) (r : RegionId) (maxPower : Nat) (gain : Int) (s : σ) (evs : List Ev)
    (hg : gainOk r gain = true) (hv : ∀ ev ∈ evs, validEv r ev = true) :
    ∀ site, run g (MacState.init (RegionState.init r) maxPower gain, s) evs ≠ .error (.panic site) :=
  (run_safe g _ s evs (init_wf r maxPower gain hg) hv).no_panic

/-- the same with a join bias configured (`set_join_bias`, fixed-plan regions) -/
theorem run_bias_no_panic {σ} (g : Rng σ) (r : RegionId) (maxPower : Nat) (gain : Int) (sb retries : Nat) (s : σ)
    (evs : List Ev) (hg : gainOk r gain = true) (hsb : 1 ≤ sb ∧ sb ≤ 8) (hv : ∀ ev ∈ evs, validEv r ev = true) :
    ∀ site, run g (MacState.init ((RegionState.init r).setJoinBias sb retries) maxPower gain, s) evs ≠ .error (.panic site) :=
  (run_safe g _ s evs (init_bias_wf r maxPower gain sb retries hg hsb) (by cases r <;> exact hv)).no_panic

/-- every state a history reaches is well-formed (so the next call cannot panic either) -/
theorem run_wf {σ} (g : Rng σ) (r : RegionId) (maxPower : Nat) (gain : Int) (s s' : σ) (evs : List Ev) (m' : MacState)
    (outs : List Out) (hg : gainOk r gain = true) (hv : ∀ ev ∈ evs, validEv r ev = true)
    (hr : run g (MacState.init (RegionState.init r) maxPower gain, s) evs = .ok ((m', s'), outs)) : MacWF m' :=
  ((run_safe g _ s evs (init_wf r maxPower gain hg) hv).elim hr).1

/-- **in every well-formed state (e.g. with a join bias configured) the next `send` and the next `join` can
return**: there is a draw value on which every retry loop they may enter accepts at once -/
theorem accept_nonempty (m : MacState) (h : MacWF m) :
    (∃ v, v < 64 ∧ ∀ {τ : Type} (t : τ), ∃ res, macJoinOtaa (constGen v) m t = .ok res) ∧
    (∀ data fport conf, (fport = 0 → data = []) → data.length ≤ 222 →
      ∃ v, v < 64 ∧ ∀ {τ : Type} (t : τ), ∃ res, macSend (constGen v) m data fport conf t = .ok res) :=
  ⟨macJoinOtaa_returns m h, fun data fport conf h0 hl => macSend_returns m data fport conf h h0 hl⟩

/-- **in every state a history reaches, the next `send` and the next `join` can return**: there is
a draw value on which every retry loop they may enter accepts at once (the accept sets are not
empty) — for the channel-plan and join-walk state reached by ANY history of valid events from the
initial state of any region, whatever masks, channels, data rates and join attempts it went through.
Together with `run_no_panic`: a call can only fail to return by the random generator never offering
an accepted value. -/
theorem run_accept_nonempty {σ} (g : Rng σ) (r : RegionId) (maxPower : Nat) (gain : Int) (s s' : σ) (evs : List Ev)
    (m' : MacState) (outs : List Out) (hg : gainOk r gain = true) (hv : ∀ ev ∈ evs, validEv r ev = true)
    (hr : run g (MacState.init (RegionState.init r) maxPower gain, s) evs = .ok ((m', s'), outs)) :
    (∃ v, v < 64 ∧ ∀ {τ : Type} (t : τ), ∃ res, macJoinOtaa (constGen v) m' t = .ok res) ∧
    (∀ data fport conf, (fport = 0 → data = []) → data.length ≤ 222 →
      ∃ v, v < 64 ∧ ∀ {τ : Type} (t : τ), ∃ res, macSend (constGen v) m' data fport conf t = .ok res) :=
  accept_nonempty m' (run_wf g r maxPower gain s s' evs m' outs hg hv hr)

/-! ## the device front-ends: no panic for every script (by refinement)

`Lemmas/RefineOps.lean` proves that a session of the async front-end model (`asyncOps`: `send` /
`join` under ANY script of radio answers — any length, errors at any call, frames in any window and,
in Class C, heard between the windows —, ABP activation, the setters) is simulated by the extended
history `runC` of the events `abstractOp` reads off the scripts; `runC_safe` (the history invariant
`MacWF` over both event types, by one walk) then excludes every panic of the MAC.  What remains are the
front-end's own two arithmetic sites: the `u32` computation `delay + tx_ms − lead` of the window timers, which
depends on the board's timing constants and on the RX1 delay of the state (`DelayOk`). -/

/-- a device that has not been used yet -/
def asyncStart (m : MacState) : DevRun := { m := m, script := [], calls := [], downlinks := [] }

/-- **no session of the async front-end panics in the MAC, whatever the radio answers**: from any
well-formed state, for both classes, every list of valid calls and every script, a panic of
`asyncOps` can only be the timer arithmetic `delay + tx_ms − lead` -/
theorem async_no_panic_from {σ} (g : Rng σ) (cfg : DevCfg) (d : DevRun) (rs : σ) (ops : List AsyncOp) (h : MacWF d.m)
    (hv : ∀ op ∈ ops, op.valid d.m.region.id = true) (site : String)
    (hp : asyncOps g cfg d rs ops = .error (.panic site)) :
    site = "rx start delay overflow" ∨ site = "rx start delay underflow" := by
  rcases (asyncOps_sim g cfg d rs ops).elim_error hp with hx | hx
  · exact hx
  · exact ((runC_safe g d.m rs _ h (abstractSessionC_valid cfg _ ops hv)).no_panic site hx).elim

theorem async_no_panic {σ} (g : Rng σ) (cfg : DevCfg) (r : RegionId) (maxPower : Nat) (gain : Int) (rs : σ)
    (ops : List AsyncOp) (hg : gainOk r gain = true) (hv : ∀ op ∈ ops, op.valid r = true) (site : String)
    (hp : asyncOps g cfg (asyncStart (MacState.init (RegionState.init r) maxPower gain)) rs ops = .error (.panic site)) :
    site = "rx start delay overflow" ∨ site = "rx start delay underflow" :=
  async_no_panic_from g cfg (asyncStart (MacState.init (RegionState.init r) maxPower gain)) rs ops (init_wf r maxPower gain hg) hv site hp

/-- the front-end's only remaining failure when the board's timing constants are sane: the model's
bound on the frames heard in one `between_windows` (a hang value, not a panic) -/
def OnlyHang : Fault → Prop
  | .hang s => s = "between_windows"
  | .panic _ => False

/-- **no session of the async front-end panics at all, whatever the radio answers**, when the board's
timing constants are sane (`TimingOk`: lead ≤ 1 s + time on air, 16 s + time on air fits a `u32`): from
any well-formed state whose RX1 delay is between 1 s and 15 s — an invariant of every step
(`stepC_delayOk`; the initial state has 1 s) — the `u32` arithmetic of the window timers cannot fail
either, because the delays it reads are the ones in force when the frame was built (`winC_none_params`). -/
theorem async_no_panic_timing_from {σ} (g : Rng σ) (cfg : DevCfg) (hT : TimingOk cfg) (d : DevRun) (rs : σ)
    (ops : List AsyncOp) (h : MacWF d.m) (hd : DelayOk d.m) (hv : ∀ op ∈ ops, op.valid d.m.region.id = true) (site : String) :
    asyncOps g cfg d rs ops ≠ .error (.panic site) := by
  intro hp
  have hsim := asyncOps_simX (X := OnlyHang) rfl g cfg DelayOk
    (fun m s ev ms' oc hI hs => stepC_delayOk g m s ev ms' oc hI hs)
    (fun m join second e hI he => by
      obtain ⟨h1, h2⟩ := macRxDelay_range m hI join second
      exact (startDelay_timingOk cfg hT _ h1 h2 e he).elim)
    d rs ops hd
  rcases hsim.elim_error hp with hx | hx
  · exact hx
  · exact (runC_safe g d.m rs _ h (abstractSessionC_valid cfg _ ops hv)).no_panic site hx

theorem async_no_panic_timing {σ} (g : Rng σ) (cfg : DevCfg) (hT : TimingOk cfg) (r : RegionId) (maxPower : Nat) (gain : Int)
    (rs : σ) (ops : List AsyncOp) (hg : gainOk r gain = true) (hv : ∀ op ∈ ops, op.valid r = true) (site : String) :
    asyncOps g cfg (asyncStart (MacState.init (RegionState.init r) maxPower gain)) rs ops ≠ .error (.panic site) :=
  async_no_panic_timing_from g cfg hT (asyncStart (MacState.init (RegionState.init r) maxPower gain)) rs ops
    (init_wf r maxPower gain hg) (init_delayOk _ _ _) hv site

/-- every state a session reaches is well-formed again (so the next call cannot panic either) -/
theorem async_wf {σ} (g : Rng σ) (cfg : DevCfg) (d d' : DevRun) (rs rs' : σ) (ops : List AsyncOp) (obs : List OpObs)
    (h : MacWF d.m) (hv : ∀ op ∈ ops, op.valid d.m.region.id = true)
    (hr : asyncOps g cfg d rs ops = .ok (obs, d', rs')) : MacWF d'.m := by
  obtain ⟨ocs, hrun, _⟩ := asyncOps_runC g cfg d rs ops obs d' rs' hr
  exact ((runC_safe g d.m rs _ h (abstractSessionC_valid cfg _ ops hv)).elim hrun).1

/-- **no event sequence of the non-blocking front-end panics in the MAC.**  From `Idle` in any
well-formed MAC state, for every sequence of application / radio / timer events (valid `send` payloads,
well-formed decoded views) with ANY radio answers: a panic of `nbRun` can only be one of the state
machine's own — the `i32` / `u32` arithmetic on the radio's timestamps and the window times, or the
`panic!` of `SendingData` on a radio that answers a pending transmission with anything but `TxDone`.
Every MAC call the state machine makes is the prefix of a `History.step` (`nbStep_fault`), which
cannot panic (`step_safe`). -/
theorem nb_no_panic {σ} (g : Rng σ) (cfg : NbCfg) (r : NbRun) (rs : σ) (evs : List (NbEvent × List NbItem))
    (hidle : r.st = .idle) (h : MacWF r.m) (hv : ∀ x ∈ evs, x.1.valid = true) (site : String)
    (hp : nbRun g cfg r rs evs = .error (.panic site)) :
    site = "t1 i32 overflow" ∨ site = "u32 add overflow" ∨ site = "u32 sub underflow" ∨
      site = "SendingData: Unexpected radio response" :=
  nbRun_fault g cfg (r.m, rs) none r rs evs site (nbInv_idle g r rs hidle) h rfl hv hp

example : ∃ r, channelMaskUpdate (RegionState.init .US915) Mask.default 4 0xAB 0xFF = .ok r := channelMaskUpdate_ok _ _ _ _ _ (by decide) |>.imp (fun _ h => h.1)
example : (channelMaskUpdate (RegionState.init .EU868) Mask.default 4 1 2).toOption = some none := by decide

/-- the hypotheses are satisfiable: initial states, admissible gains, a concrete history -/
example : MacWF (MacState.init (RegionState.init .EU868) 14 2) := by decide
example : MacWF (MacState.init (RegionState.init .US915) 30 (-3)) := by decide
example : MacWF (MacState.init ((RegionState.init .AU915).setJoinBias 2 3) 22 0) := by decide
example : gainOk .IN865 (-97) = true ∧ gainOk .IN865 (-98) = false := by decide

def lcg : Rng Nat := fun x => ((x * 1103515245 + 12345) / 65536, x * 1103515245 + 12345)

/-- LinkADRReq (ChMaskCntl 6, DR 5, TXPower 1), NewChannelReq, DevStatusReq in FOpts of a confirmed downlink -/
def demoDownlink : RxView :=
  .data { len := 30, confirmed := true, fcnt16 := 7, micFcnt := some 7,
          fopts := [0x03, 0x51, 0xFF, 0x00, 0x60, 0x07, 0x04, 0x18, 0x4F, 0x84, 0x50, 0x06], fport := some 1, payload := [1, 2, 3] }

def demoHistory : List Ev :=
  [ .joinOtaa none (some (.joinAccept { micOk := true, devAddr := 1, dlSettings := 0x2F, rxDelay := 0, nwkKey := 3, appKey := 4, cfList := some (.dynamicChannel [867100000, 867300000, 0, 1, 867900000]) }, 5)) none 250 250,
    .uplink [1, 2, 3] 1 true none (some (demoDownlink, -3)) none 250 250,
    .rxc .garbage 0 250,
    .uplink [] 0 false (some 1) (some (.garbage, 0)) none 250 250,
    .setDr 3, .setAdr false,
    .uplink [9] 2 false none none none 250 250 ]

example : ∀ ev ∈ demoHistory, validEv .EU868 ev = true := by decide +kernel
example : (run lcg (MacState.init (RegionState.init .EU868) 14 2, 1) demoHistory).toOption.map (fun r => r.2.length) = some 7 := by decide +kernel

/-- a Class C session on the async front-end: OTAA join (JoinAccept in RX1), a confirmed uplink during
which a Class C downlink is heard between TX and RX1 and the RX1 frame carries MAC commands, an uplink
whose RX2 set-up fails, an uplink with garbage in both windows -/
def demoOps : List AsyncOp :=
  [ .join [.ok, .ok, .ok, .ok, .frame 5 (.joinAccept { micOk := true, devAddr := 1, dlSettings := 0x2F, rxDelay := 0, nwkKey := 3, appKey := 4, cfList := some (.dynamicChannel [867100000, 867300000, 0, 1, 867900000]) })],
    .send [1, 2, 3] 1 true [.ok, .ok, .frame 2 (.data { len := 14, confirmed := false, fcnt16 := 1, micFcnt := some 1, fopts := [], fport := some 9, payload := [7] }), .ok, .ok, .frame (-3) demoDownlink],
    .send [] 0 false [.ok, .ok, .ok, .ok, .ok, .ok, .ok, .ok, .err],
    .setDr 3,
    .send [9] 2 false [.ok, .ok, .ok, .ok, .frame 0 .garbage, .ok, .ok, .ok, .ok, .frame 0 .garbage] ]

def demoCfg : DevCfg := { lead := 15, buffer := 40, classC := true, txMs := 57 }

example : ∀ op ∈ demoOps, op.valid .EU868 = true := by decide +kernel
example : TimingOk demoCfg := by unfold TimingOk demoCfg; decide
example : (asyncOps lcg demoCfg (asyncStart (MacState.init (RegionState.init .EU868) 14 2)) 1 demoOps).toOption.map
    (fun r => (r.1.map (fun ob => ob.res), r.2.1.downlinks)) =
    some ([some (.ok .joinSuccess), some (.ok (.downlinkReceived 7)), some .errRadio, none, some (.ok .rxComplete)],
      [(1, [1, 2, 3]), (9, [7])]) := by decide +kernel

/-- the same exchange pattern on the non-blocking front-end (started from an ABP session): `TxDone`
through a radio event, a stray frame and an accepted one in RX1; then a send refused while busy,
an exchange running into the RX2 timeout with a radio error on the way -/
def demoNb : List (NbEvent × List NbItem) :=
  [ (.send [1] 1 true, []), (.send [2] 1 false, []), (.radio (.txDone 100), []), (.timeout, []),
    (.radio (.rx 0 .garbage), []), (.radio (.rx (-3) demoDownlink), []),
    (.send [2] 1 false, [.txDoneNow 5000]), (.join, []), (.timeout, [.err]), (.timeout, []), (.timeout, []), (.timeout, []),
    (.timeout, []) ]

def demoNbStart : NbRun :=
  { m := macJoinAbp (MacState.init (RegionState.init .EU868) 14 2) 7 1 2, st := .idle, script := [], calls := [], downlinks := [] }

example : MacWF demoNbStart.m := by decide +kernel
example : ∀ x ∈ demoNb, x.1.valid = true := by decide +kernel
example : (nbRun lcg { offset := -20, duration := 200 } demoNbStart 1 demoNb).toOption.map (fun r => (r.1, r.2.1.st)) =
    some ([.uplinkSending 0, .errState "TxRequestDuringTx", .timeoutRequest 1080, .timeoutRequest 1280, .mac .noUpdate,
        .mac (.downlinkReceived 7), .timeoutRequest 5980, .errState "NewSessionWhileWaitingForRxWindow", .errRadio,
        .timeoutRequest 6180, .timeoutRequest 6980, .timeoutRequest 7180, .mac .rxComplete], .idle) := by decide +kernel

/-! ## `Device::rxc_listen`

`asyncListen` (`Model/Device.lean`) is the loop of `async_device::Device::rxc_listen` over a script of
radio answers: `rx_continuous`, `handle_rxc` under the size limit computed before the loop, `NoUpdate`
goes on listening, the response is converted with `ListenResponse::from` (`panic!` on anything but
`DownlinkReceived` / `SessionExpired`).  `Lemmas/RefineListen.lean`: the call refines the histories (a list of
`Ev.rxc`), and sessions may contain listen calls (`AsyncCall`, `asyncCalls_runC`). -/

/-- **`rxc_listen` never panics and never hangs.**  From any well-formed MAC state, for EVERY finite
script of radio answers (frames with any decoded view, errors, nothing heard): the call returns — no
panic of the MAC, the conversion `ListenResponse::from` is never reached with a response it panics on
(a `.ok` answer is `SessionExpired` or `DownlinkReceived`), and the loop ends (`hang "rxc_listen"` is
unreachable: every turn consumes an answer of the radio) — and leaves a well-formed state. -/
theorem async_listen_no_panic (r : DevRun) (h : MacWF r.m) (hv : scriptWF r.script = true) :
    ∃ res r', asyncListen r = .ok (res, r') ∧ MacWF r'.m ∧ r'.m.region.id = r.m.region.id ∧
      ∀ resp, res = .ok resp → resp = .sessionExpired ∨ ∃ n, resp = .downlinkReceived n := by
  obtain ⟨⟨res, r'⟩, he, hk, hres⟩ := asyncListen_tot r h hv
  exact ⟨res, r', he, hk.1, hk.2.1, hres⟩

/-- **no session of the async front-end — sends, joins, setters and `rxc_listen` calls in any order —
panics in the MAC, whatever the radio answers**: from any well-formed state, both classes, every list
of valid calls, every script: a panic of `asyncCalls` can only be the timer arithmetic
`delay + tx_ms − lead` of a `send` / `join`: a listen call returns, so the failing call is an `AsyncOp`
(`asyncCalls_fault`), to which `async_no_panic_from` applies. -/
theorem asyncCalls_no_panic_from {σ} (g : Rng σ) (cfg : DevCfg) (d : DevRun) (rs : σ) (calls : List AsyncCall)
    (h : MacWF d.m) (hv : ∀ c ∈ calls, c.valid d.m.region.id = true) (site : String)
    (hp : asyncCalls g cfg d rs calls = .error (.panic site)) :
    site = "rx start delay overflow" ∨ site = "rx start delay underflow" := by
  obtain ⟨d1, rs1, o, h1, _, hv1, he⟩ :=
    asyncCalls_fault g cfg (fun _ => True) (fun _ _ _ _ _ _ => trivial) d rs calls h trivial hv _ hp
  refine async_no_panic_from g cfg d1 rs1 [o] h1 (List.forall_mem_singleton.mpr hv1) site ?_
  rw [asyncOps_single, he]; rfl

theorem asyncCalls_no_panic {σ} (g : Rng σ) (cfg : DevCfg) (r : RegionId) (maxPower : Nat) (gain : Int) (rs : σ)
    (calls : List AsyncCall) (hg : gainOk r gain = true) (hv : ∀ c ∈ calls, c.valid r = true) (site : String)
    (hp : asyncCalls g cfg (asyncStart (MacState.init (RegionState.init r) maxPower gain)) rs calls = .error (.panic site)) :
    site = "rx start delay overflow" ∨ site = "rx start delay underflow" :=
  asyncCalls_no_panic_from g cfg (asyncStart (MacState.init (RegionState.init r) maxPower gain)) rs calls (init_wf r maxPower gain hg) hv site hp

/-- every state a session with listen calls reaches is well-formed again -/
theorem asyncCalls_wf {σ} (g : Rng σ) (cfg : DevCfg) (d d' : DevRun) (rs rs' : σ) (calls : List AsyncCall) (obs : List CallObs)
    (h : MacWF d.m) (hv : ∀ c ∈ calls, c.valid d.m.region.id = true)
    (hr : asyncCalls g cfg d rs calls = .ok (obs, d', rs')) : MacWF d'.m := by
  revert hr
  suffices Post (asyncCalls g cfg d rs calls) (fun r => MacWF r.2.1.m) from this _
  induction calls generalizing d rs with
  | nil => unfold asyncCalls; exact Post.pure h
  | cons c rest ih =>
    unfold asyncCalls
    refine Post.bind_eq ?_
    intro ⟨ob, d1, rs1⟩ hc
    simp only
    have hkp := asyncCall_keeps g cfg d rs c h (hv _ List.mem_cons_self) ob d1 rs1 hc
    exact Post.bind (ih d1 rs1 hkp.1 (fun c' hc' => by rw [hkp.2.1]; exact hv c' (List.mem_cons_of_mem _ hc')))
      (fun ⟨obs1, d2, rs2⟩ h2 => Post.pure h2)

/-- **no session with listen calls panics at all** when the board's timing constants are sane
(`async_no_panic_timing_from` at the failing call of `asyncCalls_fault`, with `DelayOk` for the invariant:
`rxc_listen` has no timer arithmetic, and its events keep the RX1 delay in range like every other event) -/
theorem asyncCalls_no_panic_timing_from {σ} (g : Rng σ) (cfg : DevCfg) (hT : TimingOk cfg) (d : DevRun) (rs : σ)
    (calls : List AsyncCall) (h : MacWF d.m) (hd : DelayOk d.m) (hv : ∀ c ∈ calls, c.valid d.m.region.id = true)
    (site : String) : asyncCalls g cfg d rs calls ≠ .error (.panic site) := by
  intro hp
  obtain ⟨d1, rs1, o, h1, hd1, hv1, he⟩ := asyncCalls_fault g cfg DelayOk (runC_delayOk g) d rs calls h hd hv _ hp
  refine async_no_panic_timing_from g cfg hT d1 rs1 [o] h1 hd1 (List.forall_mem_singleton.mpr hv1) site ?_
  rw [asyncOps_single, he]; rfl

theorem asyncCalls_no_panic_timing {σ} (g : Rng σ) (cfg : DevCfg) (hT : TimingOk cfg) (r : RegionId) (maxPower : Nat) (gain : Int)
    (rs : σ) (calls : List AsyncCall) (hg : gainOk r gain = true) (hv : ∀ c ∈ calls, c.valid r = true) (site : String) :
    asyncCalls g cfg (asyncStart (MacState.init (RegionState.init r) maxPower gain)) rs calls ≠ .error (.panic site) :=
  asyncCalls_no_panic_timing_from g cfg hT (asyncStart (MacState.init (RegionState.init r) maxPower gain)) rs calls
    (init_wf r maxPower gain hg) (init_delayOk _ _ _) hv site

/-! non-vacuity: a Class C session — ABP, an uplink, then `rxc_listen` hearing a forged frame, a replay-free
authentic downlink (acted upon: the call returns) and a frame it never gets to -/

def listenFrame (w : Nat) (N : Option Nat) : ScriptItem :=
  .frame 2 (.data { len := 14, confirmed := false, fcnt16 := w, micFcnt := N, fopts := [], fport := some 3, payload := [7] })

def demoCalls : List AsyncCall :=
  [ .op (.abp 7 1 2),
    .op (.send [1] 1 false []),
    .listen [listenFrame 5 none, listenFrame 6 (some 6), listenFrame 7 (some 7)],
    .listen [listenFrame 6 (some 6), .err],
    .listen [] ]

example : ∀ c ∈ demoCalls, c.valid .EU868 = true := by decide +kernel
example : MacWF (asyncStart (MacState.init (RegionState.init .EU868) 14 2)).m := by decide +kernel
example : (asyncCalls lcg demoCfg (asyncStart (MacState.init (RegionState.init .EU868) 14 2)) 1 demoCalls).toOption.map
    (fun r => (r.1.map (fun o => match o with | .listen res => some res | _ => none), r.2.1.m.fcntUp?, r.2.1.downlinks)) =
    some ([none, none, some (.ok (.downlinkReceived 6)), some .errRadio, some .listening], some 2, [(3, [7])]) := by
  decide +kernel

end C04

#print axioms C04.init_wf
#print axioms C04.init_bias_wf
#print axioms C04.step_wf
#print axioms C04.step_keeps
#print axioms C04.step_no_panic
#print axioms C04.step_rx_returns
#print axioms C04.run_no_panic
#print axioms C04.run_bias_no_panic
#print axioms C04.run_wf
#print axioms C04.run_accept_nonempty
#print axioms C04.accept_nonempty
#print axioms C04.channelMaskUpdate_ok
#print axioms C04.isEnabled_ok
#print axioms C04.drOfNat_ok
#print axioms C04.rx_datarate_ok
#print axioms C04.txPowerAdjust_ok
#print axioms C04.dynJoinLoop_no_panic
#print axioms C04.fixedMaskLoop_no_panic
#print axioms C04.init_dynWF
#print axioms C04.usable_ok
#print axioms C04.async_no_panic_from
#print axioms C04.async_no_panic
#print axioms C04.async_wf
#print axioms C04.async_no_panic_timing_from
#print axioms C04.async_no_panic_timing
#print axioms C04.nb_no_panic
#print axioms C04.async_listen_no_panic
#print axioms C04.asyncCalls_no_panic_from
#print axioms C04.asyncCalls_no_panic
#print axioms C04.asyncCalls_wf
#print axioms C04.asyncCalls_no_panic_timing_from
#print axioms C04.asyncCalls_no_panic_timing
