import LoraVerif.Model.Mac
import LoraVerif.Lemmas.ExceptLemmas
import LoraVerif.Props.C11Codec
import LoraVerif.Lemmas.CycleC
import LoraVerif.Lemmas.RefineC
/-!
# C11 — OTAA join establishes exactly the session the JoinAccept defines

On the MAC model: the JoinAccept arrives as the reference codec's view `RxJoinAccept`; the byte layout,
MIC and key derivation themselves are theorems on the codec model (`Props/C11Codec.lean`) and are also
checked against the LoRaWAN §6.2 formulas by the C11 correspondence oracle.  First one received frame
and one accept (`joined_iff_mic`, `accept_spec`, `no_accept`, `join_nonce`), then every join attempt of
every history (`JoinStep`: `step_join`, `history_join`, and the extended and front-end versions).
-/
open Model

namespace C11

theorem processJoinAccept_id (rs : RegionState) (cf : Option CfList) (rs' : RegionState)
    (h : processJoinAccept rs cf = .ok rs') : rs'.id = rs.id := by
  unfold processJoinAccept at h
  split at h
  · obtain ⟨chans, _, h⟩ := Except.bind_eq_ok h
    cases Except.pure_eq_ok h; rfl
  · cases Except.pure_eq_ok h; rfl
  · cases Except.pure_eq_ok h; rfl

theorem accept_spec (m : MacState) (j : RxJoinAccept) (m' : MacState) (h : otaaAccept m j = .ok m') :
    m'.st = .joined (Session.new j.devAddr j.nwkKey j.appKey) ∧
    processJoinAccept m.region j.cfList = .ok m'.region ∧
    delToDelayMs (j.rxDelay % 16) = .ok m'.cfg.rx1Delay ∧
    m'.cfg.rx1DrOffset = (if (j.dlSettings / 16) % 8 ≤ maxRx1DrOffset m.region.id then (j.dlSettings / 16) % 8 else m.cfg.rx1DrOffset) ∧
    m'.cfg.rx2DataRate = (if (getDatarate m.region.id (j.dlSettings % 16)).isSome then some (j.dlSettings % 16) else m.cfg.rx2DataRate) ∧
    m'.cfg.dataRate = m.cfg.dataRate ∧ m'.cfg.txPower = m.cfg.txPower ∧ m'.cfg.rx2Frequency = m.cfg.rx2Frequency ∧
    m'.cfg.adrEnabled = m.cfg.adrEnabled ∧ m'.maxPower = m.maxPower ∧ m'.antennaGain = m.antennaGain := by
  obtain ⟨region, d, hreg, hd, rfl⟩ := otaaAccept_ok h
  have hid : region.id = m.region.id := processJoinAccept_id _ _ _ hreg
  simp only [rx1DrOffsetValidate, hid]
  by_cases ho : (j.dlSettings / 16) % 8 ≤ maxRx1DrOffset m.region.id <;>
    by_cases hr : (getDatarate m.region.id (j.dlSettings % 16)).isSome = true <;>
    simp only [ho, hr, Bool.false_eq_true, if_true, if_false, hreg, hd, and_self]

theorem new_session (a n k : Nat) :
    (Session.new a n k).devAddr = a ∧ (Session.new a n k).fcntUp = 0 ∧ (Session.new a n k).fcntDown = none ∧
    (Session.new a n k).pending = [] ∧ (Session.new a n k).ackOwed = false ∧ (Session.new a n k).adrAckCnt = 0 :=
  ⟨rfl, rfl, rfl, rfl, rfl, rfl⟩

/-- joined exactly upon an authentic JoinAccept -/
theorem joined_iff_mic (m : MacState) (o : OtaaState) (hst : m.st = .otaa o) (v : RxView) (mp : Nat) (snr : Int)
    (out : Option RxOut) (m' : MacState) (h : macHandleRx m v mp snr false = .ok (out, m')) :
    ((∃ s, m'.st = .joined s) ↔ ∃ j, v = .joinAccept j ∧ j.micOk = true) ∧
    ((¬ ∃ j, v = .joinAccept j ∧ j.micOk = true) → m' = m ∧ out = some { resp := .noUpdate, downlink := none }) := by
  unfold macHandleRx at h
  simp only [hst, Bool.false_eq_true, if_false] at h
  cases v with
  | garbage | data _ =>
    cases Except.pure_eq_ok h
    simp [hst]
  | joinAccept j =>
    by_cases hm : j.micOk = true
    · simp only [hm, if_true] at h
      obtain ⟨m1, hacc, h⟩ := Except.bind_eq_ok h
      cases Except.pure_eq_ok h
      exact ⟨⟨fun _ => ⟨j, rfl, hm⟩, fun _ => ⟨_, (accept_spec m j _ hacc).1⟩⟩, fun hn => absurd ⟨j, rfl, hm⟩ hn⟩
    · simp only [hm, Bool.false_eq_true, if_false] at h
      cases Except.pure_eq_ok h
      refine ⟨⟨fun ⟨s, hs⟩ => ?_, fun ⟨j', hj', hm'⟩ => ?_⟩, fun _ => ⟨rfl, rfl⟩⟩
      · rw [hst] at hs; cases hs
      · cases hj'; exact absurd hm' hm

/-- no JoinAccept: `NoJoinAccept`, still joining, nothing changed -/
theorem no_accept (m : MacState) (o : OtaaState) (hst : m.st = .otaa o) :
    macRx2Complete m = (.noJoinAccept, m) := by
  unfold macRx2Complete; simp [hst]

theorem send_refused_while_joining {σ} (g : Rng σ) (m : MacState) (o : OtaaState) (hst : m.st = .otaa o)
    (data : List Nat) (port : Nat) (conf : Bool) (rs : σ) : macSend g m data port conf rs = .ok (none, m, rs) :=
  macSend_notJoined g m (fun s h => by rw [hst] at h; cases h) data port conf rs

/-- the JoinRequest carries the low 16 bits of the draw as DevNonce and the MAC remembers it -/
theorem join_nonce {σ} (g : Rng σ) (m : MacState) (rs : σ) (out : JoinOut) (m' : MacState) (rs' : σ)
    (h : macJoinOtaa g m rs = .ok (out, m', rs')) :
    out.devNonce = (draw g rs).1 % 65536 ∧ m'.st = .otaa { devNonce := out.devNonce } := by
  obtain ⟨dr, tx, region', pw, r1, r2, _, _, rfl, _, rfl⟩ := macJoinOtaa_ok g m rs rs' out m' h
  exact ⟨rfl, rfl⟩

def mOtaa : MacState := { MacState.init (RegionState.init .EU868) 14 0 with st := .otaa { devNonce := 7 } }
def ja : RxJoinAccept := { micOk := true, devAddr := 0x01020304, dlSettings := 0x23, rxDelay := 5, cfList := none, nwkKey := 3, appKey := 4 }
example : ((otaaAccept mOtaa ja).toOption.map (fun m => (m.cfg.rx1Delay, m.cfg.rx1DrOffset, m.cfg.rx2DataRate))) = some (5000, 2, some 3) := by decide
example : ((otaaAccept mOtaa { ja with dlSettings := 0x7F }).toOption.map (fun m => (m.cfg.rx1DrOffset, m.cfg.rx2DataRate))) = some (0, none) := by decide


/-- **what a join attempt leaves behind**, `m` the state before it (joined, joining or fresh):
a JoinRequest with a fresh DevNonce goes out; if an authentic JoinAccept `j` was heard in a window the
procedure served (RX1, else RX2), the device holds EXACTLY the session `j` defines — `Session.new` of
the assigned address and the keys derived for this DevNonce, counters restarted, nothing pending —
with `j`'s RX delay, DLSettings and CFList applied when the region defines them (`accept_spec`) and
every other parameter as before; otherwise it reports `NoJoinAccept`, is NOT joined (the previous
session, if any, is gone: `join_otaa` dropped it) and its configuration is untouched. -/
def JoinStep {σ} (g : Rng σ) (m : MacState) (rs : σ) (fault : Option Nat) (rx1 rx2 : Option (RxView × Int))
    (m' : MacState) (out : Out) : Prop :=
  ∃ jo m1 rs1, macJoinOtaa g m rs = .ok (jo, m1, rs1) ∧ m1.st = .otaa { devNonce := jo.devNonce } ∧ m1.cfg = m.cfg ∧
    match joinRes fault rx1 rx2 with
    | some j =>
      j.micOk = true ∧ ((∃ snr, rx1 = some (.joinAccept j, snr)) ∨ (∃ snr, rx2 = some (.joinAccept j, snr))) ∧
      otaaAccept m1 j = .ok m' ∧ m'.st = .joined (Session.new j.devAddr j.nwkKey j.appKey) ∧
      out = .join jo (if fault.isSome then none else some .joinSuccess)
    | none => m' = m1 ∧ out = .join jo (if fault.isSome then none else some .noJoinAccept)

theorem step_join {σ} (g : Rng σ) (m m' : MacState) (rs rs' : σ) (fault : Option Nat) (rx1 rx2 : Option (RxView × Int))
    (mp1 mp2 : Nat) (out : Out) (h : step g (m, rs) (.joinOtaa fault rx1 rx2 mp1 mp2) = .ok ((m', rs'), out)) :
    JoinStep g m rs fault rx1 rx2 m' out := by
  obtain ⟨jo, m1, o, hj, hst1, hcfg, ht⟩ := step_joinOtaa_inv g m m' rs rs' fault rx1 rx2 mp1 mp2 out h
  obtain ⟨hn, hst1'⟩ := join_nonce g m rs jo m1 rs' hj
  refine ⟨jo, m1, rs', hj, hst1', hcfg, ?_⟩
  cases hr : joinRes fault rx1 rx2 with
  | none => simp only [hr] at ht ⊢; exact ht
  | some j =>
    simp only [hr] at ht ⊢
    obtain ⟨snr, hh, hm⟩ := joinRes_heard hr
    exact ⟨hm, hh.imp (⟨snr, ·⟩) (⟨snr, ·⟩), ht.1, (accept_spec m1 j m' ht.1).1, ht.2⟩

/-- **C11 over every history**: at EVERY join attempt of every history — after any number of failed
attempts, from a joined state, after radio faults — `JoinStep` holds between the state before and
the state after. -/
theorem history_join {σ} (g : Rng σ) (m : MacState) (rs : σ) (evs : List Ev) (ms' : MacState × σ) (outs : List Out)
    (h : run g (m, rs) evs = .ok (ms', outs)) (i : Nat) (fault : Option Nat) (rx1 rx2 : Option (RxView × Int)) (mp1 mp2 : Nat)
    (out : Out) (hi : (evs.zip outs)[i]? = some (.joinOtaa fault rx1 rx2 mp1 mp2, out)) :
    ∃ mi rsi mi' rsi', Chain g (m, rs) ((evs.zip outs).take i) (mi, rsi) ∧
      Chain g (mi', rsi') ((evs.zip outs).drop (i + 1)) ms' ∧ JoinStep g mi rsi fault rx1 rx2 mi' out := by
  have hc := run_chain g (m, rs) ms' evs outs h
  obtain ⟨⟨mi, rsi⟩, ⟨mi', rsi'⟩, h1, hstep, h2⟩ := chain_at g (m, rs) ms' (evs.zip outs) i _ out hc hi
  exact ⟨mi, rsi, mi', rsi', h1, h2, step_join g mi mi' rsi rsi' fault rx1 rx2 mp1 mp2 out hstep⟩

/-! non-vacuity: a failed attempt, then a join accepted in RX2, then a re-join from the joined state
that fails: the device is not joined any more -/
def lcg : Rng Nat := fun x => ((x * 1103515245 + 12345) / 65536, x * 1103515245 + 12345)
def jaOk : Option (RxView × Int) := some (.joinAccept ja, 3)
def jaBad : Option (RxView × Int) := some (.joinAccept { ja with micOk := false }, 3)
def demoHistory : List Ev :=
  [ .joinOtaa none jaBad none 250 250, .joinOtaa none none jaOk 250 250, .uplink [1] 1 false none none none 51 51,
    .joinOtaa (some 1) none jaOk 250 250, .uplink [2] 1 false none none none 51 51 ]

def respOf : Out → String
  | .join _ (some .joinSuccess) => "JoinSuccess"
  | .join _ (some .noJoinAccept) => "NoJoinAccept"
  | .join _ none => "radio error"
  | .up _ _ _ => "uplink"
  | .notJoined => "not joined"
  | _ => ""

example : (run lcg (MacState.init (RegionState.init .EU868) 14 0, 1) demoHistory).toOption.map (fun r => r.2.map respOf) =
    some ["NoJoinAccept", "JoinSuccess", "uplink", "radio error", "not joined"] := by decide +kernel

/-! ## extended histories (`Model/HistoryC.lean`): the join procedure of the async front-end, both classes

A Class C device listens on the RXC parameters while it waits for RX1 and RX2 of a join procedure as
well.  Whatever it hears there (`c1`, `c2`: any frames) plays no part (`stepC_joinC_plain`): the
procedure is the plain `joinOtaa` with the fault position `joinFaultC` (radio faults only), so
`JoinStep` holds of it. -/

theorem stepC_join {σ} (g : Rng σ) (m m' : MacState) (rs rs' : σ) (cc : Bool) (fault : Option FaultPos)
    (c1 : List (RxView × Int)) (rx1 : Option (RxView × Int)) (c2 : List (RxView × Int)) (rx2 : Option (RxView × Int)) (out : OutC)
    (h : stepC g (m, rs) (.joinC cc fault c1 rx1 c2 rx2) = .ok ((m', rs'), out)) :
    JoinStep g m rs (joinFaultC fault rx1) rx1 rx2 m' out.out :=
  step_join g m m' rs rs' _ rx1 rx2 0 0 out.out (stepC_joinC_plain g _ _ cc fault c1 rx1 c2 rx2 out h).1

/-- **C11 over every extended history**: at EVERY join procedure of every extended history — either
class, whatever is heard on the RXC parameters between the windows, after any number of failed
attempts, from a joined state, after radio faults — `JoinStep` holds between the state before and the
state after. -/
theorem historyC_join {σ} (g : Rng σ) (m : MacState) (rs : σ) (evs : List EvC) (ms' : MacState × σ) (outs : List OutC)
    (h : runC g (m, rs) evs = .ok (ms', outs)) (i : Nat) (mpc : Nat) (cc : Bool) (fault : Option FaultPos)
    (c1 : List (RxView × Int)) (rx1 : Option (RxView × Int)) (c2 : List (RxView × Int)) (rx2 : Option (RxView × Int)) (out : OutC)
    (hi : ((annotC g (m, rs) evs).zip outs)[i]? = some ((mpc, .joinC cc fault c1 rx1 c2 rx2), out)) :
    ∃ mi rsi mi' rsi', ChainC g (m, rs) (((annotC g (m, rs) evs).zip outs).take i) (mi, rsi) ∧
      ChainC g (mi', rsi') (((annotC g (m, rs) evs).zip outs).drop (i + 1)) ms' ∧
      JoinStep g mi rsi (joinFaultC fault rx1) rx1 rx2 mi' out.out := by
  have hc := runC_chain g (m, rs) ms' evs outs h
  obtain ⟨⟨mi, rsi⟩, ⟨mi', rsi'⟩, h1, _, hstep, h2⟩ := chainC_at g (m, rs) ms' _ i _ out hc hi
  exact ⟨mi, rsi, mi', rsi', h1, h2, stepC_join g mi mi' rsi rsi' cc fault c1 rx1 c2 rx2 out hstep⟩

/-- **C11 on the async front-end, for EVERY script, both classes**: a session that returns is a run of
its extended history (outputs = the front-end's answers, `ObsRel`), and `JoinStep` holds at every join
procedure of it -/
theorem asyncC_join {σ} (g : Rng σ) (cfg : DevCfg) (d : DevRun) (rs : σ) (ops : List AsyncOp)
    (obs : List OpObs) (d' : DevRun) (rs' : σ) (h : asyncOps g cfg d rs ops = .ok (obs, d', rs')) :
    ∃ outs, runC g (d.m, rs) (abstractSessionC cfg ops) = .ok ((d'.m, rs'), outs) ∧ AllRel ObsRel obs outs ∧
      ∀ i mpc cc fault c1 rx1 c2 rx2 out,
        ((annotC g (d.m, rs) (abstractSessionC cfg ops)).zip outs)[i]? = some ((mpc, .joinC cc fault c1 rx1 c2 rx2), out) →
        ∃ mi rsi mi', ChainC g (d.m, rs) (((annotC g (d.m, rs) (abstractSessionC cfg ops)).zip outs).take i) (mi, rsi) ∧
          JoinStep g mi rsi (joinFaultC fault rx1) rx1 rx2 mi' out.out := by
  obtain ⟨outs, hrun, hobs⟩ := asyncOps_runC g cfg d rs ops obs d' rs' h
  refine ⟨outs, hrun, hobs, ?_⟩
  intro i mpc cc fault c1 rx1 c2 rx2 out hi
  obtain ⟨mi, rsi, mi', rsi', h1, _, hj⟩ := historyC_join g d.m rs _ _ outs hrun i mpc cc fault c1 rx1 c2 rx2 out hi
  exact ⟨mi, rsi, mi', h1, hj⟩

/-! non-vacuity: a Class C device; a failed attempt with noise between the windows, then a join accepted
in RX2 although frames were heard on the RXC parameters before RX1 and before RX2 -/
def demoHistoryC : List EvC :=
  [ .joinC true none [(.garbage, 0)] jaBad [] none,
    .joinC true none [(.garbage, 0), (.joinAccept ja, 1)] none [(.garbage, 2)] jaOk,
    .uplinkC true [1] 1 false none [] none [] none ]

example : (runC lcg (MacState.init (RegionState.init .EU868) 14 0, 1) demoHistoryC).toOption.map (fun r => r.2.map (fun o => respOf o.out)) =
    some ["NoJoinAccept", "JoinSuccess", "uplink"] := by decide +kernel

end C11

#print axioms C11.accept_spec
#print axioms C11.joined_iff_mic
#print axioms C11.no_accept
#print axioms C11.send_refused_while_joining
#print axioms C11.join_nonce
#print axioms C11.join_request_bytes
#print axioms C11.join_accept_decode
#print axioms C11.join_accept_fields
#print axioms C11.session_keys
#print axioms C11.step_join
#print axioms C11.history_join
#print axioms C11.stepC_join
#print axioms C11.historyC_join
#print axioms C11.asyncC_join
