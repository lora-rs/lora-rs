import LoraVerif.Props.TieA.MacTop
/-!
# C04 / C07 / C11 — the dispatch of the MAC's state machine, regenerated (tie A)

The regenerated dispatch (`Gen/MacTopFn.lean`, carriers and maps of `Props/TieA/MacTop.lean`) equals the model's
`macHandleRx`, `macRx2Complete`, `macJoinAbp` for every state and argument.  The theorems that go through a `Session` /
`Otaa` method carry the hypothesis `Sim ops` and are therefore named `…_partial`; `Sim` is a hypothesis that nothing
shows satisfiable (see its definition).  The theorems without `_partial` in `MacTopRx` / `MacTopGen` / `MacTopOtaa` have
the regenerated operations inside instead.
-/
set_option linter.unusedVariables false
open Model TieA.MacTop

namespace C07

/-- `Mac::handle_rx` = the model's `macHandleRx` in a Class A window, for
every state, buffer (decoded view), downlink queue, SNR and window size: joined → the session's `handle_rx` with
`ignore_mac = false` on region, configuration and queue, the session written back; joining → the join step, and
`Joined(session)` with `JoinSuccess` iff it yields a session, else `NoUpdate` with the join state kept; unjoined →
`NoUpdate`, nothing changed.  A panic on one side iff on the other. -/
theorem tieA_mac_handle_rx_partial (ops : GOps) (h : Sim ops) (D : Int) (g : GMac) (buf : RxView)
    (dl : List (Nat × List Nat)) (snr : Int) (rf : Gen.MacTopFn.RfConfig) :
    (Gen.MacTopFn.Mac.handle_rx ops D g buf dl snr rf).map (fun (r, g', _, dl') => (r, macM g', dl'))
      = (macHandleRx (macM g) buf rf.max_payload_len.toNat snr false).toOption.bind
          (fun (o, m') => o.map (fun o => (respG o.resp, m', dl ++ o.downlink.toList))) := by
  obtain ⟨cfg, reg, eirp, st⟩ := g
  cases st with
  | Unjoined => simp [Gen.MacTopFn.Mac.handle_rx, macHandleRx, macM, stateM, Except.toOption, pure, Except.pure, respG]
  | Joined s =>
    rw [← joined_tie ops h cfg reg eirp s buf dl rf.max_payload_len snr false]
    simp only [Gen.MacTopFn.Mac.handle_rx]
    cases ops.session_handle_rx s reg cfg buf dl rf.max_payload_len snr false <;> rfl
  | Otaa o =>
    -- both sides are images of the two sides of `Sim.otaa_handle_rx` under the write-back into `Mac`
    have hf := congrArg (Option.map fun x : Option Session × OtaaState × RegionState × Config =>
        match x.1 with
        | some s => (Gen.MacTopFn.Response.JoinSuccess,
            (⟨x.2.2.2, x.2.2.1, eirp.max_power.toNat, eirp.antenna_gain, .joined s⟩ : MacState), dl)
        | none => (.NoUpdate, ⟨x.2.2.2, x.2.2.1, eirp.max_power.toNat, eirp.antenna_gain, .otaa x.2.1⟩, dl))
      (h.otaa_handle_rx o reg cfg buf)
    refine Eq.trans ?_ (hf.trans ?_)
    · simp only [Gen.MacTopFn.Mac.handle_rx]
      cases ops.otaa_handle_rx o reg cfg buf with
      | none => rfl
      | some v =>
        obtain ⟨r, o', reg', cfg', b'⟩ := v
        cases r <;> rfl
    · simp only [macHandleRx, macM, stateM]
      cases buf with
      | garbage => simp [respG, Except.toOption, pure, Except.pure]
      | data d => simp [respG, Except.toOption, pure, Except.pure]
      | joinAccept j =>
        dsimp only
        cases hmic : j.micOk with
        | false => simp [respG, Except.toOption, pure, Except.pure]
        | true =>
          simp only [if_true, Bool.false_eq_true, if_false]
          simp only [otaaAccept_joining ⟨cfgM cfg, reg, eirp.max_power.toNat, eirp.antenna_gain, .otaa o⟩ o j]
          cases hm : otaaAccept (joining o reg (cfgM cfg)) j with
          | error e => simp [Except.toOption, bind, Except.bind, Except.map]
          | ok m' =>
            have hst := Model.otaaAccept_st (joining o reg (cfgM cfg)) m' j hm
            simp [Except.toOption, bind, Except.bind, pure, Except.pure, Except.map, hst, respG]

/-- `Mac::handle_rxc` = the model's `macHandleRx` with `classC = true`: joined → the session's
`handle_rx` with `ignore_mac = true`; joining or unjoined → `Err(NotJoined)` (`none`) and NOTHING changed, whatever
was received. -/
theorem tieA_mac_handle_rxc_partial (ops : GOps) (h : Sim ops) (D : Int) (g : GMac) (buf : RxView)
    (dl : List (Nat × List Nat)) (snr : Int) (rf : Gen.MacTopFn.RfConfig) :
    (Gen.MacTopFn.Mac.handle_rxc ops D g buf dl snr rf).map (fun (r, g', _, dl') => (r, macM g', dl'))
      = (macHandleRx (macM g) buf rf.max_payload_len.toNat snr true).toOption.map
          (fun (o, m') => (o.map (fun o => respG o.resp), m', dl ++ (o.bind (·.downlink)).toList)) := by
  obtain ⟨cfg, reg, eirp, st⟩ := g
  cases st with
  | Unjoined => simp [Gen.MacTopFn.Mac.handle_rxc, macHandleRx, macM, stateM, Except.toOption, pure, Except.pure]
  | Otaa o => simp [Gen.MacTopFn.Mac.handle_rxc, macHandleRx, macM, stateM, Except.toOption, pure, Except.pure]
  | Joined s =>
    have hj := congrArg (Option.map fun x : Gen.MacTopFn.Response × MacState × List (Nat × List Nat) => (some x.1, x.2))
      (joined_tie ops h cfg reg eirp s buf dl rf.max_payload_len snr true)
    refine Eq.trans ?_ (hj.trans ?_)
    · simp only [Gen.MacTopFn.Mac.handle_rxc]
      cases ops.session_handle_rx s reg cfg buf dl rf.max_payload_len snr true <;> rfl
    · simp only [macHandleRx, macM, stateM]
      cases buf with
      | data d =>
        dsimp only
        cases sessionHandleRx s (cfgM cfg) reg d rf.max_payload_len.toNat snr true <;> rfl
      | garbage => rfl
      | joinAccept j => rfl

/-- the hypothesis-free half of `handle_rxc`: without a session the regenerated method answers `Err(NotJoined)` and
returns the `Mac`, the buffer and the queue it was given — for EVERY record of operations -/
theorem tieA_mac_handle_rxc_not_joined (ops : GOps) (D : Int) (g : GMac) (buf : RxView) (dl : List (Nat × List Nat))
    (snr : Int) (rf : Gen.MacTopFn.RfConfig) (hn : Gen.MacTopFn.Mac.is_joined g = false) :
    Gen.MacTopFn.Mac.handle_rxc ops D g buf dl snr rf = some (none, g, buf, dl) := by
  obtain ⟨cfg, reg, eirp, st⟩ := g
  cases st with
  | Joined s => simp [Gen.MacTopFn.Mac.is_joined] at hn
  | Otaa o => rfl
  | Unjoined => rfl

end C07

namespace C04

/-- `Mac::rx2_complete` = the model's `macRx2Complete`: joined → the session's `rx2_complete` (session and
configuration written back); joining → `NoJoinAccept`, state kept; unjoined → `NoUpdate`. -/
theorem tieA_mac_rx2_complete_partial (ops : GOps) (h : Sim ops) (g : GMac) :
    (Gen.MacTopFn.Mac.rx2_complete ops g).map (fun (r, g') => (r, macM g'))
      = some (let (r, m') := macRx2Complete (macM g); (respG r, m')) :=
  mac_rx2_complete_of ops g (fun s _ => h.session_rx2_complete s _ _) h.otaa_rx2_complete

/-- `Mac::get_fcnt_up`: the session's uplink counter iff joined -/
theorem tieA_mac_get_fcnt_up (g : GMac) :
    Gen.MacTopFn.Mac.get_fcnt_up g = (match (macM g).st with | .joined s => some (s.fcntUp : Int) | _ => none) := by
  obtain ⟨cfg, reg, eirp, st⟩ := g
  cases st <;> rfl

end C04

namespace C11

/-- `Mac::join_abp` = the model's `macJoinAbp`: from ANY state (also a joined one) the state becomes
`Joined(Session::new(..))`; configuration and region untouched. -/
theorem tieA_mac_join_abp_partial (ops : GOps) (h : Sim ops) (g : GMac) (nwk app addr : Nat) :
    macM (Gen.MacTopFn.Mac.join_abp ops g nwk app addr) = macJoinAbp (macM g) addr nwk app := by
  simp [Gen.MacTopFn.Mac.join_abp, macJoinAbp, macM, stateM, h.session_new]

/-- `Mac::is_joined`: true exactly in `State::Joined` -/
theorem tieA_mac_is_joined (g : GMac) :
    Gen.MacTopFn.Mac.is_joined g = (match (macM g).st with | .joined _ => true | _ => false) := by
  obtain ⟨cfg, reg, eirp, st⟩ := g
  cases st <;> rfl

end C11

/-! The regenerated dispatch evaluated on a concrete record of operations (every session operation answers `RxComplete`
and bumps the counter; the join step yields a fresh session).  The record does not satisfy `Sim` (its `session_handle_rx`
answers `RxComplete` for a buffer that is no data frame): these examples exercise the dispatch, not the hypothesis. -/
namespace TieA.MacTop.Example
def cfg0 : Gen.MacTopFn.Configuration :=
  { data_rate := ._0, rx1_delay := 1000, join_accept_delay1 := 5000, join_accept_delay2 := 6000, tx_power := none,
    rx1_dr_offset := 0, rx2_data_rate := none, rx2_frequency := none, adr_enabled := true }
def reg0 : RegionState := (MacState.init (Model.RegionState.init .EU868) 14 0).region
def ops0 : GOps :=
  { session_new := fun nwk app addr => Session.new addr nwk app
    session_prepare_buffer := fun s _ b _ _ => some ((s.fcntUp : Int), s, b)
    session_handle_rx := fun s r c b dl _ _ _ => some (.RxComplete, { s with fcntUp := s.fcntUp + 1 }, r, c, b, dl)
    session_rx2_complete := fun s c _ => some (.RxComplete, { s with fcntUp := s.fcntUp + 1 }, c)
    otaa_new := fun _ => { devNonce := 0 }
    otaa_prepare_buffer := fun o (r : Nat) b => some (7, { devNonce := 7 }, (r + 1 : Nat), b)
    otaa_handle_rx := fun o r c b => some (some (Session.new 1 2 3), o, r, c, b)
    otaa_rx2_complete := fun o => (.NoJoinAccept, o)
    create_tx_config := fun _ _ _ _ => none
    adjust_power := fun t _ _ => some t
    rx_windows := fun _ _ _ => none }
def g0 : GMac := { configuration := cfg0, region := reg0, board_eirp := ⟨14, 0⟩, state := .Unjoined }

example : (Gen.MacTopFn.Mac.handle_rxc ops0 8 g0 .garbage [] 0 ⟨51⟩).map (·.1) = some none := rfl
example : Gen.MacTopFn.Mac.is_joined (Gen.MacTopFn.Mac.join_abp ops0 g0 (2 : Nat) (3 : Nat) (1 : Nat)) = true := rfl
example : ((Gen.MacTopFn.Mac.rx2_complete ops0 (Gen.MacTopFn.Mac.join_abp ops0 g0 (2 : Nat) (3 : Nat) (1 : Nat))).map
    (fun x => Gen.MacTopFn.Mac.get_fcnt_up x.2)) = some (some 1) := rfl
example : ((Gen.MacTopFn.Mac.handle_rx ops0 8 { g0 with state := .Otaa ⟨5⟩ } .garbage [] 0 ⟨51⟩).map
    (fun x => (x.1, Gen.MacTopFn.Mac.is_joined x.2.1))) = some (.JoinSuccess, true) := rfl
end TieA.MacTop.Example

#print axioms C07.tieA_mac_handle_rx_partial
#print axioms C07.tieA_mac_handle_rxc_partial
#print axioms C07.tieA_mac_handle_rxc_not_joined
#print axioms C04.tieA_mac_rx2_complete_partial
#print axioms C04.tieA_mac_get_fcnt_up
#print axioms C11.tieA_mac_join_abp_partial
#print axioms C11.tieA_mac_is_joined
