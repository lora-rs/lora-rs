import LoraVerif.Model.Mac
import LoraVerif.Gen.SetAdrAsync
import LoraVerif.Gen.SetAdrNb
import LoraVerif.Gen.SetAdrHook
/-!
# C12 / C09, tie A: `Device::set_adr` / `Device::set_datarate` of both front-ends and of the hook
facade `VerifMac` as SEMANTIC functions

Each of the three units (`Gen/SetAdrAsync.lean`, `Gen/SetAdrNb.lean`, `Gen/SetAdrHook.lean`) is the
state-passing translation of the current source: the device value in, the device value out.
`Mac::get_session_mut(&mut self) -> Option<&mut Session>` is translated as a getter/setter pair
(`Mac.get_session_mut.get` / `.set`): the `session` bound by `if … && let Some(session) = …` is a copy
that is written back where the reference pointed after the branch.  The three sections below are the
same text instantiated for the three units (their generated types live in three namespaces).
-/

namespace TieA.Async
open Model Gen.Region

def cfgOf (g : Gen.SetAdrAsync.Configuration) : Config :=
  { dataRate := g.data_rate.toInt.toNat, rx1Delay := g.rx1_delay.toNat, txPower := g.tx_power.map Int.toNat,
    rx1DrOffset := g.rx1_dr_offset.toNat, rx2DataRate := g.rx2_data_rate.map (fun d => d.toInt.toNat),
    rx2Frequency := g.rx2_frequency.map Int.toNat, adrEnabled := g.adr_enabled }

def sessOf (s0 : Session) (g : Gen.SetAdrAsync.Session) : Session :=
  { s0 with confirmed := g.confirmed, fcntUp := g.fcnt_up.toNat, fcntDown := g.fcnt_down.map Int.toNat,
            adrAckCnt := g.adr_ack_cnt.toNat }

/-- the model's join state: the generated one over a model state `st0` that supplies what the
translated setters cannot reach (queue, keys, DevNonce) -/
def stOf (st0 : JoinState) : Gen.SetAdrAsync.State → JoinState
  | .Joined gs => .joined (sessOf (match st0 with | .joined s0 => s0 | _ => Session.new 0 0 0) gs)
  | .Otaa _ => (match st0 with | .otaa o => .otaa o | _ => .otaa ⟨0⟩)
  | .Unjoined => .unjoined

def macOf (m0 : MacState) (g : Gen.SetAdrAsync.Mac) : MacState :=
  { m0 with cfg := cfgOf g.configuration, st := stOf m0.st g.state }

/-- `async_device::Device::set_adr` (state-passing translation; `Mac::get_session_mut`, an
`Option<&mut Session>`, as a getter/setter pair) is the model's `macSetAdr`, for every state -/
theorem tieA_set_adr (m0 : MacState) (d : Gen.SetAdrAsync.Device) (on : Bool) :
    macOf m0 (Gen.SetAdrAsync.Device.set_adr d on).mac = macSetAdr (macOf m0 d.mac) on := by
  obtain ⟨⟨cfg, st⟩⟩ := d
  unfold Gen.SetAdrAsync.Device.set_adr
  gen_unfold_helpers_SetAdrAsync
  obtain ⟨c0, r0, mp, ag, st0⟩ := m0
  cases st0 <;> cases st <;> cases on <;> rfl

/-- `async_device::Device::set_datarate` is the model's `macSetDatarate` -/
theorem tieA_set_datarate (m0 : MacState) (d : Gen.SetAdrAsync.Device) (dr : DR) :
    macOf m0 (Gen.SetAdrAsync.Device.set_datarate d dr).mac = macSetDatarate (macOf m0 d.mac) dr.toInt.toNat := by
  obtain ⟨⟨cfg, st⟩⟩ := d
  unfold Gen.SetAdrAsync.Device.set_datarate
  gen_unfold_helpers_SetAdrAsync
  rfl

/-- non-vacuity: switching ADR off in a joined session at count 70 resets the count and clears the flag -/
example : (Gen.SetAdrAsync.Device.set_adr ⟨⟨⟨._3, 1000, 5000, 6000, none, 0, none, none, true⟩, .Joined ⟨false, 9, none, 70⟩⟩⟩ false).mac
    = ⟨⟨._3, 1000, 5000, 6000, none, 0, none, none, false⟩, .Joined ⟨false, 9, none, 0⟩⟩ := by decide

#print axioms tieA_set_adr
#print axioms tieA_set_datarate
end TieA.Async

namespace TieA.Nb
open Model Gen.Region

def cfgOf (g : Gen.SetAdrNb.Configuration) : Config :=
  { dataRate := g.data_rate.toInt.toNat, rx1Delay := g.rx1_delay.toNat, txPower := g.tx_power.map Int.toNat,
    rx1DrOffset := g.rx1_dr_offset.toNat, rx2DataRate := g.rx2_data_rate.map (fun d => d.toInt.toNat),
    rx2Frequency := g.rx2_frequency.map Int.toNat, adrEnabled := g.adr_enabled }

def sessOf (s0 : Session) (g : Gen.SetAdrNb.Session) : Session :=
  { s0 with confirmed := g.confirmed, fcntUp := g.fcnt_up.toNat, fcntDown := g.fcnt_down.map Int.toNat,
            adrAckCnt := g.adr_ack_cnt.toNat }

def stOf (st0 : JoinState) : Gen.SetAdrNb.State → JoinState
  | .Joined gs => .joined (sessOf (match st0 with | .joined s0 => s0 | _ => Session.new 0 0 0) gs)
  | .Otaa _ => (match st0 with | .otaa o => .otaa o | _ => .otaa ⟨0⟩)
  | .Unjoined => .unjoined

def macOf (m0 : MacState) (g : Gen.SetAdrNb.Mac) : MacState :=
  { m0 with cfg := cfgOf g.configuration, st := stOf m0.st g.state }

/-- `nb_device::Device::set_adr` (state-passing translation; `Mac::get_session_mut`, an
`Option<&mut Session>`, as a getter/setter pair) is the model's `macSetAdr`, for every state -/
theorem tieA_set_adr (m0 : MacState) (d : Gen.SetAdrNb.Device) (on : Bool) :
    macOf m0 (Gen.SetAdrNb.Device.set_adr d on).shared.mac = macSetAdr (macOf m0 d.shared.mac) on := by
  obtain ⟨⟨⟨cfg, st⟩⟩⟩ := d
  unfold Gen.SetAdrNb.Device.set_adr
  gen_unfold_helpers_SetAdrNb
  obtain ⟨c0, r0, mp, ag, st0⟩ := m0
  cases st0 <;> cases st <;> cases on <;> rfl

/-- `nb_device::Device::set_datarate` is the model's `macSetDatarate` -/
theorem tieA_set_datarate (m0 : MacState) (d : Gen.SetAdrNb.Device) (dr : DR) :
    macOf m0 (Gen.SetAdrNb.Device.set_datarate d dr).shared.mac = macSetDatarate (macOf m0 d.shared.mac) dr.toInt.toNat := by
  obtain ⟨⟨⟨cfg, st⟩⟩⟩ := d
  unfold Gen.SetAdrNb.Device.set_datarate
  gen_unfold_helpers_SetAdrNb
  rfl

example : (Gen.SetAdrNb.Device.set_adr ⟨⟨⟨⟨._3, 1000, 5000, 6000, none, 0, none, none, true⟩, .Joined ⟨false, 9, none, 70⟩⟩⟩⟩ false).shared.mac
    = ⟨⟨._3, 1000, 5000, 6000, none, 0, none, none, false⟩, .Joined ⟨false, 9, none, 0⟩⟩ := by decide

#print axioms tieA_set_adr
#print axioms tieA_set_datarate
end TieA.Nb

namespace TieA.Hook
open Model Gen.Region

def cfgOf (g : Gen.SetAdrHook.Configuration) : Config :=
  { dataRate := g.data_rate.toInt.toNat, rx1Delay := g.rx1_delay.toNat, txPower := g.tx_power.map Int.toNat,
    rx1DrOffset := g.rx1_dr_offset.toNat, rx2DataRate := g.rx2_data_rate.map (fun d => d.toInt.toNat),
    rx2Frequency := g.rx2_frequency.map Int.toNat, adrEnabled := g.adr_enabled }

def sessOf (s0 : Session) (g : Gen.SetAdrHook.Session) : Session :=
  { s0 with confirmed := g.confirmed, fcntUp := g.fcnt_up.toNat, fcntDown := g.fcnt_down.map Int.toNat,
            adrAckCnt := g.adr_ack_cnt.toNat }

def stOf (st0 : JoinState) : Gen.SetAdrHook.State → JoinState
  | .Joined gs => .joined (sessOf (match st0 with | .joined s0 => s0 | _ => Session.new 0 0 0) gs)
  | .Otaa _ => (match st0 with | .otaa o => .otaa o | _ => .otaa ⟨0⟩)
  | .Unjoined => .unjoined

def macOf (m0 : MacState) (g : Gen.SetAdrHook.Mac) : MacState :=
  { m0 with cfg := cfgOf g.configuration, st := stOf m0.st g.state }

/-- `mac::verif::VerifMac::set_adr` (state-passing translation; `Mac::get_session_mut`, an
`Option<&mut Session>`, as a getter/setter pair) is the model's `macSetAdr`, for every state -/
theorem tieA_set_adr (m0 : MacState) (d : Gen.SetAdrHook.VerifMac) (on : Bool) :
    macOf m0 (Gen.SetAdrHook.VerifMac.set_adr d on).mac = macSetAdr (macOf m0 d.mac) on := by
  obtain ⟨⟨cfg, st⟩⟩ := d
  unfold Gen.SetAdrHook.VerifMac.set_adr
  gen_unfold_helpers_SetAdrHook
  obtain ⟨c0, r0, mp, ag, st0⟩ := m0
  cases st0 <;> cases st <;> cases on <;> rfl

/-- `mac::verif::VerifMac::set_datarate` is the model's `macSetDatarate` -/
theorem tieA_set_datarate (m0 : MacState) (d : Gen.SetAdrHook.VerifMac) (dr : DR) :
    macOf m0 (Gen.SetAdrHook.VerifMac.set_datarate d dr).mac = macSetDatarate (macOf m0 d.mac) dr.toInt.toNat := by
  obtain ⟨⟨cfg, st⟩⟩ := d
  unfold Gen.SetAdrHook.VerifMac.set_datarate
  gen_unfold_helpers_SetAdrHook
  rfl

example : (Gen.SetAdrHook.VerifMac.set_adr ⟨⟨⟨._3, 1000, 5000, 6000, none, 0, none, none, true⟩, .Joined ⟨false, 9, none, 70⟩⟩⟩ false).mac
    = ⟨⟨._3, 1000, 5000, 6000, none, 0, none, none, false⟩, .Joined ⟨false, 9, none, 0⟩⟩ := by decide

#print axioms tieA_set_adr
#print axioms tieA_set_datarate
end TieA.Hook
