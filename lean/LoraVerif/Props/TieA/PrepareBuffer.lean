import LoraVerif.Props.TieA.StateBridge
import LoraVerif.Lemmas.TxForm
import LoraVerif.Gen.SessionTx
/-!
# Tie A for a whole stateful method: the header computation of `Session::prepare_buffer` (C12 / C06)

`Gen/SessionTx.lean` holds the state-passing translation of
`Session::prepare_buffer(&mut self, data, tx_buffer, configuration, region) -> FcntUp` with the helper
methods of `Uplink` it calls.  Abstract in the translation: frame encryption and MIC
(`DataFrame::build_into` is the parameter `codec`), the radio buffer (`TxBufOps`: `clear`,
`extend_from_slice`), `next_lower_datarate` (instantiated with the model's) and the iterator pipeline
of `clear_mac_commands(true)` (hypothesis `hret`: it retains the sticky answers; its variant list is
`C08.tieA_isSticky`).

`tieA_prepare_buffer_header`: for EVERY codec and buffer implementation, the generated method hands
exactly one `DataFrame` `f` to the codec (under the session's NwkSKey / AppSKey), and the model's
`prepareBuffer` on the corresponding model state yields exactly the description of `f` (`descOf f`:
confirmed flag, DevAddr, ADR, ADRACKReq, ACK, FCnt used, FOpts vs port-0 placement of the pending
answers, FPort, payload) and the corresponding new session (owed ACK cleared, `confirmed` stored,
pending answers reduced to the sticky ones, counters untouched); the model's two length panics are
stated on the length of `f`, the port-0-with-data panic is a panic of both.
-/
set_option linter.unusedSimpArgs false
namespace TieA.Tx
open Model

def natsOf (l : List Int) : List Nat := l.map Int.toNat

def cfgOf (g : Gen.SessionTx.Configuration) : Config :=
  { dataRate := g.data_rate.toInt.toNat, rx1Delay := g.rx1_delay.toNat, txPower := g.tx_power.map Int.toNat,
    rx1DrOffset := g.rx1_dr_offset.toNat, rx2DataRate := g.rx2_data_rate.map (fun d => d.toInt.toNat),
    rx2Frequency := g.rx2_frequency.map Int.toNat, adrEnabled := g.adr_enabled }

/-- the model session a generated `Session` stands for — every field -/
def sessOf (g : Gen.SessionTx.Session) : Session :=
  { pending := natsOf g.uplink.pending, ackOwed := g.uplink.confirmed, confirmed := g.confirmed,
    devAddr := g.devaddr.id.toNat, fcntUp := g.fcnt_up.toNat, fcntDown := g.fcnt_down.map Int.toNat,
    adrAckCnt := g.adr_ack_cnt.toNat, nwkKey := g.nwkskey.inner.id.toNat, appKey := g.appskey.inner.id.toNat }

def regionOf (r : RegionId) : Gen.SessionTx.RegionCfg :=
  ⟨fun dr => (nextLowerDatarate r dr.toInt.toNat).map drOfNatT⟩

/-- the model's description of the frame handed to the codec -/
def descOf (f : Gen.SessionTx.DataFrame) : UplinkDesc :=
  { confirmed := f.frame_type == .ConfirmedUp, devAddr := f.dev_addr.id.toNat, adr := f.adr, adrAckReq := f.adr_ack_req,
    ack := f.ack, fcnt := f.fcnt.toNat, fopts := natsOf f.f_opts,
    fport := match f.payload with | .Data p _ => p.toNat | _ => 0,
    payload := match f.payload with | .Data _ d => natsOf d | .MacCommands c => natsOf c | .None => [] }

/-- MHDR + FHDR (7 + FOpts) + FPort + FRMPayload + MIC, as the model counts it -/
def frameLen (f : Gen.SessionTx.DataFrame) : Nat :=
  1 + 7 + f.f_opts.length + 1 + (match f.payload with | .Data _ d => d.length | .MacCommands c => c.length | .None => 0) + 4

theorem pipe_eq {α γ : Type} (x : Option Unit × γ) (k : γ → α) :
    (x.1.bind fun _ => some x.2).bind (fun t => some (k t)) = x.1.map (fun _ => k x.2) := by
  obtain ⟨a, b⟩ := x
  cases a <;> rfl

set_option hygiene false in
/-- closes the pipeline part: whatever the codec and the buffer (of type `β`) answer -/
macro "tx_close" : tactic =>
  `(tactic| (generalize Gen.SessionTx.FrameCodec.build_into _ _ _ _ _ = cb
             cases cb with
             | none => rfl
             | some pkt =>
               simp only [Option.bind_some]
               generalize Gen.SessionTx.TxBufOps.extend_from_slice (β := β) _ pkt = eo
               obtain ⟨a, b⟩ := eo
               cases a <;> rfl))

theorem tieA_prepare_buffer_header {β : Type} [Gen.SessionTx.TxBufOps β] (codec : Gen.SessionTx.FrameCodec)
    (gs : Gen.SessionTx.Session) (d : Gen.SessionTx.SendData) (tx : β) (g : Gen.SessionTx.Configuration) (r : RegionId)
    (hp : 0 ≤ d.fport)
    (hret : ∀ p, natsOf (Gen.SessionTx.retained_pipeline p []) = retainSticky (p.length + 1) (natsOf p)) :
    if d.fport = 0 ∧ d.data ≠ [] then
      Gen.SessionTx.Session.prepare_buffer codec gs d tx g (regionOf r) = none ∧
      prepareBuffer (sessOf gs) (cfgOf g) r (natsOf d.data) d.fport.toNat d.confirmed
        = panic "Data payload with fport 0 not allowed"
    else ∃ (f : Gen.SessionTx.DataFrame) (gs' : Gen.SessionTx.Session),
      Gen.SessionTx.Session.prepare_buffer codec gs d tx g (regionOf r)
        = (codec.build_into f (List.replicate 256 0) ⟨gs.nwkskey.inner⟩ (some ⟨gs.appskey.inner⟩)).bind (fun pkt =>
            let o := Gen.SessionTx.TxBufOps.extend_from_slice (Gen.SessionTx.TxBufOps.clear (Gen.SessionTx.TxBufOps.clear tx)) pkt
            o.1.map (fun _ => (gs.fcnt_up, gs', o.2)))
      ∧ f.f_pending = false
      ∧ f.frame_type = (if d.confirmed then .ConfirmedUp else .UnconfirmedUp)
      ∧ prepareBuffer (sessOf gs) (cfgOf g) r (natsOf d.data) d.fport.toNat d.confirmed
          = (if frameLen f > 256 then panic "Error assembling packet: BufferTooShort"
             else if frameLen f ≥ 256 then panic "tx_buffer.extend_from_slice unwrap"
             else .ok (descOf f, sessOf gs')) := by
  obtain ⟨⟨pend, ackO⟩, conf, nwk, app, da, fu, fd, cnt⟩ := gs
  obtain ⟨dat, fport, dconf⟩ := d
  obtain ⟨dr, d1, j1, j2, tp, off, r2d, r2f, adr⟩ := g
  have hlim' : Rt.wrap .u32 Gen.SessionTx.ADR_ACK_LIMIT = 64 := by decide
  have hcnt : (cnt ≥ 64) = (cnt.toNat ≥ 64) := by apply propext; omega
  have hty : ∀ c : Bool, ((if c then Gen.SessionTx.DataFrameType.ConfirmedUp else .UnconfirmedUp) == .ConfirmedUp) = c := by
    intro c; cases c <;> rfl
  have hr := hret pend
  simp only [natsOf] at hr hp
  unfold Gen.SessionTx.Session.prepare_buffer
  gen_unfold_helpers_SessionTx
  simp only [show Int.toNat 256 = 256 from rfl, Gen.SessionTx.next_lower_datarate, regionOf, hlim', Option.isSome_map,
    Option.bind_eq_bind, Option.pure_def]
  generalize List.replicate 256 (0 : Int) = buf
  -- the only test of the method is the one on the port; the session stored under `if ack` is the same in both
  -- branches (`cases ackO`), and the frame is the one given as witness whatever the flags are
  by_cases h0 : fport = 0
  · subst h0
    by_cases hd : dat = []
    · subst hd
      rw [if_neg (by simp)]
      refine ⟨⟨if dconf then .ConfirmedUp else .UnconfirmedUp, da, adr,
          (adr && decide (cnt ≥ 64)) && (nextLowerDatarate r dr.toInt.toNat).isSome, ackO, false, fu, [], .MacCommands pend⟩,
        ⟨⟨Gen.SessionTx.retained_pipeline pend [], false⟩, dconf, nwk, app, da, fu, fd, cnt⟩, ?_, rfl, rfl, ?_⟩
      · cases ackO <;>
          simp only [ne_eq, not_true_eq_false, decide_false, List.isEmpty_nil, Bool.not_true, Bool.false_eq_true, if_false,
            if_true, Option.bind_some] <;> tx_close
      · simp only [prepareBuffer_eq, Model.descOf, sentSession, sessOf, cfgOf, adr_limit, hcnt, frameLen, descOf, natsOf, hty, hr, List.map_nil, List.length_map,
          List.length_nil, List.isEmpty_nil, Int.toNat_zero, beq_self_eq_true, bne_self_eq_false, Bool.not_true, Bool.and_false,
          Bool.false_eq_true, if_false, pure, Except.pure, bind, Except.bind]
    · rw [if_pos ⟨rfl, hd⟩]
      obtain ⟨a, t, rfl⟩ := List.exists_cons_of_ne_nil hd
      refine ⟨?_, ?_⟩
      · simp only [ne_eq, not_true_eq_false, decide_false, List.isEmpty_cons, Bool.not_false, Bool.false_eq_true, if_false,
          if_true, Option.bind_none]
      · simp only [prepareBuffer_eq, natsOf, List.map_cons, List.isEmpty_cons, Int.toNat_zero, beq_self_eq_true, Bool.not_false,
          Bool.and_true, if_true]
  · rw [if_neg (by intro h; exact h0 h.1)]
    have hne : (fport.toNat == 0) = false := by simp; omega
    have hne' : (fport.toNat != 0) = true := by simp; omega
    refine ⟨⟨if dconf then .ConfirmedUp else .UnconfirmedUp, da, adr,
        (adr && decide (cnt ≥ 64)) && (nextLowerDatarate r dr.toInt.toNat).isSome, ackO, false, fu, pend, .Data fport dat⟩,
      ⟨⟨Gen.SessionTx.retained_pipeline pend [], false⟩, dconf, nwk, app, da, fu, fd, cnt⟩, ?_, rfl, rfl, ?_⟩
    · cases ackO <;>
        simp only [h0, ne_eq, not_false_eq_true, decide_true, Bool.false_eq_true, if_false, if_true, Option.bind_some] <;>
        tx_close
    · simp only [prepareBuffer_eq, Model.descOf, sentSession, sessOf, cfgOf, adr_limit, hcnt, frameLen, descOf, natsOf, hty, hr, hne, hne', List.length_map,
        Bool.false_and, Bool.false_eq_true, if_false, if_true, pure, Except.pure, bind, Except.bind]

#print axioms tieA_prepare_buffer_header
end TieA.Tx
