import LoraVerif.Model.Region
import LoraVerif.Lemmas.RtLemmas
/-!
What the ties of the region methods share.  Lists of octets are `List Int` on the generated side and `List Nat` on the
model's (`l.map Int.toNat`, `l.map Int.ofNat`).  The methods return the region state with the plan written back:
`plan_eta` for the paths that leave the plan alone.  (The tie relation and its rules: `Calc.lean`; `Rt`'s arithmetic on
naturals: `Rt.OfNat` in `Lemmas/RtLemmas.lean`, which also holds the tactics `tie_eval`, `tie_leaf`; the `rfl` facts about `toOption` on `M` and
`loopM_zero` stand in `PlanSelectLemmas.lean` under `TieA.Select`, where their users are.)  The tie files whose
proofs evaluate regenerated text keep a linter off (unused simp arguments, unused variables): their simp lists and bound
hypotheses (bounds, well-formedness conjuncts) hold what only some spellings of the regenerated code need, and they must keep
building quietly when the translator's output changes.
-/
namespace TieA
open Model

theorem map_toNat_ofNat (l : List Nat) : (l.map Int.ofNat).map Int.toNat = l := by
  induction l with
  | nil => rfl
  | cons a t ih => rw [List.map_cons, List.map_cons, ih]; rfl

theorem map_ofNat_toNat (l : List Int) (h : ∀ x ∈ l, 0 ≤ x) : (l.map Int.toNat).map Int.ofNat = l := by
  rw [List.map_map]
  exact (List.map_congr_left fun b hb => Int.toNat_of_nonneg (h b hb)).trans (List.map_id _)

theorem octets_replicate (n : Nat) : ∀ x ∈ List.replicate n (255 : Int), 0 ≤ x ∧ x ≤ 255 := fun x hx => by
  have := (List.mem_replicate.mp hx).2; omega

theorem toOption_eq_some {α} {x : M α} {a : α} (h : x.toOption = some a) : x = .ok a := by
  cases x with
  | error e => cases h
  | ok b => cases h; rfl

theorem plan_eta {rs : RegionState} {pl : Plan} (h : rs.plan = pl) : ({ rs with plan := pl } : RegionState) = rs := by
  cases rs; cases h; rfl

end TieA
