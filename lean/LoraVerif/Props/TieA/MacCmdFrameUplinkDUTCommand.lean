import LoraVerif.Props.TieA.MacCmdFrameGen
import LoraVerif.Gen.MacCmdFnUplinkDUTCommand
/-!
# Tie A for the framing step of `UplinkDUTCommand` (C03)

`Gen/MacCmdFnUplinkDUTCommand.lean` holds what `#[derive(CommandHandler)]` generates for `UplinkDUTCommand` (payload structs,
`new_from_raw` / `max_len`, `MacCommandSet::parse_one`, expanded from the `quote!` templates with the `#[cmd]` attributes of
the current source), the hand-written `len()` helpers of its variable-length payloads, and the source's
`MacCommands::next` for `T = UplinkDUTCommand`.  Here: the regenerated framing IS the hand model `Model/MacCmd.lean` over the
regenerated table `Gen.CmdTables.uplinkDUTCommand`, for every octet stream.  The set-independent part of the argument is
`Props/TieA/MacCmdFrameGen.lean`; this file supplies the reading of the set's own types (`infoOf` …), instantiates the arm
lemmas of that file at the CIDs of the table, and shows that the unit's `next` is `gNext` of the unit's `parse_one` (`next_bridge`).
-/
namespace TieA.FrameUplinkDUTCommand
open MacCmd TieA.FrameGen

def TS : Table := C03.T Gen.CmdTables.uplinkDUTCommand

def infoOf : Gen.MacCmdFnUplinkDUTCommand.UplinkDUTCommand → Info
  | .EchoIncPayloadAns p => (8, "EchoIncPayloadAns", "EchoIncPayloadAnsPayload", p._0)
  | .RxAppCntAns p => (9, "RxAppCntAns", "RxAppCntAnsPayload", p._0)
  | .DutVersionsAns p => (127, "DutVersionsAns", "DutVersionsAnsPayload", p._0)

def errOf : Gen.MacCmdFnUplinkDUTCommand.ParseError → MacCmd.ParseError
  | .UnknownCid c => .unknownCid c.toNat
  | .Truncated c => .truncated c.toNat

def oneOf : Gen.MacCmdFnUplinkDUTCommand.ParseOne → POne
  | .Ok c n => .ok (infoOf c, n)
  | .Err e => .error (errOf e)

def itemOf : Gen.MacCmdFnUplinkDUTCommand.NextItem → GItem
  | .Ok c => .ok (infoOf c)
  | .Err e => .error (errOf e)

def stOf (g : Gen.MacCmdFnUplinkDUTCommand.MacCommands) : GSt := (g.data, g.errored)

def P (d : List Int) : Option POne := (Gen.MacCmdFnUplinkDUTCommand.UplinkDUTCommand.parse_one d).map oneOf

theorem next_bridge (s : Gen.MacCmdFnUplinkDUTCommand.MacCommands) :
    (Gen.MacCmdFnUplinkDUTCommand.MacCommands.next s).map (fun r => (r.1.map itemOf, stOf r.2)) = gNext P (stOf s) :=
  gNext_of (fun _ => by rfl) (fun s r => by
    cases r with
    | Err x => rfl
    | Ok c n => exact Option.map_bind) s

def runOf (r : List Gen.MacCmdFnUplinkDUTCommand.NextItem × Gen.MacCmdFnUplinkDUTCommand.MacCommands × Bool) := (r.1.map itemOf, stOf r.2.1, r.2.2)

end TieA.FrameUplinkDUTCommand

namespace C03
open MacCmd TieA.MacCmdFrame TieA.FrameGen TieA.FrameUplinkDUTCommand

/-- the derive-generated `parse_one` of `UplinkDUTCommand` (expanded from the `quote!` templates of the `CommandHandler`
derive with the `#[cmd(cid, len)]` attributes of the current source, with the hand-written `len()` helpers of the variable-length payloads) IS the
model's `parseOne` over the regenerated table, for EVERY octet string (of a length a Rust slice can have): same variant, payload type, payload octets and
consumed count, `UnknownCid` / `Truncated` with the same CID on the same inputs, a panic exactly on the empty slice. -/
theorem tieA_parse_one_UplinkDUTCommand (data : List Nat) (hlen : data.length < 2 ^ 64) :
    (Gen.MacCmdFnUplinkDUTCommand.UplinkDUTCommand.parse_one (ints data)).map TieA.FrameUplinkDUTCommand.oneOf = (toOpt (parseOne TieA.FrameUplinkDUTCommand.TS varLen data)).map oneUp := by
  cases data with
  | nil => rfl
  | cons cid rest =>
    by_cases h : cid ∈ [8, 9, 127]
    · simp only [List.mem_cons, List.not_mem_nil, or_false] at h
      rcases h with rfl | rfl | rfl
      · exact toEnd_arm_tie (fun c => .Err (.Truncated c)) hlen rfl rfl (fun _ => rfl) rfl fun _ => rfl
      all_goals exact fixed_arm_tie (fun c => .Err (.Truncated c)) (by decide) rfl rfl rfl fun _ => rfl
    · refine unknown_arm_tie (e := .Err (.UnknownCid cid)) (Table.lookup_none_of TS cid h) ?_ rfl
      have hI := not_mem_cast h
      simp only [List.map, List.mem_cons, List.not_mem_nil, or_false, not_or, Int.cast_ofNat_Int] at hI
      simp only [Gen.MacCmdFnUplinkDUTCommand.UplinkDUTCommand.parse_one, idx0, Option.bind_eq_bind, Option.bind_some, decide_eq_true_eq, hI, if_false]
      rfl

/-- the source's `MacCommands::next` for `T = UplinkDUTCommand` IS the model's `next` in every state. -/
theorem tieA_next_UplinkDUTCommand (data : List Nat) (err : Bool) (hlen : data.length < 2 ^ 64) :
    (Gen.MacCmdFnUplinkDUTCommand.MacCommands.next ⟨ints data, err⟩).map (fun r => (r.1.map TieA.FrameUplinkDUTCommand.itemOf, TieA.FrameUplinkDUTCommand.stOf r.2))
      = (toOpt (MacCmd.next TieA.FrameUplinkDUTCommand.TS varLen ⟨data, err⟩)).map (fun r => (r.1.map itemUp, stUp r.2)) := by
  rw [TieA.FrameUplinkDUTCommand.next_bridge]
  exact gNext_tie _ _ _ (fun n => n < 2 ^ 64) tieA_parse_one_UplinkDUTCommand data err hlen

/-- the `UplinkDUTCommand` iterator over `data`, drained through the REGENERATED `next` (`MacCommands::new(data)`, then
`next` until `None`, budget `data.len() + 2`), is the model's run, for every octet stream: the same items in the same order,
the same final state, within the same budget. -/
theorem tieA_iterator_UplinkDUTCommand (data : List Nat) (hlen : data.length < 2 ^ 64) :
    (runFuelOf Gen.MacCmdFnUplinkDUTCommand.MacCommands.next (data.length + 2) ⟨ints data, false⟩).map TieA.FrameUplinkDUTCommand.runOf
      = (toOpt (run TieA.FrameUplinkDUTCommand.TS varLen data)).map runUp :=
  (runFuelOf_sim _ _ TieA.FrameUplinkDUTCommand.itemOf TieA.FrameUplinkDUTCommand.stOf TieA.FrameUplinkDUTCommand.next_bridge _ _).trans
    (gRun_tie _ _ _ (fun n => n < 2 ^ 64) (fun _ _ h hb => Nat.lt_of_le_of_lt h hb) tieA_parse_one_UplinkDUTCommand _ data false hlen)

/-! non-vacuity: a concrete stream through the regenerated iterator (CID and payload octets of every item, `none` = the
error item; the unread rest and the `errored` flag; budget not exhausted); the length hypothesis holds of it -/
example : (runFuelOf Gen.MacCmdFnUplinkDUTCommand.MacCommands.next (5 + 2) ⟨[9, 1, 2, 8, 170], false⟩).map
    (fun r => (r.1.map (fun i => (TieA.FrameUplinkDUTCommand.itemOf i).toOption.map (fun c => (c.1, c.2.2.2))), TieA.FrameUplinkDUTCommand.stOf r.2.1, r.2.2))
    = some ([some (9, [1, 2]), some (8, [0xAA])], ([], false), false) := by decide
example : ([9, 1, 2, 8, 170] : List Nat).length < 2 ^ 64 := by decide

#print axioms tieA_parse_one_UplinkDUTCommand
#print axioms tieA_next_UplinkDUTCommand
#print axioms tieA_iterator_UplinkDUTCommand
end C03
