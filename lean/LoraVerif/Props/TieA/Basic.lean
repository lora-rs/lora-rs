import LoraVerif.Model.Mac
import LoraVerif.Gen.RegionStatic
/-!
# Tie A for the static regional parameters — the bridge between the hand model's `RegionId` and the
GENERATED `Region` enum (`Gen/RegionStatic.lean`, regenerated from `lorawan-device/src/region/mod.rs`
on every run).  The theorems that use it are in `Props/TieA/C08.lean`, `C09.lean`, `C10.lean`, `RegionDispatch.lean` and
`MacRfC05.lean`.
-/
namespace TieA
open Model

/-- the generated `Region` variant the hand model's `RegionId` stands for -/
def toGen : RegionId → Gen.RegionStatic.Region
  | .AS923_1 => .AS923_1 | .AS923_2 => .AS923_2 | .AS923_3 => .AS923_3 | .AS923_4 => .AS923_4
  | .AU915 => .AU915 | .EU868 => .EU868 | .EU433 => .EU433 | .IN865 => .IN865 | .US915 => .US915

/-- a generated channel (`dynamic_channel_plans::Channel`) as the hand model's `Channel` -/
def ofGenChannel (c : Gen.RegionStatic.Channel) : Channel :=
  { freq := c.frequency.toNat, drRange := c._datarates.toNat, dlFreq := c.dl_frequency.map Int.toNat }

/-- `DynamicChannelPlan::new`: `[None; NUM_CHANNELS_DYNAMIC]`, then the assignments of
`init_channels` in source order; `none` = index out of range (a Rust panic) -/
def applyRows : List (Int × Int × Gen.Region.DR × Gen.Region.DR) → List (Option Channel) → Option (List (Option Channel))
  | [], acc => some acc
  | (i, f, lo, hi) :: rest, acc =>
    if 0 ≤ i ∧ i.toNat < acc.length then
      match Gen.RegionStatic.Channel.new f lo hi with
      | some c => applyRows rest (acc.set i.toNat (some (ofGenChannel c)))
      | none => none
    else none

/-- the channel table `DynamicChannelPlan::new` builds for a region, from generated items only
(`none`: fixed plan, or a panic while building it) -/
def genInitChannels (g : Gen.RegionStatic.Region) : Option (List (Option Channel)) :=
  match Gen.RegionStatic.init_channels g with
  | some (some rows) => applyRows rows (List.replicate Gen.RegionStatic.NUM_CHANNELS_DYNAMIC.toNat none)
  | _ => none

end TieA
