import LoraVerif.Props.TieA.MacRf
import LoraVerif.Props.TieA.RegionDispatch
import LoraVerif.Props.C05Size
/-!
# C05 / C10 — the RF configuration of the receive windows, regenerated (tie A)

The named theorems of `Props/TieA/MacRf.lean`, and `C05.window_limit_rp002` transported to the regenerated
`Mac::build_rf_config`: whatever window the method hands out, its size limit is RP002's maximum for the
spreading factor and bandwidth the window is opened at.  Then, for C10: which of the two configurations a window uses
(`RxWindows::get`), and that the region record `regOf` these ties are stated over is the dispatched code.
-/
open Model Gen.Modulation Gen.Region TieA.MacRf

namespace C05

/-- `Mac::build_rf_config` = the model's `buildRfConfig`, for every state
related by `Rel` (region = the model's lookups, configuration mapped by the total map `cfgM`), every frequency,
data rates and window: the data rate's entry, else the fallback to the RX2 rate computed with the stored
RX1DROffset, else the `unwrap` panic — a panic on one side iff on the other; frequency, SF, bandwidth and size
limit of the result equal. -/
theorem tieA_build_rf_config (g : Gen.MacRfFn.Mac) (m : MacState) (cr : CodingRate) (h : Rel g m cr)
    (freq : Int) (dr txdr : DR) (w : Window) :
    (Gen.MacRfFn.Mac.build_rf_config g freq dr txdr w).map rfM = (buildRfConfig m freq.toNat dr txdr).toOption :=
  TieA.Tie.iff_map.1 (build_tie g m cr h freq dr txdr w)

/-- `Mac::rx2_rf_config` = the model's `rx2RfConfig`: the stored RX2 frequency / data rate when set
(RXParamSetupReq, join accept), else the region's default frequency and the region's RX2 rate for the uplink's
data rate (looked up only then). -/
theorem tieA_rx2_rf_config (g : Gen.MacRfFn.Mac) (m : MacState) (cr : CodingRate) (h : Rel g m cr) (txdr : DR) :
    (Gen.MacRfFn.Mac.rx2_rf_config g txdr).map rfM = (rx2RfConfig m txdr).toOption :=
  TieA.Tie.iff_map.1 (rx2_tie g m cr h txdr)

/-- `Mac::get_rxc_config` = the model's `macRxcConfig`: the RX2 configuration for the current data
rate, continuous mode. -/
theorem tieA_get_rxc_config (g : Gen.MacRfFn.Mac) (m : MacState) (cr : CodingRate) (h : Rel g m cr) :
    (Gen.MacRfFn.Mac.get_rxc_config g).map (fun c => (rfM c.rf, c.mode))
      = (macRxcConfig m).toOption.map (fun r => (r, .Continuous)) :=
  TieA.Tie.iff_map_map.1 (rxc_tie g m cr h)

/-- `window_limit_rp002` of the REGENERATED function: every window `Mac::build_rf_config` hands out is limited to
RP002's maximum MACPayload size for the spreading factor and bandwidth it is opened at -/
theorem tieA_window_limit_rp002 (g : Gen.MacRfFn.Mac) (m : MacState) (cr : CodingRate) (h : Rel g m cr)
    (freq : Int) (dr txdr : DR) (w : Window) (r : Gen.MacRfFn.RfConfig)
    (hr : Gen.MacRfFn.Mac.build_rf_config g freq dr txdr w = some r) :
    Spec.Regional.maxM (specName m.region.id) r.bb.sf.factor r.bb.bw.hz = some r.max_payload_len := by
  rcases (build_tie g m cr h freq dr txdr w).cases with ⟨hx, -⟩ | ⟨a, r', hx, hb, rfl⟩ <;> rw [hr] at hx <;> cases hx
  exact window_limit_rp002 m freq.toNat dr txdr _ hb

/-- `Mac::rx_windows` = the model's `rxWindows`: RX1 on the frequency paired with the channel actually
transmitted on, at the region's RX1 rate for the uplink's data rate and the stored RX1DROffset; RX2 by
`rx2_rf_config`. -/
theorem tieA_rx_windows (g : Gen.MacRfFn.Mac) (m : MacState) (cr : CodingRate) (h : Rel g m cr) (t : Gen.MacRfFn.TxChannel) :
    (Gen.MacRfFn.Mac.rx_windows g t).map (fun w => (rfM w.rx1, rfM w.rx2)) = (rxWindows m (txM t)).toOption :=
  TieA.Tie.iff_map.1 (windows_tie g m cr h t)

/-- a freshly initialised EU868 device, as the generated methods see it -/
def exMac : Gen.MacRfFn.Mac :=
  { configuration :=
      { data_rate := DR._0, rx1_delay := 1000, join_accept_delay1 := 5000, join_accept_delay2 := 6000,
        tx_power := none, rx1_dr_offset := 0, rx2_data_rate := none, rx2_frequency := none, adr_enabled := true },
    region := regOf RegionId.EU868 CodingRate._4_5 }

example : Rel exMac (MacState.init (RegionState.init .EU868) 22 0) CodingRate._4_5 := ⟨rfl, rfl⟩

/-- RX1 at DR5 on 868.1 MHz: SF7/125 kHz, 250 octets; DR8 is undefined in EU868: the fallback to the RX2 rate DR0
(SF12, 59 octets); RX2 default: 869.525 MHz at DR0; with the overrides of an RXParamSetupReq: 868.5 MHz at DR3 -/
example :
    (Gen.MacRfFn.Mac.build_rf_config exMac 868100000 ._5 ._5 ._1).map rfM = some ⟨868100000, 7, 125000, 250⟩ ∧
    (Gen.MacRfFn.Mac.build_rf_config exMac 868100000 ._8 ._5 ._1).map rfM = some ⟨868100000, 12, 125000, 59⟩ ∧
    (Gen.MacRfFn.Mac.rx2_rf_config exMac ._5).map rfM = some ⟨869525000, 12, 125000, 59⟩ ∧
    (Gen.MacRfFn.Mac.rx2_rf_config { exMac with configuration := { exMac.configuration with
        rx2_data_rate := some ._3, rx2_frequency := some 868500000 } } ._5).map rfM = some ⟨868500000, 9, 125000, 123⟩ ∧
    (Gen.MacRfFn.Mac.get_rxc_config exMac).map (fun c => (rfM c.rf, c.mode)) = some (⟨869525000, 12, 125000, 59⟩, .Continuous) ∧
    (Gen.MacRfFn.Mac.rx_windows exMac ⟨⟨._125KHz, ._7, 250, 250⟩, ._5, 868300000, 868300000⟩).map (fun w => (rfM w.rx1, rfM w.rx2))
      = some (⟨868300000, 7, 125000, 250⟩, ⟨869525000, 12, 125000, 59⟩) := by
  decide

end C05

#print axioms C05.tieA_build_rf_config
#print axioms C05.tieA_rx2_rf_config
#print axioms C05.tieA_get_rxc_config
#print axioms C05.tieA_window_limit_rp002
#print axioms C05.tieA_rx_windows

/-! ## `RxWindows::get` — which of the two RF configurations computed at TX time a receive window uses

`Gen.MacRfFn.RxWindows.get` is regenerated from `mac/mod.rs`.  Together with `C05.tieA_rx_windows` it says: the
configuration the radio is given for window 1 (2) is the first (second) component of the model's `rxWindows`.
-/
namespace C10

/-- `RxWindows::get`: window 1 ↦ `rx1`, window 2 ↦ `rx2`, for every pair of configurations -/
theorem tieA_rx_windows_get (w : Gen.MacRfFn.RxWindows) (win : Window) :
    Gen.MacRfFn.RxWindows.get w win = (match win with | ._1 => w.rx1 | ._2 => w.rx2) := by
  cases win <;> rfl

theorem tieA_rx_windows_get_1 (w : Gen.MacRfFn.RxWindows) : Gen.MacRfFn.RxWindows.get w ._1 = w.rx1 := rfl
theorem tieA_rx_windows_get_2 (w : Gen.MacRfFn.RxWindows) : Gen.MacRfFn.RxWindows.get w ._2 = w.rx2 := rfl

example (a b : Gen.MacRfFn.RfConfig) (h : a ≠ b) :
    Gen.MacRfFn.RxWindows.get ⟨a, b⟩ ._2 = b ∧ Gen.MacRfFn.RxWindows.get ⟨a, b⟩ ._1 ≠ b := ⟨rfl, h⟩

#print axioms tieA_rx_windows_get
end C10

/-! ## the region record of `Gen.MacRfFn` is the regenerated dispatch

`Mac::build_rf_config`, `rx2_rf_config`, `get_rxc_config` and `rx_windows` (`Gen.MacRfFn`) read the region through a
record of four lookups; `C05.tieA_build_rf_config` … `tieA_rx_windows` instantiate it with the model's (`TieA.MacRf.regOf`).
Three of the four fields of that instance ARE the `Configuration` methods regenerated through `region_dispatch!`
(`Gen.RegionDispatch`); the coding rate stays a free parameter.
-/
namespace C10
open TieA

private theorem ofGen_toOption {α} (s : String) (x : Option α) : (ofGen s x).toOption = x := by
  cases x <;> rfl

/-- `regOf r cr`, the region the whole-method ties of `Gen.MacRfFn` are stated over, field by field: `get_datarate` (every
index), `get_rx_datarate` (every TX data rate, every offset that is a `u8` or any other non-negative number, both
windows) and `get_rx2_frequency` are the functions regenerated through `region_dispatch!` -/
theorem tieA_regionCfg_ops (r : RegionId) (cr : Gen.Modulation.CodingRate) :
    (∀ n : Int, (regOf r cr).get_datarate n = Gen.RegionDispatch.Configuration.get_datarate (toGen r) n) ∧
    (∀ (d : Gen.Region.DR) (off : Int) (w : Gen.Region.Window), 0 ≤ off →
      (regOf r cr).get_rx_datarate d off w = Gen.RegionDispatch.Configuration.get_rx_datarate (toGen r) d off w) ∧
    (regOf r cr).get_rx2_frequency = Gen.RegionDispatch.Configuration.get_rx2_frequency (toGen r) := by
  refine ⟨?_, ?_, ?_⟩
  · intro n
    cases r <;> simp only [regOf, getDatarate, datarates, toGen, Gen.RegionDispatch.Configuration.get_datarate] <;> rfl
  · intro d off w h
    simp only [regOf]
    rw [tieA_region_get_rx_datarate, ofGen_toOption, Int.toNat_of_nonneg h]
  · exact tieA_region_get_rx2_frequency r

example : (regOf .US915 ._4_5).get_rx_datarate ._4 1 ._1 = some Gen.Region.DR._13 := by decide

#print axioms tieA_regionCfg_ops
end C10
