import LoraVerif.Gen.SessionFn
import LoraVerif.Lemmas.DrForm
import LoraVerif.Lemmas.RxForm
/-!
# The bridge between the generated state of `Gen/SessionFn.lean` and the model's (`Model/Mac.lean`)

Machine integers are `Int` on the generated side and naturals in the model.  The maps of a tie go from the generated
value to the model's and are total: `cfgOf`, `sessOf` (over a model session that supplies the fields the unit does not
translate), `respOf` (partial: the model has no `LinkCheckReq`), with `SessWF` for the range of the counters.  The
other way: `regionOf` (what the generated code observes of the model's region), and `MacTop.sessG`, the generated
session a model session projects to, which makes every model state whose counters fit the image of a generated one
(`sessOf_surj`).

Every generated unit regenerates its own `Session` / `Configuration` / `Response` types from the same Rust structs, so
every unit's tie file has its own `cfgOf` / `sessOf` / `respOf` with the same bodies (`Rx.*`, `Tx.*`, `OtaaRx.*`, SetAdr's
three); what is stated once here are the facts about `DR` and `next_lower_datarate` they all use.
-/
namespace TieA
open Model Gen.Region

theorem wrap_dr (d : DR) : Rt.wrap .u8 d.toInt = d.toInt := by cases d <;> rfl

/-- the model configuration a generated `Configuration` stands for (the join-accept delays are
constants in the model) -/
def cfgOf (g : Gen.SessionFn.Configuration) : Config :=
  { dataRate := g.data_rate.toInt.toNat, rx1Delay := g.rx1_delay.toNat, txPower := g.tx_power.map Int.toNat,
    rx1DrOffset := g.rx1_dr_offset.toNat, rx2DataRate := g.rx2_data_rate.map (fun d => d.toInt.toNat),
    rx2Frequency := g.rx2_frequency.map Int.toNat, adrEnabled := g.adr_enabled }

/-- the model session: the generated fields over a model session `s0` that supplies the fields the
translated methods cannot touch (answer queue, owed ACK, address and key identities) -/
def sessOf (s0 : Session) (g : Gen.SessionFn.Session) : Session :=
  { s0 with confirmed := g.confirmed, fcntUp := g.fcnt_up.toNat, fcntDown := g.fcnt_down.map Int.toNat,
            adrAckCnt := g.adr_ack_cnt.toNat }

/-- the model's `Response` (the crate's `LinkCheckReq` has no counterpart in the model) -/
def respOf : Gen.SessionFn.Response → Option Response
  | .NoAck => some .noAck | .SessionExpired => some .sessionExpired
  | .DownlinkReceived n => some (.downlinkReceived n.toNat) | .NoJoinAccept => some .noJoinAccept
  | .JoinSuccess => some .joinSuccess | .NoUpdate => some .noUpdate | .RxComplete => some .rxComplete
  | .LinkCheckReq => none

/-- what the generated code observes of the region: `next_lower_datarate`, from the model's plan tables -/
def regionOf (r : RegionId) : Gen.SessionFn.RegionCfg :=
  ⟨fun dr => (nextLowerDatarate r dr.toInt.toNat).map drOfNatT⟩

/-- the integer fields of a generated session are within their Rust types -/
def SessWF (g : Gen.SessionFn.Session) : Prop :=
  0 ≤ g.fcnt_up ∧ g.fcnt_up ≤ 4294967295 ∧ 0 ≤ g.adr_ack_cnt ∧ g.adr_ack_cnt ≤ 4294967295

namespace MacTop

/-- the generated session of `Gen.SessionFn` a model session projects to -/
def sessG (s : Model.Session) : Gen.SessionFn.Session :=
  ⟨s.confirmed, s.fcntUp, s.fcntDown.map Int.ofNat, s.adrAckCnt⟩

/-- the counters of a model session fit their Rust types -/
def SessFits (s : Model.Session) : Prop := s.fcntUp ≤ 4294967295 ∧ s.adrAckCnt ≤ 4294967295

theorem sessG_wf (s : Model.Session) (h : SessFits s) : SessWF (sessG s) := by
  simp only [SessWF, sessG]; unfold SessFits at h; omega

theorem sessOf_sessG (s : Model.Session) : sessOf s (sessG s) = s := by
  cases s with | mk p a c d fu fd ac nk ak =>
  cases fd <;> simp [sessOf, sessG]

end MacTop

theorem sessOf_surj (s : Session) (h1 : s.fcntUp ≤ 4294967295) (h2 : s.adrAckCnt ≤ 4294967295) :
    ∃ g, SessWF g ∧ sessOf s g = s :=
  ⟨MacTop.sessG s, MacTop.sessG_wf s ⟨h1, h2⟩, MacTop.sessOf_sessG s⟩

theorem nextLower_toInt {r : RegionId} {dr : DR} {c : Nat} (h : nextLowerDatarate r dr.toInt.toNat = some c) :
    (drOfNatT c).toInt.toNat = c :=
  drOfNatT_toInt c (Nat.lt_trans (nextLower_lt h) (DR.toInt_lt dr))

end TieA
