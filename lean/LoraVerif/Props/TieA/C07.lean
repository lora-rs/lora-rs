import LoraVerif.Props.TieA.HandleRxFull
/-!
# C07, tie A: `Session::handle_rx` IS the model function the C07 theorems
are about (`Gen/SessionRx.lean`, `Props/TieA/HandleRx.lean`)
-/
namespace C07
open Model

/-- Frames that are not accepted change nothing, in the CODE.  On a buffer the parser accepts as a downlink-typed frame
(`hup`) carrying the session's own DevAddr if it passes the size test (`haddr`), the state-passing translation of
`Session::handle_rx` is the model's `sessionHandleRx`, the function the `C07.*` theorems are about; in particular its
early exits (oversized on RXC, `next_fcnt_down` refuses, the MIC does not verify) return `NoUpdate` with the session,
configuration, region, buffer and downlink queue they were given.  The remaining rejected buffers are the theorems beside
this one, each `NoUpdate` with nothing changed: `tieA_handle_rx_unparsed`, `tieA_handle_rx_uplink_typed`,
`tieA_handle_rx_other_devaddr`.  `handle_downlink_macs` inside is the regenerated method (`TieA.Rx.Full.genOps`) on every
command stream, so there is no simulation hypothesis.  See `C05.tieA_handle_rx_accept` for the acceptance path. -/
theorem tieA_handle_rx_accept
    (D : Int) (gs : Gen.SessionRx.Session) (rs : RegionState) (g : Gen.SessionRx.Configuration)
    (rx : Gen.SessionRx.RadioBuffer) (dl : List Gen.SessionRx.Downlink) (maxp snr : Int) (ign : Bool)
    (e : Gen.SessionRx.EncryptedDataPayload)
    (hparse : rx.as_mut_for_read.parse = some e) (hup : e.is_uplink = false)
    (haddr : ¬ (e.as_bytes.length : Int) > maxp + 5 → e.fhdr.dev_addr = gs.devaddr)
    (hw : TieA.Rx.SessWF gs) (hmax : 0 ≤ maxp ∧ maxp ≤ 255) (hwire : 0 ≤ e.fhdr.fcnt)
    (hdec : ∀ f, Gen.SessionRx.next_fcnt_down gs.fcnt_down e.fhdr.fcnt = some f → e.validate_mic (TieA.Rx.nwkOf gs) f = true →
      ∃ d, rx.as_mut_for_read.decrypt_in_place (some (TieA.Rx.nwkOf gs)) (some (TieA.Rx.appOf gs)) f = some d ∧ TieA.Rx.DecWF TieA.Rx.Full.Stream d) :
    (@Gen.SessionRx.Session.handle_rx RegionState TieA.Rx.Full.genOps D gs rs g rx dl maxp snr ign).bind
        (fun out => (TieA.Rx.respOf out.1).map (fun r => (r, TieA.Rx.sessOf out.2.1, out.2.2.1, TieA.Rx.cfgOf out.2.2.2.1, out.2.2.2.2.2.map TieA.Rx.dlOf)))
      = (sessionHandleRx (TieA.Rx.sessOf gs) (TieA.Rx.cfgOf g) rs (TieA.Rx.dataOf gs e (TieA.Rx.decOf gs rx e)) maxp.toNat snr ign).toOption.map (TieA.Rx.expect dl D) :=
  TieA.Rx.Full.handle_rx_full D gs rs g rx dl maxp snr ign e hparse hup haddr hw hmax hwire hdec

/-- `C05.tieA_handle_rx_unparsed`, stated for this property -/
theorem tieA_handle_rx_unparsed [Gen.SessionRx.MacOps RegionState]
    (D : Int) (gs : Gen.SessionRx.Session) (rs : RegionState) (g : Gen.SessionRx.Configuration)
    (rx : Gen.SessionRx.RadioBuffer) (dl : List Gen.SessionRx.Downlink) (maxp snr : Int) (ign : Bool)
    (hparse : rx.as_mut_for_read.parse = none) :
    Gen.SessionRx.Session.handle_rx D gs rs g rx dl maxp snr ign = some (.NoUpdate, gs, rs, g, rx, dl) :=
  TieA.Rx.handle_rx_unparsed D gs rs g rx dl maxp snr ign hparse

/-- `C05.tieA_handle_rx_uplink_typed` with its docstring, stated for this property -/
theorem tieA_handle_rx_uplink_typed [Gen.SessionRx.MacOps RegionState]
    (D : Int) (gs : Gen.SessionRx.Session) (rs : RegionState) (g : Gen.SessionRx.Configuration)
    (rx : Gen.SessionRx.RadioBuffer) (dl : List Gen.SessionRx.Downlink) (maxp snr : Int) (ign : Bool)
    (e : Gen.SessionRx.EncryptedDataPayload)
    (hparse : rx.as_mut_for_read.parse = some e) (hup : e.is_uplink = true) :
    Gen.SessionRx.Session.handle_rx D gs rs g rx dl maxp snr ign = some (.NoUpdate, gs, rs, g, rx, dl) :=
  TieA.Rx.handle_rx_uplink_typed D gs rs g rx dl maxp snr ign e hparse hup

/-- `C05.tieA_handle_rx_other_devaddr` with its docstring, stated for this property -/
theorem tieA_handle_rx_other_devaddr [Gen.SessionRx.MacOps RegionState]
    (D : Int) (gs : Gen.SessionRx.Session) (rs : RegionState) (g : Gen.SessionRx.Configuration)
    (rx : Gen.SessionRx.RadioBuffer) (dl : List Gen.SessionRx.Downlink) (maxp snr : Int) (ign : Bool)
    (e : Gen.SessionRx.EncryptedDataPayload)
    (hparse : rx.as_mut_for_read.parse = some e) (hup : e.is_uplink = false)
    (hmax : 0 ≤ maxp ∧ maxp ≤ 255) (hfits : ¬ (e.as_bytes.length : Int) > maxp + 5)
    (haddr : e.fhdr.dev_addr ≠ gs.devaddr) :
    Gen.SessionRx.Session.handle_rx D gs rs g rx dl maxp snr ign = some (.NoUpdate, gs, rs, g, rx, dl) :=
  TieA.Rx.handle_rx_other_devaddr D gs rs g rx dl maxp snr ign e hparse hup hmax hfits haddr

/-- as in `C05.lean`: the simulation hypotheses hold of the regenerated `handle_downlink_macs` -/
example : @TieA.Rx.NextLowerOk TieA.Rx.Full.genOps ∧ @TieA.Rx.MacsOk TieA.Rx.Full.genOps TieA.Rx.Full.Stream := TieA.Rx.Full.genOps_ok

#print axioms tieA_handle_rx_accept
#print axioms tieA_handle_rx_unparsed
#print axioms tieA_handle_rx_uplink_typed
#print axioms tieA_handle_rx_other_devaddr
end C07
