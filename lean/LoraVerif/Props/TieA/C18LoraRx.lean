import LoraVerif.Gen.LoraRxFn
/-!
# Tie A for the length / buffer handling of `LoRa::get_rx_result` (lora-phy/src/lib.rs) — property C18

`Gen/LoraRxFn.lean` holds the state-passing translation of the CURRENT source of `LoRa::get_rx_result`; the two
`RadioKind` methods it calls are abstract (`RkOps`: any driver, panics and `Err` included, the caller's buffer handed
back in every case).  `tieA_lora_rx_result_slice` proves it equal, for every driver, mode, packet parameters and caller
buffer, to `rxResultSpec`: in `Receive` mode the caller's WHOLE buffer and the caller's packet parameters go to
`get_rx_payload` unchanged (no re-slicing to a configured length, no slice expression that could panic), the length
answered is `get_rx_payload`'s own, the buffer handed back is what `get_rx_payload` left (on `Ok` and on `Err`);
in any other mode nothing is called and nothing is touched.  (Slicing the buffer here to the implicit-header length, unchecked, as the
trial change `seeded/C18-4` does, breaks this equality.)  `complete_rx` (IRQ loop) is not translated.
-/
namespace C18
open Gen.LoraRxFn

variable [K : RkOps]

/-- what `get_rx_result` must do with the caller's buffer and the reported length -/
def rxResultSpec (self : LoRa) (p : PacketParams) (buf : List Int) :
    Option (Option (Int × PacketStatus) × LoRa × List Int) :=
  match self.radio_mode with
  | .Receive _ =>
    match RkOps.get_rx_payload self.radio_kind p buf with
    | none => none
    | some (none, rk, buf') => some (none, { self with radio_kind := rk }, buf')
    | some (some n, rk, buf') =>
      match RkOps.get_rx_packet_status rk with
      | none => none
      | some (none, rk') => some (none, { self with radio_kind := rk' }, buf')
      | some (some q, rk') => some (some (n, q), { self with radio_kind := rk' }, buf')
  | _ => some (none, self, buf)

theorem tieA_lora_rx_result_slice (self : LoRa) (p : PacketParams) (buf : List Int) :
    LoRa.get_rx_result self p buf = rxResultSpec self p buf := by
  obtain ⟨rk, mode⟩ := self
  unfold LoRa.get_rx_result rxResultSpec
  gen_unfold_helpers_LoraRxFn
  cases mode
  case Receive m =>
    simp only [bind, Option.bind, pure]
    cases RkOps.get_rx_payload rk p buf with
    | none => rfl
    | some r1 =>
      obtain ⟨_ | n, rk1, b1⟩ := r1
      · rfl
      · simp only []
        cases RkOps.get_rx_packet_status rk1 with
        | none => rfl
        | some r2 => obtain ⟨_ | q, rk2⟩ := r2 <;> rfl
  all_goals rfl

/-- non-vacuity: a driver that reports 3 bytes and writes them at the front of whatever buffer it is given -/
instance demoRk : RkOps where
  RK := Unit
  get_rx_payload := fun _ _ buf => if 3 ≤ buf.length then some (some 3, (), [7, 8, 9] ++ buf.drop 3) else some (none, (), buf)
  get_rx_packet_status := fun _ => some (some ⟨-80, 5⟩, ())

example : @LoRa.get_rx_result demoRk (@LoRa.mk demoRk () (.Receive .Continuous)) ⟨8, true, 2, true, false⟩ [0, 0, 0, 0, 0]
    = some (some (3, ⟨-80, 5⟩), @LoRa.mk demoRk () (.Receive .Continuous), [7, 8, 9, 0, 0]) := by rfl
example : @LoRa.get_rx_result demoRk (@LoRa.mk demoRk () .Standby) ⟨8, true, 2, true, false⟩ [0, 0]
    = some (none, @LoRa.mk demoRk () .Standby, [0, 0]) := by rfl

end C18
