import LoraVerif.Props.TieA.PlanSelect
/-!
# Tie A for the channel selection (C09), fixed plans (US915 / AU915): the join-bias bookkeeping of `JoinChannels`
and the join-request branch of `FixedChannelPlan::select_tx_channel`

`Gen/PlanSelectFn.lean` also holds the state-passing translation of `FixedChannelPlan::select_tx_channel` and of
`JoinChannels::{has_bias_and_not_exhausted, clear_join_bias, first_data_channel}`; the bank walk
`JoinChannels::get_next_channel` is abstract there (`JcOps`).

Tied of the method: `frame = .Join` (`tieA_fixed_select_join_partial`), and `frame = .Data` while the join bias is in force
and the mask does not disable the biased channel (`tieA_fixed_select_data_biased_partial`); after the bias, the case
"preferred sub-band usable" (`tieA_fixed_select_data_pref_partial`, `JoinWalkData.lean`).  NOT tied, and covered by the
correspondence runs only: the two bandwidth groups of a data frame with their "never spin" re-enabling and redraw loops.
-/
set_option linter.unusedSimpArgs false
namespace C09
open Model Gen.Region TieA TieA.Select TieA.CMask Rt.OfNat

/-- the model's join-channel state a generated `JoinChannels` stands for -/
def jcOf (j : Gen.PlanSelectFn.JoinChannels) : JoinChannels :=
  { maxRetries := j.max_retries.toNat, numRetries := j.num_retries.toNat,
    preferredSubband := j.preferred_subband.map (fun sb => sb.toInt.toNat),
    avail := natsOf j.available_channels.data._0, availPrev := j.available_channels.previous.map Int.toNat,
    previousChannel := j.previous_channel.toNat }

def fixOf (p : Gen.PlanSelectFn.FixedChannelPlan) : FixPlan := { mask := natsOf p.channel_mask._0, jc := jcOf p.join_channels }

def fregOf (r : RegionId) : Gen.PlanSelectFn.FixRegion := ⟨join500kDr r, datarates r, uplinkChannels r, downlinkChannels r⟩

/-- what the Rust types guarantee: the counters are `usize`, the previous channel a `u8` -/
def JcWF (j : Gen.PlanSelectFn.JoinChannels) : Prop :=
  0 ≤ j.max_retries ∧ 0 ≤ j.num_retries ∧ 0 ≤ j.previous_channel ∧ j.previous_channel ≤ 255

/-- a test spelt `>=` with the arms swapped (a harmless rewrite of the source) -/
theorem ite_ge_swap {α} (c n : Int) (A B : α) :
    (if decide (c ≥ n) = true then A else B) = (if decide (c < n) = true then B else A) := by
  by_cases h : c < n
  · have : ¬ c ≥ n := by omega
    simp [h, this]
  · have : c ≥ n := by omega
    simp [h, this]

theorem retries_ne_zero (j : Gen.PlanSelectFn.JoinChannels) (h : 0 ≤ j.num_retries) :
    decide (j.num_retries ≠ 0) = ((jcOf j).numRetries != 0) := by
  by_cases h0 : j.num_retries = 0
  · simp [h0, jcOf]
  · have : j.num_retries.toNat ≠ 0 := by omega
    simp [h0, this, jcOf]

theorem tieA_has_bias_and_not_exhausted (j : Gen.PlanSelectFn.JoinChannels) (hj : JcWF j) :
    Gen.PlanSelectFn.JoinChannels.has_bias_and_not_exhausted j = (jcOf j).hasBiasAndNotExhausted := by
  obtain ⟨h1, h2, _, _⟩ := hj
  unfold Gen.PlanSelectFn.JoinChannels.has_bias_and_not_exhausted JoinChannels.hasBiasAndNotExhausted jcOf
  have e1 : decide (j.num_retries < j.max_retries) = decide (j.num_retries.toNat < j.max_retries.toNat) := by
    apply decide_eq_decide.mpr; omega
  have e2 : decide (j.num_retries ≠ 0) = (j.num_retries.toNat != 0) := retries_ne_zero j h2
  simp only [e1, e2, Option.isSome_map] <;>
    (cases j.preferred_subband.isSome <;> cases decide (j.num_retries.toNat < j.max_retries.toNat) <;>
      cases (j.num_retries.toNat != 0) <;> rfl)

theorem tieA_clear_join_bias (j : Gen.PlanSelectFn.JoinChannels) :
    jcOf (Gen.PlanSelectFn.JoinChannels.clear_join_bias j) = (jcOf j).clearBias := rfl

/-- `first_data_channel`: the sub-band of the previous (join) channel, a fresh channel of it from three random
bits, the bias cleared; `None` and nothing changed without a bias or before any attempt.  It cannot panic. -/
theorem tieA_first_data_channel {σ} (g : Rng σ) (j : Gen.PlanSelectFn.JoinChannels) (hj : JcWF j) (s : σ) :
    ∃ o, @Gen.PlanSelectFn.JoinChannels.first_data_channel σ (rngOf g) j s = some o ∧
      (o.1.map Int.toNat, jcOf o.2.1, o.2.2) = (jcOf j).firstDataChannel g s ∧
      (∀ c, o.1 = some c → 0 ≤ c ∧ c ≤ 63) ∧ JcWF o.2.1 ∧
      o.2.1.available_channels = j.available_channels := by
  obtain ⟨h1, h2, h3, h4⟩ := hj
  unfold Gen.PlanSelectFn.JoinChannels.first_data_channel JoinChannels.firstDataChannel
  have e2 := retries_ne_zero j h2
  have e1 : j.preferred_subband.isSome = (jcOf j).preferredSubband.isSome := by simp [jcOf]
  rw [e1, e2]
  by_cases hc : ((jcOf j).preferredSubband.isSome && (jcOf j).numRetries != 0) = true
  · rw [if_pos hc, if_pos hc]
    have hp : (Gen.PlanSelectFn.JoinChannels.clear_join_bias j).previous_channel = j.previous_channel := rfl
    simp only [hp, next_rngOf, andI_7, andI_7', ite_ge_swap, Option.bind_eq_bind, Option.pure_def]
    have hcb : (jcOf j).clearBias.previousChannel = j.previous_channel.toNat := rfl
    have h64' : j.previous_channel.toNat < 64 ↔ j.previous_channel < 64 := by omega
    by_cases h64 : j.previous_channel < 64 <;>
    · simp only [h64', h64, decide_true, decide_false, Bool.false_eq_true, if_true, if_false, div8_u8 _ h3 h4,
        rem8_u8 _ h3 h4, and7 _ h3, Option.bind_some, hcb]
      rw [Rt.ck_u8 (by omega) (by omega), Option.bind_some, wrap_u8_nat _ (by omega), Rt.ck_u8 (by omega) (by omega)]
      refine ⟨_, rfl, ?_, ?_, ?_, rfl⟩
      · simp only [Option.map_some, tieA_clear_join_bias]
        congr 2
      · intro c hc; cases hc; omega
      · exact ⟨Int.le_refl 0, h2, h3, h4⟩
  · rw [if_neg hc, if_neg hc]
    refine ⟨_, rfl, rfl, ?_, ?_, rfl⟩
    · intro c hc; cases hc
    · exact ⟨h1, h2, h3, h4⟩

/-- the abstract bank walk `JoinChannels::get_next_channel`, called on the state `j` with the stream `s`, answers as the
model's `getNextChannel` (hypothesis of the theorems below — needed only at the one call `select_tx_channel` makes;
discharged for the regenerated walk by `C09.tieA_join_channels_walk`, `Props/TieA/JoinWalk.lean`) -/
def JcOk {σ} (g : Rng σ) (ops : Gen.PlanSelectFn.JcOps σ) (j : Gen.PlanSelectFn.JoinChannels) (s : σ) : Prop :=
    (ops.get_next_channel j s).map (fun o => (o.1.toNat, jcOf o.2.1, o.2.2)) = ((jcOf j).getNextChannel g s).toOption ∧
    ∀ o, ops.get_next_channel j s = some o → 0 ≤ o.1 ∧ o.1 ≤ 255 ∧ JcWF o.2.1

/-- the tail of `select_tx_channel` — the TxChannel of a (data rate, channel) pair — followed by continuations that agree -/
theorem fixed_tx_tail_k {β γ : Type} {S : β → γ → Prop} (r : RegionId) (dr : DR) (c : Int) (h0 : 0 ≤ c) (h1 : c ≤ 255)
    (K : Gen.PlanSelectFn.TxChannel → Option β) (K' : TxChannel → M γ) (hK : ∀ t, Tie S (K t) (K' (txOf t))) :
    Tie S ((Rt.idx (datarates r) (Rt.wrap .usize (DR.toInt dr))).bind fun t36 => t36.bind fun t37 =>
      (Rt.idx (uplinkChannels r) c).bind fun t38 => (Rt.remC .u8 c 8).bind fun t39 =>
        (Rt.idx (downlinkChannels r) t39).bind fun t40 =>
          K { datarate := t37, dr := dr, frequency := t38, rx1_frequency := t40 })
      (do
        let d ← unwrapDatarate "datarates()[dr].unwrap" (← indexDatarate r dr.toInt.toNat)
        match (uplinkChannels r)[c.toNat]?, (downlinkChannels r)[c.toNat % 8]? with
        | some f, some f1 => K' { dr := dr, datarate := d, frequency := f.toNat, rx1Frequency := f1.toNat }
        | _, _ => panic "uplink_channels()[channel]") := by
  rw [bind_bind_id, rem8_u8 c h0 h1, show c = ((c.toNat : Nat) : Int) by omega, idx_nat, ← bind_assoc]
  refine Tie.bind (datarate_tie r dr) fun d _ hd => ?_
  subst hd
  simp only [Int.toNat_natCast, Option.bind_some, idx_nat]
  cases (uplinkChannels r)[c.toNat]? with
  | none => trivial
  | some f =>
    cases (downlinkChannels r)[c.toNat % 8]? with
    | none => trivial
    | some f1 => exact hK _

/-- the tail of `select_tx_channel`: the TxChannel of a (data rate, channel) pair -/
theorem fixed_tx_tail (r : RegionId) (dr : DR) (c : Int) (h0 : 0 ≤ c) (h1 : c ≤ 255) :
    ((Rt.idx (datarates r) (Rt.wrap .usize (DR.toInt dr))).bind fun t36 => t36.bind fun t37 =>
      (Rt.idx (uplinkChannels r) c).bind fun t38 => (Rt.remC .u8 c 8).bind fun t39 =>
        (Rt.idx (downlinkChannels r) t39).bind fun t40 =>
          some (({ datarate := t37, dr := dr, frequency := t38, rx1_frequency := t40 } : Gen.PlanSelectFn.TxChannel))).map txOf
      = (do
          let d ← unwrapDatarate "datarates()[dr].unwrap" (← indexDatarate r dr.toInt.toNat)
          match (uplinkChannels r)[c.toNat]?, (downlinkChannels r)[c.toNat % 8]? with
          | some f, some f1 => pure ({ dr := dr, datarate := d, frequency := f.toNat, rx1Frequency := f1.toNat } : TxChannel)
          | _, _ => panic "uplink_channels()[channel]" : M TxChannel).toOption :=
  Tie.iff_map.mp (fixed_tx_tail_k r dr c h0 h1 some pure fun _ => rfl)

/-- the data rate a join channel mandates: DR0 on the 125 kHz channels, `JOIN_DR_500KHZ` from channel 64 up -/
theorem join_dr (r : RegionId) (c : Int) (h0 : 0 ≤ c) :
    (if decide (c < 64) = true then DR._0 else (fregOf r).JOIN_DR_500KHZ) = (if c.toNat < 64 then DR._0 else join500kDr r) := by
  by_cases h : c < 64
  · rw [if_pos (decide_eq_true h), if_pos (by omega)]
  · rw [if_neg (by simpa using h), if_neg (by omega)]; rfl

set_option linter.unusedVariables false in -- `hj` is part of the statement; `JcOk` already carries what the proof needs
/-- **the join request of a fixed plan** (`Frame::Join` of `FixedChannelPlan::select_tx_channel` as the current source
has it) is the model's: the channel the bank walk yields, DR0 below channel 64 and the region's `JOIN_DR_500KHZ`
on the 500 kHz channels, the uplink frequency of that channel and the downlink frequency of `channel % 8`, the
join-channel state as the walk leaves it — for every plan, data rate, generator and stream, and every walk that is
the model's (`JcOk`) -/
theorem tieA_fixed_select_join_partial {σ} (g : Rng σ) (ops : Gen.PlanSelectFn.JcOps σ)
    (rs : RegionState) (p : Gen.PlanSelectFn.FixedChannelPlan) (hplan : rs.plan = .fix (fixOf p))
    (hj : JcWF p.join_channels) (dr : DR) (s : σ) (hops : JcOk g ops p.join_channels s) :
    (@Gen.PlanSelectFn.FixedChannelPlan.select_tx_channel σ (rngOf g) (fuelOf loopFuel) (fregOf rs.id) ops p s dr .Join).map
        (fun o => (txOf o.1, { rs with plan := .fix (fixOf o.2.1) }, o.2.2))
      = (selectTxChannel g rs dr .join s).toOption := by
  unfold Gen.PlanSelectFn.FixedChannelPlan.select_tx_channel selectTxChannel
  simp only [hplan, Option.bind_eq_bind, Option.pure_def, fixOf]
  rcases (Tie.iff_map_post.mpr hops).cases with ⟨hgn, e, hm⟩ | ⟨⟨c, j', s1⟩, _, hgn, hm, rfl, hc0, hc1, hj'⟩ <;> rw [hgn, hm]
  · rfl
  · simp only [Option.bind_some, ite_ge_swap, join_dr rs.id c hc0]
    exact Tie.iff_map.mp (fixed_tx_tail_k rs.id _ c hc0 hc1
      (fun t => some (t, ({ channel_mask := p.channel_mask, join_channels := j' } : Gen.PlanSelectFn.FixedChannelPlan), s1))
      (fun t => pure (t, ({ rs with plan := .fix (fixOf { channel_mask := p.channel_mask, join_channels := j' }) } : RegionState), s1))
      fun _ => rfl)

/-- 9 mask bytes, each an octet: what `ChannelMask<9>` guarantees -/
def MaskWF (p : Gen.PlanSelectFn.FixedChannelPlan) : Prop := p.channel_mask._0.length = 9 ∧ Octets p.channel_mask._0

/-- **a data frame of a fixed plan while the join bias is in force** (`has_bias_and_not_exhausted`): unless the mask
disables the channel the walk yields, the regenerated `select_tx_channel` is the model's — that channel, with the
data rate the channel mandates (DR0 / `JOIN_DR_500KHZ`), mask untouched, join-channel state as the walk leaves it.
(The case "the mask disables the biased channel" continues as without a bias; it is not tied.) -/
theorem tieA_fixed_select_data_biased_partial {σ} (g : Rng σ) (ops : Gen.PlanSelectFn.JcOps σ)
    (rs : RegionState) (p : Gen.PlanSelectFn.FixedChannelPlan) (hplan : rs.plan = .fix (fixOf p))
    (hj : JcWF p.join_channels) (hm : MaskWF p) (dr : DR) (s : σ) (hops : JcOk g ops p.join_channels s)
    (hb : (jcOf p.join_channels).hasBiasAndNotExhausted = true)
    (hen : ∀ ch jc' s1, (jcOf p.join_channels).getNextChannel g s = .ok (ch, jc', s1) →
      Mask.isEnabled (natsOf p.channel_mask._0) ch ≠ .ok false) :
    (@Gen.PlanSelectFn.FixedChannelPlan.select_tx_channel σ (rngOf g) (fuelOf loopFuel) (fregOf rs.id) ops p s dr .Data).map
        (fun o => (txOf o.1, { rs with plan := .fix (fixOf o.2.1) }, o.2.2))
      = (selectTxChannel g rs dr .data s).toOption := by
  obtain ⟨hml, hoct⟩ := hm
  have hb' := tieA_has_bias_and_not_exhausted p.join_channels hj
  rw [hb] at hb'
  unfold Gen.PlanSelectFn.FixedChannelPlan.select_tx_channel selectTxChannel
  simp only [hplan, Option.bind_eq_bind, Option.pure_def, fixOf, hb, hb', if_true]
  rcases (Tie.iff_map_post.mpr hops).cases with ⟨hgn, e, hmd⟩ | ⟨⟨c, j', s1⟩, _, hgn, hmd, rfl, hc0, hc1, hj'⟩ <;> rw [hgn, hmd]
  · rfl
  · have hne := hen _ _ _ hmd
    have hie := is_enabled_nat9 p.channel_mask hoct hml c.toNat
    rw [Int.toNat_of_nonneg hc0] at hie
    simp only [Option.bind_some, bind, Except.bind, pure, Except.pure, bind_bind_id, hie]
    cases hme : Mask.isEnabled (natsOf p.channel_mask._0) c.toNat with
    | error e => rfl
    | ok b =>
      cases b with
      | false => exact absurd hme hne
      | true =>
        simp only [Except.toOption, Option.bind_some, if_true, ite_ge_swap, join_dr rs.id c hc0, ← bind_bind_id]
        exact Tie.iff_map.mp (fixed_tx_tail_k rs.id _ c hc0 hc1
          (fun t => some (t, ({ channel_mask := p.channel_mask, join_channels := j' } : Gen.PlanSelectFn.FixedChannelPlan), s1))
          (fun t => pure (t, ({ rs with plan := .fix (fixOf { channel_mask := p.channel_mask, join_channels := j' }) } : RegionState), s1))
          fun _ => rfl)

/-- the join-channel state of a US915 plan as `State::new` builds it, with `set_join_bias(Subband::_2)` (one try), after `n`
attempts, the last on channel `prev` -/
def exJc (n : Int) (prev : Int) : Gen.PlanSelectFn.JoinChannels :=
  { max_retries := 1, num_retries := n, preferred_subband := some ._2,
    available_channels := ⟨⟨List.replicate 9 255⟩, none⟩, previous_channel := prev }
def exPlanFix : Gen.PlanSelectFn.FixedChannelPlan := { channel_mask := ⟨List.replicate 9 255⟩, join_channels := exJc 0 0 }

/-- the walk, tabulated at the one state the example calls it in: what the model's `getNextChannel` answers there -/
@[reducible] def exOps : Gen.PlanSelectFn.JcOps Nat :=
  ⟨fun j s => if j = exJc 0 0 ∧ s = 5 then
      some (13, { (exJc 1 13) with available_channels := ⟨⟨[255, 223, 255, 255, 255, 255, 255, 255, 255]⟩, some 13⟩ }, 6)
    else none⟩

/-- the hypotheses of `tieA_fixed_select_join_partial` are satisfiable (`JcOk` at the state of the call: the tabulated
answer IS the model's, by evaluation), and the regenerated method then sends the join request on channel 13 of
sub-band 2 (904.9 MHz) at DR0; `first_data_channel` after that join yields a channel of the same sub-band and clears
the bias -/
example :
    JcWF exPlanFix.join_channels ∧ (RegionState.init .US915 |>.setJoinBias 2 1).plan = .fix (fixOf exPlanFix) ∧
    (exOps.get_next_channel exPlanFix.join_channels 5).map (fun o => (o.1.toNat, jcOf o.2.1, o.2.2))
      = ((jcOf exPlanFix.join_channels).getNextChannel exGen 5).toOption ∧
    (@Gen.PlanSelectFn.FixedChannelPlan.select_tx_channel Nat (rngOf exGen) (fuelOf loopFuel) (fregOf .US915) exOps exPlanFix 5 DR._3 .Join).map
        (fun o => (o.1.frequency, o.1.dr, o.2.1.join_channels.previous_channel, o.2.2)) = some (904900000, DR._0, 13, 6) ∧
    (@Gen.PlanSelectFn.JoinChannels.first_data_channel Nat (rngOf exGen) (exJc 1 13) 6).map
        (fun o => (o.1, o.2.1.preferred_subband, o.2.2)) = some (some 14, none, 7) := by
  refine ⟨⟨by decide, by decide, by decide, by decide⟩, ?_, ?_, ?_, ?_⟩ <;> decide +kernel

#print axioms tieA_has_bias_and_not_exhausted
#print axioms tieA_fixed_select_data_biased_partial
#print axioms tieA_clear_join_bias
#print axioms tieA_first_data_channel
#print axioms tieA_fixed_select_join_partial

end C09
