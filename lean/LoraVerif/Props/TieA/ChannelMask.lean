import LoraVerif.Gen.ChannelMaskFn
import LoraVerif.Props.TieA.Common
import LoraVerif.Props.TieA.Calc
/-!
# Tie A for the bit operations of `ChannelMask<N>` (lorawan-encoding/src/types.rs; C08 / C09)

`Gen/ChannelMaskFn.lean` holds the translation of the CURRENT source of `ChannelMask::{set_bank, set_channel,
get_index, channel_enabled, is_enabled}` over the byte array `self.0` (`N` = its length), in `Rt`'s checked
arithmetic: `channel >> 3`, `1 << (channel & 7)` typed `u8` from its later use, `!flag`, `|=` / `&=` through
the index (out of bounds: a panic), `N * 8 - 1`.

Each is proved EQUAL to the model's operation on the mask (`Mask.setBank`, `Mask.setChannel`, `Mask.isEnabled`,
`m[i]?`), for every mask of octets (any length), every index / channel number and every value: same mask
afterwards, a panic on one side iff on the other.
-/
-- simp arguments that serve only another spelling of the source (`/ 8`, `% 8` for `>> 3`, `& 7`), and the bound they need
set_option linter.unusedSimpArgs false
set_option linter.unusedVariables false
namespace TieA.CMask
open Model Rt.OfNat

def natsOf (l : List Int) : List Nat := l.map Int.toNat

/-- a generated mask holds octets -/
def Octets (l : List Int) : Prop := ∀ x ∈ l, 0 ≤ x ∧ x ≤ 255

/-- `channel >> 3` and `channel & 7` spelt `channel / 8` and `channel % 8` (a harmless rewrite of the source) -/
theorem div8 (ch : Int) (h : 0 ≤ ch) (h1 : ch ≤ 18446744073709551615) : Rt.divC .usize ch 8 = some (((ch.toNat / 8 : Nat)) : Int) := by
  obtain ⟨n, rfl⟩ := Int.eq_ofNat_of_zero_le h
  exact (divC_nat .usize n 8 (by decide)).trans (Rt.ck_usize (by omega) (by omega))

theorem rem8 (ch : Int) (h : 0 ≤ ch) (h1 : ch ≤ 18446744073709551615) : Rt.remC .usize ch 8 = some (((ch.toNat % 8 : Nat)) : Int) := by
  obtain ⟨n, rfl⟩ := Int.eq_ofNat_of_zero_le h
  exact (remC_nat .usize n 8 (by decide)).trans (Rt.ck_usize (by omega) (by omega))

theorem ofNat_natsOf (l : List Int) (h : Octets l) : (natsOf l).map Int.ofNat = l :=
  map_ofNat_toNat l fun x hx => (h x hx).1

theorem channel_enabled_nat (l : List Nat) (i : Int) (h0 : 0 ≤ i) (h1 : i ≤ 18446744073709551615) :
    Gen.ChannelMaskFn.ChannelMask.channel_enabled ⟨l.map Int.ofNat⟩ i
      = l[i.toNat / 8]?.map (fun b => b.testBit (i.toNat % 8)) := by
  unfold Gen.ChannelMaskFn.ChannelMask.channel_enabled
  simp only [shr3 i h0, and7 i h0, div8 i h0 h1, rem8 i h0 h1, (flag_u8 ⟨i.toNat % 8, Nat.mod_lt _ (by decide)⟩).1, Option.bind_eq_bind,
    Option.bind_some, Rt.idx_map]
  cases l[i.toNat / 8]? with
  | none => rfl
  | some b =>
    simp only [Option.map_some, Option.bind_some, Option.pure_def, Int.ofNat_eq_natCast, ne_eq, testBit_flag]
    cases b.testBit (i.toNat % 8) <;> rfl

/-- `N * 8` fits `usize` (true of every array that exists) -/
def LenOk (n : Nat) : Prop := (n : Int) * 8 ≤ 18446744073709551615

theorem is_enabled_nat (l : List Nat) (hl : 0 < l.length) (h64 : LenOk l.length) (i : Int) (h0 : 0 ≤ i) (h1 : i ≤ 18446744073709551615) :
    (Gen.ChannelMaskFn.ChannelMask.is_enabled ⟨l.map Int.ofNat⟩ i).bind id = (Mask.isEnabled l i.toNat).toOption ∧
    (i.toNat ≤ l.length * 8 - 1 → ∃ b, Gen.ChannelMaskFn.ChannelMask.is_enabled ⟨l.map Int.ofNat⟩ i = some (some b)) := by
  unfold Gen.ChannelMaskFn.ChannelMask.is_enabled Mask.isEnabled
  unfold LenOk at h64
  simp only [List.length_map, Int.ofNat_eq_natCast, channel_enabled_nat l i h0 h1]
  rw [Rt.ck_usize (by omega) h64]
  simp only [Option.bind_eq_bind, Option.bind_some]
  rw [Rt.ck_usize (by omega) (by omega)]
  simp only [Option.bind_some]
  by_cases hgt : i > (l.length : Int) * 8 - 1
  · have hgt' : i.toNat > l.length * 8 - 1 := by omega
    refine ⟨?_, fun h => absurd h (by omega)⟩
    simp [hgt, hgt', Except.toOption, Model.panic]
  · have hgt' : ¬ i.toNat > l.length * 8 - 1 := by omega
    have hlt : i.toNat / 8 < l.length := by omega
    simp only [hgt, hgt', decide_false, Bool.false_eq_true, if_false, List.getElem?_eq_getElem hlt, Option.map_some,
      Option.bind_some, Option.pure_def, id, Except.toOption]
    exact ⟨trivial, fun _ => ⟨_, rfl⟩⟩

/-- `ChannelMask::set_channel` as the current source has it is the model's `Mask.setChannel`: bit
`channel & 7` of byte `channel >> 3` set or cleared, nothing else touched, out of bounds a panic; the mask it leaves
holds octets again and is as long as before -/
theorem set_channel_tie (m : Gen.ChannelMaskFn.ChannelMask) (hm : Octets m._0) (ch : Int) (h0 : 0 ≤ ch) (h1 : ch ≤ 18446744073709551615) (set : Bool) :
    Tie (fun m' n => n = natsOf m'._0 ∧ Octets m'._0 ∧ m'._0.length = m._0.length)
      (Gen.ChannelMaskFn.ChannelMask.set_channel m ch set) (Mask.setChannel (natsOf m._0) ch.toNat set) := by
  have hk : ch.toNat % 8 < 8 := Nat.mod_lt _ (by decide)
  obtain ⟨e1, e2⟩ := flag_u8 ⟨ch.toNat % 8, hk⟩
  unfold Gen.ChannelMaskFn.ChannelMask.set_channel Mask.setChannel
  have hidx : Rt.idx m._0 ((ch.toNat / 8 : Nat) : Int) = m._0[ch.toNat / 8]? := idx_eq _ (Int.natCast_nonneg _)
  simp only [shr3 ch h0, and7 ch h0, div8 ch h0 h1, rem8 ch h0 h1, e1, hidx, Option.bind_eq_bind, Option.bind_some, natsOf,
    List.getElem?_map]
  cases hq : m._0[ch.toNat / 8]? with
  | none => cases set <;> trivial
  | some b =>
    obtain ⟨hlt, rfl⟩ := List.getElem?_eq_some_iff.mp hq
    obtain ⟨hb0, hb1⟩ := hm _ (List.getElem_mem hlt)
    have hset : ∀ v, Rt.setIdx m._0 ((ch.toNat / 8 : Nat) : Int) v = some (m._0.set (ch.toNat / 8) v) :=
      setIdx_eq_some _ (Int.natCast_nonneg _) hlt
    -- the byte written is `b | flag` or `b & !flag` of an octet `b`: an octet again
    have hoct : ∀ v : Nat, v < 256 → Octets (m._0.set (ch.toNat / 8) (v : Int)) := fun v hv =>
      List.forall_mem_set hm ⟨by omega, by omega⟩ _
    have hflag : 1 <<< (ch.toNat % 8) < 2 ^ 8 := by rw [Nat.one_shiftLeft]; exact Nat.pow_lt_pow_right (by decide) hk
    rw [← Int.toNat_of_nonneg hb0]
    cases set
    · simp only [Bool.false_eq_true, if_false, Option.bind_some, Option.map_some, e2, Rt.andI_ofNat, hset, Option.pure_def]
      exact ⟨by simp [List.map_set, Int.max_eq_left hb0], hoct _ (Nat.lt_of_le_of_lt Nat.and_le_left (by omega)), by simp⟩
    · simp only [if_true, Option.bind_some, Option.map_some, Rt.orI_ofNat, hset, Option.pure_def]
      exact ⟨by simp [List.map_set, Int.max_eq_left hb0], hoct _ (Nat.or_lt_two_pow (n := 8) (by omega) hflag), by simp⟩

/-- `ChannelMask::is_enabled(i)` followed by `unwrap()` is the model's `Mask.isEnabled` (`Err(InvalidIndex)`
past `N * 8 - 1`, else bit `i & 7` of byte `i >> 3`); inside the range it answers `Ok` -/
theorem is_enabled_tie (m : Gen.ChannelMaskFn.ChannelMask) (hm : Octets m._0) (hl : 0 < m._0.length) (h64 : LenOk m._0.length)
    (i : Int) (h0 : 0 ≤ i) (h1 : i ≤ 18446744073709551615) :
    (Gen.ChannelMaskFn.ChannelMask.is_enabled m i).bind id = (Mask.isEnabled (natsOf m._0) i.toNat).toOption ∧
    (i.toNat ≤ m._0.length * 8 - 1 → ∃ b, Gen.ChannelMaskFn.ChannelMask.is_enabled m i = some (some b)) := by
  have hlen : (natsOf m._0).length = m._0.length := by simp [natsOf]
  have := is_enabled_nat (natsOf m._0) (by omega) (by rw [hlen]; exact h64) i h0 h1
  rw [ofNat_natsOf _ hm, hlen] at this
  exact this

/-- `ChannelMask::set_bank` is the model's `Mask.setBank` -/
theorem set_bank_tie (m : Gen.ChannelMaskFn.ChannelMask) (i : Int) (h0 : 0 ≤ i) (v : Int) :
    (Gen.ChannelMaskFn.ChannelMask.set_bank m i v).map (fun m' => natsOf m'._0)
      = (Mask.setBank (natsOf m._0) i.toNat v.toNat).toOption := by
  unfold Gen.ChannelMaskFn.ChannelMask.set_bank Mask.setBank Rt.setIdx
  simp only [natsOf, List.length_map]
  by_cases h : i.toNat < m._0.length
  · rw [if_pos ⟨h0, h⟩, if_pos h]
    simp only [Option.bind_eq_bind, Option.bind_some, Option.pure_def, Option.map_some, List.map_set, Except.toOption]
  · rw [if_neg (fun hh => h hh.2), if_neg h]; rfl

/-- `ChannelMask::get_index` reads byte `index` (out of bounds: a panic) -/
theorem get_index_tie (m : Gen.ChannelMaskFn.ChannelMask) (i : Int) (h0 : 0 ≤ i) :
    (Gen.ChannelMaskFn.ChannelMask.get_index m i).map Int.toNat = (natsOf m._0)[i.toNat]? := by
  unfold Gen.ChannelMaskFn.ChannelMask.get_index Rt.idx
  rw [if_neg (by omega)]
  simp only [natsOf, List.getElem?_map]

/-- all 72 channels enabled; channel 11 is switched off (byte 1: 0xF7), then reads as off, channel 12 as on;
index 72 is `Err(InvalidIndex)`, `set_channel(72)` panics -/
example :
    Gen.ChannelMaskFn.ChannelMask.set_channel ⟨List.replicate 9 255⟩ 11 false = some ⟨[255, 0xF7, 255, 255, 255, 255, 255, 255, 255]⟩ ∧
    Gen.ChannelMaskFn.ChannelMask.is_enabled ⟨[255, 0xF7, 255, 255, 255, 255, 255, 255, 255]⟩ 11 = some (some false) ∧
    Gen.ChannelMaskFn.ChannelMask.is_enabled ⟨[255, 0xF7, 255, 255, 255, 255, 255, 255, 255]⟩ 12 = some (some true) ∧
    Gen.ChannelMaskFn.ChannelMask.is_enabled ⟨List.replicate 9 255⟩ 72 = some none ∧
    Gen.ChannelMaskFn.ChannelMask.set_channel ⟨List.replicate 9 255⟩ 72 true = none ∧
    Gen.ChannelMaskFn.ChannelMask.set_bank ⟨List.replicate 9 255⟩ 8 0 = some ⟨[255, 255, 255, 255, 255, 255, 255, 255, 0]⟩ := by
  decide

example : Octets (List.replicate 9 255) ∧ LenOk (List.replicate 9 (255 : Int)).length := by
  exact ⟨octets_replicate 9, by unfold LenOk; decide⟩

#print axioms set_channel_tie
#print axioms is_enabled_tie
#print axioms set_bank_tie
#print axioms get_index_tie
end TieA.CMask
