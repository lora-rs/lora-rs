import LoraVerif.Props.TieA.MacCmdFrame
import LoraVerif.Props.TieA.HandleRxFull
/-!
# Tie A for the payload accessors of the downlink MAC commands and for the iterator `handle_downlink_macs` runs over (C08)

`C08.tieA_handle_downlink_macs` keeps the iterator abstract: a command is "what its payload accessors
yield", spelt by hand (`TieA.Macs.decCmd` over the model's `parseDownlinkCmds`).  Here that reading is proved about
the REGENERATED code (`Gen/MacCmdFn.lean`): `view` applies the regenerated accessors
(`LinkADRReqPayload::{data_rate, tx_power, channel_mask, redundancy}` with `Redundancy::channel_mask_control`,
`RXParamSetupReqPayload::{dl_settings, frequency}`, `Frequency::value`, `RXTimingSetupReqPayload::delay`,
`NewChannelReqPayload::{channel_index, frequency, data_rate_range}` with `DataRateRange::new`,
`DlChannelReqPayload::{channel_index, frequency}`) to a command the regenerated `parse_one` yields; it equals
`decCmd` for EVERY payload of octets of the command's length, and the regenerated iterator drained over any octet
stream, read through `view`, is `parseDownlinkCmds` + `decCmd`.  The end of the file plugs both into the regenerated
`handle_downlink_macs` and `handle_rx` (`genOpsU`, `tieA_handle_rx_iter`).
-/
namespace TieA.MacCmdAcc
open Gen.Region TieA.Macs TieA.MacCmdFrame

/-- a command as `handle_downlink_macs` reads it: the values the REGENERATED payload accessors yield
(`none` = an accessor panics) -/
def view : Gen.MacCmdFn.DownlinkMacCommand → Option Gen.SessionMacs.DownlinkMacCommand
  | .LinkADRReq p => do
    let dr ← p.data_rate
    let pw ← p.tx_power
    let cm ← p.channel_mask
    let r ← p.redundancy
    let cntl ← r.channel_mask_control
    pure (.LinkADRReq ⟨dr, pw, ⟨cm._0⟩, ⟨cntl⟩⟩)
  | .RXParamSetupReq p => do
    let dl ← p.dl_settings
    let f ← p.frequency
    let v ← f.value
    pure (.RXParamSetupReq ⟨⟨dl._0⟩, ⟨v⟩⟩)
  | .DevStatusReq _ => some (.DevStatusReq ⟨⟩)
  | .NewChannelReq p => do
    let i ← p.channel_index
    let f ← p.frequency
    let v ← f.value
    let d ← p.data_rate_range
    pure (.NewChannelReq ⟨i, ⟨v⟩, d.map fun x => ⟨x._0⟩⟩)
  | .RXTimingSetupReq p => do
    let d ← p.delay
    pure (.RXTimingSetupReq ⟨d⟩)
  | .DlChannelReq p => do
    let i ← p.channel_index
    let f ← p.frequency
    let v ← f.value
    pure (.DlChannelReq ⟨i, ⟨v⟩⟩)
  | .LinkCheckAns p => some (.LinkCheckAns ⟨p._0⟩)
  | .DutyCycleReq p => some (.DutyCycleReq ⟨p._0⟩)
  | .TXParamSetupReq p => some (.TXParamSetupReq ⟨p._0⟩)
  | .DeviceTimeAns p => some (.DeviceTimeAns ⟨p._0⟩)

/-- `Frequency::value` on three octets, given that neither shift nor sum overflows -/
theorem freq_value_of (a a1 a2 b c : Int) (s2 : Rt.shlC .u32 a2 16 = some c) (s1 : Rt.shlC .u32 a1 8 = some b)
    (h1 : Rt.ck .u32 (c + b) = some (c + b)) (h2 : Rt.ck .u32 (c + b + a) = some (c + b + a))
    (h3 : Rt.ck .u32 ((c + b + a) * 100) = some ((c + b + a) * 100)) :
    Gen.MacCmdFn.Frequency.value ⟨[a, a1, a2]⟩ = some ((c + b + a) * 100) := by
  have i0 : Rt.idx [a, a1, a2] 0 = some a := rfl
  have i1 : Rt.idx [a, a1, a2] 1 = some a1 := rfl
  have i2 : Rt.idx [a, a1, a2] 2 = some a2 := rfl
  simp only [Gen.MacCmdFn.Frequency.value, i0, i1, i2, s2, s1, h1, h2, h3, Option.bind_eq_bind, Option.bind_some]

/-- `Frequency::value` on three octets: the 24-bit little-endian value times 100, no overflow -/
theorem freq_value (f0 f1 f2 : Nat) (h0 : f0 < 256) (h1 : f1 < 256) (h2 : f2 < 256) :
    Gen.MacCmdFn.Frequency.value ⟨[(f0 : Int), (f1 : Int), (f2 : Int)]⟩ = some (freqOf f0 f1 f2).value := by
  rw [freq_value_of f0 f1 f2 _ _ (Rt.shlC_u32_16 (by omega) (by omega)) (Rt.shlC_u32_8 (by omega) (by omega)) (Rt.ck_u32 (by omega) (by omega)) (Rt.ck_u32 (by omega) (by omega))
    (Rt.ck_u32 (by omega) (by omega))]
  simp only [freqOf, Option.some.injEq]
  omega

/-- `ChannelMask::<2>::new_from_raw` on two octets: the array of those two -/
theorem mask2 (b1 b2 : Int) : Gen.MacCmdFn.ChannelMask.new_from_raw 2 [b1, b2] = some ⟨[b1, b2]⟩ := by
  simp [Gen.MacCmdFn.ChannelMask.new_from_raw, Rt.slice, Rt.copyFromSlice]

/-- `DataRateRange::new` on an octet: `Err` iff max < min -/
theorem drr_new (r : Nat) (h : r < 256) :
    Gen.MacCmdFn.DataRateRange.new (r : Int) = some (if r / 16 < r % 16 then none else some ⟨(r : Int)⟩) := by
  unfold Gen.MacCmdFn.DataRateRange.new Gen.MacCmdFn.DataRateRange.can_build_from
  simp only [Rt.shrC_u8_4, Rt.OfNat.andI_15, Option.bind_eq_bind, Option.bind_some, Gen.MacCmdFn.DataRateRange.new_from_raw]
  by_cases hlt : r / 16 < r % 16
  · have : (r : Int) / 16 < (r : Int) % 16 := by omega
    simp [hlt, this]
  · have : ¬ (r : Int) / 16 < (r : Int) % 16 := by omega
    simp [hlt, this]

/-! ## the accessors of each command on a payload of the command's length: what `view` yields, the octets being
variables (with casts of naturals in their place the kernel is slow on the same steps); the one-octet `view_rx_timing` is
stated on `ints [d]` at once, and is `C08.tieA_acc_rx_timing_setup` word for word -/

theorem view_link_adr (a b c d : Int) (dr pw : DR) (hdr : u8.into_DR (a / 16) = some dr)
    (hpw : u8.into_DR (Rt.andI a 15) = some pw) :
    view (.LinkADRReq ⟨[a, b, c, d]⟩) = some (.LinkADRReq ⟨dr, pw, ⟨[b, c]⟩, ⟨Rt.andI (d / 16) 7⟩⟩) := by
  have i0 : Rt.idx [a, b, c, d] 0 = some a := rfl
  have i3 : Rt.idx [a, b, c, d] 3 = some d := rfl
  have s : Rt.slice [a, b, c, d] 1 3 = some [b, c] := rfl
  simp only [view, Gen.MacCmdFn.LinkADRReqPayload.data_rate, Gen.MacCmdFn.LinkADRReqPayload.tx_power,
    Gen.MacCmdFn.LinkADRReqPayload.channel_mask, Gen.MacCmdFn.LinkADRReqPayload.redundancy, Gen.MacCmdFn.Redundancy.new,
    Gen.MacCmdFn.Redundancy.channel_mask_control, i0, i3, s, Rt.shrC_u8_4, hdr, hpw, mask2, Option.bind_eq_bind, Option.bind_some]
  rfl

theorem view_rx_param (d a b c v : Int) (hv : Gen.MacCmdFn.Frequency.value ⟨[a, b, c]⟩ = some v) :
    view (.RXParamSetupReq ⟨[d, a, b, c]⟩) = some (.RXParamSetupReq ⟨⟨d⟩, ⟨v⟩⟩) := by
  have e1 : Gen.MacCmdFn.RXParamSetupReqPayload.dl_settings ⟨[d, a, b, c]⟩ = some ⟨d⟩ := rfl
  have e2 : Gen.MacCmdFn.RXParamSetupReqPayload.frequency ⟨[d, a, b, c]⟩ = some ⟨[a, b, c]⟩ := rfl
  simp only [view, e1, e2, hv, Option.bind_eq_bind, Option.bind_some]
  rfl

theorem view_new_channel (i a b c r v : Int) (dr : Option Gen.MacCmdFn.DataRateRange)
    (hv : Gen.MacCmdFn.Frequency.value ⟨[a, b, c]⟩ = some v) (hr : Gen.MacCmdFn.DataRateRange.new r = some dr) :
    view (.NewChannelReq ⟨[i, a, b, c, r]⟩) = some (.NewChannelReq ⟨i, ⟨v⟩, dr.map fun x => ⟨x._0⟩⟩) := by
  have e1 : Gen.MacCmdFn.NewChannelReqPayload.channel_index ⟨[i, a, b, c, r]⟩ = some i := rfl
  have e2 : Gen.MacCmdFn.NewChannelReqPayload.frequency ⟨[i, a, b, c, r]⟩ = some ⟨[a, b, c]⟩ := rfl
  have e3 : Gen.MacCmdFn.NewChannelReqPayload.data_rate_range ⟨[i, a, b, c, r]⟩ = Gen.MacCmdFn.DataRateRange.new r := rfl
  simp only [view, e1, e2, e3, hv, hr, Option.bind_eq_bind, Option.bind_some]
  rfl

theorem view_dl_channel (i a b c v : Int) (hv : Gen.MacCmdFn.Frequency.value ⟨[a, b, c]⟩ = some v) :
    view (.DlChannelReq ⟨[i, a, b, c]⟩) = some (.DlChannelReq ⟨i, ⟨v⟩⟩) := by
  have e1 : Gen.MacCmdFn.DlChannelReqPayload.channel_index ⟨[i, a, b, c]⟩ = some i := rfl
  have e2 : Gen.MacCmdFn.DlChannelReqPayload.frequency ⟨[i, a, b, c]⟩ = some ⟨[a, b, c]⟩ := rfl
  simp only [view, e1, e2, hv, Option.bind_eq_bind, Option.bind_some]
  rfl

theorem view_rx_timing (d : Nat) :
    view (.RXTimingSetupReq ⟨ints [d]⟩) = some (decCmd (0x08, [d])) := by
  simp [view, decCmd, ints, Gen.MacCmdFn.RXTimingSetupReqPayload.delay, Rt.idx, Rt.OfNat.andI_15]

end TieA.MacCmdAcc

namespace C08
open Gen.Region TieA.Macs TieA.MacCmdFrame TieA.MacCmdAcc

/-- LinkADRReq, field by field, for every four octets: DataRate = bits 7..4 and TXPower = bits 3..0 of octet 0
(through `DR::from`), ChMask = octets 1..2 (`ChannelMask::<2>::new_from_raw`), ChMaskCntl = bits 6..4 of octet 3
(`Redundancy::channel_mask_control`), NbTrans = bits 3..0 of octet 3 (`Redundancy::number_of_transmissions`). -/
theorem tieA_acc_link_adr (b0 b1 b2 b3 : Nat) (h0 : b0 < 256) (h3 : b3 < 256) :
    view (.LinkADRReq ⟨ints [b0, b1, b2, b3]⟩) = some (decCmd (0x03, [b0, b1, b2, b3])) ∧
    Gen.MacCmdFn.Redundancy.number_of_transmissions ⟨(b3 : Int)⟩ = ((b3 % 16 : Nat) : Int) := by
  have hdr : u8.into_DR ((b0 : Int) / 16) = some (TieA.drOfNatT (b0 / 16)) := TieA.into_dr (b0 / 16) (by omega)
  have hpw : u8.into_DR (Rt.andI (b0 : Int) 15) = some (TieA.drOfNatT (b0 % 16)) := by
    rw [Rt.OfNat.andI_15]; exact TieA.into_dr (b0 % 16) (by omega)
  have hc : Rt.andI ((b3 : Int) / 16) 7 = ((b3 / 16 % 8 : Nat) : Int) := by rw [Rt.OfNat.and7 _ (by omega)]; omega
  refine ⟨(view_link_adr b0 b1 b2 b3 _ _ hdr hpw).trans ?_, ?_⟩
  · rw [hc]; rfl
  · exact Rt.OfNat.andI_15 b3

/-- RXParamSetupReq for every four octets: DLSettings = octet 0, Frequency = the 24-bit little-endian value
of octets 1..3 times 100 Hz (no `u32` overflow); and the `DLSettings` accessors regenerated from types.rs are the ones
`handle_downlink_macs` was proved with (RX1DROffset = bits 6..4, RX2DataRate = bits 3..0). -/
theorem tieA_acc_rx_param_setup (d f0 f1 f2 : Nat) (h0 : f0 < 256) (h1 : f1 < 256) (h2 : f2 < 256) :
    view (.RXParamSetupReq ⟨ints [d, f0, f1, f2]⟩) = some (decCmd (0x05, [d, f0, f1, f2])) ∧
    (∀ x : Int, Gen.MacCmdFn.DLSettings.rx1_dr_offset ⟨x⟩ = Gen.SessionMacs.DLSettings.rx1_dr_offset ⟨x⟩ ∧
      Gen.MacCmdFn.DLSettings.rx2_data_rate ⟨x⟩ = Gen.SessionMacs.DLSettings.rx2_data_rate ⟨x⟩) :=
  ⟨view_rx_param d f0 f1 f2 _ (freq_value f0 f1 f2 h0 h1 h2), fun _ => ⟨rfl, rfl⟩⟩

/-- NewChannelReq for every five octets: ChIndex = octet 0, Frequency = octets 1..3, DrRange = octet 4 with
`Err(InvalidDataRateRange)` iff MaxDR (bits 7..4) < MinDR (bits 3..0) -/
theorem tieA_acc_new_channel (i f0 f1 f2 r : Nat) (h0 : f0 < 256) (h1 : f1 < 256) (h2 : f2 < 256) (hr : r < 256) :
    view (.NewChannelReq ⟨ints [i, f0, f1, f2, r]⟩) = some (decCmd (0x07, [i, f0, f1, f2, r])) := by
  refine (view_new_channel i f0 f1 f2 r _ _ (freq_value f0 f1 f2 h0 h1 h2) (drr_new r hr)).trans ?_
  show _ = some (Gen.SessionMacs.DownlinkMacCommand.NewChannelReq ⟨(i : Int), freqOf f0 f1 f2, if r / 16 < r % 16 then none else some ⟨(r : Int)⟩⟩)
  by_cases hlt : r / 16 < r % 16 <;> simp only [hlt, if_true, if_false] <;> rfl

/-- RXTimingSetupReq for every octet: Del = bits 3..0 -/
theorem tieA_acc_rx_timing_setup (d : Nat) : view (.RXTimingSetupReq ⟨ints [d]⟩) = some (decCmd (0x08, [d])) :=
  view_rx_timing d

/-- DlChannelReq for every four octets: ChIndex = octet 0, Frequency = octets 1..3 -/
theorem tieA_acc_dl_channel (i f0 f1 f2 : Nat) (h0 : f0 < 256) (h1 : f1 < 256) (h2 : f2 < 256) :
    view (.DlChannelReq ⟨ints [i, f0, f1, f2]⟩) = some (decCmd (0x0A, [i, f0, f1, f2])) :=
  view_dl_channel i f0 f1 f2 _ (freq_value f0 f1 f2 h0 h1 h2)

/-- the REGENERATED payload accessors (`Gen/MacCmdFn.lean`, from the current maccommands.rs / types.rs) read a
command exactly as the model does: for every well-formed (CID, payload) pair — every CID of the table, EVERY payload of
octets of the command's length — the command the regenerated `parse_one` yields for it (`infoOf c`: that CID, those
octets), read through `view` (data_rate / tx_power / channel_mask / redundancy.channel_mask_control; dl_settings /
frequency.value; channel_index / frequency.value / data_rate_range; delay; channel_index / frequency.value), is `decCmd`:
the abstract command of `tieA_handle_downlink_macs`.  No accessor panics on a payload of the command's length. -/
theorem tieA_payload_accessors (x : Nat × List Nat) (hw : WfCmd x) (c : Gen.MacCmdFn.DownlinkMacCommand) (v t : String)
    (hc : infoOf c = (x.1, v, t, ints x.2)) : view c = some (decCmd x) := by
  obtain ⟨cid, p⟩ := x
  obtain ⟨hlen, ho⟩ := hw
  -- the command's constructor fixes the CID, the CID the length of the payload
  obtain rfl : (infoOf c).1 = cid := congrArg Prod.fst hc
  have hq : (infoOf c).2.2.2 = ints p := congrArg (·.2.2.2) hc
  cases c with
  | DevStatusReq q => rfl
  | LinkCheckAns q | DutyCycleReq q | TXParamSetupReq q | DeviceTimeAns q =>
    -- the payload is handed on as it is
    obtain ⟨q⟩ := q
    obtain rfl : q = ints p := hq
    rfl
  | LinkADRReq q =>
    obtain ⟨q⟩ := q
    obtain rfl : q = ints p := hq
    match p, hlen, ho with
    | [b0, b1, b2, b3], _, ho => exact (tieA_acc_link_adr b0 b1 b2 b3 (ho b0 (by simp)) (ho b3 (by simp))).1
  | RXParamSetupReq q =>
    obtain ⟨q⟩ := q
    obtain rfl : q = ints p := hq
    match p, hlen, ho with
    | [d, f0, f1, f2], _, ho => exact (tieA_acc_rx_param_setup d f0 f1 f2 (ho f0 (by simp)) (ho f1 (by simp)) (ho f2 (by simp))).1
  | NewChannelReq q =>
    obtain ⟨q⟩ := q
    obtain rfl : q = ints p := hq
    match p, hlen, ho with
    | [i, f0, f1, f2, r], _, ho =>
      exact tieA_acc_new_channel i f0 f1 f2 r (ho f0 (by simp)) (ho f1 (by simp)) (ho f2 (by simp)) (ho r (by simp))
  | RXTimingSetupReq q =>
    obtain ⟨q⟩ := q
    obtain rfl : q = ints p := hq
    match p, hlen with
    | [d], _ => exact view_rx_timing d
  | DlChannelReq q =>
    obtain ⟨q⟩ := q
    obtain rfl : q = ints p := hq
    match p, hlen, ho with
    | [i, f0, f1, f2], _, ho => exact tieA_acc_dl_channel i f0 f1 f2 (ho f0 (by simp)) (ho f1 (by simp)) (ho f2 (by simp))

end C08

namespace TieA.MacCmdAcc
open Model TieA.Rx TieA.MacCmdFrame

/-- an item of the iterator as `handle_downlink_macs` receives it (`Result<DownlinkMacCommand, _>`: `Err` = `none`,
dropped by its `filter_map(Result::ok)`); outer `none` = an accessor panics -/
def viewItem : Gen.MacCmdFn.NextItem → Option (Option Gen.SessionMacs.DownlinkMacCommand)
  | .Ok c => (view c).map some
  | .Err _ => some none

def viewItems : List Gen.MacCmdFn.NextItem → Option (List (Option Gen.SessionMacs.DownlinkMacCommand))
  | [] => some []
  | it :: t =>
    match viewItem it, viewItems t with
    | some a, some b => some (a :: b)
    | _, _ => none

/-- `parse_downlink_mac_commands(bytes)` as the REGENERATED iterator yields it and the REGENERATED accessors read it -/
def regenCmds (bytes : List Int) : Option (List (Option Gen.SessionMacs.DownlinkMacCommand)) :=
  match genRun bytes with
  | some r => viewItems r.1
  | none => none

/-- the model's length table of the downlink commands is the regenerated table -/
theorem cmdLen_lookup (cid : Nat) : downlinkCmdLen cid = (TD.lookup cid).bind (·.len) := by
  by_cases h : cid < 14
  · exact (by decide : ∀ cid < 14, downlinkCmdLen cid = (TD.lookup cid).bind (·.len)) cid h
  · -- above the last CID of the table both fall through to their default arm
    obtain ⟨n, rfl⟩ : ∃ n, cid = n + 14 := ⟨cid - 14, by omega⟩
    rfl

/-- the regenerated `handle_downlink_macs` reads its command list through `filter_map(Result::ok)` only -/
theorem hdm_congr (gs : Gen.SessionRx.Session) (g : Gen.SessionRx.Configuration) (rs : RegionState)
    (l1 l2 : List (Option Gen.SessionMacs.DownlinkMacCommand)) (snr : Int) (full : Bool) (h : l1.filterMap id = l2.filterMap id) :
    Gen.SessionMacs.Session.handle_downlink_macs gs g rs l1 snr full = Gen.SessionMacs.Session.handle_downlink_macs gs g rs l2 snr full := by
  unfold Gen.SessionMacs.Session.handle_downlink_macs
  simp only [h]

end TieA.MacCmdAcc

namespace C08
open Model Gen.Region TieA.Rx TieA.Macs TieA.MacCmdFrame TieA.MacCmdAcc TieA.Rx.Full

/-- `parse_downlink_mac_commands(bytes)` as the REGENERATED iterator yields it (`MacCommands::next` over the
derive-generated `parse_one`, drained) and the REGENERATED accessors read it, for EVERY stream of octets: the drain
returns, no accessor panics, and what survives `filter_map(Result::ok)` is exactly the model's well-formed prefix
`parseDownlinkCmds` read by `decCmd` — whole commands only, an unknown CID or a truncated command ends the list. -/
theorem tieA_parse_downlink_mac_commands (bytes : List Nat) (ho : ∀ b ∈ bytes, b < 256) :
    ∃ l, regenCmds (ints bytes) = some l ∧
      l.filterMap id = (parseDownlinkCmds (bytes.length + 1) bytes).map decCmd := by
  have herr : ∀ (l : List Gen.MacCmdFn.NextItem) e, l.map itemOf = [.error e] → viewItems l = some [none] := fun l e h => by
    match l, h with
    | [.Err x], _ => rfl
  -- about the model's run, for every list of regenerated items with the same reading
  obtain ⟨m, hm, -, hM⟩ := MacCmd.run_ind (T := TD) (vl := MacCmd.varLen)
    (M := fun f data m => (∀ b ∈ data, b < 256) → ∀ l, l.map itemOf = m.items.map itemUp →
      ∃ v, viewItems l = some v ∧ v.filterMap id = (parseDownlinkCmds (f + 1) data).map decCmd)
    fixed_TD
    (fun f _ l h => by obtain rfl := List.map_eq_nil_iff.mp h; exact ⟨[], rfl, rfl⟩)
    (fun f cid rest hlk _ l h => by
      have hc : downlinkCmdLen cid = none := by rw [cmdLen_lookup, hlk]; rfl
      exact ⟨[none], herr l _ h, by simp only [parseDownlinkCmds, hc]; rfl⟩)
    (fun f cid e n rest hlk hn hl _ l h => by
      have hc : downlinkCmdLen cid = some n := by rw [cmdLen_lookup, hlk]; exact hn
      exact ⟨[none], herr l _ h, by simp only [parseDownlinkCmds, hc, hl, if_true]; rfl⟩)
    (fun f cid e n rest m hlk hn hle ih ho l h => by
      have hc : downlinkCmdLen cid = some n := by rw [cmdLen_lookup, hlk]; exact hn
      match l, h with
      | .Ok c :: t, h =>
        obtain ⟨ha, ht⟩ := List.cons.inj h
        have hw : WfCmd (cid, rest.take n) :=
          ⟨by simp only [hc, List.length_take, Nat.min_eq_left hle], fun b hb => ho b (by simp [List.mem_of_mem_take hb])⟩
        obtain ⟨v, hv, hf⟩ := ih (fun b hb => ho b (by simp [List.mem_of_mem_drop hb])) t ht
        exact ⟨some (decCmd (cid, rest.take n)) :: v,
          by simp only [viewItems, viewItem, tieA_payload_accessors (cid, rest.take n) hw c _ _ (Except.ok.inj ha), hv, Option.map_some],
          by simp only [List.filterMap_cons, id, hf, parseDownlinkCmds, hc, Nat.not_lt.mpr hle, if_false, List.map_cons]⟩)
    bytes
  obtain ⟨r, hr, hi, -, -⟩ := C03.genRun_of_run hm
  obtain ⟨v, hv, hf⟩ := hM ho r.1 hi
  exact ⟨v, by unfold regenCmds; rw [hr]; exact hv, hf⟩

/-- `tieA_handle_downlink_macs` with the iterator INSTANTIATED by the regenerated one: the regenerated
`Session::handle_downlink_macs` run on `regenCmds bytes` — the regenerated `parse_downlink_mac_commands` drained and read
through the regenerated accessors — for every stream of octets shorter than 2^31, with the region's methods the
model's, IS the model's `handleCmds` over `parseDownlinkCmds` from the mask in force (same answers, latch,
configuration, region; a panic iff a panic).  `decCmd` does not occur in the statement. -/
theorem tieA_handle_downlink_macs_iter (snr : Int) (bytes : List Int) (hS : Stream bytes)
    (gs : Gen.SessionRx.Session) (g : Gen.SessionRx.Configuration) (rs : RegionState) (full : Bool)
    (hq : gs.uplink.pending.length ≤ 15) :
    ∃ l, regenCmds bytes = some l ∧
    match handleCmds snr (parseDownlinkCmds (bytes.length + 1) (natsOf bytes))
        { cfg := TieA.Rx.cfgOf g, region := rs, pending := TieA.Rx.natsOf gs.uplink.pending, full := full }
        (channelMaskGet rs) false 0 with
    | .error _ => Gen.SessionMacs.Session.handle_downlink_macs gs g rs l snr full = none
    | .ok c => ∃ pend' g', Gen.SessionMacs.Session.handle_downlink_macs gs g rs l snr full
          = some ({ gs with uplink := { gs.uplink with pending := pend' } }, g', c.region, c.full)
        ∧ TieA.Rx.natsOf pend' = c.pending ∧ TieA.Rx.cfgOf g' = c.cfg ∧ pend'.length ≤ 15 := by
  obtain ⟨ho, hlen⟩ := hS
  have hl : (natsOf bytes).length = bytes.length := by simp [natsOf]
  obtain ⟨l, hr, hf⟩ := tieA_parse_downlink_mac_commands (natsOf bytes) (natsOf_lt bytes ho)
  rw [show ints (natsOf bytes) = bytes from TieA.map_ofNat_toNat bytes fun x hx => (ho x hx).1] at hr
  rw [hl] at hf
  refine ⟨l, hr, ?_⟩
  obtain ⟨hw, hn⟩ := parse_wf (bytes.length + 1) (natsOf bytes) (natsOf_lt bytes ho)
  have h := tieA_handle_downlink_macs snr (parseDownlinkCmds (bytes.length + 1) (natsOf bytes)) hw gs g rs full hq (by omega)
  have hc := hdm_congr gs g rs l ((parseDownlinkCmds (bytes.length + 1) (natsOf bytes)).map (some ∘ decCmd)) snr full
    (by rw [hf]; simp [List.filterMap_map])
  rw [hc]
  exact h

/-- `MacOps` with the regenerated `handle_downlink_macs` run on the REGENERATED iterator read through the REGENERATED
accessors (`regenCmds`); `next_lower_datarate` from the model's tables -/
@[instance_reducible] def genOpsU : Gen.SessionRx.MacOps RegionState where
  next_lower rs dr := (nextLowerDatarate rs.id dr.toInt.toNat).map TieA.drOfNatT
  handle_downlink_macs gs g rs b snr full :=
    (regenCmds b.bytes).bind fun l => Gen.SessionMacs.Session.handle_downlink_macs gs g rs l snr full

/-- `MacsOk` for that instance, on every command stream of octets -/
theorem genOpsU_ok : @NextLowerOk genOpsU ∧ @MacsOk genOpsU Stream := by
  refine ⟨fun _ _ => rfl, ?_⟩
  intro gs g rs bytes snr full hS hq
  have hl : (natsOf bytes).length = bytes.length := by simp [natsOf]
  obtain ⟨l, hr, h⟩ := tieA_handle_downlink_macs_iter snr bytes hS gs g rs full hq
  have e : @Gen.SessionRx.MacOps.handle_downlink_macs RegionState genOpsU gs g rs ⟨bytes⟩ snr full
      = Gen.SessionMacs.Session.handle_downlink_macs gs g rs l snr full := by
    show (regenCmds bytes).bind _ = _
    rw [hr]; rfl
  simp only [handleDownlinkMacs, hl, e]
  exact h

/-- `Session::handle_rx` (regenerated) with the regenerated `handle_downlink_macs` fed by
the REGENERATED `parse_downlink_mac_commands` and payload accessors is the model's `sessionHandleRx`:
`tieA_handle_rx_accept` of C05 / C06 / C07 for the instance `genOpsU`, on every command stream, with no simulation
hypothesis and no hand-written reading of the commands.  For a downlink-typed frame (`hup`); an uplink-typed
frame never reaches the iterator (`C05.tieA_handle_rx_uplink_typed`, for every `MacOps` instance, `genOpsU` included).
Likewise a fitting frame addressed to another DevAddr (`haddr`; `C05.tieA_handle_rx_other_devaddr`). -/
theorem tieA_handle_rx_iter (D : Int) (gs : Gen.SessionRx.Session) (rs : RegionState) (g : Gen.SessionRx.Configuration)
    (rx : Gen.SessionRx.RadioBuffer) (dl : List Gen.SessionRx.Downlink) (maxp snr : Int) (ign : Bool)
    (e : Gen.SessionRx.EncryptedDataPayload)
    (hparse : rx.as_mut_for_read.parse = some e) (hup : e.is_uplink = false)
    (haddr : ¬ (e.as_bytes.length : Int) > maxp + 5 → e.fhdr.dev_addr = gs.devaddr)
    (hw : SessWF gs) (hmax : 0 ≤ maxp ∧ maxp ≤ 255) (hwire : 0 ≤ e.fhdr.fcnt)
    (hdec : ∀ f, Gen.SessionRx.next_fcnt_down gs.fcnt_down e.fhdr.fcnt = some f → e.validate_mic (nwkOf gs) f = true →
      ∃ d, rx.as_mut_for_read.decrypt_in_place (some (nwkOf gs)) (some (appOf gs)) f = some d ∧ DecWF Stream d) :
    (@Gen.SessionRx.Session.handle_rx RegionState genOpsU D gs rs g rx dl maxp snr ign).bind
        (fun out => (respOf out.1).map (fun r => (r, sessOf out.2.1, out.2.2.1, cfgOf out.2.2.2.1, out.2.2.2.2.2.map dlOf)))
      = (sessionHandleRx (sessOf gs) (cfgOf g) rs (dataOf gs e (decOf gs rx e)) maxp.toNat snr ign).toOption.map (expect dl D) :=
  @tieA_handle_rx_accept genOpsU Stream genOpsU_ok.1 genOpsU_ok.2 D gs rs g rx dl maxp snr ign e hparse hup haddr hw hmax hwire hdec

/-- the example frame of `Props/TieA/HandleRxFull.lean` through the regenerated `handle_rx`, `handle_downlink_macs`, iterator and accessors -/
example :
    (@Gen.SessionRx.Session.handle_rx RegionState genOpsU 4 exSess (RegionState.init .EU868) exCfg Full.exRx [] 250 3 false).map
      (fun out => (out.1, out.2.1.uplink.pending, out.2.2.2.1.data_rate, out.2.2.2.1.tx_power))
      = some (.DownlinkReceived 5, [3, 7, 6, 255, 3], DR._5, some 14) := by
  rfl

/-! non-vacuity: the FOpts of that example frame (LinkADRReq DR5 / power 1 / mask 0x0007, DevStatusReq), then an
RXParamSetupReq and a truncated NewChannelReq — through the regenerated iterator and accessors -/
example : regenCmds [3, 0x51, 0x07, 0x00, 0x00, 6] = some [some (decCmd (3, [0x51, 7, 0, 0])), some (decCmd (6, []))] := by decide
example : regenCmds [5, 0x23, 0x28, 0x76, 0x84, 7, 1] =
    some [some (.RXParamSetupReq ⟨⟨0x23⟩, ⟨868100000⟩⟩), none] := by decide
example : Stream [3, 0x51, 0x07, 0x00, 0x00, 6] := ⟨by decide, by decide⟩
example : WfCmd (7, [3, 0x28, 0x76, 0x84, 0x50]) := ⟨rfl, by decide⟩
example : view (.NewChannelReq ⟨[3, 0x28, 0x76, 0x84, 0x05]⟩) = some (.NewChannelReq ⟨3, ⟨868100000⟩, none⟩) := by decide

#print axioms tieA_payload_accessors
#print axioms tieA_acc_link_adr
#print axioms tieA_acc_rx_param_setup
#print axioms tieA_acc_new_channel
#print axioms tieA_acc_rx_timing_setup
#print axioms tieA_acc_dl_channel
#print axioms tieA_parse_downlink_mac_commands
#print axioms tieA_handle_downlink_macs_iter
#print axioms tieA_handle_rx_iter
end C08
