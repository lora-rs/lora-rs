import LoraVerif.Props.TieA.MacTopC
import LoraVerif.Props.TieA.Rx2Complete
import LoraVerif.Gen.OtaaFn
/-!
# Tie A: `Mac::rx2_complete` with the session operation INSTANTIATED by the regenerated `Session::rx2_complete`
(discharges the hypothesis `Sim` of `C04.tieA_mac_rx2_complete_partial` on the session side)

`genRx2` is the operation `session_rx2_complete` of the dispatch (`Gen/MacTopFn.lean`) built from the OTHER regenerated
unit, `Gen.SessionFn.Session.rx2_complete`, through the total bridge maps
of `Props/TieA/StateBridge.lean` (`sessOf` / `cfgOf`: generated → model; the generated session is the projection
`sessG` of the carrier, the fields the method cannot touch are carried around it).  For every record of operations
whose `session_rx2_complete` is `genRx2`, the regenerated `Mac::rx2_complete` equals the model's `macRx2Complete` on
every state whose session counters fit `u32` — no simulation hypothesis on the session: the equation `Sim` asked for is
the theorem `genRx2_sim`, from `TieA.tieA_rx2_complete`.  `Otaa::rx2_complete` is regenerated too (`Gen.OtaaFn`):
`genOtaaRx2`, with `genOtaaRx2_sim`.  `C04.tieA_mac_rx2_complete` has no equation left on the operations.
-/
namespace TieA.MacTop
open Model

/-- `Configuration` as `Gen.MacTopFn` and as `Gen.SessionFn` regenerate it (the same Rust struct, field by field) -/
def cfgS (c : Gen.MacTopFn.Configuration) : Gen.SessionFn.Configuration :=
  { data_rate := c.data_rate, rx1_delay := c.rx1_delay, join_accept_delay1 := c.join_accept_delay1,
    join_accept_delay2 := c.join_accept_delay2, tx_power := c.tx_power, rx1_dr_offset := c.rx1_dr_offset,
    rx2_data_rate := c.rx2_data_rate, rx2_frequency := c.rx2_frequency, adr_enabled := c.adr_enabled }

def cfgT (c : Gen.SessionFn.Configuration) : Gen.MacTopFn.Configuration :=
  { data_rate := c.data_rate, rx1_delay := c.rx1_delay, join_accept_delay1 := c.join_accept_delay1,
    join_accept_delay2 := c.join_accept_delay2, tx_power := c.tx_power, rx1_dr_offset := c.rx1_dr_offset,
    rx2_data_rate := c.rx2_data_rate, rx2_frequency := c.rx2_frequency, adr_enabled := c.adr_enabled }

/-- `Response` as the two units regenerate it (the counter of `DownlinkReceived` is a `u32`: read as a natural, as
`respOf` does) -/
def respT : Gen.SessionFn.Response → Gen.MacTopFn.Response
  | .NoAck => .NoAck | .SessionExpired => .SessionExpired | .DownlinkReceived n => .DownlinkReceived (n.toNat : Nat)
  | .NoJoinAccept => .NoJoinAccept | .JoinSuccess => .JoinSuccess | .NoUpdate => .NoUpdate
  | .RxComplete => .RxComplete | .LinkCheckReq => .LinkCheckReq

/-- the operation of the dispatch built from the regenerated `Session::rx2_complete` -/
def genRx2 (s : Model.Session) (cfg : Gen.MacTopFn.Configuration) (reg : RegionState) :
    Option (Gen.MacTopFn.Response × Model.Session × Gen.MacTopFn.Configuration) :=
  (Gen.SessionFn.Session.rx2_complete (sessG s) (cfgS cfg) (regionOf reg.id)).map
    (fun (r, gs', c') => (respT r, sessOf s gs', cfgT c'))

theorem cfgOf_cfgS (c : Gen.MacTopFn.Configuration) : cfgOf (cfgS c) = cfgM c := rfl
theorem cfgM_cfgT (c : Gen.SessionFn.Configuration) : cfgM (cfgT c) = cfgOf c := rfl

theorem respT_of (r : Gen.SessionFn.Response) (m : Model.Response) (h : respOf r = some m) : respT r = respG m := by
  cases r <;> simp [respOf] at h <;> subst h <;> simp [respT, respG]

/-- the equation `Sim.session_rx2_complete` asks for, as a THEOREM about the regenerated method -/
theorem genRx2_sim (s : Model.Session) (h : SessFits s) (cfg : Gen.MacTopFn.Configuration) (reg : RegionState) :
    (genRx2 s cfg reg).map (fun (r, s', cfg') => (r, s', cfgM cfg'))
      = some (let (r, s', c') := rx2Complete s (cfgM cfg) reg.id; (respG r, s', c')) := by
  have ht := tieA_rx2_complete s (sessG s) (cfgS cfg) reg.id (sessG_wf s h)
  rw [sessOf_sessG, cfgOf_cfgS] at ht
  obtain ⟨⟨r, gs', c'⟩, hx, ht⟩ := Option.bind_eq_some_iff.1 ht
  obtain ⟨m, hr, ht⟩ := Option.map_eq_some_iff.1 ht
  simp only [genRx2, hx, Option.map_some, cfgM_cfgT, respT_of r m hr, ← ht]

/-- `Response` as `Gen.OtaaFn` regenerates it -/
def respTO : Gen.OtaaFn.Response → Gen.MacTopFn.Response
  | .NoAck => .NoAck | .SessionExpired => .SessionExpired | .DownlinkReceived n => .DownlinkReceived n
  | .NoJoinAccept => .NoJoinAccept | .JoinSuccess => .JoinSuccess | .NoUpdate => .NoUpdate
  | .RxComplete => .RxComplete | .LinkCheckReq => .LinkCheckReq

/-- the operation of the dispatch built from the regenerated `Otaa::rx2_complete`: the model's join state is the
DevNonce of the pending request; the credentials, which the method does not read, are a placeholder -/
def genOtaaRx2 (o : OtaaState) : Gen.MacTopFn.Response × OtaaState :=
  let out := Gen.OtaaFn.Otaa.rx2_complete ⟨⟨(o.devNonce : Int)⟩, ⟨⟨⟨0⟩⟩⟩⟩
  (respTO out.1, { devNonce := out.2.dev_nonce.value.toNat })

/-- the equation `Sim.otaa_rx2_complete` asks for, as a THEOREM about the regenerated method -/
theorem genOtaaRx2_sim (o : OtaaState) : genOtaaRx2 o = (.NoJoinAccept, o) := by
  simp [genOtaaRx2, Gen.OtaaFn.Otaa.rx2_complete, respTO]

end TieA.MacTop

namespace C04
open Model TieA.MacTop

/-- `Mac::rx2_complete` = the model's `macRx2Complete`, the session's method being the REGENERATED
`Session::rx2_complete` (`Gen.SessionFn`, through `genRx2`): for every state whose session counters fit `u32` — no
simulation hypothesis: the join state's method is the REGENERATED `Otaa::rx2_complete` (`Gen.OtaaFn`, through
`genOtaaRx2`) as well. -/
theorem tieA_mac_rx2_complete (ops : GOps) (hs : ops.session_rx2_complete = genRx2)
    (ho : ops.otaa_rx2_complete = genOtaaRx2) (g : GMac)
    (hw : ∀ s, g.state = .Joined s → SessFits s) :
    (Gen.MacTopFn.Mac.rx2_complete ops g).map (fun (r, g') => (r, macM g'))
      = some (let (r, m') := macRx2Complete (macM g); (respG r, m')) :=
  mac_rx2_complete_of ops g (fun s e => hs ▸ genRx2_sim s (hw s e) _ _) fun o => ho ▸ genOtaaRx2_sim o

end C04

namespace TieA.MacTop.ExampleGen
open Model
def cfg0 : Gen.MacTopFn.Configuration :=
  { data_rate := ._5, rx1_delay := 1000, join_accept_delay1 := 5000, join_accept_delay2 := 6000, tx_power := none,
    rx1_dr_offset := 0, rx2_data_rate := none, rx2_frequency := none, adr_enabled := true }
def s95 : Model.Session := { Session.new 1 2 3 with fcntUp := 7, adrAckCnt := 95 }
/-- the regenerated method through the bridge: count 95 → 96, DR5 → DR4 in EU868, `RxComplete` -/
example : (genRx2 s95 cfg0 (Model.RegionState.init .EU868)).map (fun x => (x.1, x.2.1.fcntUp, x.2.1.adrAckCnt, x.2.2.data_rate))
    = some (.RxComplete, 8, 96, ._4) := by decide
example : SessFits s95 := by unfold SessFits; decide
/-- a record with both regenerated operations: a joining device whose windows passed answers `NoJoinAccept` -/
def opsG : GOps := { Example.ops0 with session_rx2_complete := genRx2, otaa_rx2_complete := genOtaaRx2 }
example : (Gen.MacTopFn.Mac.rx2_complete opsG { Example.g0 with state := .Otaa ⟨5⟩ }).map (·.1) = some .NoJoinAccept := rfl
end TieA.MacTop.ExampleGen

#print axioms C04.tieA_mac_rx2_complete
#print axioms TieA.MacTop.genRx2_sim
#print axioms TieA.MacTop.genOtaaRx2_sim
