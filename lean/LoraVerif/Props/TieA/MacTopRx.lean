import LoraVerif.Props.TieA.MacTop
import LoraVerif.Props.TieA.HandleRxFull
/-!
# Tie A: `Mac::handle_rx` with the session operation INSTANTIATED by the regenerated `Session::handle_rx`
(the accept path of `C07.tieA_mac_handle_rx_partial` with no simulation hypothesis)

The carriers here are the GENERATED types of `Gen.SessionRx` (session, radio buffer, downlink), the region is the
model's; `genHandleRx D` is the operation `session_handle_rx` of the dispatch built from the regenerated
`Session::handle_rx` with the regenerated `handle_downlink_macs` inside (`TieA.Rx.Full.genOps`).  `macM2` is the total
map from the generated `Mac` to the model's state (`TieA.Rx.sessOf`, `cfgM`).  For a device with a session and a buffer
the parser accepts, the regenerated `Mac::handle_rx` is the model's `macHandleRx` on the decoded view, under the
hypotheses of `TieA.Rx.Full.handle_rx_full` only (well-formed counters, octets; parsing / MIC / decryption are inputs).

The statements carry the capacity `D` of the downlink queue (`pushD`), which is why they are not instances of the
theorems under `Sim` (see the docstring of `TieA.MacTop.Sim`).
-/
namespace TieA.MacTop.Rx
open Model TieA.Rx TieA.Rx.Full

/-- the carriers: the generated session / buffer / downlink of `Gen.SessionRx`, the model's region -/
@[reducible] def K2 : Gen.MacTopFn.Carriers :=
  { Session := Gen.SessionRx.Session, Otaa := OtaaState, RegionCfg := RegionState, RadioBuffer := Gen.SessionRx.RadioBuffer,
    Downlink := Gen.SessionRx.Downlink, RNG := Nat, NetworkCredentials := Unit, NwkSKey := Nat, AppSKey := Nat, DevAddr := Nat,
    TxConfig := Int × Model.RfConfig, TxChannel := Model.TxChannel, RxWindows := Model.RfConfig × Model.RfConfig,
    SendData := List Nat × Nat × Bool, fcnt_up := fun s => s.fcnt_up }

attribute [local instance 2000] K2

abbrev GMac2 := @Gen.MacTopFn.Mac K2
abbrev GOps2 := @Gen.MacTopFn.Ops K2

/-- `Configuration` as `Gen.MacTopFn` and as `Gen.SessionRx` regenerate it (the same Rust struct, field by field) -/
def cfgS2 (c : Gen.MacTopFn.Configuration) : Gen.SessionRx.Configuration :=
  { data_rate := c.data_rate, rx1_delay := c.rx1_delay, join_accept_delay1 := c.join_accept_delay1,
    join_accept_delay2 := c.join_accept_delay2, tx_power := c.tx_power, rx1_dr_offset := c.rx1_dr_offset,
    rx2_data_rate := c.rx2_data_rate, rx2_frequency := c.rx2_frequency, adr_enabled := c.adr_enabled }

def cfgT2 (c : Gen.SessionRx.Configuration) : Gen.MacTopFn.Configuration :=
  { data_rate := c.data_rate, rx1_delay := c.rx1_delay, join_accept_delay1 := c.join_accept_delay1,
    join_accept_delay2 := c.join_accept_delay2, tx_power := c.tx_power, rx1_dr_offset := c.rx1_dr_offset,
    rx2_data_rate := c.rx2_data_rate, rx2_frequency := c.rx2_frequency, adr_enabled := c.adr_enabled }

/-- `Response` as the two units regenerate it -/
def respT2 : Gen.SessionRx.Response → Gen.MacTopFn.Response
  | .NoAck => .NoAck | .SessionExpired => .SessionExpired | .DownlinkReceived n => .DownlinkReceived n
  | .NoJoinAccept => .NoJoinAccept | .JoinSuccess => .JoinSuccess | .NoUpdate => .NoUpdate
  | .RxComplete => .RxComplete | .LinkCheckReq => .LinkCheckReq

/-- the model's response of a response of the dispatch (`LinkCheckReq` has no counterpart in the model) -/
def respM : Gen.MacTopFn.Response → Option Model.Response
  | .NoAck => some .noAck | .SessionExpired => some .sessionExpired
  | .DownlinkReceived n => some (.downlinkReceived n.toNat) | .NoJoinAccept => some .noJoinAccept
  | .JoinSuccess => some .joinSuccess | .NoUpdate => some .noUpdate | .RxComplete => some .rxComplete
  | .LinkCheckReq => none

theorem respM_respT2 (r : Gen.SessionRx.Response) : respM (respT2 r) = TieA.Rx.respOf r := by cases r <;> rfl
theorem cfgM_cfgT2 (c : Gen.SessionRx.Configuration) : cfgM (cfgT2 c) = TieA.Rx.cfgOf c := rfl
theorem cfgOf_cfgS2 (c : Gen.MacTopFn.Configuration) : TieA.Rx.cfgOf (cfgS2 c) = cfgM c := rfl

/-- the operation of the dispatch built from the regenerated `Session::handle_rx` (queue capacity `D`) -/
def genHandleRx (D : Int) (s : Gen.SessionRx.Session) (reg : RegionState) (cfg : Gen.MacTopFn.Configuration)
    (buf : Gen.SessionRx.RadioBuffer) (dl : List Gen.SessionRx.Downlink) (mp snr : Int) (cc : Bool) :
    Option (Gen.MacTopFn.Response × Gen.SessionRx.Session × RegionState × Gen.MacTopFn.Configuration ×
      Gen.SessionRx.RadioBuffer × List Gen.SessionRx.Downlink) :=
  (@Gen.SessionRx.Session.handle_rx RegionState genOps D s reg (cfgS2 cfg) buf dl mp snr cc).map
    (fun (r, s', reg', c', b', dl') => (respT2 r, s', reg', cfgT2 c', b', dl'))

/-- the model's join state of a generated `State` over these carriers -/
def stateM2 : @Gen.MacTopFn.State K2 → JoinState
  | .Joined s => .joined (TieA.Rx.sessOf s)
  | .Otaa o => .otaa o
  | .Unjoined => .unjoined

/-- total map from the generated `Mac` (generated session inside) to the model's state -/
def macM2 (g : GMac2) : MacState :=
  { cfg := cfgM g.configuration, region := g.region, maxPower := g.board_eirp.max_power.toNat,
    antennaGain := g.board_eirp.antenna_gain, st := stateM2 g.state }

/-- the downlink queue of capacity `D` after the model's output -/
def pushD (dl : List Gen.SessionRx.Downlink) (D : Int) (o : RxOut) : List (Nat × List Nat) :=
  match o.downlink with
  | some x => if (dl.length : Int) < D then dl.map dlOf ++ [x] else dl.map dlOf
  | none => dl.map dlOf

theorem cfgT2_cfgS2 (c : Gen.MacTopFn.Configuration) : cfgT2 (cfgS2 c) = c := by cases c; rfl

/-- the session arm of the dispatch, for `handle_rx` (`cc = false`) and `handle_rxc` (`cc = true`) alike: both sides
are the images of the two sides of `handle_rx_full` under the write-back of session, region and configuration into `Mac` -/
theorem joined_gen (D : Int) (cfg : Gen.MacTopFn.Configuration) (rs : RegionState) (eirp : Gen.MacTopFn.BoardEirp)
    (gs : Gen.SessionRx.Session) (rx : Gen.SessionRx.RadioBuffer) (dl : List Gen.SessionRx.Downlink) (snr mp : Int) (cc : Bool)
    (e : Gen.SessionRx.EncryptedDataPayload)
    (hparse : rx.as_mut_for_read.parse = some e) (hup : e.is_uplink = false)
    (haddr : ¬ (e.as_bytes.length : Int) > mp + 5 → e.fhdr.dev_addr = gs.devaddr)
    (hw : TieA.Rx.SessWF gs) (hmax : 0 ≤ mp ∧ mp ≤ 255) (hwire : 0 ≤ e.fhdr.fcnt)
    (hdec : ∀ f, Gen.SessionRx.next_fcnt_down gs.fcnt_down e.fhdr.fcnt = some f → e.validate_mic (nwkOf gs) f = true →
      ∃ d, rx.as_mut_for_read.decrypt_in_place (some (nwkOf gs)) (some (appOf gs)) f = some d ∧ DecWF Stream d) :
    (genHandleRx D gs rs cfg rx dl mp snr cc).bind
        (fun x => (respM x.1).map (fun m => (m, macM2 ⟨x.2.2.2.1, x.2.2.1, eirp, .Joined x.2.1⟩, x.2.2.2.2.2.map dlOf)))
      = (macHandleRx (macM2 ⟨cfg, rs, eirp, .Joined gs⟩) (.data (dataOf gs e (decOf gs rx e))) mp.toNat snr cc).toOption.bind
          (fun (o, m') => o.map (fun o => (o.resp, m', pushD dl D o))) := by
  have hf := congrArg (Option.map fun x : Response × Session × RegionState × Config × List (Nat × List Nat) =>
      (x.1, (⟨x.2.2.2.1, x.2.2.1, eirp.max_power.toNat, eirp.antenna_gain, .joined x.2.1⟩ : MacState), x.2.2.2.2))
    (handle_rx_full D gs rs (cfgS2 cfg) rx dl mp snr cc e hparse hup haddr hw hmax hwire hdec)
  rw [cfgOf_cfgS2] at hf
  refine Eq.trans ?_ (hf.trans ?_)
  · unfold genHandleRx
    cases @Gen.SessionRx.Session.handle_rx RegionState genOps D gs rs (cfgS2 cfg) rx dl mp snr cc with
    | none => rfl
    | some v =>
      simp only [Option.map_some, Option.bind_some, respM_respT2]
      cases TieA.Rx.respOf v.1 <;> rfl
  · simp only [macHandleRx, macM2, stateM2]
    cases sessionHandleRx (TieA.Rx.sessOf gs) (cfgM cfg) rs (dataOf gs e (decOf gs rx e)) mp.toNat snr cc with
    | error er => rfl
    | ok w => rfl

end TieA.MacTop.Rx

namespace C07
open Model TieA.Rx TieA.Rx.Full TieA.MacTop.Rx
attribute [local instance 2000] K2

/-- `Mac::handle_rx` of a device with a session on a buffer the parser accepts = the model's `macHandleRx`
on the decoded view, the session's method being the REGENERATED `Session::handle_rx` (with the regenerated
`handle_downlink_macs` inside): same response, same `Mac` afterwards (session, region and configuration written back),
the downlink pushed to the queue unless it is full — no simulation hypothesis; the hypotheses are those of
`TieA.Rx.Full.handle_rx_full` (counters within their Rust types, a downlink-typed frame carrying the session's DevAddr
if it fits, decryption yields octets). -/
theorem tieA_mac_handle_rx (D : Int) (ops : GOps2) (hs : ops.session_handle_rx = genHandleRx D)
    (cfg : Gen.MacTopFn.Configuration) (rs : RegionState) (eirp : Gen.MacTopFn.BoardEirp) (gs : Gen.SessionRx.Session)
    (rx : Gen.SessionRx.RadioBuffer) (dl : List Gen.SessionRx.Downlink) (snr : Int) (rf : Gen.MacTopFn.RfConfig)
    (e : Gen.SessionRx.EncryptedDataPayload)
    (hparse : rx.as_mut_for_read.parse = some e) (hup : e.is_uplink = false)
    (haddr : ¬ (e.as_bytes.length : Int) > rf.max_payload_len + 5 → e.fhdr.dev_addr = gs.devaddr)
    (hw : SessWF gs) (hmax : 0 ≤ rf.max_payload_len ∧ rf.max_payload_len ≤ 255) (hwire : 0 ≤ e.fhdr.fcnt)
    (hdec : ∀ f, Gen.SessionRx.next_fcnt_down gs.fcnt_down e.fhdr.fcnt = some f → e.validate_mic (nwkOf gs) f = true →
      ∃ d, rx.as_mut_for_read.decrypt_in_place (some (nwkOf gs)) (some (appOf gs)) f = some d ∧ DecWF Stream d) :
    (@Gen.MacTopFn.Mac.handle_rx K2 ops D ⟨cfg, rs, eirp, .Joined gs⟩ rx dl snr rf).bind
        (fun (r, g', _, dl') => (respM r).map (fun m => (m, macM2 g', dl'.map dlOf)))
      = (macHandleRx (macM2 ⟨cfg, rs, eirp, .Joined gs⟩) (.data (dataOf gs e (decOf gs rx e))) rf.max_payload_len.toNat snr false).toOption.bind
          (fun (o, m') => o.map (fun o => (o.resp, m', pushD dl D o))) := by
  simp only [Gen.MacTopFn.Mac.handle_rx, hs, Option.bind_eq_bind, Option.pure_def, Option.bind_assoc, Option.bind_some]
  exact joined_gen D cfg rs eirp gs rx dl snr rf.max_payload_len false e hparse hup haddr hw hmax hwire hdec

/-- `Mac::handle_rxc` (Class C) of a device with a session on a buffer the parser accepts = the model's
`macHandleRx` with `classC = true`, the session's method being the REGENERATED `Session::handle_rx` (`ignore_mac = true`):
no simulation hypothesis. -/
theorem tieA_mac_handle_rxc (D : Int) (ops : GOps2) (hs : ops.session_handle_rx = genHandleRx D)
    (cfg : Gen.MacTopFn.Configuration) (rs : RegionState) (eirp : Gen.MacTopFn.BoardEirp) (gs : Gen.SessionRx.Session)
    (rx : Gen.SessionRx.RadioBuffer) (dl : List Gen.SessionRx.Downlink) (snr : Int) (rf : Gen.MacTopFn.RfConfig)
    (e : Gen.SessionRx.EncryptedDataPayload)
    (hparse : rx.as_mut_for_read.parse = some e) (hup : e.is_uplink = false)
    (haddr : ¬ (e.as_bytes.length : Int) > rf.max_payload_len + 5 → e.fhdr.dev_addr = gs.devaddr)
    (hw : SessWF gs) (hmax : 0 ≤ rf.max_payload_len ∧ rf.max_payload_len ≤ 255) (hwire : 0 ≤ e.fhdr.fcnt)
    (hdec : ∀ f, Gen.SessionRx.next_fcnt_down gs.fcnt_down e.fhdr.fcnt = some f → e.validate_mic (nwkOf gs) f = true →
      ∃ d, rx.as_mut_for_read.decrypt_in_place (some (nwkOf gs)) (some (appOf gs)) f = some d ∧ DecWF Stream d) :
    (@Gen.MacTopFn.Mac.handle_rxc K2 ops D ⟨cfg, rs, eirp, .Joined gs⟩ rx dl snr rf).bind
        (fun (r, g', _, dl') => (r.bind respM).map (fun m => (m, macM2 g', dl'.map dlOf)))
      = (macHandleRx (macM2 ⟨cfg, rs, eirp, .Joined gs⟩) (.data (dataOf gs e (decOf gs rx e))) rf.max_payload_len.toNat snr true).toOption.bind
          (fun (o, m') => o.map (fun o => (o.resp, m', pushD dl D o))) := by
  simp only [Gen.MacTopFn.Mac.handle_rxc, hs, Option.bind_eq_bind, Option.pure_def, Option.bind_assoc, Option.bind_some]
  exact joined_gen D cfg rs eirp gs rx dl snr rf.max_payload_len true e hparse hup haddr hw hmax hwire hdec

/-- `Mac::handle_rx` of a device with a session on a buffer the data-frame parser REJECTS: `NoUpdate`, and
`Mac`, buffer and downlink queue are exactly what they were (C07: a frame that is not accepted changes nothing) — with
the regenerated `Session::handle_rx` inside, no hypothesis but `parse = none`. -/
theorem tieA_mac_handle_rx_unparsed (D : Int) (ops : GOps2) (hs : ops.session_handle_rx = genHandleRx D)
    (cfg : Gen.MacTopFn.Configuration) (rs : RegionState) (eirp : Gen.MacTopFn.BoardEirp) (gs : Gen.SessionRx.Session)
    (rx : Gen.SessionRx.RadioBuffer) (dl : List Gen.SessionRx.Downlink) (snr : Int) (rf : Gen.MacTopFn.RfConfig)
    (hparse : rx.as_mut_for_read.parse = none) :
    @Gen.MacTopFn.Mac.handle_rx K2 ops D ⟨cfg, rs, eirp, .Joined gs⟩ rx dl snr rf
      = some (.NoUpdate, ⟨cfg, rs, eirp, .Joined gs⟩, rx, dl) := by
  have hu := @TieA.Rx.handle_rx_unparsed genOps D gs rs (cfgS2 cfg) rx dl rf.max_payload_len snr false hparse
  simp [Gen.MacTopFn.Mac.handle_rx, hs, genHandleRx, hu, respT2, cfgT2_cfgS2]

end C07

/-! Non-vacuity: the frame of `Props/TieA/HandleRxFull.lean` (FOpts: LinkADRReq + DevStatusReq) through the regenerated
`Mac::handle_rx` with the regenerated `Session::handle_rx` inside, on the model's EU868 region. -/
namespace TieA.MacTop.Rx.Example
open Model TieA.Rx
attribute [local instance 2000] K2
def ops4 : GOps2 :=
  { session_new := fun _ _ _ => exSess, session_prepare_buffer := fun _ _ _ _ _ => none,
    session_handle_rx := genHandleRx 4, session_rx2_complete := fun _ _ _ => none, otaa_new := fun _ => ⟨0⟩,
    otaa_prepare_buffer := fun _ _ _ => none, otaa_handle_rx := fun _ _ _ _ => none,
    otaa_rx2_complete := fun o => (.NoJoinAccept, o), create_tx_config := fun _ _ _ _ => none,
    adjust_power := fun _ _ _ => none, rx_windows := fun _ _ _ => none }

example :
    (@Gen.MacTopFn.Mac.handle_rx K2 ops4 4 ⟨cfgT2 exCfg, RegionState.init .EU868, ⟨14, 0⟩, .Joined exSess⟩ Full.exRx [] 3 ⟨250⟩).map
      (fun x => (x.1, Gen.MacTopFn.Mac.is_joined x.2.1, x.2.1.configuration.data_rate, x.2.1.configuration.tx_power))
      = some (.DownlinkReceived 5, true, Gen.Region.DR._5, some 14) := by
  rfl

/-- every hypothesis of `C07.tieA_mac_handle_rx` holds on that input -/
example :
    (@Gen.MacTopFn.Mac.handle_rx K2 ops4 4 ⟨cfgT2 exCfg, RegionState.init .EU868, ⟨14, 0⟩, .Joined exSess⟩ Full.exRx [] 3 ⟨250⟩).bind
        (fun (r, g', _, dl') => (respM r).map (fun m => (m, macM2 g', dl'.map dlOf)))
      = (macHandleRx (macM2 ⟨cfgT2 exCfg, RegionState.init .EU868, ⟨14, 0⟩, .Joined exSess⟩)
          (.data (dataOf exSess Full.exEnc (decOf exSess Full.exRx Full.exEnc))) (250 : Int).toNat 3 false).toOption.bind
          (fun (o, m') => o.map (fun o => (o.resp, m', pushD [] 4 o))) := by
  have hf5 : Gen.SessionRx.next_fcnt_down exSess.fcnt_down Full.exEnc.fhdr.fcnt = some 5 := by decide
  refine C07.tieA_mac_handle_rx 4 ops4 rfl (cfgT2 exCfg) (RegionState.init .EU868) ⟨14, 0⟩ exSess Full.exRx [] 3 ⟨250⟩ Full.exEnc rfl rfl
    (fun _ => rfl) ?_ (by decide) (by decide) ?_
  · refine ⟨by decide, by decide, by decide, by decide, ?_⟩
    intro f hf
    have : f = 4 := by simpa [exSess] using hf.symm
    omega
  · intro f hf _
    rw [hf5] at hf
    obtain rfl : (5 : Int) = f := by simpa using hf
    refine ⟨Full.exDec, rfl, ?_, ⟨?_, by decide⟩, [1, 2, 3], by decide, ?_, rfl⟩
    · intro p hp
      have : p = 7 := by simpa [Full.exDec] using hp.symm
      omega
    · intro b hb
      simp [Full.exDec] at hb
      omega
    · intro h; simp [Full.exDec] at h
end TieA.MacTop.Rx.Example

#print axioms C07.tieA_mac_handle_rx
#print axioms C07.tieA_mac_handle_rxc
#print axioms C07.tieA_mac_handle_rx_unparsed
