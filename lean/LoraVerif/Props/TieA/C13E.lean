import LoraVerif.Props.TieA.C13
import LoraVerif.Gen.PhyEncE126
/-!
# C13 / C17, tie A: SX126x `set_lora_symbol_num_timeout`

`set_lora_symbol_num_timeout` of the SX126x: the `while mant > 31` loop computing mantissa and exponent
(`Rt.loopM` on a fuel, `Gen.PhyEncE126`).
-/
open Model.Phy TieA.Phy Gen.PhyCodes126

namespace C13

/-- `Sx126x::set_lora_symbol_num_timeout`, regenerated (with its `while mant > 31` loop as `Rt.loopM` on a fuel), IS the
model's `setLoraSymbolNumTimeout`: for EVERY symbol count (every natural number, so all of `u16`), every chip content and
prefix, and every fuel of at least 2 steps — the same `SetLoRaSymbTimeout` command byte `mant << (2·exp + 1)`, the same
`SynchTimeout` register write `exp + (mant << 3)` when the count is not 0, no panic on either side.  Proved through the
closed form of the loop on the clamped count (`mantExp_closed`: at most one turn, since `min n 248` halves to at most 124),
not by enumeration: whichever turn the loop took, what it returns is the model's pair, and what follows the loop is
compared once, for a variable mantissa and exponent. -/
theorem tieA_sx126x_symbol_num_timeout [Gen.PhyEncE126.LoopFuel] (hf : 2 ≤ Gen.PhyEncE126.LoopFuel.fuel)
    (self : Gen.PhyEncE126.Sx126x) (n : Nat) (c : Chip) (log : List Rt.Phy.Ev) :
    view id (Gen.PhyEncE126.Sx126x.set_lora_symbol_num_timeout self (n : Int) chipDev c log)
      = denote (Sx126x.setLoraSymbolNumTimeout n) c log := by
  obtain ⟨k, hk⟩ : ∃ k, Gen.PhyEncE126.LoopFuel.fuel = k + 2 := ⟨Gen.PhyEncE126.LoopFuel.fuel - 2, by omega⟩
  have e : min (n : Int) 248 = ((min n 248 : Nat) : Int) := by omega
  have hh : (min n 248 + 1) / 2 ≤ 124 := by omega
  simp only [Gen.PhyEncE126.Sx126x.set_lora_symbol_num_timeout, Sx126x.setLoraSymbolNumTimeout, Sx126x.SX126X_MAX_LORA_SYMB_NUM_TIMEOUT,
    Gen.PhyArith.SX126X_MAX_LORA_SYMB_NUM_TIMEOUT, e, hk, Sx126x.mantExp_closed _ hh]
  gen_unfold_helpers_PhyEncE126
  rcases Nat.eq_zero_or_pos n with rfl | hn
  · phy_tie [Rt.loopM] [Rt.loopM]
  · have hp : decide ((n : Int) > 0) = true := decide_eq_true (by omega)
    have hp' : (n > 0) = True := eq_true hn
    simp only [hp, hp', if_true]
    have hv : min n 248 ≤ 248 := by omega
    have hv1 : 1 ≤ min n 248 := by omega
    generalize min n 248 = v at hv hv1 ⊢
    have e2 : ((v : Int) + 1) / 2 = (((v + 1) / 2 : Nat) : Int) := by omega
    have b1 : (0 : Int) ≤ (v : Int) + 1 ∧ (v : Int) + 1 ≤ 65535 := by omega
    have hh1 : 1 ≤ (v + 1) / 2 := by omega
    have hh2 : (v + 1) / 2 ≤ 124 := by omega
    simp +decide only [Rt.ck, Rt.shrC, Rt.divC, Rt.ITy.lo, Rt.ITy.hi, Rt.ITy.bits, if_false, b1, if_true,
      ofOpt_some_bind_app, bind_assoc_app, Int.reducePow, Int.reduceSub, Int.reduceToNat, and_self, e2]
    generalize (v + 1) / 2 = h at hh1 hh2 ⊢
    rw [Rt.OfNat.wrap_u8_nat h (by omega)]
    -- the loop takes at most one turn; what it returns is the model's pair
    generalize hL : Rt.loopM (k + 2) _ ((0 : Int), (h : Int)) = L
    obtain ⟨ex, m, rfl, hpair, hex, hm1, hm2⟩ : ∃ ex m : Nat, L = some ((ex : Int), (m : Int)) ∧
        (if h > 31 then ((h + 3) / 4, 1) else (h, 0)) = (m, ex) ∧ ex ≤ 1 ∧ 1 ≤ m ∧ m ≤ 31 := by
      rw [← hL]
      by_cases g : h > 31
      · have g1 : decide ((h : Int) > 31) = true := decide_eq_true (by omega)
        have b2 : (0 : Int) ≤ (h : Int) + 3 ∧ (h : Int) + 3 ≤ 255 := by omega
        have e3 : ((h : Int) + 3) / 4 = (((h + 3) / 4 : Nat) : Int) := by omega
        have g2 : decide ((((h + 3) / 4 : Nat) : Int) > 31) = false := decide_eq_false (by omega)
        -- `Rt.divC` above, `e3t` and `b3`: for the rounding spelt `/ 4` (truncating division); the present source has `>> 2`
        have e3t : ((h : Int) + 3).tdiv 4 = (((h + 3) / 4 : Nat) : Int) := by
          rw [Int.tdiv_eq_ediv_of_nonneg (by omega)]; exact e3
        have b3 : (0 : Int) ≤ (((h + 3) / 4 : Nat) : Int) ∧ (((h + 3) / 4 : Nat) : Int) ≤ 255 := by omega
        refine ⟨1, (h + 3) / 4, Rt.loopM_once k _ (0, (h : Int)) (1, (((h + 3) / 4 : Nat) : Int)) (1, (((h + 3) / 4 : Nat) : Int))
          (by simp only [g1, b2, e3, e3t, b3, if_true, Option.bind_eq_bind, Option.pure_def, Option.bind_some, and_self, Int.reduceAdd, Int.reduceLE])
          (by simp only [g2, if_false, Bool.false_eq_true, Option.pure_def]), by rw [if_pos g], by omega, by omega, by omega⟩
      · have g1 : decide ((h : Int) > 31) = false := decide_eq_false (by omega)
        exact ⟨0, h, Rt.loopM_exit k _ (0, (h : Int)) (0, (h : Int)) (by simp only [g1, if_false, Bool.false_eq_true, Option.pure_def]),
          by rw [if_neg g], by omega, by omega, by omega⟩
    rw [hpair]
    -- from here `mant` and `exp` are variables: both bytes fit, whichever turn the loop took
    have hb1 : (0 : Int) ≤ 2 * (ex : Int) ∧ 2 * (ex : Int) ≤ 255 := by omega
    have hb2 : (0 : Int) ≤ 2 * (ex : Int) + 1 ∧ 2 * (ex : Int) + 1 ≤ 255 := by omega
    have hs : Rt.shlC .u8 (m : Int) (2 * (ex : Int) + 1) = some ((m * 2 ^ (2 * ex + 1) : Nat) : Int) := by
      have : ex = 0 ∨ ex = 1 := by omega
      rcases this with rfl | rfl
      · exact (Rt.shlC_eq (t := .u8) (k := 1) (by decide) (by decide) (show (0 : Int) ≤ m * 2 by omega) (show (m : Int) * 2 ≤ 255 by omega)).trans (by simp)
      · exact (Rt.shlC_eq (t := .u8) (k := 3) (by decide) (by decide) (show (0 : Int) ≤ m * 8 by omega) (show (m : Int) * 8 ≤ 255 by omega)).trans (by simp)
    have hs3 : Rt.shlC .u8 (m : Int) 3 = some ((m * 8 : Nat) : Int) := (Rt.shlC_u8_3 (by omega) (by omega)).trans (by simp)
    have hb3 : (0 : Int) ≤ (ex : Int) + ((m * 8 : Nat) : Int) ∧ (ex : Int) + ((m * 8 : Nat) : Int) ≤ 255 := by omega
    have hb' : ¬ (ex + m * 8 > 255) := by omega
    -- `hbm`, `hbm2`, `q3`: for the same bytes spelt `mant * 8`, checked; the present source has `mant << 3`
    have hbm : (0 : Int) ≤ (m : Int) * 8 ∧ (m : Int) * 8 ≤ 255 := by omega
    have hbm2 : (0 : Int) ≤ (ex : Int) + (m : Int) * 8 ∧ (ex : Int) + (m : Int) * 8 ≤ 255 := by omega
    have hx : m * 2 ^ (2 * ex + 1) < 256 := by
      have : ex = 0 ∨ ex = 1 := by omega
      rcases this with rfl | rfl <;> simp <;> omega
    simp only [ofOpt_some_bind_app, hb1, hb2, hs, hs3, and_self, if_true]
    phy_run [hb3, hb', hbm, hbm2, and_self, if_true]
    have q2 : (ex : Int) + ((m * 8 : Nat) : Int) = ((ex + m * 8 : Nat) : Int) := by omega
    have q3 : (ex : Int) + (m : Int) * 8 = ((ex + m * 8 : Nat) : Int) := by omega
    simp only [q2, q3]
    have hy : ex + m * 8 < 256 := by omega
    generalize ex + m * 8 = y at hy ⊢
    generalize m * 2 ^ (2 * ex + 1) = x at hx ⊢
    simp +decide [toBytes_cons, toInts_cons, toBytes_nil, toInts_nil, Nat.mod_eq_of_lt hx, Nat.mod_eq_of_lt hy,
      Sx126x.op, Sx126x.addr2, OpCode.value, OpCode.toInt, Register.toInt, Register.addr2, byte, Rt.wrap, Rt.ITy.bits, Rt.andI]

#print axioms tieA_sx126x_symbol_num_timeout

/-- non-vacuity: 100 symbols: mant 50 -> 13, exp 1: command byte 13 << 3 = 0x68, SynchTimeout (0x0706) := 1 + (13 << 3) = 0x69 -/
example : @Gen.PhyEncE126.Sx126x.set_lora_symbol_num_timeout ⟨2⟩ Unit ⟨⟨⟨⟩, none, true, false⟩⟩ 100
    (fun (_ : Unit) _ n => (List.replicate n 0, ())) () [] =
    some (.ok (), (), [.spi [0xA0, 0x68] 0, .busy, .spi [0x0D, 0x07, 0x06, 0x69] 0, .busy]) := rfl
/-- with one step of fuel the translation of the loop answers a panic for the same count: the hypothesis on the fuel is needed -/
example : @Gen.PhyEncE126.Sx126x.set_lora_symbol_num_timeout ⟨1⟩ Unit ⟨⟨⟨⟩, none, true, false⟩⟩ 100
    (fun (_ : Unit) _ n => (List.replicate n 0, ())) () [] = none := rfl

end C13

namespace C17
/-- C17's name for the same equality (the programmed timeout is what the model, whose bytes `C17.symb126` decodes, programs) -/
theorem tieA_sx126x_symbol_num_timeout [Gen.PhyEncE126.LoopFuel] (hf : 2 ≤ Gen.PhyEncE126.LoopFuel.fuel)
    (self : Gen.PhyEncE126.Sx126x) (n : Nat) (c : Chip) (log : List Rt.Phy.Ev) :
    view id (Gen.PhyEncE126.Sx126x.set_lora_symbol_num_timeout self (n : Int) chipDev c log)
      = denote (Sx126x.setLoraSymbolNumTimeout n) c log :=
  C13.tieA_sx126x_symbol_num_timeout hf self n c log
#print axioms tieA_sx126x_symbol_num_timeout
end C17
