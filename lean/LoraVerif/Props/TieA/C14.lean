import LoraVerif.Gen.LoRaApiFn
import LoraVerif.Model.PhyState
/-!
# Tie A for the `LoRa<RK, DLY>` state machine (C14)

`Gen.LoRaApiFn` is `lora-phy/src/lib.rs` regenerated on every run (`tools/translate/src/loraapi.rs`):
the methods of `LoRa` as programs of `Rt.LoRa.LM` over the struct and an abstract record `Ops` of
`RadioKind` operations.  Here the record is instantiated from the hand model's `RadioKindOps`
(`opsOf`: every operation is the interpreter `run` of the model's `Prog`, so fault positions and
dropped awaits stay in the hand model's interpreter), the struct is the image of `DriverState` under
the total, injective map `toG`, and each theorem `C14.tieA_lora_<method>` states that the regenerated
method, run from `toG d` on the world `w`, gives exactly the image (`lift`) of what the hand model's
API program (`Model/PhyState.lean`) gives from `(d, w)`: same outcome on every exit path (Ok / Err /
panic / dropped), same driver bookkeeping, same world (hence the same order of `RadioKind`
operations with the same arguments: the world carries the transcript) — for every `RadioKindOps`,
driver state, world and argument.
-/
open Model.Phy

namespace C14
namespace LoRaTie

/-- what ends a call besides `Ok` / `Err` -/
inductive Halt where
  | panic (s : String)
  | dropped
  deriving DecidableEq, Repr

def modeG : RadioMode → Gen.LoRaApiFn.RadioMode RxMode
  | .sleep => .Sleep
  | .standby => .Standby
  | .frequencySynthesis => .FrequencySynthesis
  | .transmit => .Transmit
  | .receive m => .Receive m
  | .listen => .Listen
  | .cad => .ChannelActivityDetection

def modeM : Gen.LoRaApiFn.RadioMode RxMode → RadioMode
  | .Sleep => .sleep
  | .Standby => .standby
  | .FrequencySynthesis => .frequencySynthesis
  | .Transmit => .transmit
  | .Receive m => .receive m
  | .Listen => .listen
  | .ChannelActivityDetection => .cad

@[simp] theorem modeM_modeG (m : RadioMode) : modeM (modeG m) = m := by cases m <;> rfl
@[simp] theorem modeG_modeM (m : Gen.LoRaApiFn.RadioMode RxMode) : modeG (modeM m) = m := by cases m <;> rfl
theorem modeG_eq {m : RadioMode} {g : Gen.LoRaApiFn.RadioMode RxMode} : modeG m = g ↔ m = modeM g :=
  ⟨fun h => h ▸ (modeM_modeG m).symm, fun h => h ▸ modeG_modeM g⟩

def irqG : IrqState → Gen.LoRaApiFn.IrqState
  | .preambleReceived => .PreambleReceived
  | .done => .Done

/- The evaluation names these facts and not `modeG` / `modeM` / `irqG` themselves: given the function, `simp` also
turns `modeM x` for a variable `x` into a `match`, which nothing afterwards folds back. -/
theorem modeG_sleep : modeG .sleep = .Sleep := rfl
theorem modeM_Sleep : modeM .Sleep = .sleep := rfl
theorem modeG_standby : modeG .standby = .Standby := rfl
theorem modeM_Standby : modeM .Standby = .standby := rfl
theorem modeG_frequencySynthesis : modeG .frequencySynthesis = .FrequencySynthesis := rfl
theorem modeM_FrequencySynthesis : modeM .FrequencySynthesis = .frequencySynthesis := rfl
theorem modeG_transmit : modeG .transmit = .Transmit := rfl
theorem modeM_Transmit : modeM .Transmit = .transmit := rfl
theorem modeG_listen : modeG .listen = .Listen := rfl
theorem modeM_Listen : modeM .Listen = .listen := rfl
theorem modeG_cad : modeG .cad = .ChannelActivityDetection := rfl
theorem modeM_ChannelActivityDetection : modeM .ChannelActivityDetection = .cad := rfl
theorem modeG_receive (m : RxMode) : modeG (.receive m) = .Receive m := rfl
theorem modeM_Receive (m : RxMode) : modeM (.Receive m) = .receive m := rfl
theorem irqG_done : irqG .done = .Done := rfl
theorem irqG_pre : irqG .preambleReceived = .PreambleReceived := rfl

abbrev GOut (α : Type) := Rt.LoRa.Out RadioError Halt α

def outG {α β : Type} (f : α → β) : Out α → GOut β
  | .ok a => .ok (f a)
  | .err e => .err e
  | .panic s => .halt (.panic s)
  | .dropped => .halt .dropped

variable {σ μ : Type}

/-- the driver struct of the regenerated code for a model state (total, injective) -/
def toG (d : DriverState σ) : Gen.LoRaApiFn.LoRa σ RxMode :=
  { radio_kind := d.rk, radio_mode := modeG d.radioMode, sync_word := Int.ofNat d.syncWord,
    cold_start := d.coldStart, calibrate_image := d.calibrateImage }

def lift {α β : Type} (f : α → β) (r : Out α × (DriverState σ × World)) :
    GOut β × (Gen.LoRaApiFn.LoRa σ RxMode × World) :=
  (outG f r.1, (toG r.2.1, r.2.2))

/-- a `RadioKind` operation of the model as an operation of the regenerated code: the model's
interpreter run on the world; `c` converts the answer and gives the receiver afterwards -/
def opRK {α β : Type} (p : σ → Prog α) (c : α → σ → β × σ) : σ → Rt.LoRa.Act World RadioError Halt (β × σ) :=
  fun r w =>
    match run (p r) w with
    | (.ok a, w') => (.ok (c a r), w')
    | (.err e, w') => (.err e, w')
    | (.panic s, w') => (.halt (.panic s), w')
    | (.dropped, w') => (.halt .dropped, w')

/-- an operation that leaves the receiver as it is -/
def opR {α β : Type} (p : Prog α) (c : α → β) : σ → Rt.LoRa.Act World RadioError Halt (β × σ) :=
  opRK (fun _ => p) (fun a r => (c a, r))

/-- the record of operations of the regenerated code, from the model's `RadioKindOps`; `cmp` is
`create_modulation_params(SF7, bandwidth, 4/5, frequency)` (the model's `listen` takes its result) -/
def opsOf {BW : Type} (rk : RadioKindOps σ μ) (cmp : BW → Int → Except RadioError μ) :
    Gen.LoRaApiFn.Ops σ μ PacketParams RxMode Bytes Unit BW Unit Unit World RadioError Halt where
  reset := opR rk.reset id
  ensure_ready := fun m => opR (rk.ensureReady (modeM m)) id
  set_standby := opR rk.setStandby id
  set_sleep := fun warm => opR (rk.setSleep warm) id
  init_lora := fun sw => opRK (fun r => rk.initLora r sw.toNat) (fun st _ => ((), st))
  set_lora_sync_word := fun sw => opR (rk.setLoraSyncWord sw.toNat) id
  set_tx_power_and_ramp_time := fun p m b => opR (rk.setTxPowerAndRampTime p m b) id
  set_irq_params := fun m => opR (rk.setIrqParams (m.map modeM)) id
  set_modulation_params := fun m => opRK (fun r => rk.setModulationParams r m) (fun a r => (a, r))
  set_packet_params := fun pp => opR (rk.setPacketParams pp) id
  calibrate_image := fun f => opR (rk.calibrateImage f.toNat) id
  set_channel := fun f => opR (rk.setChannel f.toNat) id
  set_payload := fun b => opR (rk.setPayload b) id
  do_tx := opR rk.doTx id
  do_rx := fun m => opR (rk.doRx m) id
  get_rx_payload := fun pp buf => opR (rk.getRxPayload pp buf) (fun r => (Int.ofNat r.1, r.2))
  get_rx_packet_status := opR rk.getRxPacketStatus id
  do_cad := fun m => opR (rk.doCad m) id
  await_irq := opR rk.awaitIrq id
  process_irq_event := fun m o b => opR (rk.processIrqEvent (modeM m) o b) (fun r => (r.1.map irqG, r.2))
  create_modulation_params := fun _ bw _ f _ => cmp bw f
  c_RadioError_InvalidRadioMode := .InvalidRadioMode
  c_RxMode_Continuous := .continuous
  c_SpreadingFactor__7 := ()
  c_CodingRate__4_5 := ()
  f_frequency_in_hz := fun m => Int.ofNat (rk.freqOf m)
  m_set_payload_length := fun pp n =>
    if n > 255 then .error (.PayloadSizeUnexpected n.toNat) else .ok ((), { pp with payloadLength := n.toNat })
  m_len := fun b => Int.ofNat b.length
  panic := Halt.panic

/-! ## evaluation lemmas: both monads applied to an explicit state -/

section eval
open Rt.LoRa
variable {ω ε η S α β γ : Type}

theorem LM_get_bind (k : S → LM S ω ε η β) (s : S × ω) : LM.bind LM.get k s = k s.1 s := rfl
theorem LM_modify_bind (f : S → S) (k : Unit → LM S ω ε η β) (s : S) (w : ω) :
    LM.bind (LM.modify f) k (s, w) = k () (f s, w) := rfl
theorem LM_pure_bind (a : α) (k : α → LM S ω ε η β) : LM.bind (LM.pure a) k = k a := rfl
theorem LM_throw_bind (e : ε) (k : α → LM S ω ε η β) (s : S × ω) : LM.bind (LM.throw e) k s = (.err e, s) := rfl
theorem LM_halt_bind (h : η) (k : α → LM S ω ε η β) (s : S × ω) : LM.bind (LM.halt h) k s = (.halt h, s) := rfl
theorem LM_bind_assoc (m : LM S ω ε η α) (f : α → LM S ω ε η β) (k : β → LM S ω ε η γ) :
    LM.bind (LM.bind m f) k = LM.bind m (fun a => LM.bind (f a) k) := by
  funext s; simp only [LM.bind]; rcases m s with ⟨_ | _ | _, _⟩ <;> rfl
theorem LM_ite_bind (c : Prop) [Decidable c] (a b : LM S ω ε η α) (k : α → LM S ω ε η β) :
    LM.bind (if c then a else b) k = if c then LM.bind a k else LM.bind b k := by split <;> rfl
theorem LM_ofExcept_bind (r : Except ε α) (k : α → LM S ω ε η β) (s : S × ω) :
    LM.bind (LM.ofExcept r) k s = match r with | .ok a => k a s | .error e => (.err e, s) := by
  cases r <;> rfl
theorem LM_pure_app (a : α) (s : S × ω) : (LM.pure a : LM S ω ε η α) s = (.ok a, s) := rfl
theorem LM_throw_app (e : ε) (s : S × ω) : (LM.throw e : LM S ω ε η α) s = (.err e, s) := rfl
theorem LM_halt_app (h : η) (s : S × ω) : (LM.halt h : LM S ω ε η α) s = (.halt h, s) := rfl
theorem fun_ite_app {A B : Type} (c : Prop) [Decidable c] (a b : A → B) (x : A) :
    (if c then a else b) x = if c then a x else b x := by split <;> rfl
theorem LM_ite_app (c : Prop) [Decidable c] (a b : LM S ω ε η α) (s : S × ω) :
    (if c then a else b) s = if c then a s else b s := fun_ite_app c a b s

theorem M_get_bind (k : DriverState σ → M σ β) (s : DriverState σ × World) : (M.get >>= k) s = k s.1 s := rfl
theorem M_modify_bind (f : DriverState σ → DriverState σ) (k : Unit → M σ β) (d : DriverState σ) (w : World) :
    (M.modify f >>= k) (d, w) = k () (f d, w) := rfl
theorem M_pure_bind (a : α) (k : α → M σ β) : (pure a >>= k) = k a := rfl
theorem M_throw_bind (e : RadioError) (k : α → M σ β) (s : DriverState σ × World) :
    ((M.throw e : M σ α) >>= k) s = (.err e, s) := rfl
theorem M_panic_bind (e : String) (k : α → M σ β) (s : DriverState σ × World) :
    ((M.panic e : M σ α) >>= k) s = (.panic e, s) := rfl
theorem M_bind_assoc (m : M σ α) (f : α → M σ β) (k : β → M σ γ) :
    ((m >>= f) >>= k) = m >>= (fun a => f a >>= k) := by
  funext s; show M.bind' (M.bind' m f) k s = M.bind' m (fun a => M.bind' (f a) k) s
  simp only [M.bind']; rcases m s with ⟨_ | _ | _ | _, _⟩ <;> rfl
theorem M_ite_bind (c : Prop) [Decidable c] (a b : M σ α) (k : α → M σ β) :
    ((if c then a else b) >>= k) = if c then a >>= k else b >>= k := by split <;> rfl
theorem M_ite_app (c : Prop) [Decidable c] (a b : M σ α) (s : DriverState σ × World) :
    (if c then a else b) s = if c then a s else b s := fun_ite_app c a b s
theorem M_pure_app (a : α) (s : DriverState σ × World) : (pure a : M σ α) s = (.ok a, s) := rfl
theorem M_throw_app (e : RadioError) (s : DriverState σ × World) : (M.throw e : M σ α) s = (.err e, s) := rfl
theorem M_panic_app (e : String) (s : DriverState σ × World) : (M.panic e : M σ α) s = (.panic e, s) := rfl
theorem M_modify_app (f : DriverState σ → DriverState σ) (d : DriverState σ) (w : World) :
    M.modify f (d, w) = (.ok (), (f d, w)) := rfl

end eval

/-! ## the state relation, and the step lemmas over related states -/

section step
open Rt.LoRa
theorem callRk_eta (s : Gen.LoRaApiFn.LoRa σ RxMode) : { s with radio_kind := s.radio_kind } = s := by cases s; rfl

/-- every struct the regenerated code builds from an image is an image again: the evaluation unfolds `toG`, and
this folds the state back before a step, so that the step lemmas can be stated over `toG d` (nothing has to invert `toG`) -/
theorem toG_mk (k : σ) (g : Gen.LoRaApiFn.RadioMode RxMode) (n : Nat) (c i : Bool) :
    (⟨k, g, (n : Int), c, i⟩ : Gen.LoRaApiFn.LoRa σ RxMode) = toG ⟨k, modeM g, n, c, i⟩ := by
  simp only [toG, modeG_modeM, Int.ofNat_eq_natCast]

variable {α β γ γ' : Type} {d : DriverState σ}

theorem lift_mk (f : α → β) (o : Out α) (d : DriverState σ) (w : World) : lift f (o, d, w) = (outG f o, toG d, w) := rfl

/-- what every `tieA_lora_<method>` states: from the image of any driver state, on any world, the regenerated
`g` ends as the model's `m` does (`c` converts the answer).  The theorems spell the equation out, with `d` and `w`
as arguments (their statements are what the property files cite); as hypotheses of the step lemmas they are `Tie`s. -/
abbrev Tie (c : α → β) (g : LM (Gen.LoRaApiFn.LoRa σ RxMode) World RadioError Halt β) (m : M σ α) : Prop :=
  ∀ d w, g (toG d, w) = lift c (m (d, w))

/-- the same at one driver state: the regenerated code re-reads `self` where the model reads once, so inside a
method the tie is carried from state to state -/
abbrev TieAt (d : DriverState σ) (c : α → β) (g : LM (Gen.LoRaApiFn.LoRa σ RxMode) World RadioError Halt β) (m : M σ α) :
    Prop :=
  ∀ w, g (toG d, w) = lift c (m (d, w))

/-- a tied sub-method, then continuations tied from whatever state it leaves -/
theorem Tie.bind {g : LM (Gen.LoRaApiFn.LoRa σ RxMode) World RadioError Halt β} {m : M σ α} {c : α → β}
    {k' : β → LM (Gen.LoRaApiFn.LoRa σ RxMode) World RadioError Halt γ'} {k : α → M σ γ} {f : γ → γ'}
    (hm : Tie c g m) (h : ∀ a, Tie f (k' (c a)) (k a)) : Tie f (LM.bind g k') (m >>= k) := by
  intro d w
  show _ = lift f (M.bind' m k (d, w))
  simp only [LM.bind, M.bind', hm d w]
  rcases hr : m (d, w) with ⟨_ | _ | _ | _, d', w'⟩ <;> simp only [lift, outG]
  · exact h _ _ _

/-- a tied method followed, in the regenerated code only, by a re-packing of its result -/
theorem Tie.bind_end {g : LM (Gen.LoRaApiFn.LoRa σ RxMode) World RadioError Halt β} {m : M σ α} {c : α → β}
    {k' : β → LM (Gen.LoRaApiFn.LoRa σ RxMode) World RadioError Halt γ'} {f : α → γ'}
    (hm : Tie c g m) (h : ∀ a s' w', k' (c a) (s', w') = (.ok (f a), (s', w'))) : Tie f (LM.bind g k') m := by
  intro d w
  simp only [LM.bind, hm d w]
  rcases hr : m (d, w) with ⟨_ | _ | _ | _, d', w'⟩ <;> simp only [lift, outG]
  · exact h _ _ _

/-- one `RadioKind` operation on both sides; the regenerated code writes the receiver back, the model's program
does so in a later statement (`h` is stated for the image with the new receiver against the model's old state) -/
theorem TieAt.callK {p : σ → Prog α} {c : α → σ → β × σ} {k' : β → LM (Gen.LoRaApiFn.LoRa σ RxMode) World RadioError Halt γ'}
    {k : α → M σ γ} {f : γ → γ'}
    (h : ∀ a w', k' (c a d.rk).1 (toG { d with rk := (c a d.rk).2 }, w') = lift f (k a (d, w'))) :
    TieAt d f (LM.bind (Gen.LoRaApiFn.callRk (opRK p c)) k') (M.call (p d.rk) >>= k) := by
  intro w
  show _ = lift f (M.bind' (M.call (p d.rk)) k (d, w))
  simp only [LM.bind, Gen.LoRaApiFn.callRk, opRK, M.bind', M.call, show (toG d).radio_kind = d.rk from rfl]
  rcases hr : run (p d.rk) w with ⟨_ | _ | _ | _, w'⟩ <;> simp only [lift, outG]
  · exact h _ _

/-- an operation that keeps the receiver -/
theorem TieAt.call {p : Prog α} {c : α → β} {k' : β → LM (Gen.LoRaApiFn.LoRa σ RxMode) World RadioError Halt γ'}
    {k : α → M σ γ} {f : γ → γ'} (h : ∀ a, TieAt d f (k' (c a)) (k a)) :
    TieAt d f (LM.bind (Gen.LoRaApiFn.callRk (opR p c)) k') (M.call p >>= k) :=
  TieAt.callK (p := fun _ => p) h

theorem TieAt.call_last {p : Prog α} {c : α → β} : TieAt d c (Gen.LoRaApiFn.callRk (opR p c)) (M.call p) := by
  intro w
  simp only [Gen.LoRaApiFn.callRk, opR, opRK, M.call]
  rcases hr : run p w with ⟨_ | _ | _ | _, w'⟩ <;> simp only [lift, outG]

/-- an operation that is the last statement of the model's program, the regenerated one going on -/
theorem TieAt.call_end {p : Prog α} {c : α → β} {k' : β → LM (Gen.LoRaApiFn.LoRa σ RxMode) World RadioError Halt γ'}
    {f : α → γ'} (h : ∀ a s' w', k' (c a) (s', w') = (.ok (f a), (s', w'))) :
    TieAt d f (LM.bind (Gen.LoRaApiFn.callRk (opR p c)) k') (M.call p) :=
  Tie.bind_end (fun _ => TieAt.call_last) h d

/-- a `Result` matched without `?` -/
theorem TieAt.attempt {p : Prog α} {c : α → β}
    {k' : Except RadioError β → LM (Gen.LoRaApiFn.LoRa σ RxMode) World RadioError Halt γ'}
    {k : Except RadioError α → M σ γ} {f : γ → γ'}
    (hok : ∀ a, TieAt d f (k' (.ok (c a))) (k (.ok a))) (herr : ∀ e, TieAt d f (k' (.error e)) (k (.error e))) :
    TieAt d f (LM.bind (LM.attempt (Gen.LoRaApiFn.callRk (opR p c))) k') (M.attempt (M.call p) >>= k) := by
  intro w
  show _ = lift f (M.bind' (M.attempt (M.call p)) k (d, w))
  simp only [LM.bind, LM.attempt, Gen.LoRaApiFn.callRk, opR, opRK, M.bind', M.attempt, M.call]
  rcases hr : run p w with ⟨_ | _ | _ | _, w'⟩ <;> simp only [lift, outG]
  · exact hok _ _
  · exact herr _ _

end step

/-- evaluate both sides up to the next `RadioKind` operation, or to the end of the path, where both sides then
read the same -/
macro "lora_eval" : tactic => `(tactic| simp only [LM_get_bind, LM_modify_bind, LM_pure_bind, LM_throw_bind, LM_halt_bind,
  LM_bind_assoc, LM_ite_bind, LM_ofExcept_bind, LM_ite_app, LM_pure_app, LM_throw_app, LM_halt_app,
  M_get_bind, M_modify_bind, M_pure_bind, M_throw_bind, M_panic_bind, M_bind_assoc, M_ite_bind, M_ite_app, M_pure_app,
  M_throw_app, M_panic_app, M_modify_app, opsOf, toG, modeG_sleep, modeM_Sleep, modeG_standby, modeM_Standby,
  modeG_frequencySynthesis, modeM_FrequencySynthesis, modeG_transmit, modeM_Transmit, modeG_listen, modeM_Listen,
  modeG_cad, modeM_ChannelActivityDetection, modeG_receive, modeM_Receive, modeG_eq, modeM_modeG, irqG_done, irqG_pre,
  setMode, Gen.LoRaApiFn.RadioMode.from_RX, Gen.LoRaApiFn.wait_for_irq,
  ne_eq, reduceCtorEq, not_true_eq_false, not_false_eq_true, if_true, if_false, Bool.not_true, Bool.not_false,
  bne_iff_ne, beq_iff_eq, Option.map_some, Option.map_none, Int.toNat_natCast, Int.ofNat_eq_natCast,
  Except.map.eq_1, Except.map.eq_2, Model.Phy.RadioMode.receive.injEq, lift_mk, outG, id_eq])

/-- the struct the evaluation has left on the regenerated side, as an image again.  A `simp` of its own: it rewrites
the state by a proof where `lora_eval` moves it definitionally, and the kernel is slow to check the two mixed in
one call when the state is the argument of a sub-method. -/
macro "lora_fold" : tactic => `(tactic| simp only [toG_mk, modeM_Sleep, modeM_Standby, modeM_FrequencySynthesis,
  modeM_Transmit, modeM_Listen, modeM_ChannelActivityDetection, modeM_Receive, modeM_modeG])

/-- one `RadioKind` operation on both sides, by the shape of the goal: the last statement of both (`TieAt.call_last`,
nothing left), an operation that keeps the receiver (`TieAt.call`) or writes it back (`TieAt.callK`: one goal, after
the operation), the model's last statement with the regenerated code going on (`TieAt.call_end`: the re-packing),
a matched `Result` (`TieAt.attempt`: the `Ok` goal, then the `Err` goal).  `call` is tried before `callK`, of
which it is an instance. -/
macro "lora_step" : tactic => `(tactic| (lora_fold; first
  | exact TieAt.call_last _
  | refine TieAt.call (fun _ _ => ?_) _
  | refine TieAt.callK (fun _ _ => ?_) _
  | refine TieAt.call_end (fun _ _ _ => ?_) _
  | refine TieAt.attempt (fun _ _ => ?_) (fun _ _ => ?_) _))

/-- run both sides in lockstep: evaluate up to the next operation, step over it — once per `RadioKind` operation on
the path, until both sides read the same.  What the methods share is the step, and that is a lemma (`TieAt.*`); the
sequence of steps is the method's own text, different for every method and every respelling of lib.rs, so the loop
only says "as many as there are" and a call shows nothing of the path beyond the case split before it.  (A
`lora_step` tried on an unevaluated goal fails only after the unifier has unfolded both monads, so evaluation comes
first; where no step applies to a sub-method call the unifier would unfold the sub-method instead: see
`tieA_lora_init`.) -/
macro "lora_tie" : tactic => `(tactic| repeat (first | lora_eval | lora_step))

/-- continue after a tied sub-method: the state it leaves is arbitrary again -/
macro "lora_sub " h:term : tactic => `(tactic| (lora_fold; refine Tie.bind $h ?_ _ _))

section toStandby
open Rt.LoRa
variable {μ BW γ γ' : Type}

/-- `ensure_ready; if mode != Standby { set_standby; mode = Standby }` (the model's `toStandby`), which lib.rs
writes out at every use, so that the translator prints the rest of the method in both branches: the rest is
tied once, from an arbitrary state.  The left side is the fragment as `lora_eval` leaves it. -/
theorem TieAt.toStandby {rk : RadioKindOps σ μ} {k' : LM (Gen.LoRaApiFn.LoRa σ RxMode) World RadioError Halt γ'}
    {k : Unit → M σ γ} {f : γ → γ'} {d : DriverState σ} (h : Tie f k' (k ())) :
    TieAt d f (LM.bind (Gen.LoRaApiFn.callRk (opR (rk.ensureReady d.radioMode) id)) (fun _ => LM.bind LM.get fun self =>
      if ¬self.radio_mode = .Standby then
        LM.bind LM.get fun _ => LM.bind (Gen.LoRaApiFn.callRk (opR rk.setStandby id)) fun _ => LM.bind LM.get fun _ =>
          LM.bind (LM.modify fun s_ => { s_ with radio_mode := .Standby }) fun _ => k'
      else k')) (toStandby rk >>= k) := by
  intro w
  obtain ⟨rk0, mode, sw, cs, ci⟩ := d
  unfold Model.Phy.toStandby
  lora_eval; lora_step; lora_eval
  by_cases hm : mode = .standby
  · subst hm; lora_eval; lora_fold; exact h _ _
  · simp only [hm]; lora_tie; lora_fold; exact h _ _

end toStandby

end LoRaTie

open LoRaTie
variable {σ μ BW : Type}

theorem tieA_lora_sleep (rk : RadioKindOps σ μ) (cmp : BW → Int → Except RadioError μ) (warm : Bool)
    (d : DriverState σ) (w : World) :
    Gen.LoRaApiFn.sleep (opsOf rk cmp) warm (toG d, w) = lift id (Model.Phy.sleep rk warm (d, w)) := by
  obtain ⟨rk0, mode, sw, cs, ci⟩ := d
  unfold Gen.LoRaApiFn.sleep Model.Phy.sleep
  lora_eval
  by_cases hm : mode = .sleep <;> cases warm <;> simp only [hm] <;> lora_tie

theorem tieA_lora_rx_switch_channel (rk : RadioKindOps σ μ) (cmp : BW → Int → Except RadioError μ) (freq : Int)
    (d : DriverState σ) (w : World) :
    Gen.LoRaApiFn.rx_switch_channel (opsOf rk cmp) freq (toG d, w)
      = lift id (Model.Phy.rxSwitchChannel rk freq.toNat (d, w)) := by
  obtain ⟨rk0, mode, sw, cs, ci⟩ := d
  unfold Gen.LoRaApiFn.rx_switch_channel Model.Phy.rxSwitchChannel
  cases mode <;> lora_tie

theorem tieA_lora_start_rx (rk : RadioKindOps σ μ) (cmp : BW → Int → Except RadioError μ)
    (d : DriverState σ) (w : World) :
    Gen.LoRaApiFn.start_rx (opsOf rk cmp) (toG d, w) = lift id (Model.Phy.startRx rk (d, w)) := by
  obtain ⟨rk0, mode, sw, cs, ci⟩ := d
  unfold Gen.LoRaApiFn.start_rx Model.Phy.startRx
  cases mode <;> lora_tie

theorem tieA_lora_set_lora_sync_word (rk : RadioKindOps σ μ) (cmp : BW → Int → Except RadioError μ) (word : Nat)
    (d : DriverState σ) (w : World) :
    Gen.LoRaApiFn.set_lora_sync_word (opsOf rk cmp) (Int.ofNat word) (toG d, w)
      = lift id (Model.Phy.setLoraSyncWord rk word (d, w)) := by
  unfold Gen.LoRaApiFn.set_lora_sync_word Model.Phy.setLoraSyncWord
  lora_eval
  lora_fold
  refine TieAt.toStandby (fun _ _ => ?_) w
  lora_tie

theorem tieA_lora_do_cold_start (rk : RadioKindOps σ μ) (cmp : BW → Int → Except RadioError μ)
    (d : DriverState σ) (w : World) :
    Gen.LoRaApiFn.do_cold_start (opsOf rk cmp) (toG d, w) = lift id (Model.Phy.doColdStart rk (d, w)) := by
  unfold Gen.LoRaApiFn.do_cold_start Model.Phy.doColdStart
  lora_tie

theorem tieA_lora_prepare_modem (rk : RadioKindOps σ μ) (cmp : BW → Int → Except RadioError μ) (freq : Nat)
    (d : DriverState σ) (w : World) :
    Gen.LoRaApiFn.prepare_modem (opsOf rk cmp) (freq : Int) (toG d, w)
      = lift id (Model.Phy.prepareModem rk freq (d, w)) := by
  unfold Gen.LoRaApiFn.prepare_modem Model.Phy.prepareModem
  lora_eval
  lora_fold
  refine TieAt.toStandby ?_ w
  rintro ⟨rk1, mode1, sw1, cs1, ci1⟩ _
  cases cs1 <;> cases ci1 <;> lora_tie
  all_goals (lora_sub (tieA_lora_do_cold_start rk cmp); rintro _ ⟨rk2, mode2, sw2, cs2, ci2⟩ _
             cases ci2 <;> lora_tie)

end C14
