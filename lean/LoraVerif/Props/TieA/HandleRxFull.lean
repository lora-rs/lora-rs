import LoraVerif.Props.TieA.HandleMacsLoop
/-!
# Tie A: `Session::handle_rx` with the REGENERATED `handle_downlink_macs`

`Props/TieA/HandleRx.lean` proves the regenerated `Session::handle_rx` equal to the model's
`sessionHandleRx` for any `MacOps` whose `handle_downlink_macs` simulates the model's (`MacsOk`).  Here `MacOps` is
instantiated with the regenerated method itself (`Gen/SessionMacs.lean`) run on the commands the iterator yields for
the byte string (`iterOf`: the decoded commands of the well-formed prefix), and `MacsOk` is a THEOREM for every
command stream of octets (`genOps_ok`, from `C08.tieA_handle_downlink_macs`).  `handle_rx_full` is then
`tieA_handle_rx_accept` with no simulation hypothesis.

Abstract: `next_lower_datarate` (the model's), the region's methods (the model's), the iterator
(`parse_downlink_mac_commands` = `parseDownlinkCmds` + `decCmd`: a command is what its payload accessors yield; the
byte-level parser is C03's subject), parsing / MIC / decryption of the frame (inputs).
-/
namespace TieA.Rx.Full
open Model Gen.Region TieA.Macs

/-- every command stream: octets, shorter than `i32::MAX` bytes (the loop counts LinkADRReq commands in an `i32`) -/
def Stream (bytes : List Int) : Prop := (∀ b ∈ bytes, 0 ≤ b ∧ b ≤ 255) ∧ bytes.length < 2147483647

/-- what `parse_downlink_mac_commands(bytes).filter_map(Result::ok)` yields: the decoded commands of the well-formed prefix -/
def iterOf (bytes : List Int) : List (Option Gen.SessionMacs.DownlinkMacCommand) :=
  (parseDownlinkCmds (bytes.length + 1) (natsOf bytes)).map (some ∘ decCmd)

/-- `MacOps` with the regenerated `handle_downlink_macs`; `next_lower_datarate` from the model's tables -/
@[instance_reducible] def genOps : Gen.SessionRx.MacOps RegionState where
  next_lower rs dr := (nextLowerDatarate rs.id dr.toInt.toNat).map drOfNatT
  handle_downlink_macs gs g rs b snr full := Gen.SessionMacs.Session.handle_downlink_macs gs g rs (iterOf b.bytes) snr full

/-- the commands of the well-formed prefix of a stream of octets are well-formed, and not more than the bytes -/
theorem parse_wf : ∀ (fuel : Nat) (l : List Nat), (∀ b ∈ l, b < 256) →
    (∀ x ∈ parseDownlinkCmds fuel l, WfCmd x) ∧ (parseDownlinkCmds fuel l).length ≤ l.length := by
  intro fuel
  induction fuel with
  | zero => intro l _; simp [parseDownlinkCmds]
  | succ fuel ih =>
    intro l ho
    match l, ho with
    | [], _ => simp [parseDownlinkCmds]
    | cid :: rest, ho =>
      simp only [parseDownlinkCmds]
      cases hc : downlinkCmdLen cid with
      | none => simp
      | some n =>
        simp only []
        by_cases hlt : rest.length < n
        · simp [hlt]
        · simp only [hlt, if_false]
          have hd : ∀ b ∈ rest.drop n, b < 256 := fun b hb => ho b (by simp [List.mem_of_mem_drop hb])
          obtain ⟨h1, h2⟩ := ih (rest.drop n) hd
          refine ⟨?_, ?_⟩
          · intro x hx
            simp only [List.mem_cons] at hx
            rcases hx with rfl | hx
            · refine ⟨?_, ?_⟩
              · simp only [hc, List.length_take]; congr 1; omega
              · intro b hb; exact ho b (by simp [List.mem_of_mem_take hb])
            · exact h1 x hx
          · simp only [List.length_cons, List.length_drop] at h2 ⊢
            omega

theorem natsOf_lt (bytes : List Int) (h : ∀ b ∈ bytes, 0 ≤ b ∧ b ≤ 255) : ∀ b ∈ natsOf bytes, b < 256 := by
  intro b hb
  simp only [natsOf, List.mem_map] at hb
  obtain ⟨a, ha, rfl⟩ := hb
  have := h a ha
  omega

/-- `MacsOk` is a theorem for the regenerated `handle_downlink_macs` on every command stream of octets -/
theorem genOps_ok : @NextLowerOk genOps ∧ @MacsOk genOps Stream := by
  refine ⟨fun _ _ => rfl, ?_⟩
  intro gs g rs bytes snr full hS hq
  obtain ⟨ho, hlen⟩ := hS
  have hl : (natsOf bytes).length = bytes.length := by simp [natsOf]
  obtain ⟨hw, hn⟩ := parse_wf (bytes.length + 1) (natsOf bytes) (natsOf_lt bytes ho)
  have h := C08.tieA_handle_downlink_macs snr (parseDownlinkCmds (bytes.length + 1) (natsOf bytes)) hw gs g rs full hq (by omega)
  simp only [handleDownlinkMacs, hl]
  exact h

/-- `Session::handle_rx` with the regenerated `handle_downlink_macs` inside is the model's
`sessionHandleRx`: `tieA_handle_rx_accept` with `S` := every command stream and NO simulation hypothesis (for a downlink-typed
frame, `hup`; uplink-typed frames: `TieA.Rx.handle_rx_uplink_typed`, instance-independent; carrying the
session's DevAddr if it fits, `haddr`; frames addressed to another device: `TieA.Rx.handle_rx_other_devaddr`, instance-independent) -/
theorem handle_rx_full (D : Int) (gs : Gen.SessionRx.Session) (rs : RegionState) (g : Gen.SessionRx.Configuration)
    (rx : Gen.SessionRx.RadioBuffer) (dl : List Gen.SessionRx.Downlink) (maxp snr : Int) (ign : Bool)
    (e : Gen.SessionRx.EncryptedDataPayload)
    (hparse : rx.as_mut_for_read.parse = some e) (hup : e.is_uplink = false)
    (haddr : ¬ (e.as_bytes.length : Int) > maxp + 5 → e.fhdr.dev_addr = gs.devaddr)
    (hw : SessWF gs) (hmax : 0 ≤ maxp ∧ maxp ≤ 255) (hwire : 0 ≤ e.fhdr.fcnt)
    (hdec : ∀ f, Gen.SessionRx.next_fcnt_down gs.fcnt_down e.fhdr.fcnt = some f → e.validate_mic (nwkOf gs) f = true →
      ∃ d, rx.as_mut_for_read.decrypt_in_place (some (nwkOf gs)) (some (appOf gs)) f = some d ∧ DecWF Stream d) :
    (@Gen.SessionRx.Session.handle_rx RegionState genOps D gs rs g rx dl maxp snr ign).bind
        (fun out => (respOf out.1).map (fun r => (r, sessOf out.2.1, out.2.2.1, cfgOf out.2.2.2.1, out.2.2.2.2.2.map dlOf)))
      = (sessionHandleRx (sessOf gs) (cfgOf g) rs (dataOf gs e (decOf gs rx e)) maxp.toNat snr ign).toOption.map (expect dl D) :=
  @tieA_handle_rx_accept genOps Stream genOps_ok.1 genOps_ok.2 D gs rs g rx dl maxp snr ign e hparse hup haddr hw hmax hwire hdec

/-! ## non-vacuity: a frame whose FOpts carry a LinkADRReq (mask 0x0007, DR5, power 1) and a DevStatusReq -/

def exEnc : Gen.SessionRx.EncryptedDataPayload :=
  ⟨List.replicate 22 0, true, ⟨5, [3, 0x51, 0x07, 0x00, 0x00, 6], ⟨99⟩⟩, fun c f => c.key.id == 11 && f == 5, false⟩
def exDec : Gen.SessionRx.DecryptedDataPayload := ⟨⟨5, [3, 0x51, 0x07, 0x00, 0x00, 6], ⟨99⟩⟩, some 7, .Data [1, 2, 3]⟩
def exRx : Gen.SessionRx.RadioBuffer := ⟨⟨some exEnc, fun _ _ f => if f = 5 then some exDec else none⟩⟩

/-- the regenerated `handle_rx` with the regenerated `handle_downlink_macs` on the model's EU868 region: the frame is
accepted, the old answer is replaced by `LinkADRAns(0b111)` and `DevStatusAns(255, 3)`, DR5 and 14 dBm are in force -/
example :
    (@Gen.SessionRx.Session.handle_rx RegionState genOps 4 exSess (RegionState.init .EU868) exCfg exRx [] 250 3 false).map
      (fun out => (out.1, out.2.1.uplink.pending, out.2.2.2.1.data_rate, out.2.2.2.1.tx_power))
      = some (.DownlinkReceived 5, [3, 7, 6, 255, 3], DR._5, some 14) := by
  rfl

/-- every hypothesis of `handle_rx_full` holds on that input -/
example :
    (@Gen.SessionRx.Session.handle_rx RegionState genOps 4 exSess (RegionState.init .EU868) exCfg exRx [] 250 3 false).bind
        (fun out => (respOf out.1).map (fun r => (r, sessOf out.2.1, out.2.2.1, cfgOf out.2.2.2.1, out.2.2.2.2.2.map dlOf)))
      = (sessionHandleRx (sessOf exSess) (cfgOf exCfg) (RegionState.init .EU868) (dataOf exSess exEnc (decOf exSess exRx exEnc))
          (250 : Int).toNat 3 false).toOption.map (expect [] 4) := by
  have hf5 : Gen.SessionRx.next_fcnt_down exSess.fcnt_down exEnc.fhdr.fcnt = some 5 := by decide
  refine handle_rx_full 4 exSess (RegionState.init .EU868) exCfg exRx [] 250 3 false exEnc rfl rfl (fun _ => rfl) ?_ (by omega) (by decide) ?_
  · refine ⟨by decide, by decide, by decide, by decide, ?_⟩
    intro f hf
    have : f = 4 := by simpa [exSess] using hf.symm
    omega
  · intro f hf _
    rw [hf5] at hf
    obtain rfl : (5 : Int) = f := by simpa using hf
    refine ⟨exDec, rfl, ?_, ⟨?_, by decide⟩, [1, 2, 3], by decide, ?_, rfl⟩
    · intro p hp
      have : p = 7 := by simpa [exDec] using hp.symm
      omega
    · intro b hb
      simp [exDec] at hb
      omega
    · intro h; simp [exDec] at h

#print axioms genOps_ok
#print axioms handle_rx_full
end TieA.Rx.Full
