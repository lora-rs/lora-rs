import LoraVerif.Props.TieA.MacCmdFrameGen
import LoraVerif.Gen.MacCmdFnDownlinkDUTCommand
/-!
# Tie A for the framing step of `DownlinkDUTCommand` (C03)

`Gen/MacCmdFnDownlinkDUTCommand.lean` holds what `#[derive(CommandHandler)]` generates for `DownlinkDUTCommand` (payload structs,
`new_from_raw` / `max_len`, `MacCommandSet::parse_one`, expanded from the `quote!` templates with the `#[cmd]` attributes of
the current source), the hand-written `len()` helpers of its variable-length payloads, and the source's
`MacCommands::next` for `T = DownlinkDUTCommand`.  Here: the regenerated framing IS the hand model `Model/MacCmd.lean` over the
regenerated table `Gen.CmdTables.downlinkDUTCommand`, for every octet stream.  The set-independent part of the argument is
`Props/TieA/MacCmdFrameGen.lean`; this file supplies the reading of the set's own types (`infoOf` …), instantiates the arm
lemmas of that file at the CIDs of the table, and shows that the unit's `next` is `gNext` of the unit's `parse_one` (`next_bridge`).
-/
namespace TieA.FrameDownlinkDUTCommand
open MacCmd TieA.FrameGen

def TS : Table := C03.T Gen.CmdTables.downlinkDUTCommand

def infoOf : Gen.MacCmdFnDownlinkDUTCommand.DownlinkDUTCommand → Info
  | .DutResetReq _ => (1, "DutResetReq", "DutResetReqPayload", [])
  | .DutJoinReq _ => (2, "DutJoinReq", "DutJoinReqPayload", [])
  | .AdrBitChangeReq p => (4, "AdrBitChangeReq", "AdrBitChangeReqPayload", p._0)
  | .TxPeriodicityChangeReq p => (6, "TxPeriodicityChangeReq", "TxPeriodicityChangeReqPayload", p._0)
  | .TxFramesCtrlReq p => (7, "TxFramesCtrlReq", "TxFramesCtrlReqPayload", p._0)
  | .EchoIncPayloadReq p => (8, "EchoIncPayloadReq", "EchoIncPayloadReqPayload", p._0)
  | .RxAppCntReq _ => (9, "RxAppCntReq", "RxAppCntReqPayload", [])
  | .LinkCheckReq _ => (32, "LinkCheckReq", "LinkCheckReqPayload", [])
  | .DutVersionsReq _ => (127, "DutVersionsReq", "DutVersionsReqPayload", [])

def errOf : Gen.MacCmdFnDownlinkDUTCommand.ParseError → MacCmd.ParseError
  | .UnknownCid c => .unknownCid c.toNat
  | .Truncated c => .truncated c.toNat

def oneOf : Gen.MacCmdFnDownlinkDUTCommand.ParseOne → POne
  | .Ok c n => .ok (infoOf c, n)
  | .Err e => .error (errOf e)

def itemOf : Gen.MacCmdFnDownlinkDUTCommand.NextItem → GItem
  | .Ok c => .ok (infoOf c)
  | .Err e => .error (errOf e)

def stOf (g : Gen.MacCmdFnDownlinkDUTCommand.MacCommands) : GSt := (g.data, g.errored)

def P (d : List Int) : Option POne := (Gen.MacCmdFnDownlinkDUTCommand.DownlinkDUTCommand.parse_one d).map oneOf

theorem next_bridge (s : Gen.MacCmdFnDownlinkDUTCommand.MacCommands) :
    (Gen.MacCmdFnDownlinkDUTCommand.MacCommands.next s).map (fun r => (r.1.map itemOf, stOf r.2)) = gNext P (stOf s) :=
  gNext_of (fun _ => by rfl) (fun s r => by
    cases r with
    | Err x => rfl
    | Ok c n => exact Option.map_bind) s

def runOf (r : List Gen.MacCmdFnDownlinkDUTCommand.NextItem × Gen.MacCmdFnDownlinkDUTCommand.MacCommands × Bool) := (r.1.map itemOf, stOf r.2.1, r.2.2)

end TieA.FrameDownlinkDUTCommand

namespace C03
open MacCmd TieA.MacCmdFrame TieA.FrameGen TieA.FrameDownlinkDUTCommand

/-- the derive-generated `parse_one` of `DownlinkDUTCommand` (expanded from the `quote!` templates of the `CommandHandler`
derive with the `#[cmd(cid, len)]` attributes of the current source, with the hand-written `len()` helpers of the variable-length payloads) IS the
model's `parseOne` over the regenerated table, for EVERY octet string (of a length a Rust slice can have): same variant, payload type, payload octets and
consumed count, `UnknownCid` / `Truncated` with the same CID on the same inputs, a panic exactly on the empty slice. -/
theorem tieA_parse_one_DownlinkDUTCommand (data : List Nat) (hlen : data.length < 2 ^ 64) :
    (Gen.MacCmdFnDownlinkDUTCommand.DownlinkDUTCommand.parse_one (ints data)).map TieA.FrameDownlinkDUTCommand.oneOf = (toOpt (parseOne TieA.FrameDownlinkDUTCommand.TS varLen data)).map oneUp := by
  cases data with
  | nil => rfl
  | cons cid rest =>
    by_cases h : cid ∈ [1, 2, 4, 6, 7, 8, 9, 32, 127]
    · simp only [List.mem_cons, List.not_mem_nil, or_false] at h
      rcases h with rfl | rfl | rfl | rfl | rfl | rfl | rfl | rfl | rfl
      -- the two to-the-end arms (CIDs 7, 8) first
      rotate_left 4
      · exact toEnd_arm_tie (fun c => .Err (.Truncated c)) hlen rfl rfl (fun _ => rfl) rfl fun _ => rfl
      · exact toEnd_arm_tie (fun c => .Err (.Truncated c)) hlen rfl rfl (fun _ => rfl) rfl fun _ => rfl
      all_goals exact fixed_arm_tie (fun c => .Err (.Truncated c)) (by decide) rfl rfl rfl fun _ => rfl
    · refine unknown_arm_tie (e := .Err (.UnknownCid cid)) (Table.lookup_none_of TS cid h) ?_ rfl
      have hI := not_mem_cast h
      simp only [List.map, List.mem_cons, List.not_mem_nil, or_false, not_or, Int.cast_ofNat_Int] at hI
      simp only [Gen.MacCmdFnDownlinkDUTCommand.DownlinkDUTCommand.parse_one, idx0, Option.bind_eq_bind, Option.bind_some, decide_eq_true_eq, hI, if_false]
      rfl

/-- the source's `MacCommands::next` for `T = DownlinkDUTCommand` IS the model's `next` in every state. -/
theorem tieA_next_DownlinkDUTCommand (data : List Nat) (err : Bool) (hlen : data.length < 2 ^ 64) :
    (Gen.MacCmdFnDownlinkDUTCommand.MacCommands.next ⟨ints data, err⟩).map (fun r => (r.1.map TieA.FrameDownlinkDUTCommand.itemOf, TieA.FrameDownlinkDUTCommand.stOf r.2))
      = (toOpt (MacCmd.next TieA.FrameDownlinkDUTCommand.TS varLen ⟨data, err⟩)).map (fun r => (r.1.map itemUp, stUp r.2)) := by
  rw [TieA.FrameDownlinkDUTCommand.next_bridge]
  exact gNext_tie _ _ _ (fun n => n < 2 ^ 64) tieA_parse_one_DownlinkDUTCommand data err hlen

/-- the `DownlinkDUTCommand` iterator over `data`, drained through the REGENERATED `next` (`MacCommands::new(data)`, then
`next` until `None`, budget `data.len() + 2`), is the model's run, for every octet stream: the same items in the same order,
the same final state, within the same budget. -/
theorem tieA_iterator_DownlinkDUTCommand (data : List Nat) (hlen : data.length < 2 ^ 64) :
    (runFuelOf Gen.MacCmdFnDownlinkDUTCommand.MacCommands.next (data.length + 2) ⟨ints data, false⟩).map TieA.FrameDownlinkDUTCommand.runOf
      = (toOpt (run TieA.FrameDownlinkDUTCommand.TS varLen data)).map runUp :=
  (runFuelOf_sim _ _ TieA.FrameDownlinkDUTCommand.itemOf TieA.FrameDownlinkDUTCommand.stOf TieA.FrameDownlinkDUTCommand.next_bridge _ _).trans
    (gRun_tie _ _ _ (fun n => n < 2 ^ 64) (fun _ _ h hb => Nat.lt_of_le_of_lt h hb) tieA_parse_one_DownlinkDUTCommand _ data false hlen)

/-! non-vacuity: a concrete stream through the regenerated iterator (CID and payload octets of every item, `none` = the
error item; the unread rest and the `errored` flag; budget not exhausted); the length hypothesis holds of it -/
example : (runFuelOf Gen.MacCmdFnDownlinkDUTCommand.MacCommands.next (6 + 2) ⟨[6, 5, 7, 1, 2, 3], false⟩).map
    (fun r => (r.1.map (fun i => (TieA.FrameDownlinkDUTCommand.itemOf i).toOption.map (fun c => (c.1, c.2.2.2))), TieA.FrameDownlinkDUTCommand.stOf r.2.1, r.2.2))
    = some ([some (6, [5]), some (7, [1, 2, 3])], ([], false), false) := by decide
example : ([6, 5, 7, 1, 2, 3] : List Nat).length < 2 ^ 64 := by decide

#print axioms tieA_parse_one_DownlinkDUTCommand
#print axioms tieA_next_DownlinkDUTCommand
#print axioms tieA_iterator_DownlinkDUTCommand
end C03
