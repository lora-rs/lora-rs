import LoraVerif.Props.TieA.C14b
/-!
# Tie A for `LoRa<RK, DLY>`: `complete_rx` with its loop, `rx`, `listen`

As `Props/TieA/C14b.lean`; the regenerated `complete_rx` answers `((length, status), buffer)` where the model
answers `(length, buffer)` (`rxRes`), and `rx` is the ties of `start_rx` and `complete_rx` in sequence.
-/
open Model.Phy

namespace C14
open LoRaTie
variable {σ μ BW : Type}

/-- what `complete_rx` returns: the model's `(length, buffer)` as `((length, status), buffer)` -/
def rxRes (r : Nat × Bytes) : (Int × Unit) × Bytes := ((Int.ofNat r.1, ()), r.2)

theorem tieA_lora_complete_rx_loop (rk : RadioKindOps σ μ) (cmp : BW → Int → Except RadioError μ)
    (pkt : PacketParams) (buf : Bytes) :
    ∀ (fuel : Nat) (d : DriverState σ) (w : World),
      Gen.LoRaApiFn.complete_rx_loop (opsOf rk cmp) pkt buf fuel (toG d, w)
        = lift rxRes (Model.Phy.completeRxLoop rk pkt buf fuel (d, w))
  | 0, d, w => by
    unfold Gen.LoRaApiFn.complete_rx_loop Model.Phy.completeRxLoop
    lora_tie
  | fuel + 1, d, w => by
    obtain ⟨rk0, mode, sw, cs, ci⟩ := d
    unfold Gen.LoRaApiFn.complete_rx_loop Model.Phy.completeRxLoop Model.Phy.failToStandby
    lora_eval
    lora_fold
    refine TieAt.attempt (fun a w' => ?_) (fun e w' => ?_) _
    · rcases a with ⟨(_ | (_ | _)), o⟩
      · lora_tie
        lora_fold
        exact tieA_lora_complete_rx_loop rk cmp pkt buf fuel _ _
      · lora_tie
        lora_fold
        exact tieA_lora_complete_rx_loop rk cmp pkt buf fuel _ _
      · lora_tie
        all_goals rfl
    · lora_eval
      by_cases hm : mode = .receive .continuous
      · subst hm; lora_tie
      · simp only [hm]; lora_tie

theorem tieA_lora_complete_rx (rk : RadioKindOps σ μ) (cmp : BW → Int → Except RadioError μ)
    (pkt : PacketParams) (buf : Bytes) (fuel : Nat) (d : DriverState σ) (w : World) :
    Gen.LoRaApiFn.complete_rx (opsOf rk cmp) pkt buf fuel (toG d, w)
      = lift rxRes (Model.Phy.completeRx rk pkt buf fuel (d, w)) := by
  obtain ⟨rk0, mode, sw, cs, ci⟩ := d
  unfold Gen.LoRaApiFn.complete_rx Model.Phy.completeRx
  lora_eval
  cases mode <;> lora_tie
  lora_fold
  exact tieA_lora_complete_rx_loop rk cmp pkt buf fuel _ _

theorem tieA_lora_rx (rk : RadioKindOps σ μ) (cmp : BW → Int → Except RadioError μ)
    (pkt : PacketParams) (buf : Bytes) (fuel : Nat) (d : DriverState σ) (w : World) :
    Gen.LoRaApiFn.rx (opsOf rk cmp) pkt buf fuel (toG d, w)
      = lift rxRes (Model.Phy.rx rk pkt buf fuel (d, w)) := by
  unfold Gen.LoRaApiFn.rx Model.Phy.rx
  lora_eval
  lora_sub (tieA_lora_start_rx rk cmp)
  intro _ d' _
  lora_eval
  lora_fold
  exact Tie.bind_end (tieA_lora_complete_rx rk cmp pkt buf fuel) (fun _ _ _ => rfl) _ _

/-- `LoRa::listen`; `cmp` is `create_modulation_params(SF7, bandwidth, 4/5, frequency)` -/
theorem tieA_lora_listen (rk : RadioKindOps σ μ) (cmp : BW → Int → Except RadioError μ)
    (freq : Nat) (bw : BW) (d : DriverState σ) (w : World) :
    Gen.LoRaApiFn.listen (opsOf rk cmp) (freq : Int) bw (toG d, w)
      = lift id (Model.Phy.listen rk freq (cmp bw (freq : Int)) (d, w)) := by
  unfold Gen.LoRaApiFn.listen Model.Phy.listen
  lora_eval
  lora_sub (tieA_lora_prepare_modem rk cmp _)
  intro _ _ _
  lora_eval
  lora_step
  lora_eval
  rcases hc : cmp bw (freq : Int) with e | m <;> lora_tie

end C14
