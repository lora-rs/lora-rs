import LoraVerif.Props.TieA.HandleRxFull
import LoraVerif.Props.TieA.PrepareBuffer
/-!
# C06, tie A: the methods of `session.rs` that move the uplink counter

The hand model ends the session when `s.fcntUp == 0xFFFFFFFF` (`rx2Complete`, `sessionHandleRx`).  The regenerated
`Session::rx2_complete`, `Session::prepare_buffer` and `Session::handle_rx`, whole methods with both
`self.fcnt_up == 0xFFFF_FFFF` tests inside, are the model's functions.
-/
namespace C06
open Model

/-- the WHOLE method, not only its comparisons: the state-passing translation of the current
source of `Session::rx2_complete` (`Gen/SessionFn.lean`; struct values in, `(Response, Session,
Configuration)` out, checked arithmetic) never panics on a session whose counters fit `u32` and is the
model's `rx2Complete` — in particular `fcnt_up` advances by exactly one unless it is `0xFFFF_FFFF`,
in which case nothing changes and `SessionExpired` is reported (`C06.rx2Complete_fcnt` is about that
model function). -/
theorem tieA_rx2_complete (s0 : Session) (gs : Gen.SessionFn.Session) (g : Gen.SessionFn.Configuration) (r : RegionId)
    (hw : TieA.SessWF gs) :
    (Gen.SessionFn.Session.rx2_complete gs g (TieA.regionOf r)).bind
        (fun o => (TieA.respOf o.1).map (fun resp => (resp, TieA.sessOf s0 o.2.1, TieA.cfgOf o.2.2)))
      = some (rx2Complete (TieA.sessOf s0 gs) (TieA.cfgOf g) r) :=
  TieA.tieA_rx2_complete s0 gs g r hw

example : TieA.SessWF ⟨false, 7, none, 95⟩ := by simp only [TieA.SessWF]; omega

#print axioms tieA_rx2_complete
/-- `Session::prepare_buffer` (whole method, `Gen/SessionTx.lean`): the frame handed to the codec
carries FCnt = the session's `fcnt_up`, and `prepare_buffer` does not advance the counter (the model's
`prepareBuffer`, which `C06.send_uses_fcnt` is about); see `C12.tieA_prepare_buffer_header` for the other
header fields. -/
theorem tieA_prepare_buffer_header {β : Type} [Gen.SessionTx.TxBufOps β] (codec : Gen.SessionTx.FrameCodec)
    (gs : Gen.SessionTx.Session) (d : Gen.SessionTx.SendData) (tx : β) (g : Gen.SessionTx.Configuration) (r : RegionId)
    (hp : 0 ≤ d.fport)
    (hret : ∀ p, TieA.Tx.natsOf (Gen.SessionTx.retained_pipeline p []) = retainSticky (p.length + 1) (TieA.Tx.natsOf p)) :
    if d.fport = 0 ∧ d.data ≠ [] then
      Gen.SessionTx.Session.prepare_buffer codec gs d tx g (TieA.Tx.regionOf r) = none ∧
      prepareBuffer (TieA.Tx.sessOf gs) (TieA.Tx.cfgOf g) r (TieA.Tx.natsOf d.data) d.fport.toNat d.confirmed
        = panic "Data payload with fport 0 not allowed"
    else ∃ (f : Gen.SessionTx.DataFrame) (gs' : Gen.SessionTx.Session),
      Gen.SessionTx.Session.prepare_buffer codec gs d tx g (TieA.Tx.regionOf r)
        = (codec.build_into f (List.replicate 256 0) ⟨gs.nwkskey.inner⟩ (some ⟨gs.appskey.inner⟩)).bind (fun pkt =>
            let o := Gen.SessionTx.TxBufOps.extend_from_slice (Gen.SessionTx.TxBufOps.clear (Gen.SessionTx.TxBufOps.clear tx)) pkt
            o.1.map (fun _ => (gs.fcnt_up, gs', o.2)))
      ∧ f.f_pending = false
      ∧ f.frame_type = (if d.confirmed then .ConfirmedUp else .UnconfirmedUp)
      ∧ prepareBuffer (TieA.Tx.sessOf gs) (TieA.Tx.cfgOf g) r (TieA.Tx.natsOf d.data) d.fport.toNat d.confirmed
          = (if TieA.Tx.frameLen f > 256 then panic "Error assembling packet: BufferTooShort"
             else if TieA.Tx.frameLen f ≥ 256 then panic "tx_buffer.extend_from_slice unwrap"
             else .ok (TieA.Tx.descOf f, TieA.Tx.sessOf gs')) :=
  TieA.Tx.tieA_prepare_buffer_header codec gs d tx g r hp hret

#print axioms tieA_prepare_buffer_header
/-- `Session::handle_rx` (whole method, `Gen/SessionRx.lean`) is the model's `sessionHandleRx`, the function
`C06.handleRx_fcnt` is about, on a buffer the parser accepts as a downlink-typed frame (`hup`) carrying the session's own
DevAddr if it passes the size test (`haddr`): an accepted downlink advances `fcnt_up` by exactly one unless it is
`0xFFFF_FFFF`, in which case `SessionExpired` is reported and the counter stays; no other path of `handle_rx` touches it
except the oversized-frame path through `rx2_complete`.  An uplink-typed frame (`tieA_handle_rx_uplink_typed`) and a
fitting frame addressed to another device leave `fcnt_up` and everything else untouched.  `handle_downlink_macs` inside
is the regenerated method (`TieA.Rx.Full.genOps`) on every command stream, so there is no simulation hypothesis.  See
`C05.tieA_handle_rx_accept`. -/
theorem tieA_handle_rx_accept
    (D : Int) (gs : Gen.SessionRx.Session) (rs : RegionState) (g : Gen.SessionRx.Configuration)
    (rx : Gen.SessionRx.RadioBuffer) (dl : List Gen.SessionRx.Downlink) (maxp snr : Int) (ign : Bool)
    (e : Gen.SessionRx.EncryptedDataPayload)
    (hparse : rx.as_mut_for_read.parse = some e) (hup : e.is_uplink = false)
    (haddr : ¬ (e.as_bytes.length : Int) > maxp + 5 → e.fhdr.dev_addr = gs.devaddr)
    (hw : TieA.Rx.SessWF gs) (hmax : 0 ≤ maxp ∧ maxp ≤ 255) (hwire : 0 ≤ e.fhdr.fcnt)
    (hdec : ∀ f, Gen.SessionRx.next_fcnt_down gs.fcnt_down e.fhdr.fcnt = some f → e.validate_mic (TieA.Rx.nwkOf gs) f = true →
      ∃ d, rx.as_mut_for_read.decrypt_in_place (some (TieA.Rx.nwkOf gs)) (some (TieA.Rx.appOf gs)) f = some d ∧ TieA.Rx.DecWF TieA.Rx.Full.Stream d) :
    (@Gen.SessionRx.Session.handle_rx RegionState TieA.Rx.Full.genOps D gs rs g rx dl maxp snr ign).bind
        (fun out => (TieA.Rx.respOf out.1).map (fun r => (r, TieA.Rx.sessOf out.2.1, out.2.2.1, TieA.Rx.cfgOf out.2.2.2.1, out.2.2.2.2.2.map TieA.Rx.dlOf)))
      = (sessionHandleRx (TieA.Rx.sessOf gs) (TieA.Rx.cfgOf g) rs (TieA.Rx.dataOf gs e (TieA.Rx.decOf gs rx e)) maxp.toNat snr ign).toOption.map (TieA.Rx.expect dl D) :=
  TieA.Rx.Full.handle_rx_full D gs rs g rx dl maxp snr ign e hparse hup haddr hw hmax hwire hdec

/-- `C05.tieA_handle_rx_uplink_typed` with its docstring, stated for this property -/
theorem tieA_handle_rx_uplink_typed [Gen.SessionRx.MacOps RegionState]
    (D : Int) (gs : Gen.SessionRx.Session) (rs : RegionState) (g : Gen.SessionRx.Configuration)
    (rx : Gen.SessionRx.RadioBuffer) (dl : List Gen.SessionRx.Downlink) (maxp snr : Int) (ign : Bool)
    (e : Gen.SessionRx.EncryptedDataPayload)
    (hparse : rx.as_mut_for_read.parse = some e) (hup : e.is_uplink = true) :
    Gen.SessionRx.Session.handle_rx D gs rs g rx dl maxp snr ign = some (.NoUpdate, gs, rs, g, rx, dl) :=
  TieA.Rx.handle_rx_uplink_typed D gs rs g rx dl maxp snr ign e hparse hup

#print axioms tieA_handle_rx_accept
#print axioms tieA_handle_rx_uplink_typed
end C06
