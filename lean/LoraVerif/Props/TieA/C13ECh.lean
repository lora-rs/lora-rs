import LoraVerif.Props.TieA.C13Sx127
import LoraVerif.Gen.PhyEncE1276Ch
/-!
# C13, tie A: SX127x `set_channel`
-/
open Model.Phy TieA.Phy

namespace C13

/-- `Sx127x::set_channel` (with `freq_to_pll_step` of `Gen.PhyArith`, closed form `freq_to_pll_step_closed`), regenerated, IS the
model's `setChannel`: the PLL word rounded to nearest, its bits 23..16 / 15..8 / 7..0 written to RegFrfMsb / Mid / Lsb in this
order — EVERY `u32` frequency, chip content and prefix. -/
theorem tieA_sx127x_set_channel (self : Gen.PhyEncE1276Ch.Sx127x) (f : Nat) (hf : f ≤ 4294967295) (c : Chip) (log : List Rt.Phy.Ev) :
    view id (Gen.PhyEncE1276Ch.Sx127x.set_channel self (f : Int) chipDev c log) = denote (Sx127x.setChannel f) c log := by
  have hg := Gen.PhyArith.freq_to_pll_step_closed (f : Int) (by omega) (by omega)
  have e : ((f : Int) * 524288 + 16000000) / 32000000 = (((f * 524288 + 16000000) / 32000000 : Nat) : Int) := by omega
  have hm : Sx127x.freqToPllStep f = (f * 524288 + 16000000) / 32000000 := by
    unfold Sx127x.freqToPllStep; omega
  rw [e] at hg
  have hp : (f * 524288 + 16000000) / 32000000 < 4294967296 := by omega
  obtain ⟨p, hq⟩ : ∃ p, (f * 524288 + 16000000) / 32000000 = p := ⟨_, rfl⟩
  rw [hq] at hg hm hp
  simp only [Gen.PhyEncE1276Ch.Sx127x.set_channel, Sx127x.setChannel, hg, hm]
  try gen_unfold_helpers_PhyEncE1276Ch
  have e1 : Rt.andI (p : Int) 0x00FF0000 / 65536 = ((p : Int) / 65536) % 256 := Rt.andI_ff0000_shr (by omega)
  have e2 : Rt.andI (p : Int) 0x0000FF00 / 256 = ((p : Int) / 256) % 256 := Rt.andI_00ff00_shr (by omega)
  have e3 : Rt.andI (p : Int) 0xFF = (p : Int) % 256 := Rt.andI_255 (by omega)
  have n1 : ((p : Int) / 65536) % 256 = ((p / 65536 % 256 : Nat) : Int) := by omega
  have n2 : ((p : Int) / 256) % 256 = ((p / 256 % 256 : Nat) : Int) := by omega
  have n3 : (p : Int) % 256 = ((p % 256 : Nat) : Int) := by omega
  have ha : p / 65536 % 256 < 256 := by omega
  have hb : p / 256 % 256 < 256 := by omega
  have hd : p % 256 < 256 := by omega
  have w1 := Rt.OfNat.wrap_u8_nat _ (Nat.le_of_lt_succ ha)
  have w3 := Rt.OfNat.wrap_u8_nat _ (Nat.le_of_lt_succ hd)
  simp +decide only [Rt.shrC, Int.reducePow, Int.reduceToNat, if_true, e1, e2, e3, n1, n2, n3, w1, w3, ofOpt_some_bind_app]
  generalize p / 65536 % 256 = a at ha ⊢
  generalize p / 256 % 256 = b at hb ⊢
  generalize p % 256 = d at hd ⊢
  simp only [Sx127x.writeRegister, write_bind_app, write_app, chipDev_snd,
    Model.Phy.bind_eq, denote_intfWrite_bind, denote_intfWrite, view, Bool.false_eq_true, if_false,
    toBytes_cons, toInts_cons, toBytes_nil, toInts_nil, byte_natCast, id, ofOpt_some_bind_app, Rt.OfNat.wrap_u8_nat b (Nat.le_of_lt_succ hb)]
  simp only [wr_byte, wr_val, UInt8.toNat_ofNat', Nat.reducePow, Nat.mod_eq_of_lt ha, Nat.mod_eq_of_lt hb, Nat.mod_eq_of_lt hd]

#print axioms tieA_sx127x_set_channel

/-- non-vacuity: 868.1 MHz -> Frf 0xD90666: RegFrfMsb/Mid/Lsb := D9 06 66 -/
example : Gen.PhyEncE1276Ch.Sx127x.set_channel ⟨⟨⟨⟩, false, true, false⟩, ⟨false⟩⟩ 868100000
    (fun (_ : Unit) _ n => (List.replicate n 0, ())) () [] =
    some (.ok (), (), [.spi [0x86, 0xD9] 0, .busy, .spi [0x87, 0x06] 0, .busy, .spi [0x88, 0x66] 0, .busy]) := rfl

end C13
