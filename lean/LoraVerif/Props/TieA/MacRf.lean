import LoraVerif.Props.TieA.StateBridge
import LoraVerif.Gen.MacRfFn
import LoraVerif.Props.C16
import LoraVerif.Props.TieA.Calc
/-!
# Tie A for the RF configuration of the receive windows (C05 / C10)

`Gen/MacRfFn.lean` holds the translation of `Mac::build_rf_config`, `Mac::rx2_rf_config`
and `Mac::get_rxc_config` (lorawan-device/src/mac/mod.rs): the data-rate lookup, its fallback to the RX2 data
rate with the `unwrap()`, the overrides `rx2_frequency` / `rx2_data_rate` (`unwrap_or_else`, evaluated on `None`
only), `BaseBandModulationParams::new` (the regenerated one of `Gen.Modulation`).

Each is tied to the model's function (`buildRfConfig`, `rx2RfConfig`, `macRxcConfig`, `rxWindows`, `Model/Mac.lean`)
for every state, frequency and data rate: `build_rf_config` by evaluation, the three that call it by `Tie.bind` from its
tie (`Props/TieA/MacRfC05.lean` reads the ties as the equations `x.map rfM = y.toOption`).  The REGION is ABSTRACT: the
record of the four lookups the methods call is instantiated with the model's (`getDatarate`, `rxDatarate`, `rx2Frequency`; the coding rate is a
parameter — the model does not carry it).  The generated configuration is mapped to the model's by a total map
(`cfgM`); the generated `RfConfig` by `rfM` (frequency, spreading factor, bandwidth, size limit).
-/
set_option linter.unusedSimpArgs false
namespace TieA.MacRf
open Model Gen.Modulation Gen.Region

/-- the region the generated methods see: the model's lookups -/
def regOf (r : RegionId) (cr : CodingRate) : Gen.MacRfFn.RegionCfg :=
  { get_datarate := fun n => getDatarate r n.toNat
    get_rx_datarate := fun d off w => (rxDatarate r d off.toNat w).toOption
    get_coding_rate := cr
    get_rx2_frequency := (rx2Frequency r : Int) }

/-- total map from the generated configuration to the model's -/
def cfgM (c : Gen.MacRfFn.Configuration) : Config :=
  { dataRate := c.data_rate.toInt.toNat, rx1Delay := c.rx1_delay.toNat, txPower := c.tx_power.map Int.toNat,
    rx1DrOffset := c.rx1_dr_offset.toNat, rx2DataRate := c.rx2_data_rate.map fun d => d.toInt.toNat,
    rx2Frequency := c.rx2_frequency.map Int.toNat, adrEnabled := c.adr_enabled }

/-- what the model keeps of a generated `RfConfig` -/
def rfM (g : Gen.MacRfFn.RfConfig) : RfConfig :=
  { frequency := g.frequency.toNat, sf := g.bb.sf.factor, bwHz := g.bb.bw.hz, maxPayload := g.max_payload_len }

/-- the generated state and the model state agree on what the three methods read -/
structure Rel (g : Gen.MacRfFn.Mac) (m : MacState) (cr : CodingRate) : Prop where
  region : g.region = regOf m.region.id cr
  cfg : m.cfg = cfgM g.configuration

/-- `BaseBandModulationParams::new` never overflows on the enum values and keeps SF and bandwidth -/
theorem bb_new (sf : SpreadingFactor) (bw : Bandwidth) (cr : CodingRate) :
    ∃ p, BaseBandModulationParams.new sf bw cr = some p ∧ p.sf = sf ∧ p.bw = bw :=
  ⟨_, C16.new_spec sf bw cr, rfl, rfl⟩

theorem build_tie (g : Gen.MacRfFn.Mac) (m : MacState) (cr : CodingRate) (h : Rel g m cr)
    (freq : Int) (dr txdr : DR) (w : Window) :
    Tie (fun r r' => r' = rfM r) (Gen.MacRfFn.Mac.build_rf_config g freq dr txdr w) (buildRfConfig m freq.toNat dr txdr) := by
  refine Tie.iff_map.2 ?_
  unfold Gen.MacRfFn.Mac.build_rf_config buildRfConfig
  rw [h.region, h.cfg]
  simp only [regOf, wrap_dr, cfgM]
  cases h1 : getDatarate m.region.id dr.toInt.toNat with
  | some d =>
    obtain ⟨p, hp, e1, e2⟩ := bb_new d.spreading_factor d.bandwidth cr
    simp [hp, rfM, rfOf, e1, e2, Except.toOption]
    rfl
  | none =>
    cases h2 : rxDatarate m.region.id txdr g.configuration.rx1_dr_offset.toNat Window._2 with
    | error e => simp [Except.toOption, bind, Except.bind]
    | ok dr2 =>
      cases h3 : getDatarate m.region.id dr2.toInt.toNat with
      | none => simp [Except.toOption, bind, Except.bind, h3, Model.panic]
      | some d =>
        obtain ⟨p, hp, e1, e2⟩ := bb_new d.spreading_factor d.bandwidth cr
        simp [hp, rfM, rfOf, e1, e2, Except.toOption, bind, Except.bind, h3]
        rfl


theorem rx2_tie (g : Gen.MacRfFn.Mac) (m : MacState) (cr : CodingRate) (h : Rel g m cr) (txdr : DR) :
    Tie (fun r r' => r' = rfM r) (Gen.MacRfFn.Mac.rx2_rf_config g txdr) (rx2RfConfig m txdr) := by
  have hb := fun freq dr => build_tie g m cr h freq dr txdr Window._2
  obtain ⟨c, reg⟩ := g
  obtain ⟨hr, hc⟩ := h
  simp only at hr hc
  subst hr
  unfold Gen.MacRfFn.Mac.rx2_rf_config rx2RfConfig
  rw [hc]
  obtain ⟨dr0, d1, ja1, ja2, txp, off, r2d, r2f, adr⟩ := c
  simp only [cfgM, regOf, bind_pure] at hb ⊢
  -- the two overrides literal; without a data-rate override the region's lookup comes first
  cases r2f <;> cases r2d <;>
    simp only [Option.map_some, Option.map_none, drOfNat_toInt, ok_bind, pure_bind] <;>
    first
      | exact hb _ _
      | exact (Tie.toOption _).bind fun _ dr2 e => e ▸ hb _ dr2

theorem rxc_tie (g : Gen.MacRfFn.Mac) (m : MacState) (cr : CodingRate) (h : Rel g m cr) :
    Tie (fun c r => (r, Gen.MacRfFn.RxMode.Continuous) = (rfM c.rf, c.mode)) (Gen.MacRfFn.Mac.get_rxc_config g) (macRxcConfig m) := by
  unfold Gen.MacRfFn.Mac.get_rxc_config macRxcConfig
  have hd : m.cfg.dataRate = g.configuration.data_rate.toInt.toNat := by rw [h.cfg]; rfl
  rw [hd, drOfNat_toInt, ok_bind, ← bind_pure (rx2RfConfig m g.configuration.data_rate)]
  exact (rx2_tie g m cr h g.configuration.data_rate).bind fun r _ e => e ▸ Tie.pure rfl

/-- the model's reading of a generated channel selection -/
def txM (t : Gen.MacRfFn.TxChannel) : TxChannel :=
  { dr := t.dr, datarate := t.datarate, frequency := t.frequency.toNat, rx1Frequency := t.rx1_frequency.toNat }

theorem windows_tie (g : Gen.MacRfFn.Mac) (m : MacState) (cr : CodingRate) (h : Rel g m cr) (t : Gen.MacRfFn.TxChannel) :
    Tie (fun w r => r = (rfM w.rx1, rfM w.rx2)) (Gen.MacRfFn.Mac.rx_windows g t) (rxWindows m (txM t)) := by
  unfold Gen.MacRfFn.Mac.rx_windows rxWindows
  have ho : m.cfg.rx1DrOffset = g.configuration.rx1_dr_offset.toNat := by rw [h.cfg]; rfl
  have hr : g.region.get_rx_datarate t.dr g.configuration.rx1_dr_offset Window._1
      = (rxDatarate m.region.id t.dr g.configuration.rx1_dr_offset.toNat Window._1).toOption := by rw [h.region]; rfl
  simp only [txM, ho, hr]
  exact (Tie.toOption _).bind fun _ d1 e => e ▸ (build_tie g m cr h t.rx1_frequency d1 t.dr Window._1).bind fun r1 _ e1 => e1 ▸
    (rx2_tie g m cr h t.dr).bind fun r2 _ e2 => e2 ▸ Tie.pure rfl

end TieA.MacRf
