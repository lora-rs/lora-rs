import Lean
/-!
# `gen_match`: name a `match` of generated code without spelling it

The generated units contain `match x { DR::_15 => a, n => b(n) }`-style expressions compiled to auxiliary matchers
whose names depend on the position in the generated file.  `gen_match t as X h` finds the first application of a
matcher in the goal whose single discriminant is (syntactically) `t` and generalizes it: the goal mentions `X`, and
`h : (match t with …) = X` is available to characterise `X` by a case split on `t` on a SMALL goal.  The proofs thereby
name neither the matcher nor its position.
-/
open Lean Meta Elab Tactic

namespace TieA

elab "gen_match " t:term " as " x:ident h:ident : tactic => withMainContext do
  let t ← instantiateMVars (← elabTerm t none)
  let goal ← getMainGoal
  let tgt ← instantiateMVars (← goal.getType)
  let env ← getEnv
  let isCand (e : Expr) : Bool :=
    !e.hasLooseBVars &&
      (match Lean.Meta.isMatcherAppCore? env e with
       | some info =>
         info.numDiscrs == 1 && e.getAppNumArgs == info.arity &&
           (match e.getAppArgs[info.getFirstDiscrPos]? with
            | some d => d == t
            | none => false)
       | none => false)
  match tgt.find? isCand with
  | none => throwError "gen_match: no match on {t} in the goal"
  | some e =>
    let (_, newGoal) ← goal.generalize #[{ expr := e, xName? := some x.getId, hName? := some h.getId }]
    replaceMainGoal [newGoal]

end TieA
