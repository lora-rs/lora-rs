import LoraVerif.Props.TieA.MacTopC
import LoraVerif.Props.TieA.Calc
/-!
# Tie A for the transmit side of the MAC's state machine: `Mac::send`, `Mac::join_otaa`, `Mac::get_rx_delay`
(C04 / C09 / C10 / C11)

`Gen/MacTopFn.lean` holds the translation of `Mac::{send, join_otaa, get_rx_delay}`.  With the
carriers of `Props/TieA/MacTop.lean` (the model's types) the regenerated `send` is proved EQUAL to the model's `macSend`
and the regenerated `join_otaa` to `macJoinOtaa` (`Model/Mac.lean`) for every state and argument, for every record `ops`
that behaves like the model's functions on the transmit side (`SimTx`: one equation per operation —
`Session::prepare_buffer` against `prepareBuffer`, `create_tx_config` against `selectTxChannel` + `check_tx_power(0)`,
`TxConfig::adjust_power` against the i8 arithmetic, `Mac::rx_windows` against `rxWindows`, `Otaa::prepare_buffer` against
the DevNonce draw).  What the dispatch itself decides is what the theorems tie: which state transmits (`Joined` only,
`Err(NotJoined)` = `none` otherwise with NOTHING changed), the session written back BEFORE the channel is selected, the
region written back, the data rate handed to the selection (`configuration.data_rate`), the frame kind (`Data` / `Join`),
the power limit (`tx_power.min(max_power)` or `max_power`; `max_power` for a join), the antenna gain, the windows computed
on the region AFTER the selection, the counter / DevNonce returned, the join state `Otaa(..)` set.
-/
set_option linter.unusedSimpArgs false
namespace TieA.MacTop
open Model Gen.Region

/-- the model's frame kind of a generated `Frame` -/
def frameM : Gen.MacTopFn.Frame → FrameKind
  | .Join => .join
  | .Data => .data

/-- the model's `Mac` the RF helpers read: configuration and region only -/
def rfMac (cfg : Config) (reg : RegionState) : MacState :=
  { cfg := cfg, region := reg, maxPower := 0, antennaGain := 0, st := .unjoined }

/-- `region::Configuration::create_tx_config` in the model's terms: the channel selection, then `check_tx_power(0)
.unwrap().unwrap() as i8` on the region after the selection, the RF parameters of the selected channel -/
def createTxConfigM (gR : Rng Nat) (reg : RegionState) (dr : DR) (fk : FrameKind) (rs : Nat) :
    M (((Int × Model.RfConfig) × TxChannel) × RegionState × Nat) := do
  let (tx, reg', rs') ← selectTxChannel gR reg dr fk rs
  let p0 ← (match (← txPowerAdjust reg'.id 0) with
    | some p => pure p
    | none => Model.panic "check_tx_power(0).unwrap")
  pure (((Rt.wrap .i8 p0, rfOf tx.datarate tx.frequency), tx), reg', rs')

/-- `TxConfig::adjust_power(max_power: u8, antenna_gain: i8)`: `pw -= gain` (checked), `min(pw, max_power as i8)` -/
def adjustPowerM (t : Int × Model.RfConfig) (limit gain : Int) : Option (Int × Model.RfConfig) :=
  (Rt.ck .i8 (t.1 - gain)).map (fun pw => (min pw (Rt.wrap .i8 limit), t.2))

/-- `ops` behaves like the model's functions on the transmit side (the random generator is `gR` on a `Nat` state).
The buffer after a call (the frame octets: C01 / `C06.tieA_prepare_buffer_header`) is left free. -/
structure SimTx (gR : Rng Nat) (ops : GOps) : Prop where
  /-- `Session::prepare_buffer`: the counter of the frame built and the session afterwards -/
  session_prepare_buffer : ∀ s (sd : List Nat × Nat × Bool) (buf : RxView) cfg (reg : RegionState),
    (ops.session_prepare_buffer s sd buf cfg reg).map (fun (f, s', _) => (f, s'))
      = (prepareBuffer s (cfgM cfg) reg.id sd.1 sd.2.1 sd.2.2).toOption.map (fun (d, s') => ((d.fcnt : Int), s'))
  /-- `region::Configuration::create_tx_config` -/
  create_tx_config : ∀ (reg : RegionState) (rng : Nat) dr fr,
    ops.create_tx_config reg rng dr fr = (createTxConfigM gR reg dr (frameM fr) rng).toOption
  /-- `TxConfig::adjust_power` -/
  adjust_power : ∀ (t : Int × Model.RfConfig) limit gain, ops.adjust_power t limit gain = adjustPowerM t limit gain
  /-- `Mac::rx_windows` -/
  rx_windows : ∀ cfg (reg : RegionState) (tx : TxChannel),
    ops.rx_windows cfg reg tx = (rxWindows (rfMac (cfgM cfg) reg) tx).toOption
  /-- `Otaa::prepare_buffer` on whatever `Otaa::new` built: the DevNonce is the low 16 bits of one draw -/
  otaa_prepare_buffer : ∀ (o : OtaaState) (rng : Nat) (buf : RxView),
    (ops.otaa_prepare_buffer o rng buf).map (fun (n, o', rng', _) => (n, o', rng'))
      = some ((((draw gR rng).1 % 65536 : Nat) : Int), ({ devNonce := (draw gR rng).1 % 65536 } : OtaaState), (draw gR rng).2)

/-- the `u8` fields of the generated `Mac` are not negative (they are `Int` in the translation) -/
def U8Wf (g : GMac) : Prop :=
  0 ≤ g.board_eirp.max_power ∧ ∀ pw, g.configuration.tx_power = some pw → 0 ≤ pw

/-- what `send` hands back, read off the model's output -/
def sendOutG (o : SendOut) : (Int × Model.RfConfig) × (Model.RfConfig × Model.RfConfig) × Int :=
  ((o.tx.pw, o.tx.rf), (o.tx.rx1, o.tx.rx2), (o.frame.fcnt : Int))

/-- what `join_otaa` hands back, read off the model's output -/
def joinOutG (o : JoinOut) : (Int × Model.RfConfig) × (Model.RfConfig × Model.RfConfig) × Int :=
  ((o.tx.pw, o.tx.rf), (o.tx.rx1, o.tx.rx2), (o.devNonce : Int))

theorem limit_bridge (tp : Option Int) (mp : Int) (h0 : 0 ≤ mp) (h1 : ∀ pw, tp = some pw → 0 ≤ pw) :
    (((match tp.map Int.toNat with | some p => min p mp.toNat | none => mp.toNat : Nat)) : Int)
      = (match tp with | some pw => min pw mp | none => mp) := by
  cases tp with
  | none => simp; omega
  | some pw =>
    have := h1 pw rfl
    simp; omega

/-- the transmit tail shared by `macSend` and `macJoinOtaa`: selection, power, windows -/
def txTailM {β : Type} (gR : Rng Nat) (m : MacState) (dr : DR) (fk : FrameKind) (rng : Nat) (limN : Nat)
    (k : Int × Model.RfConfig → Model.RfConfig × Model.RfConfig → RegionState → Nat → β) : M β := do
  let (tx, region, rs) ← selectTxChannel gR m.region dr fk rng
  let m' := { m with region := region }
  let pw ← txPowerFor m'.region.id limN m'.antennaGain
  let (rx1, rx2) ← rxWindows m' tx
  pure (k (pw, rfOf tx.datarate tx.frequency) (rx1, rx2) region rs)

theorem macSend_joined (gR : Rng Nat) (c : Config) (reg : RegionState) (mp : Nat) (ag : Int) (s : Session)
    (data : List Nat) (fport : Nat) (confirmed : Bool) (rng : Nat) :
    macSend gR ⟨c, reg, mp, ag, .joined s⟩ data fport confirmed rng
      = (do let (desc, s') ← prepareBuffer s c reg.id data fport confirmed
            let dr ← drOfNat c.dataRate
            txTailM gR ⟨c, reg, mp, ag, .joined s'⟩ dr .data rng
              (match c.txPower with | some p => min p mp | none => mp)
              (fun t w region rs => (some { tx := { pw := t.1, rf := t.2, rx1 := w.1, rx2 := w.2 }, frame := desc },
                ⟨c, region, mp, ag, .joined s'⟩, rs))) := rfl

theorem macJoinOtaa_eq (gR : Rng Nat) (c : Config) (reg : RegionState) (mp : Nat) (ag : Int) (st : JoinState) (rng : Nat) :
    macJoinOtaa gR ⟨c, reg, mp, ag, st⟩ rng
      = (do let dr ← drOfNat c.dataRate
            txTailM gR ⟨c, reg, mp, ag, .otaa { devNonce := (draw gR rng).1 % 65536 }⟩ dr .join (draw gR rng).2 mp
              (fun t w region rs => ({ tx := { pw := t.1, rf := t.2, rx1 := w.1, rx2 := w.2 }, devNonce := (draw gR rng).1 % 65536 },
                ⟨c, region, mp, ag, .otaa { devNonce := (draw gR rng).1 % 65536 }⟩, rs))) := rfl

/-- the transmit tail regrouped as the generated code takes it: `create_tx_config` (selection and `check_tx_power(0)`),
`adjust_power`, the windows -/
theorem txTailM_eq {β : Type} (gR : Rng Nat) (m : MacState) (dr : DR) (fk : FrameKind) (rng : Nat) (limN : Nat)
    (k : Int × Model.RfConfig → Model.RfConfig × Model.RfConfig → RegionState → Nat → β) :
    txTailM gR m dr fk rng limN k = (do
      let (tc, reg', rng') ← createTxConfigM gR m.region dr fk rng
      let t' ← ofGen "adjust_power i8 overflow" (adjustPowerM tc.1 limN m.antennaGain)
      let w ← rxWindows (rfMac m.cfg reg') tc.2
      pure (k t' w reg' rng')) := by
  simp only [txTailM, createTxConfigM, txPowerFor, adjustPowerM, bind_assoc, pure_bind]
  refine bind_congr fun x => bind_congr fun p => bind_congr fun p0 => ?_
  cases Rt.ck .i8 (Rt.wrap .i8 (p0 : Int) - m.antennaGain) <;> rfl

/-- the three operations of the transmit tail against `txTailM`; the continuations are found by unification -/
theorem tx_tail (gR : Rng Nat) (m : MacState) (dr : DR) (fk : FrameKind) (rng : Nat) (limN : Nat) (lim : Int)
    (hl : (limN : Int) = lim) {α β : Type} {R : α → β → Prop}
    {kG : Int × Model.RfConfig → Model.RfConfig × Model.RfConfig → ((Int × Model.RfConfig) × TxChannel) × RegionState × Nat → α}
    {kM : Int × Model.RfConfig → Model.RfConfig × Model.RfConfig → RegionState → Nat → β}
    (hk : ∀ t w x, R (kG t w x) (kM t w x.2.1 x.2.2)) :
    Tie R ((createTxConfigM gR m.region dr fk rng).toOption >>= fun x =>
        adjustPowerM x.1.1 lim m.antennaGain >>= fun t' =>
          (rxWindows (rfMac m.cfg x.2.1) x.1.2).toOption >>= fun w => pure (kG t' w x))
      (txTailM gR m dr fk rng limN kM) := by
  subst hl
  rw [txTailM_eq]
  exact (Tie.toOption _).bind fun _ x e => e ▸ (Tie.ofGen _ _).bind fun _ t' e => e ▸ (Tie.toOption _).bind fun _ w e =>
    e ▸ Tie.pure (hk ..)

/-- the generated configuration holds what `Mac::new` stored as join-accept delays, and an RX1 delay whose RX2
companion fits a `u32` -/
def DelayWf (g : GMac) : Prop :=
  g.configuration.join_accept_delay1 = Gen.Session.JOIN_ACCEPT_DELAY1 ∧
  g.configuration.join_accept_delay2 = Gen.Session.JOIN_ACCEPT_DELAY2 ∧
  0 ≤ g.configuration.rx1_delay ∧ g.configuration.rx1_delay + 1000 ≤ 4294967295

end TieA.MacTop

/-! ## `SimTx` is satisfiable: the record of operations built from the model's own functions -/
namespace TieA.MacTop
open Model

/-- the transmit-side operations of the model, as a record over the carriers (the receive side as in `Example.ops0`) -/
def txOps (gR : Rng Nat) : GOps :=
  { Example.ops0 with
    session_prepare_buffer := fun s sd b cfg reg =>
      (prepareBuffer s (cfgM cfg) reg.id sd.1 sd.2.1 sd.2.2).toOption.map (fun (d, s') => ((d.fcnt : Int), s', b))
    otaa_prepare_buffer := fun _ rng b =>
      some ((((draw gR rng).1 % 65536 : Nat) : Int), ({ devNonce := (draw gR rng).1 % 65536 } : OtaaState), (draw gR rng).2, b)
    create_tx_config := fun reg rng dr fr => (createTxConfigM gR reg dr (frameM fr) rng).toOption
    adjust_power := adjustPowerM
    rx_windows := fun cfg reg tx => (rxWindows (rfMac (cfgM cfg) reg) tx).toOption }

theorem txOps_sim (gR : Rng Nat) : SimTx gR (txOps gR) where
  session_prepare_buffer := by
    intro s sd buf cfg reg
    simp only [txOps]
    cases (prepareBuffer s (cfgM cfg) reg.id sd.1 sd.2.1 sd.2.2).toOption <;> rfl
  create_tx_config := by intros; rfl
  adjust_power := by intros; rfl
  rx_windows := by intros; rfl
  otaa_prepare_buffer := by intros; rfl

end TieA.MacTop

open Model TieA.MacTop

namespace C09

/- Not proved, trusted through the correspondence instead: the same equality with `ops` instantiated by the regenerated
   `Session::prepare_buffer` and `create_tx_config` (each tied in its own unit over its own projection of `Session` /
   `Configuration`), and `TxConfig::adjust_power` (not regenerated).  `Mac::rx_windows` is instantiated in `MacTopTxRf`. -/
/-- `Mac::send` = the model's `macSend`, for every state, generator state,
buffer and send request: joined → `Session::prepare_buffer` on the CURRENT configuration and region, the session written
back, then `create_tx_config` on the region with `configuration.data_rate` and `Frame::Data` (region and generator
written back), `adjust_power(tx_power.min(max_power) | max_power, antenna_gain)`, the windows for the selected channel on
the region AFTER the selection, the counter of the frame built; joining / unjoined → `Err(NotJoined)` (`none`) with the
`Mac` and the generator untouched.  A panic (`none` outside) on one side iff a panic or hang on the other. -/
theorem tieA_mac_send_partial (gR : Rng Nat) (ops : GOps) (h : SimTx gR ops) (g : GMac) (hw : U8Wf g) (rng : Nat)
    (buf : RxView) (sd : List Nat × Nat × Bool) :
    (Gen.MacTopFn.Mac.send ops g rng buf sd).map (fun (r, g', rng', _) => (r, macM g', rng'))
      = (macSend gR (macM g) sd.1 sd.2.1 sd.2.2 rng).toOption.map (fun (o, m', rs) => (o.map sendOutG, m', rs)) := by
  obtain ⟨cfg, reg, eirp, st⟩ := g
  obtain ⟨hw0, hw1⟩ := hw
  simp only at hw0 hw1
  cases st with
  | Unjoined => simp [Gen.MacTopFn.Mac.send, macSend, macM, stateM, Except.toOption, pure, Except.pure]
  | Otaa o => simp [Gen.MacTopFn.Mac.send, macSend, macM, stateM, Except.toOption, pure, Except.pure]
  | Joined s =>
    have hp := h.session_prepare_buffer s sd buf cfg reg
    have hdr : drOfNat (cfgM cfg).dataRate = .ok cfg.data_rate := TieA.drOfNat_toInt cfg.data_rate
    have hl : (((match (cfgM cfg).txPower with | some p => min p eirp.max_power.toNat | none => eirp.max_power.toNat : Nat)) : Int)
        = (match cfg.tx_power with | some pw => min pw eirp.max_power | none => eirp.max_power) := by
      cases htp : cfg.tx_power with
      | none => simp [cfgM, htp]; omega
      | some pw => have := hw1 pw htp; simp [cfgM, htp]; omega
    simp only [Gen.MacTopFn.Mac.send, Gen.MacTopFn.Mac.rx_windows, macM, stateM, TieA.MacTop.macSend_joined, h.create_tx_config,
      h.adjust_power, h.rx_windows, hdr, Model.ok_bind, frameM]
    refine TieA.Tie.iff_map_map.1 ((TieA.Tie.iff_map_map.2 hp).bind ?_)
    rintro ⟨f, s', b'⟩ ⟨d, s2⟩ heq
    cases heq
    exact tx_tail gR ⟨cfgM cfg, reg, eirp.max_power.toNat, eirp.antenna_gain, .joined s'⟩ cfg.data_rate .data rng _ _ hl
      fun t w x => by rfl

/-- the hypothesis-free half of `send`: without a session the regenerated method answers `Err(NotJoined)` and returns
the `Mac`, the generator and the buffer it was given — for EVERY record of operations -/
theorem tieA_mac_send_not_joined (ops : GOps) (g : GMac) (rng : Nat) (buf : RxView) (sd : List Nat × Nat × Bool)
    (hn : Gen.MacTopFn.Mac.is_joined g = false) :
    Gen.MacTopFn.Mac.send ops g rng buf sd = some (none, g, rng, buf) := by
  obtain ⟨cfg, reg, eirp, st⟩ := g
  cases st with
  | Joined s => simp [Gen.MacTopFn.Mac.is_joined] at hn
  | Otaa o => rfl
  | Unjoined => rfl

end C09

namespace C04
/-- `C09.tieA_mac_send_partial`, stated for C04: `send` panics only where the model fails -/
theorem tieA_mac_send_partial (gR : Rng Nat) (ops : GOps) (h : SimTx gR ops) (g : GMac) (hw : U8Wf g) (rng : Nat)
    (buf : RxView) (sd : List Nat × Nat × Bool) :
    (Gen.MacTopFn.Mac.send ops g rng buf sd).map (fun (r, g', rng', _) => (r, macM g', rng'))
      = (macSend gR (macM g) sd.1 sd.2.1 sd.2.2 rng).toOption.map (fun (o, m', rs) => (o.map sendOutG, m', rs)) :=
  C09.tieA_mac_send_partial gR ops h g hw rng buf sd
end C04

namespace C11

/-- `Mac::join_otaa` = the model's `macJoinOtaa` (the join-request step), from ANY state: `Otaa::new` +
`prepare_buffer` draw the DevNonce (low 16 bits of one draw), the state becomes `Otaa(..)` with that nonce, then
`create_tx_config` with `configuration.data_rate` and `Frame::Join` on the generator AFTER the draw,
`adjust_power(max_power, antenna_gain)` (the commanded level is NOT applied to a join), the windows on the region after
the selection; the DevNonce is returned. -/
theorem tieA_mac_join_otaa_partial (gR : Rng Nat) (ops : GOps) (h : SimTx gR ops) (g : GMac)
    (hw : 0 ≤ g.board_eirp.max_power) (rng : Nat) (cr : Unit) (buf : RxView) :
    (Gen.MacTopFn.Mac.join_otaa ops g rng cr buf).map (fun (r, g', rng', _) => (r, macM g', rng'))
      = (macJoinOtaa gR (macM g) rng).toOption.map (fun (o, m', rs) => (joinOutG o, m', rs)) := by
  obtain ⟨cfg, reg, eirp, st⟩ := g
  simp only at hw
  have hp := h.otaa_prepare_buffer (ops.otaa_new cr) rng buf
  have hdr : drOfNat (cfgM cfg).dataRate = .ok cfg.data_rate := TieA.drOfNat_toInt cfg.data_rate
  have hl : ((eirp.max_power.toNat : Nat) : Int) = eirp.max_power := Int.toNat_of_nonneg hw
  obtain ⟨⟨n, o', rng1, b'⟩, hx, hp⟩ := Option.map_eq_some_iff.1 hp
  cases hp
  simp only [Gen.MacTopFn.Mac.join_otaa, Gen.MacTopFn.Mac.rx_windows, macM, macJoinOtaa_eq, h.create_tx_config,
    h.adjust_power, h.rx_windows, hx, hdr, Model.ok_bind, frameM, Option.bind_eq_bind, Option.bind_some]
  exact TieA.Tie.iff_map_map.1 (tx_tail gR ⟨cfgM cfg, reg, eirp.max_power.toNat, eirp.antenna_gain, .otaa { devNonce := (draw gR rng).1 % 65536 }⟩
    cfg.data_rate .join (draw gR rng).2 _ _ hl fun t w x => by rfl)

end C11

namespace C10

/-- `Mac::get_rx_delay` = the model's `macRxDelay` for every frame kind and window: the stored join-accept
delays after a join request, `rx1_delay` / `rx1_delay + 1000` after a data frame (no hypothesis on `ops`: the method
calls nothing). -/
theorem tieA_mac_get_rx_delay (g : GMac) (hw : DelayWf g) (fr : Gen.MacTopFn.Frame) (w : Gen.MacTopFn.Window) :
    Gen.MacTopFn.Mac.get_rx_delay g fr w
      = some ((macRxDelay (macM g) (decide (fr = .Join)) (decide (w = ._2)) : Nat) : Int) := by
  obtain ⟨hj1, hj2, h0, h1⟩ := hw
  have e1 : Gen.Session.JOIN_ACCEPT_DELAY1 = ((Gen.Session.JOIN_ACCEPT_DELAY1.toNat : Nat) : Int) := by decide
  have e2 : Gen.Session.JOIN_ACCEPT_DELAY2 = ((Gen.Session.JOIN_ACCEPT_DELAY2.toNat : Nat) : Int) := by decide
  have e3 := Rt.ck_u32 (x := g.configuration.rx1_delay + 1000) (by omega) (by omega)
  have e4 : ((g.configuration.rx1_delay.toNat : Nat) : Int) = g.configuration.rx1_delay := Int.toNat_of_nonneg h0
  cases fr <;> cases w
  · simp only [Gen.MacTopFn.Mac.get_rx_delay, macRxDelay, hj1]; exact congrArg some e1
  · simp only [Gen.MacTopFn.Mac.get_rx_delay, macRxDelay, hj2]; exact congrArg some e2
  · simp [Gen.MacTopFn.Mac.get_rx_delay, macRxDelay, macM, cfgM, e4]
  · simp [Gen.MacTopFn.Mac.get_rx_delay, macRxDelay, macM, cfgM, e3, e4]

/-- the only panic of `get_rx_delay`: the checked `u32` addition of the RX2 delay of a data frame -/
theorem tieA_mac_get_rx_delay_overflow (g : GMac) (h0 : 0 ≤ g.configuration.rx1_delay) :
    (Gen.MacTopFn.Mac.get_rx_delay g .Data ._2 = none) ↔ 4294967295 < g.configuration.rx1_delay + 1000 := by
  by_cases hc : 4294967295 < g.configuration.rx1_delay + 1000
  · simp [Gen.MacTopFn.Mac.get_rx_delay, Rt.ck_u32_none (.inr hc), hc]
  · simp [Gen.MacTopFn.Mac.get_rx_delay, Rt.ck_u32 (x := g.configuration.rx1_delay + 1000) (by omega) (by omega), hc]

end C10

/-! Non-vacuity: the hypotheses hold on concrete values, and the regenerated methods evaluate on them. -/
namespace TieA.MacTop.Example
def gJ : GMac := { g0 with state := .Joined (Session.new 1 2 3), configuration := { cfg0 with tx_power := some 2 } }
def gr0 : Rng Nat := fun s => (s * 1103515245 + 12345, s + 1)

example : SimTx gr0 (txOps gr0) := txOps_sim gr0
example : U8Wf gJ := ⟨by decide, fun pw h => by cases h; decide⟩
example : DelayWf gJ := ⟨rfl, rfl, by decide, by decide⟩
example : Gen.MacTopFn.Mac.get_rx_delay gJ .Data ._2 = some 2000 := rfl
example : Gen.MacTopFn.Mac.get_rx_delay gJ .Join ._1 = some 5000 := rfl
example : Gen.MacTopFn.Mac.send (txOps gr0) g0 (5 : Nat) .garbage ([1, 2], 1, false) = some (none, g0, (5 : Nat), .garbage) := rfl
/-- the regenerated `send` on a joined EU868 device with commanded level 2 (limit `min 2 14`): power 2, a channel of the
plan, FCntUp 0, one draw consumed -/
example : (Gen.MacTopFn.Mac.send (txOps gr0) gJ (5 : Nat) .garbage ([1, 2], 1, false)).map
    (fun x => (x.1.map (fun t => (t.1.1, t.1.2.frequency, t.2.2)), x.2.2.1)) = some (some (2, 868500000, 0), (6 : Nat)) := by rfl
/-- the regenerated `join_otaa` on an unjoined EU868 device: power `min 16 14`, DevNonce = low 16 bits of the first draw,
two draws consumed, state `Otaa` -/
example : (Gen.MacTopFn.Mac.join_otaa (txOps gr0) g0 (5 : Nat) () .garbage).map
    (fun x => (x.1.1.1, x.1.2.2, Gen.MacTopFn.Mac.is_joined x.2.1, x.2.2.1)) = some (14, 47194, false, (8 : Nat)) := by rfl
end TieA.MacTop.Example

#print axioms C09.tieA_mac_send_partial
#print axioms C09.tieA_mac_send_not_joined
#print axioms C04.tieA_mac_send_partial
#print axioms C11.tieA_mac_join_otaa_partial
#print axioms C10.tieA_mac_get_rx_delay
#print axioms C10.tieA_mac_get_rx_delay_overflow
#print axioms TieA.MacTop.txOps_sim
