import LoraVerif.Props.TieA.MacTop
import LoraVerif.Props.TieA.OtaaHandleRx
/-!
# Tie A: the joining arm of `Mac::handle_rx` with the operation INSTANTIATED by the regenerated `Otaa::handle_rx`
(the `Otaa` arm of `C07.tieA_mac_handle_rx_partial` with no simulation hypothesis)

Carriers: the GENERATED `Otaa`, `Session` and radio buffer of `Gen.OtaaFn` (`K3`), the model's region; `genOtaaRx` is
the operation `otaa_handle_rx` of the dispatch built from the regenerated `Otaa::handle_rx`; `macM3` the total map from
the generated `Mac` to the model's state (`TieA.OtaaRx.sessOf`, `cfgM`).  For a joining device the regenerated
`Mac::handle_rx` is the model's `macHandleRx` on the decrypted view (`TieA.OtaaRx.viewOf`): `JoinSuccess` and
`Joined(session)` iff the buffer verifies under the AppKey, else `NoUpdate` with the join state kept; buffer and downlink
queue untouched; a panic iff a panic.  Hypothesis: `ViewWF` only (wire widths of the decrypted fields), as in
`C11.tieA_otaa_handle_rx`.
-/
set_option linter.unusedSimpArgs false
namespace TieA.MacTop.Otaa
open Model

/-- the carriers: the generated join state / session / buffer of `Gen.OtaaFn`, the model's region -/
@[reducible] def K3 : Gen.MacTopFn.Carriers :=
  { Session := Gen.OtaaFn.Session, Otaa := Gen.OtaaFn.Otaa, RegionCfg := RegionState, RadioBuffer := Gen.OtaaFn.RadioBuffer,
    Downlink := Nat × List Nat, RNG := Nat, NetworkCredentials := Unit, NwkSKey := Nat, AppSKey := Nat, DevAddr := Nat,
    TxConfig := Int × Model.RfConfig, TxChannel := Model.TxChannel, RxWindows := Model.RfConfig × Model.RfConfig,
    SendData := List Nat × Nat × Bool, fcnt_up := fun s => s.fcnt_up }

attribute [local instance 2000] K3

abbrev GMac3 := @Gen.MacTopFn.Mac K3
abbrev GOps3 := @Gen.MacTopFn.Ops K3

/-- `Configuration` as `Gen.MacTopFn` and as `Gen.OtaaFn` regenerate it (the same Rust struct, field by field) -/
def cfgS3 (c : Gen.MacTopFn.Configuration) : Gen.OtaaFn.Configuration :=
  { data_rate := c.data_rate, rx1_delay := c.rx1_delay, join_accept_delay1 := c.join_accept_delay1,
    join_accept_delay2 := c.join_accept_delay2, tx_power := c.tx_power, rx1_dr_offset := c.rx1_dr_offset,
    rx2_data_rate := c.rx2_data_rate, rx2_frequency := c.rx2_frequency, adr_enabled := c.adr_enabled }

def cfgT3 (c : Gen.OtaaFn.Configuration) : Gen.MacTopFn.Configuration :=
  { data_rate := c.data_rate, rx1_delay := c.rx1_delay, join_accept_delay1 := c.join_accept_delay1,
    join_accept_delay2 := c.join_accept_delay2, tx_power := c.tx_power, rx1_dr_offset := c.rx1_dr_offset,
    rx2_data_rate := c.rx2_data_rate, rx2_frequency := c.rx2_frequency, adr_enabled := c.adr_enabled }

theorem cfgM_cfgT3 (c : Gen.OtaaFn.Configuration) : cfgM (cfgT3 c) = TieA.OtaaRx.cfgOf c := rfl
theorem cfgOf_cfgS3 (c : Gen.MacTopFn.Configuration) : TieA.OtaaRx.cfgOf (cfgS3 c) = cfgM c := rfl

/-- the operation of the dispatch built from the regenerated `Otaa::handle_rx` -/
def genOtaaRx (o : Gen.OtaaFn.Otaa) (reg : RegionState) (cfg : Gen.MacTopFn.Configuration) (buf : Gen.OtaaFn.RadioBuffer) :
    Option (Option Gen.OtaaFn.Session × Gen.OtaaFn.Otaa × RegionState × Gen.MacTopFn.Configuration × Gen.OtaaFn.RadioBuffer) :=
  (Gen.OtaaFn.Otaa.handle_rx o reg (cfgS3 cfg) buf).map (fun (so, o', reg', c', b') => (so, o', reg', cfgT3 c', b'))

/-- the model's join state of a generated `Otaa`: the DevNonce of the pending request -/
def otaaM (o : Gen.OtaaFn.Otaa) : OtaaState := { devNonce := o.dev_nonce.value.toNat }

def stateM3 : @Gen.MacTopFn.State K3 → JoinState
  | .Joined s => .joined (TieA.OtaaRx.sessOf s)
  | .Otaa o => .otaa (otaaM o)
  | .Unjoined => .unjoined

/-- total map from the generated `Mac` (generated join state / session inside) to the model's state -/
def macM3 (g : GMac3) : MacState :=
  { cfg := cfgM g.configuration, region := g.region, maxPower := g.board_eirp.max_power.toNat,
    antennaGain := g.board_eirp.antenna_gain, st := stateM3 g.state }

/-- re-reading the model's answer: from (response, state, otaa, buffer) to (response, state, buffer, queue) -/
theorem rebind {σ β : Type} (X : Option (Option RxOut × MacState)) (o : σ) (rx : β) (dl : List (Nat × List Nat)) :
    (∀ a b c d, X.bind (fun r => r.1.map (fun ro => (ro.resp, r.2, o, rx))) = some (a, b, c, d) →
      c = o ∧ d = rx ∧ X.bind (fun r => r.1.map (fun ro => (respG ro.resp, r.2, rx, dl))) = some (respG a, b, rx, dl)) ∧
    (X.bind (fun r => r.1.map (fun ro => (ro.resp, r.2, o, rx))) = none →
      X.bind (fun r => r.1.map (fun ro => (respG ro.resp, r.2, rx, dl))) = none) := by
  cases X with
  | none => simp
  | some r =>
    obtain ⟨ro, m⟩ := r
    cases ro with
    | none => simp
    | some ro =>
      simp only [Option.bind_some, Option.map_some, Option.some.injEq, Prod.mk.injEq]
      refine ⟨?_, by simp⟩
      rintro a b c d ⟨h1, h2, h3, h4⟩
      subst h1 h2 h3 h4
      simp

end TieA.MacTop.Otaa

namespace C11
open Model TieA.OtaaRx TieA.MacTop TieA.MacTop.Otaa
attribute [local instance 2000] K3

/-- `Mac::handle_rx` of a JOINING device = the model's `macHandleRx` on the decrypted view, the join step
being the REGENERATED `Otaa::handle_rx` (`Gen.OtaaFn`, through `genOtaaRx`): `JoinSuccess` and `Joined(session)` (every
session field, configuration and region as the JoinAccept defines) iff the buffer verifies under the AppKey, else
`NoUpdate` with the join state, configuration and region kept; buffer and downlink queue untouched; a panic iff a panic
of the model.  No simulation hypothesis (only `ViewWF`: wire widths of the decrypted fields). -/
theorem tieA_mac_handle_rx_joining (D : Int) (ops : GOps3) (hs : ops.otaa_handle_rx = genOtaaRx)
    (cfg : Gen.MacTopFn.Configuration) (rs : RegionState) (eirp : Gen.MacTopFn.BoardEirp) (o : Gen.OtaaFn.Otaa)
    (rx : Gen.OtaaFn.RadioBuffer) (dl : List (Nat × List Nat)) (snr : Int) (rf : Gen.MacTopFn.RfConfig)
    (hwf : ViewWF o rx) :
    (@Gen.MacTopFn.Mac.handle_rx K3 ops D ⟨cfg, rs, eirp, .Otaa o⟩ rx dl snr rf).map
        (fun (r, g', b', dl') => (r, macM3 g', b', dl'))
      = (macHandleRx (macM3 ⟨cfg, rs, eirp, .Otaa o⟩) (viewOf o rx) rf.max_payload_len.toNat snr false).toOption.bind
          (fun r => r.1.map (fun ro => (respG ro.resp, r.2, rx, dl))) := by
  have ht := TieA.OtaaRx.tieA_otaa_handle_rx (macM3 ⟨cfg, rs, eirp, .Otaa o⟩) (otaaM o) o (cfgS3 cfg) rx rf.max_payload_len.toNat snr rfl rfl hwf
  obtain ⟨hb1, hb2⟩ := rebind (macHandleRx (macM3 ⟨cfg, rs, eirp, .Otaa o⟩) (viewOf o rx) rf.max_payload_len.toNat snr false).toOption o rx dl
  simp only [macM3, stateM3] at ht hb1 hb2 ⊢
  simp only [Gen.MacTopFn.Mac.handle_rx, hs, genOtaaRx]
  cases hx : Gen.OtaaFn.Otaa.handle_rx o rs (cfgS3 cfg) rx with
  | none =>
    rw [hx] at ht
    simp only [Option.map_none] at ht
    rw [hb2 ht.symm]
    rfl
  | some v =>
    obtain ⟨so, o', reg', c', b'⟩ := v
    rw [hx] at ht
    simp only [Option.map_some] at ht
    obtain ⟨e1, e2, e3⟩ := hb1 _ _ _ _ ht.symm
    try simp only at e1 e2
    subst e1 e2
    rw [e3]
    cases so with
    | none => simp [macAfter, macM3, stateM3, respG, cfgM_cfgT3]
    | some s => simp [macAfter, macM3, stateM3, respG, cfgM_cfgT3]

end C11

/-! Non-vacuity: the JoinAccept of `Props/TieA/OtaaHandleRx.lean` (DLSettings 0x23, RxDelay 0, verifies under key 7)
through the regenerated `Mac::handle_rx` with the regenerated `Otaa::handle_rx` inside, EU868. -/
namespace TieA.MacTop.Otaa.Example
open Model TieA.OtaaRx
attribute [local instance 2000] K3
def ops7 : GOps3 :=
  { session_new := fun _ _ _ => Gen.OtaaFn.Session.new ⟨0⟩ ⟨0⟩ ⟨0⟩, session_prepare_buffer := fun _ _ _ _ _ => none,
    session_handle_rx := fun _ _ _ _ _ _ _ _ => none, session_rx2_complete := fun _ _ _ => none,
    otaa_new := fun _ => ⟨⟨0⟩, ⟨⟨⟨0⟩⟩⟩⟩, otaa_prepare_buffer := fun _ _ _ => none, otaa_handle_rx := genOtaaRx,
    otaa_rx2_complete := fun o => (.NoJoinAccept, o), create_tx_config := fun _ _ _ _ => none,
    adjust_power := fun _ _ _ => none, rx_windows := fun _ _ _ => none }
def cfgJ : Gen.MacTopFn.Configuration := ⟨._0, 5000, 5000, 6000, none, 0, none, none, true⟩

example :
    (@Gen.MacTopFn.Mac.handle_rx K3 ops7 4 ⟨cfgJ, RegionState.init .EU868, ⟨14, 0⟩, .Otaa ⟨⟨100⟩, ⟨⟨⟨7⟩⟩⟩⟩⟩ exRx [] 0 ⟨51⟩).map
      (fun x => (x.1, Gen.MacTopFn.Mac.is_joined x.2.1, x.2.1.configuration.rx1_delay, x.2.1.configuration.rx2_data_rate))
      = some (.JoinSuccess, true, 1000, some Gen.Region.DR._3) := by rfl

/-- a wrong key: `NoUpdate`, still joining -/
example :
    (@Gen.MacTopFn.Mac.handle_rx K3 ops7 4 ⟨cfgJ, RegionState.init .EU868, ⟨14, 0⟩, .Otaa ⟨⟨100⟩, ⟨⟨⟨8⟩⟩⟩⟩⟩ exRx [] 0 ⟨51⟩).map
      (fun x => (x.1, Gen.MacTopFn.Mac.is_joined x.2.1)) = some (.NoUpdate, false) := by rfl

/-- the hypothesis of `C11.tieA_mac_handle_rx_joining` holds on that input -/
example : ViewWF ⟨⟨100⟩, ⟨⟨⟨7⟩⟩⟩⟩ exRx := by
  intro d hd
  have : d = exView := by
    simp only [exRx, cryptoOf] at hd
    simpa using hd.symm
  subst this
  decide
end TieA.MacTop.Otaa.Example

#print axioms C11.tieA_mac_handle_rx_joining
