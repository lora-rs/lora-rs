import LoraVerif.Props.TieA.MacTopTx
import LoraVerif.Props.TieA.MacRf
/-!
# Tie A: `Mac::send` / `Mac::join_otaa` with `Mac::rx_windows` INSTANTIATED by the regenerated method
(discharges one of the five equations of `SimTx`)

`genRxWindows cr` is the operation `rx_windows` of the dispatch built from the regenerated `Gen.MacRfFn.Mac.rx_windows`
(`build_rf_config`, `rx2_rf_config`, with the region's tables as in `Props/TieA/MacRf.lean`, any coding rate `cr`).
`genRxWindows_sim` proves the equation `SimTx.rx_windows` asks for (from `TieA.MacRf.windows_tie`), so `send` and
`join_otaa` hold for every record whose `rx_windows` IS the regenerated method and whose other four operations satisfy
their equations (`SimTx4`).
-/
namespace TieA.MacTop
open Model Gen.Modulation

/-- `Configuration` as `Gen.MacTopFn` and as `Gen.MacRfFn` regenerate it (the same Rust struct, field by field) -/
def cfgR (c : Gen.MacTopFn.Configuration) : Gen.MacRfFn.Configuration :=
  { data_rate := c.data_rate, rx1_delay := c.rx1_delay, join_accept_delay1 := c.join_accept_delay1,
    join_accept_delay2 := c.join_accept_delay2, tx_power := c.tx_power, rx1_dr_offset := c.rx1_dr_offset,
    rx2_data_rate := c.rx2_data_rate, rx2_frequency := c.rx2_frequency, adr_enabled := c.adr_enabled }

/-- the generated `TxChannel` of a model one (frequencies are `u32`) -/
def txG (t : Model.TxChannel) : Gen.MacRfFn.TxChannel :=
  { datarate := t.datarate, dr := t.dr, frequency := t.frequency, rx1_frequency := t.rx1Frequency }

theorem txM_txG (t : Model.TxChannel) : TieA.MacRf.txM (txG t) = t := by
  cases t; simp [TieA.MacRf.txM, txG]

/-- the operation of the dispatch built from the regenerated `Mac::rx_windows` -/
def genRxWindows (cr : CodingRate) (cfg : Gen.MacTopFn.Configuration) (reg : RegionState) (tx : Model.TxChannel) :
    Option (Model.RfConfig × Model.RfConfig) :=
  (Gen.MacRfFn.Mac.rx_windows ⟨cfgR cfg, TieA.MacRf.regOf reg.id cr⟩ (txG tx)).map
    (fun w => (TieA.MacRf.rfM w.rx1, TieA.MacRf.rfM w.rx2))

/-- the equation `SimTx.rx_windows` asks for, as a THEOREM about the regenerated method -/
theorem genRxWindows_sim (cr : CodingRate) (cfg : Gen.MacTopFn.Configuration) (reg : RegionState) (tx : Model.TxChannel) :
    genRxWindows cr cfg reg tx = (rxWindows (rfMac (cfgM cfg) reg) tx).toOption := by
  have h := Tie.iff_map.1 (TieA.MacRf.windows_tie ⟨cfgR cfg, TieA.MacRf.regOf reg.id cr⟩ (rfMac (cfgM cfg) reg) cr ⟨rfl, rfl⟩ (txG tx))
  rw [txM_txG] at h
  exact h

/-- `SimTx` without the windows: the four operations that stay equations -/
structure SimTx4 (gR : Rng Nat) (ops : GOps) : Prop where
  session_prepare_buffer : ∀ s (sd : List Nat × Nat × Bool) (buf : RxView) cfg (reg : RegionState),
    (ops.session_prepare_buffer s sd buf cfg reg).map (fun (f, s', _) => (f, s'))
      = (prepareBuffer s (cfgM cfg) reg.id sd.1 sd.2.1 sd.2.2).toOption.map (fun (d, s') => ((d.fcnt : Int), s'))
  create_tx_config : ∀ (reg : RegionState) (rng : Nat) dr fr,
    ops.create_tx_config reg rng dr fr = (createTxConfigM gR reg dr (frameM fr) rng).toOption
  adjust_power : ∀ (t : Int × Model.RfConfig) limit gain, ops.adjust_power t limit gain = adjustPowerM t limit gain
  otaa_prepare_buffer : ∀ (o : OtaaState) (rng : Nat) (buf : RxView),
    (ops.otaa_prepare_buffer o rng buf).map (fun (n, o', rng', _) => (n, o', rng'))
      = some ((((draw gR rng).1 % 65536 : Nat) : Int), ({ devNonce := (draw gR rng).1 % 65536 } : OtaaState), (draw gR rng).2)

theorem simTx_of (gR : Rng Nat) (ops : GOps) (cr : CodingRate) (h : SimTx4 gR ops) (hw : ops.rx_windows = genRxWindows cr) :
    SimTx gR ops :=
  { session_prepare_buffer := h.session_prepare_buffer, create_tx_config := h.create_tx_config,
    adjust_power := h.adjust_power, otaa_prepare_buffer := h.otaa_prepare_buffer,
    rx_windows := by intro cfg reg tx; rw [hw]; exact genRxWindows_sim cr cfg reg tx }

end TieA.MacTop

open Model TieA.MacTop Gen.Modulation

namespace C10

/-- `Mac::send` = `macSend` where the windows are computed by the REGENERATED `Mac::rx_windows`
(`Gen.MacRfFn`): the receive windows handed out with a transmission are those of the parameters in force at TX time (region
after the selection, current configuration) — the windows equation of `SimTx` is discharged; four equations stay. -/
theorem tieA_mac_send_windows_partial (gR : Rng Nat) (ops : GOps) (cr : CodingRate) (h : SimTx4 gR ops)
    (hwin : ops.rx_windows = genRxWindows cr) (g : GMac) (hw : U8Wf g) (rng : Nat) (buf : RxView) (sd : List Nat × Nat × Bool) :
    (Gen.MacTopFn.Mac.send ops g rng buf sd).map (fun (r, g', rng', _) => (r, macM g', rng'))
      = (macSend gR (macM g) sd.1 sd.2.1 sd.2.2 rng).toOption.map (fun (o, m', rs) => (o.map sendOutG, m', rs)) :=
  C09.tieA_mac_send_partial gR ops (simTx_of gR ops cr h hwin) g hw rng buf sd

/-- the same for `Mac::join_otaa` -/
theorem tieA_mac_join_otaa_windows_partial (gR : Rng Nat) (ops : GOps) (cr : CodingRate) (h : SimTx4 gR ops)
    (hwin : ops.rx_windows = genRxWindows cr) (g : GMac) (hw : 0 ≤ g.board_eirp.max_power) (rng : Nat) (c : Unit) (buf : RxView) :
    (Gen.MacTopFn.Mac.join_otaa ops g rng c buf).map (fun (r, g', rng', _) => (r, macM g', rng'))
      = (macJoinOtaa gR (macM g) rng).toOption.map (fun (o, m', rs) => (joinOutG o, m', rs)) :=
  C11.tieA_mac_join_otaa_partial gR ops (simTx_of gR ops cr h hwin) g hw rng c buf

end C10

namespace TieA.MacTop.Example
/-- `SimTx4` and the windows equation are satisfiable together: the model's record with the regenerated windows -/
def txOpsW (gR : Rng Nat) (cr : CodingRate) : GOps := { txOps gR with rx_windows := genRxWindows cr }
example (cr : CodingRate) : SimTx4 gr0 (txOpsW gr0 cr) ∧ (txOpsW gr0 cr).rx_windows = genRxWindows cr :=
  ⟨{ session_prepare_buffer := (txOps_sim gr0).session_prepare_buffer, create_tx_config := fun _ _ _ _ => rfl,
     adjust_power := fun _ _ _ => rfl, otaa_prepare_buffer := fun _ _ _ => rfl }, rfl⟩
end TieA.MacTop.Example

#print axioms C10.tieA_mac_send_windows_partial
#print axioms C10.tieA_mac_join_otaa_windows_partial
#print axioms TieA.MacTop.genRxWindows_sim
