import LoraVerif.Props.TieA.Rx2Complete
import LoraVerif.Props.TieA.Calc
import LoraVerif.Gen.SessionRx
import LoraVerif.Lemmas.HandleCmds
/-!
# Tie A for a whole stateful method: `Session::handle_rx` (C05 / C07)

`Gen/SessionRx.lean` holds the state-passing translation of `Session::handle_rx` together with `Session::rx2_complete`,
`next_fcnt_down` and the `Uplink` helpers.  Abstract in the translation (inputs of the theorems): parsing, MIC validity and
decryption (the buffer is what `EncryptedDataPayload::parse` / `decrypt_in_place` yield on it; `validate_mic` is a
predicate of the crypto context and the 32-bit counter), the handling of the MAC commands and `next_lower_datarate`
(`MacOps`, assumed to simulate the model's `handleDownlinkMacs` / `nextLowerDatarate` and to touch nothing but the answer
queue: hypotheses `hnl`, `hsim`).

Four theorems cover every buffer.  The model `sessionHandleRx` sees only a parsed DOWNLINK-typed frame that carries the
session's DevAddr if it fits: `tieA_handle_rx_accept`, whose proof compares the method with the model in the form
`sessionHandleRx_eq` gives it (`Lemmas/RxForm.lean`): the decision, then `acceptCmds`, then `acceptFinish`.  Every other
buffer is `RxView.garbage` for the model and `NoUpdate` with nothing changed in the code: the parser rejects
(`handle_rx_unparsed`), the MType is an uplink type (`handle_rx_uplink_typed`), a fitting frame is addressed to another
device (`handle_rx_other_devaddr`; an oversized one ends the Class A procedure whatever its address, in code and model
alike, which is why `haddr` asks for the session's address only of a frame that fits).
-/
set_option linter.unusedSimpArgs false
namespace TieA.Rx
open Model Gen.Region

def natsOf (l : List Int) : List Nat := l.map Int.toNat

def cfgOf (g : Gen.SessionRx.Configuration) : Config :=
  { dataRate := g.data_rate.toInt.toNat, rx1Delay := g.rx1_delay.toNat, txPower := g.tx_power.map Int.toNat,
    rx1DrOffset := g.rx1_dr_offset.toNat, rx2DataRate := g.rx2_data_rate.map (fun d => d.toInt.toNat),
    rx2Frequency := g.rx2_frequency.map Int.toNat, adrEnabled := g.adr_enabled }

/-- the model session a generated `Session` stands for — every field -/
def sessOf (g : Gen.SessionRx.Session) : Session :=
  { pending := natsOf g.uplink.pending, ackOwed := g.uplink.confirmed, confirmed := g.confirmed,
    devAddr := g.devaddr.id.toNat, fcntUp := g.fcnt_up.toNat, fcntDown := g.fcnt_down.map Int.toNat,
    adrAckCnt := g.adr_ack_cnt.toNat, nwkKey := g.nwkskey.inner.id.toNat, appKey := g.appskey.inner.id.toNat }

def respOf : Gen.SessionRx.Response → Option Response
  | .NoAck => some .noAck | .SessionExpired => some .sessionExpired
  | .DownlinkReceived n => some (.downlinkReceived n.toNat) | .NoJoinAccept => some .noJoinAccept
  | .JoinSuccess => some .joinSuccess | .NoUpdate => some .noUpdate | .RxComplete => some .rxComplete
  | .LinkCheckReq => none

/-- an application downlink as the model reports it -/
def dlOf (x : Gen.SessionRx.Downlink) : Nat × List Nat := (x.fport.toNat, natsOf x.data)

/-- `TieA.SessWF` for this unit's session, with the range of `fcnt_down` as well -/
def SessWF (g : Gen.SessionRx.Session) : Prop :=
  0 ≤ g.fcnt_up ∧ g.fcnt_up ≤ 4294967295 ∧ 0 ≤ g.adr_ack_cnt ∧ g.adr_ack_cnt ≤ 4294967295 ∧
  ∀ f, g.fcnt_down = some f → 0 ≤ f ∧ f ≤ 4294967295

/-- `next_lower_datarate` is the model's (hypothesis on the abstract `MacOps`) -/
def NextLowerOk [Gen.SessionRx.MacOps RegionState] : Prop :=
  ∀ (rs : RegionState) (dr : DR), Gen.SessionRx.MacOps.next_lower rs dr = (nextLowerDatarate rs.id dr.toInt.toNat).map drOfNatT

/-- `TieA.tieA_rx2_complete` once more, for this unit's copy of the method: the two regenerated texts run over two `Session`
types, and an equation between them cannot be pushed through their binds, whose intermediate states differ in type -/
theorem rx2_complete_tie [Gen.SessionRx.MacOps RegionState] (hnl : NextLowerOk) (gs : Gen.SessionRx.Session) (g : Gen.SessionRx.Configuration)
    (rs : RegionState) (hw : SessWF gs) :
    (Gen.SessionRx.Session.rx2_complete gs g rs).bind
        (fun o => (respOf o.1).map (fun resp => (resp, sessOf o.2.1, cfgOf o.2.2)))
      = some (rx2Complete (sessOf gs) (cfgOf g) rs.id) := by
  obtain ⟨up, conf, nwk, app, da, fu, fd, cnt⟩ := gs
  obtain ⟨dr, d1, j1, j2, tp, off, r2d, r2f, adr⟩ := g
  obtain ⟨h1, h2, h3, h4, -⟩ := hw
  simp only at h1 h2 h3 h4
  have e2 : Rt.ck .usize (Gen.SessionRx.ADR_ACK_LIMIT + Gen.SessionRx.ADR_ACK_DELAY) = some 96 := by decide
  have e4 : Rt.wrap .u32 Gen.SessionRx.ADR_ACK_LIMIT = 64 := by decide
  have e5 : Rt.wrap .u32 Gen.SessionRx.ADR_ACK_DELAY = 32 := by decide
  obtain ⟨c', hc', hcn, hc1, hc2⟩ := sat_bridge h3 h4
  unfold Gen.SessionRx.Session.rx2_complete
  -- `try`: the macro is a `simp only` over the unit's helpers; it would fail under a respelling that leaves none of them here
  try gen_unfold_helpers_SessionRx
  simp only [rx2Complete, sessOf, cfgOf, hnl rs,
    e2, wrap_96, e4, e5, adr_limit, adr_delay, Rt.satAdd_u32 (Int.add_nonneg h3 Int.one_nonneg),
    Rt.isMultipleOf_pos (show (0 : Int) < 32 by decide), hc', hcn, Option.bind_eq_bind, Option.bind_some, Option.pure_def]
  clear e2 e4 e5 hc' hcn
  by_cases hx : fu = 4294967295
  · subst hx
    rfl
  · have hx' : (fu.toNat == 4294967295) = false := by simp; omega
    have hfu : (fu + 1).toNat = fu.toNat + 1 := by omega
    have e1 := Rt.ck_u32 (x := fu + 1) (by omega) (by omega)
    have r1 : respOf .NoAck = some .noAck := rfl
    have r2 : respOf .RxComplete = some .rxComplete := rfl
    cases adr
    · cases conf <;> tie_leaf
    · by_cases hb : c' ≥ 96
      · have hbn : c'.toNat ≥ 64 + 32 := by omega
        have e3 := Rt.ck_u32 (x := c' - 64) (by omega) (by omega)
        by_cases hm : (c' - 64) % 32 = 0
        · have hmn : (c'.toNat - 64) % 32 = 0 := by omega
          cases hn : nextLowerDatarate rs.id dr.toInt.toNat with
          | none => cases conf <;> tie_leaf
          | some c =>
            have hc := nextLower_toInt hn
            cases conf <;> tie_leaf
        · have hmn : ((c'.toNat - 64) % 32 == 0) = false := by simp; omega
          cases conf <;> tie_leaf
      · have hbn : ¬ c'.toNat ≥ 64 + 32 := by omega
        cases conf <;> tie_leaf

end TieA.Rx

namespace TieA.Macs
open Model

/-- the generated state and the model's loop state stand for each other -/
structure Rel (gs : Gen.SessionRx.Session) (g : Gen.SessionRx.Configuration) (full : Bool) (c : MacCtx) : Prop where
  cfg : c.cfg = Rx.cfgOf g
  pending : c.pending = Rx.natsOf gs.uplink.pending
  full : c.full = full

/-- what a handler of MAC commands returns: session, configuration, region, `answers_full` -/
abbrev GOut := Gen.SessionRx.Session × Gen.SessionRx.Configuration × RegionState × Bool

/-- what every handler of MAC commands leaves, seen from the session `gs` it started on: nothing of the session is touched
but the answer queue, which stays within its 15 bytes, and the results stand for the model's context again.  Reflexive
and transitive: that is all the loop over the commands uses of it. -/
def Out (gs : Gen.SessionRx.Session) (o : GOut) (c : MacCtx) : Prop :=
  (∃ pend', o.1 = { gs with uplink := { gs.uplink with pending := pend' } }) ∧ o.2.2.1 = c.region ∧
    Rel o.1 o.2.1 o.2.2.2 c ∧ o.1.uplink.pending.length ≤ 15

theorem Out.refl {gs g full c} (h : Rel gs g full c) (hq : gs.uplink.pending.length ≤ 15) : Out gs (gs, g, c.region, full) c :=
  ⟨⟨gs.uplink.pending, rfl⟩, rfl, h, hq⟩

theorem Out.trans {gs : Gen.SessionRx.Session} {o o' : GOut} {c c' : MacCtx} (h : Out gs o c) (h' : Out o.1 o' c') : Out gs o' c' := by
  obtain ⟨⟨p, hp⟩, -, -, -⟩ := h
  obtain ⟨⟨p', hp'⟩, hr, hrel, hq⟩ := h'
  exact ⟨⟨p', by rw [hp', hp]⟩, hr, hrel, hq⟩

/-- `Out` as the fixed statements spell it -/
theorem Out.iff {gs : Gen.SessionRx.Session} {o : GOut} {c : MacCtx} :
    Out gs o c ↔ ∃ pend' g', o = ({ gs with uplink := { gs.uplink with pending := pend' } }, g', c.region, c.full) ∧
      c.pending = Rx.natsOf pend' ∧ c.cfg = Rx.cfgOf g' ∧ pend'.length ≤ 15 := by
  obtain ⟨s, g, r, f⟩ := o
  constructor
  · rintro ⟨⟨p, rfl⟩, rfl, ⟨h1, h2, h3⟩, hq⟩
    exact ⟨p, g, by rw [h3], h2, h1, hq⟩
  · rintro ⟨p, g', h, h2, h1, hq⟩
    cases h
    exact ⟨⟨p, rfl⟩, rfl, ⟨h1, h2, rfl⟩, hq⟩

/-- the ok-arm of `StepTie` / `AdrStepTie` (`HandleMacs.lean`, `HandleMacsAdr.lean`): a tie by `Out` on the first four results that fixes the rest, at a result of the model -/
theorem Out.spelt {β δ : Type} {gs : Gen.SessionRx.Session} {π : β → MacCtx} {blk : β → δ} {r : β}
    {x : Option (Gen.SessionRx.Session × Gen.SessionRx.Configuration × RegionState × Bool × δ)}
    (h : Tie (fun o r => Out gs (o.1, o.2.1, o.2.2.1, o.2.2.2.1) (π r) ∧ o.2.2.2.2 = blk r) x (.ok r)) :
    ∃ pend' g', x = some ({ gs with uplink := { gs.uplink with pending := pend' } }, g', (π r).region, (π r).full, blk r) ∧
      (π r).pending = Rx.natsOf pend' ∧ (π r).cfg = Rx.cfgOf g' ∧ pend'.length ≤ 15 := by
  obtain ⟨⟨s, g', rg, f, b⟩, ho, hout, rfl⟩ := Tie.ok_iff.1 h
  obtain ⟨p, g'', hs, h⟩ := Out.iff.1 hout
  cases hs
  exact ⟨p, g', ho, h⟩

end TieA.Macs

namespace TieA.Rx
open Model

/-- `Session::handle_downlink_macs` simulates the model's `handleDownlinkMacs` and touches nothing of the
session but the answer queue, on the command streams in `S` (hypothesis on the abstract `MacOps`; the
handler itself is tied by the C08 tie-A theorems and the correspondence; `S := fun _ => True` is the
general case, a smaller `S` makes the hypothesis checkable on an example).  the answer queue holds at
most 15 bytes before and after (`heapless::Vec<u8, 15>`) — the generated `push_answer` is tied under that bound -/
def MacsOk [Gen.SessionRx.MacOps RegionState] (S : List Int → Prop) : Prop :=
  ∀ (gs : Gen.SessionRx.Session) (g : Gen.SessionRx.Configuration) (rs : RegionState) (bytes : List Int) (snr : Int) (full : Bool),
    S bytes → gs.uplink.pending.length ≤ 15 →
    match handleDownlinkMacs snr (natsOf bytes) { cfg := cfgOf g, region := rs, pending := natsOf gs.uplink.pending, full := full } with
    | .error _ => Gen.SessionRx.MacOps.handle_downlink_macs gs g rs ⟨bytes⟩ snr full = none
    | .ok c => ∃ pend' g', Gen.SessionRx.MacOps.handle_downlink_macs gs g rs ⟨bytes⟩ snr full
          = some ({ gs with uplink := { gs.uplink with pending := pend' } }, g', c.region, c.full)
        ∧ natsOf pend' = c.pending ∧ cfgOf g' = c.cfg ∧ pend'.length ≤ 15

/-- the decrypted frame is consistent: `frm_payload()` is determined by `f_port()` (parser.rs), octets
are octets, a frame is at most 256 bytes; its command streams are in `S` -/
def DecWF (S : List Int → Prop) (d : Gen.SessionRx.DecryptedDataPayload) : Prop :=
  (∀ p, d.f_port = some p → 0 ≤ p ∧ p ≤ 255) ∧ S d.fhdr.f_opts ∧
  ∃ frm : List Int, frm.length ≤ 256 ∧ (d.f_port = some 0 → S frm) ∧
    d.frm_payload = (match d.f_port with | none => .None | some p => if p = 0 then .MacCommands frm else .Data frm)

def nwkOf (gs : Gen.SessionRx.Session) : Gen.SessionRx.DefaultCrypto := ⟨gs.nwkskey.inner⟩
def appOf (gs : Gen.SessionRx.Session) : Gen.SessionRx.DefaultCrypto := ⟨gs.appskey.inner⟩

/-- what decryption yields under the counter the session reconstructs for the frame -/
def decOf (gs : Gen.SessionRx.Session) (rx : Gen.SessionRx.RadioBuffer) (e : Gen.SessionRx.EncryptedDataPayload) :
    Option Gen.SessionRx.DecryptedDataPayload :=
  (Gen.SessionRx.next_fcnt_down gs.fcnt_down e.fhdr.fcnt).bind
    (fun f => rx.as_mut_for_read.decrypt_in_place (some (nwkOf gs)) (some (appOf gs)) f)

/-- the decoded view the model receives for a frame the parser accepted (`micFcnt`: the reconstructed
counter iff the MIC verifies under it and the session's NwkSKey) -/
def dataOf (gs : Gen.SessionRx.Session) (e : Gen.SessionRx.EncryptedDataPayload) (dec : Option Gen.SessionRx.DecryptedDataPayload) : RxData :=
  { len := e.as_bytes.length, confirmed := e.is_confirmed, fcnt16 := e.fhdr.fcnt.toNat,
    micFcnt := match Gen.SessionRx.next_fcnt_down gs.fcnt_down e.fhdr.fcnt with
      | some f => if e.validate_mic (nwkOf gs) f then some f.toNat else none
      | none => none,
    fopts := match dec with | some d => natsOf d.fhdr.f_opts | none => [],
    fport := match dec with | some d => d.f_port.map Int.toNat | none => none,
    payload := match dec with
      | some d => (match d.frm_payload with | .Data x => natsOf x | .MacCommands x => natsOf x | .None => [])
      | none => [] }

theorem next_fcnt_down_eq : Gen.SessionRx.next_fcnt_down = Gen.Session.next_fcnt_down := by
  funext last wire
  unfold Gen.SessionRx.next_fcnt_down Gen.Session.next_fcnt_down
  rfl

theorem nextFcntDown_bridge (gs : Gen.SessionRx.Session) (w : Int) (hw : SessWF gs) (h0 : 0 ≤ w) :
    nextFcntDown (sessOf gs).fcntDown w.toNat = (Gen.SessionRx.next_fcnt_down gs.fcnt_down w).map Int.toNat := by
  rw [next_fcnt_down_eq]
  simp only [nextFcntDown, sessOf]
  congr 2
  · cases h : gs.fcnt_down with
    | none => rfl
    | some f => have := (hw.2.2.2.2 f h).1; simp [Int.toNat_of_nonneg this]
  · omega

/-- what the model's answer means for the generated outputs -/
def expect (dl : List Gen.SessionRx.Downlink) (D : Int) (r : RxOut × Session × Config × RegionState) :
    Response × Session × RegionState × Config × List (Nat × List Nat) :=
  (r.1.resp, r.2.1, r.2.2.2, r.2.2.1,
    match r.1.downlink with
    | some x => if (dl.length : Int) < D then dl.map dlOf ++ [x] else dl.map dlOf
    | none => dl.map dlOf)

/-- `MacsOk` in the calculus -/
theorem MacsOk.tie [Gen.SessionRx.MacOps RegionState] {S : List Int → Prop} (h : MacsOk S) (gs : Gen.SessionRx.Session)
    (g : Gen.SessionRx.Configuration) (rs : RegionState) {bytes : List Int} (snr : Int) (full : Bool) (hS : S bytes)
    (hq : gs.uplink.pending.length ≤ 15) :
    Tie (Macs.Out gs) (Gen.SessionRx.MacOps.handle_downlink_macs gs g rs ⟨bytes⟩ snr full)
      (handleDownlinkMacs snr (natsOf bytes) { cfg := cfgOf g, region := rs, pending := natsOf gs.uplink.pending, full := full }) := by
  have := h gs g rs bytes snr full hS hq
  split at this <;> rename_i e <;> rw [e]
  · exact Tie.error_iff.2 this
  · obtain ⟨p, g', hx, h1, h2, h3⟩ := this
    exact Tie.ok_iff.2 ⟨_, hx, Macs.Out.iff.2 ⟨p, g', rfl, h1.symm, h2.symm, h3⟩⟩

/-- `Session::handle_rx`, on a buffer the parser accepts and whose MType is a
downlink type (`hup : e.is_uplink = false`; an uplink-typed frame is not a data-frame view for the model, see
`handle_rx_uplink_typed`), is the model's `sessionHandleRx`: same response, same session (every field), same region and
configuration, the same application downlink appended to the queue (if it has room), a panic on one side iff on the other -/
theorem tieA_handle_rx_accept [Gen.SessionRx.MacOps RegionState] (S : List Int → Prop) (hnl : NextLowerOk) (hsim : MacsOk S)
    (D : Int) (gs : Gen.SessionRx.Session) (rs : RegionState) (g : Gen.SessionRx.Configuration)
    (rx : Gen.SessionRx.RadioBuffer) (dl : List Gen.SessionRx.Downlink) (maxp snr : Int) (ign : Bool)
    (e : Gen.SessionRx.EncryptedDataPayload)
    (hparse : rx.as_mut_for_read.parse = some e) (hup : e.is_uplink = false)
    (haddr : ¬ (e.as_bytes.length : Int) > maxp + 5 → e.fhdr.dev_addr = gs.devaddr)
    (hw : SessWF gs) (hmax : 0 ≤ maxp ∧ maxp ≤ 255) (hwire : 0 ≤ e.fhdr.fcnt)
    (hdec : ∀ f, Gen.SessionRx.next_fcnt_down gs.fcnt_down e.fhdr.fcnt = some f → e.validate_mic (nwkOf gs) f = true →
      ∃ d, rx.as_mut_for_read.decrypt_in_place (some (nwkOf gs)) (some (appOf gs)) f = some d ∧ DecWF S d) :
    (Gen.SessionRx.Session.handle_rx D gs rs g rx dl maxp snr ign).bind
        (fun out => (respOf out.1).map (fun r => (r, sessOf out.2.1, out.2.2.1, cfgOf out.2.2.2.1, out.2.2.2.2.2.map dlOf)))
      = (sessionHandleRx (sessOf gs) (cfgOf g) rs (dataOf gs e (decOf gs rx e)) maxp.toNat snr ign).toOption.map (expect dl D) := by
  obtain ⟨hm0, hm1⟩ := hmax
  have hM : Gen.SessionRx.MHDR_LEN = 1 := rfl
  have hI : Gen.SessionRx.MIC_LEN = 4 := rfl
  have k1 := Rt.ck_usize (x := maxp + 1) (by omega) (by omega)
  have k2 := Rt.ck_usize (x := maxp + 5) (by omega) (by omega)
  have k3 : maxp + 1 + 4 = maxp + 5 := by omega
  have hlen : ∀ x, (dataOf gs e x).len = e.as_bytes.length := fun _ => rfl
  have hfc : ∀ x, (dataOf gs e x).fcnt16 = e.fhdr.fcnt.toNat := fun _ => rfl
  unfold Gen.SessionRx.Session.handle_rx
  simp only [hparse, hup, Bool.false_eq_true, if_false, hM, hI, Int.ofNat_eq_natCast, k1, k2, k3,
    Option.bind_eq_bind, Option.bind_some, Option.pure_def]
  rw [sessionHandleRx_eq]
  simp only [hlen, hfc]
  by_cases hbig : (e.as_bytes.length : Int) > maxp + 5
  · -- oversized
    have hbig' : e.as_bytes.length > maxp.toNat + 5 := by omega
    simp only [hbig, decide_true, if_true, hbig']
    cases ign
    · obtain ⟨o, h1, h⟩ := Option.bind_eq_some_iff.1 (rx2_complete_tie hnl gs g rs hw)
      obtain ⟨r', h2, h3⟩ := Option.map_eq_some_iff.1 h
      simp only [h1, h2, ← h3, Option.bind_some, Option.map_some, expect, Except.toOption, pure, Except.pure, Bool.false_eq_true, if_false]
    · simp [respOf, expect, Except.toOption, pure, Except.pure, noUp]
  · have hbig' : ¬ e.as_bytes.length > maxp.toNat + 5 := by omega
    have hnf := nextFcntDown_bridge gs e.fhdr.fcnt hw hwire
    simp only [hbig, decide_false, haddr hbig, bne_self_eq_false, Bool.false_eq_true, if_false, hbig', hnf]
    cases hf : Gen.SessionRx.next_fcnt_down gs.fcnt_down e.fhdr.fcnt with
    | none => simp [respOf, expect, Except.toOption, pure, Except.pure, noUp]
    | some f =>
      by_cases hmic : e.validate_mic (nwkOf gs) f = true
      · obtain ⟨d, hd, hpwf, hS1, frm, hfl, hS2, hfrm⟩ := hdec f hf hmic
        have hmic' : e.validate_mic { key := gs.nwkskey.inner } f = true := by simpa [nwkOf] using hmic
        have hd' : rx.as_mut_for_read.decrypt_in_place (some { key := gs.nwkskey.inner }) (some { key := gs.appskey.inner }) f = some d := by
          simpa [nwkOf, appOf] using hd
        have hdo : decOf gs rx e = some d := by simp [decOf, hf, hd]
        have hmf : (dataOf gs e (some d)).micFcnt = some f.toNat := by simp [dataOf, hf, hmic]
        obtain ⟨hu0, hu1, hc0, hc1, hfd⟩ := hw
        simp only [hmic', if_true, hd', Option.bind_some, Gen.SessionRx.DefaultCrypto.new,
          Gen.SessionRx.Uplink.clear_mac_commands, Gen.SessionRx.Uplink.set_downlink_confirmation, hdo, Option.map_some,
          Option.filter, hmf, beq_self_eq_true]
        have hfo : (dataOf gs e (some d)).fopts = natsOf d.fhdr.f_opts := rfl
        have hfp : (dataOf gs e (some d)).fport = d.f_port.map Int.toNat := rfl
        have hpl : (dataOf gs e (some d)).payload = (match d.frm_payload with | .Data x => natsOf x | .MacCommands x => natsOf x | .None => []) := rfl
        -- the MAC commands (`acceptCmds`, through `hsim`), then the bookkeeping (`acceptFinish`) for whatever they left
        refine Tie.bind_eq_of (R := fun x ctx => ∃ p', x.2.2 = ⟨⟨p', gs.uplink.confirmed⟩, gs.confirmed, gs.nwkskey, gs.appskey, gs.devaddr, gs.fcnt_up, some f, 0⟩ ∧
            x.2.1 = ctx.region ∧ cfgOf x.1 = ctx.cfg ∧ natsOf p' = ctx.pending) ?_ ?_
        · unfold acceptCmds
          rw [hfo, hfp, hpl]
          cases ign
          · simp only [Bool.not_false, Bool.false_eq_true, if_false, if_true]
            -- FOpts, then a port-0 payload: `hsim` for each, from what the first one left
            refine (hsim.tie ⟨⟨[], gs.uplink.confirmed⟩, gs.confirmed, gs.nwkskey, gs.appskey, gs.devaddr, gs.fcnt_up, some f, 0⟩
              g rs snr false hS1 (Nat.zero_le _)).bind ?_
            rintro ⟨s1, g1, r1, fl1⟩ c1 ho1
            obtain ⟨⟨p1, rfl⟩, rfl, ⟨hg1, hp1, rfl⟩, hq1⟩ := id ho1
            cases hp : d.f_port with
            | none =>
              rw [hp] at hfrm
              simp only [hfrm, Option.map_none, Option.bind_some]
              exact Tie.pure ⟨p1, rfl, rfl, hg1.symm, hp1.symm⟩
            | some p =>
              rw [hp] at hfrm
              by_cases hz : p = 0
              · subst hz
                have h2 := hsim.tie ⟨⟨p1, gs.uplink.confirmed⟩, gs.confirmed, gs.nwkskey, gs.appskey, gs.devaddr, gs.fcnt_up, some f, 0⟩
                  g1 c1.region snr c1.full (hS2 hp) hq1
                rw [← hp1, ← hg1] at h2
                simp only [hfrm, if_true, Option.map_some, show ((0 : Int).toNat) = 0 from rfl, beq_self_eq_true, Option.bind_assoc,
                  Option.bind_some]
                rw [← bind_pure (handleDownlinkMacs snr (natsOf frm) c1)]
                refine h2.bind ?_
                rintro ⟨s2, g2, r2, fl2⟩ c2 ho2
                obtain ⟨⟨p2, rfl⟩, rfl, ⟨hg2, hp2, -⟩, -⟩ := ho1.trans ho2
                exact Tie.pure ⟨p2, rfl, rfl, hg2.symm, hp2.symm⟩
              · have hpz : (some p.toNat == some 0) = false := by have := (hpwf p hp).1; simp; omega
                simp only [hfrm, hz, if_false, Option.map_some, hpz, Bool.false_eq_true, Option.bind_some]
                exact Tie.pure ⟨p1, rfl, rfl, hg1.symm, hp1.symm⟩
          · -- Class C: MAC commands are not looked at, the answer queue is kept
            exact Tie.pure ⟨gs.uplink.pending, rfl, rfl, rfl, rfl⟩
        · rintro ⟨g', r', s'⟩ ⟨ccfg, creg, cpend, cfull⟩ ⟨p', hs, hr, hc, hp⟩
          simp only at hs hr hc hp
          subst hs hr hc hp
          have hfu : (gs.fcnt_up = 4294967295) = (gs.fcnt_up.toNat = 4294967295) := by apply propext; omega
          have hcf' : (dataOf gs e (some d)).confirmed = e.is_confirmed := rfl
          -- the owed ACK as a field of the session, not a choice between two sessions
          have hS : (if e.is_confirmed = true then
                (⟨⟨p', true⟩, gs.confirmed, gs.nwkskey, gs.appskey, gs.devaddr, gs.fcnt_up, some f, 0⟩ : Gen.SessionRx.Session)
              else ⟨⟨p', gs.uplink.confirmed⟩, gs.confirmed, gs.nwkskey, gs.appskey, gs.devaddr, gs.fcnt_up, some f, 0⟩)
                = ⟨⟨p', e.is_confirmed || gs.uplink.confirmed⟩, gs.confirmed, gs.nwkskey, gs.appskey, gs.devaddr, gs.fcnt_up, some f, 0⟩ := by
            cases e.is_confirmed <;> rfl
          rw [acceptFinish_eq]
          simp only [hS, pure, Except.pure, accOut, bumpFu, deliver, hfp, hpl, hcf', Bool.or_comm gs.uplink.confirmed]
          have hor : ((sessOf gs).ackOwed || e.is_confirmed) = (e.is_confirmed || gs.uplink.confirmed) := Bool.or_comm _ _
          rw [hor]
          by_cases hx : gs.fcnt_up = 4294967295
          · -- counter exhausted: the port is not looked at
            simp [hx, respOf, expect, Except.toOption, hfu ▸ hx, sessOf]
          · have hx' := hfu ▸ hx
            have hck : Rt.ck .u32 (gs.fcnt_up + 1) = some (gs.fcnt_up + 1) := Rt.ck_u32 (by omega) (by omega)
            have hsucc : (gs.fcnt_up + 1).toNat = gs.fcnt_up.toNat + 1 := by omega
            cases hp : d.f_port with
            | none =>
              rw [hp] at hfrm
              simp [hp, hfrm, hx, hx', hck, hsucc, respOf, expect, Except.toOption, sessOf]
            | some p =>
              rw [hp] at hfrm
              obtain ⟨hp0, hp1⟩ := hpwf p hp
              by_cases hz : p = 0
              · subst hz
                simp only [if_true] at hfrm
                simp [hp, hfrm, hx, hx', hck, hsucc, respOf, expect, Except.toOption, sessOf]
              · simp only [hz, if_false] at hfrm
                have hds : Gen.SessionRx.Downlink.data_from_slice frm = some frm := by
                  simp only [Gen.SessionRx.Downlink.data_from_slice]; rw [if_pos (by omega)]
                have hpn : 0 < p.toNat := by omega
                have hpz : ¬ p.toNat = 0 := by omega
                simp [hp, hfrm, hx, hx', hck, hsucc, sessOf, respOf, expect, Except.toOption, hds, hpn, hpz,
                    Rt.hvPush, dlOf] <;> split <;> simp_all [dlOf]
      · have hmic' : e.validate_mic { key := gs.nwkskey.inner } f = false := by simpa [nwkOf] using hmic
        have hmf : ∀ x, (dataOf gs e x).micFcnt = none := by intro x; simp [dataOf, hf, hmic]
        simp [hmic', hmf, Option.filter, respOf, expect, Except.toOption, pure, Except.pure, Gen.SessionRx.DefaultCrypto.new, noUp]


/-- a buffer the data-frame parser rejects: `NoUpdate`, nothing changes (the model's `macHandleRx` on a
view that is not a data frame) -/
theorem handle_rx_unparsed [Gen.SessionRx.MacOps RegionState]
    (D : Int) (gs : Gen.SessionRx.Session) (rs : RegionState) (g : Gen.SessionRx.Configuration)
    (rx : Gen.SessionRx.RadioBuffer) (dl : List Gen.SessionRx.Downlink) (maxp snr : Int) (ign : Bool)
    (hparse : rx.as_mut_for_read.parse = none) :
    Gen.SessionRx.Session.handle_rx D gs rs g rx dl maxp snr ign = some (.NoUpdate, gs, rs, g, rx, dl) := by
  unfold Gen.SessionRx.Session.handle_rx
  simp [hparse]

/-- a buffer the parser accepts but whose MType is an UPLINK type (`is_uplink()`: the device's own
uplink echoed back, another device's uplink, any frame MIC'd with Dir = 0): `NoUpdate` and every output equal to its
input — whatever the frame's length (no size test, no `rx2_complete`), wire counter and MIC (also one that verifies
under the session's NwkSKey at a fresh counter), in a Class A window and outside.  For the model such a buffer is the
view `RxView.garbage` (not a data frame for this device), exactly like a buffer the parser rejects. -/
theorem handle_rx_uplink_typed [Gen.SessionRx.MacOps RegionState]
    (D : Int) (gs : Gen.SessionRx.Session) (rs : RegionState) (g : Gen.SessionRx.Configuration)
    (rx : Gen.SessionRx.RadioBuffer) (dl : List Gen.SessionRx.Downlink) (maxp snr : Int) (ign : Bool)
    (e : Gen.SessionRx.EncryptedDataPayload)
    (hparse : rx.as_mut_for_read.parse = some e) (hup : e.is_uplink = true) :
    Gen.SessionRx.Session.handle_rx D gs rs g rx dl maxp snr ign = some (.NoUpdate, gs, rs, g, rx, dl) := by
  unfold Gen.SessionRx.Session.handle_rx
  simp [hparse, hup]

/-- a buffer the parser accepts as a DOWNLINK-typed frame that fits the window's data rate but whose FHDR
DevAddr is not the session's (`e.fhdr.dev_addr ≠ gs.devaddr`: a frame addressed to another device): `NoUpdate` and
every output equal to its input — whatever its wire counter and MIC (also one that verifies under THIS session's NwkSKey
at a fresh counter: two devices provisioned with the same keys, a network reusing a key), for every `ignore_mac` and
every `MacOps` instance.  (An oversized frame ends the Class A procedure before the address is looked at:
the size test comes first — the first branch of `tieA_handle_rx_accept` does not use `haddr`.)  For the model such a
buffer is the view `RxView.garbage` (not a data frame for this device), like a buffer the parser rejects. -/
theorem handle_rx_other_devaddr [Gen.SessionRx.MacOps RegionState]
    (D : Int) (gs : Gen.SessionRx.Session) (rs : RegionState) (g : Gen.SessionRx.Configuration)
    (rx : Gen.SessionRx.RadioBuffer) (dl : List Gen.SessionRx.Downlink) (maxp snr : Int) (ign : Bool)
    (e : Gen.SessionRx.EncryptedDataPayload)
    (hparse : rx.as_mut_for_read.parse = some e) (hup : e.is_uplink = false)
    (hmax : 0 ≤ maxp ∧ maxp ≤ 255) (hfits : ¬ (e.as_bytes.length : Int) > maxp + 5)
    (haddr : e.fhdr.dev_addr ≠ gs.devaddr) :
    Gen.SessionRx.Session.handle_rx D gs rs g rx dl maxp snr ign = some (.NoUpdate, gs, rs, g, rx, dl) := by
  have hM : Gen.SessionRx.MHDR_LEN = 1 := rfl
  have hI : Gen.SessionRx.MIC_LEN = 4 := rfl
  have hne : (e.fhdr.dev_addr != gs.devaddr) = true := by simpa using haddr
  obtain ⟨hm0, hm1⟩ := hmax
  have k1 := Rt.ck_usize (x := maxp + 1) (by omega) (by omega)
  have k2 := Rt.ck_usize (x := maxp + 5) (by omega) (by omega)
  have k3 : maxp + 1 + 4 = maxp + 5 := by omega
  unfold Gen.SessionRx.Session.handle_rx
  simp only [hparse, hup, Bool.false_eq_true, if_false, hM, hI, Int.ofNat_eq_natCast, k1, k2, k3, hfits, hne,
    decide_false, if_true, Option.bind_eq_bind, Option.bind_some, Option.pure_def]

/-- an instance for the examples: `next_lower_datarate` from the model's tables; the MAC-command handler
is defined on the empty command stream only (where it changes nothing) -/
def exOps : Gen.SessionRx.MacOps RegionState where
  next_lower rs dr := (nextLowerDatarate rs.id dr.toInt.toNat).map drOfNatT
  handle_downlink_macs gs g rs b _ full := if b.bytes = [] then some (gs, g, rs, full) else none

theorem exOps_ok : @NextLowerOk exOps ∧ @MacsOk exOps (· = []) := by
  refine ⟨fun _ _ => rfl, ?_⟩
  intro gs g rs bytes snr full hb hq
  subst hb
  rw [show natsOf [] = [] from rfl, Macs.handleDownlinkMacs_nil]
  exact ⟨gs.uplink.pending, g, by show (if ([] : List Int) = [] then _ else _) = _; rw [if_pos rfl], rfl, rfl, hq⟩

/-- a confirmed frame with wire counter 5, port 7, payload 01 02 03, whose MIC verifies under key 11 and
counter 5 only -/
def exEnc : Gen.SessionRx.EncryptedDataPayload :=
  ⟨List.replicate 16 0, true, ⟨5, [], ⟨99⟩⟩, fun c f => c.key.id == 11 && f == 5, false⟩
def exDec : Gen.SessionRx.DecryptedDataPayload := ⟨⟨5, [], ⟨99⟩⟩, some 7, .Data [1, 2, 3]⟩
def exRx : Gen.SessionRx.RadioBuffer := ⟨⟨some exEnc, fun _ _ f => if f = 5 then some exDec else none⟩⟩
/-- the same octets with an uplink MType whose MIC verifies all the same -/
def exEncUp : Gen.SessionRx.EncryptedDataPayload := { exEnc with is_uplink := true }
def exRxUp : Gen.SessionRx.RadioBuffer := ⟨⟨some exEncUp, fun _ _ f => if f = 5 then some exDec else none⟩⟩
/-- the same downlink addressed to DevAddr 98 (the session's is 99) whose MIC verifies all the same under
the session's NwkSKey -/
def exEncOther : Gen.SessionRx.EncryptedDataPayload := { exEnc with fhdr := ⟨5, [], ⟨98⟩⟩ }
def exRxOther : Gen.SessionRx.RadioBuffer := ⟨⟨some exEncOther, fun _ _ f => if f = 5 then some exDec else none⟩⟩
/-- a session at FCntDown 4 with a pending answer, NwkSKey 11 -/
def exSess : Gen.SessionRx.Session := ⟨⟨[6, 255, 10], false⟩, false, ⟨⟨11⟩⟩, ⟨⟨12⟩⟩, ⟨99⟩, 41, some 4, 70⟩
def exCfg : Gen.SessionRx.Configuration := ⟨._5, 1000, 5000, 6000, none, 0, none, none, true⟩

/-- the frame is accepted in a Class A window: `DownlinkReceived(5)`, the answer queue is cleared, an ACK is
owed, `fcnt_down = 5`, `adr_ack_cnt = 0`, `fcnt_up` 41 → 42, the payload is queued for the application -/
example :
    (@Gen.SessionRx.Session.handle_rx RegionState exOps 4 exSess (RegionState.init .EU868) exCfg exRx [] 250 3 false).map
      (fun out => (out.1, out.2.1, out.2.2.2.2.2))
      = some (.DownlinkReceived 5, ⟨⟨[], true⟩, false, ⟨⟨11⟩⟩, ⟨⟨12⟩⟩, ⟨99⟩, 42, some 5, 0⟩, [⟨[1, 2, 3], 7⟩]) := by
  rfl

/-- every hypothesis of `tieA_handle_rx_accept` holds on that input -/
example :
    (@Gen.SessionRx.Session.handle_rx RegionState exOps 4 exSess (RegionState.init .EU868) exCfg exRx [] 250 3 false).bind
        (fun out => (respOf out.1).map (fun r => (r, sessOf out.2.1, out.2.2.1, cfgOf out.2.2.2.1, out.2.2.2.2.2.map dlOf)))
      = (sessionHandleRx (sessOf exSess) (cfgOf exCfg) (RegionState.init .EU868) (dataOf exSess exEnc (decOf exSess exRx exEnc))
          (250 : Int).toNat 3 false).toOption.map (expect [] 4) := by
  have hf5 : Gen.SessionRx.next_fcnt_down exSess.fcnt_down exEnc.fhdr.fcnt = some 5 := by decide
  refine @tieA_handle_rx_accept exOps (· = []) exOps_ok.1 exOps_ok.2 4 exSess (RegionState.init .EU868) exCfg exRx [] 250 3 false
    exEnc rfl rfl (fun _ => rfl) ?_ (by omega) (by decide) ?_
  · refine ⟨by decide, by decide, by decide, by decide, ?_⟩
    intro f hf
    have : f = 4 := by simpa [exSess] using hf.symm
    omega
  · intro f hf _
    rw [hf5] at hf
    obtain rfl : (5 : Int) = f := by simpa using hf
    refine ⟨exDec, rfl, ?_, rfl, [1, 2, 3], by decide, ?_, rfl⟩
    · intro p hp
      have : p = 7 := by simpa [exDec] using hp.symm
      omega
    · intro h; simp [exDec] at h

/-- the uplink-typed twin of that frame (MIC verifying at the fresh counter 5) is ignored: the hypotheses of
`handle_rx_uplink_typed` hold on it and nothing changes -/
example :
    @Gen.SessionRx.Session.handle_rx RegionState exOps 4 exSess (RegionState.init .EU868) exCfg exRxUp [] 250 3 false
      = some (.NoUpdate, exSess, RegionState.init .EU868, exCfg, exRxUp, []) :=
  @handle_rx_uplink_typed exOps 4 exSess (RegionState.init .EU868) exCfg exRxUp [] 250 3 false exEncUp rfl rfl

/-- the twin of that frame addressed to DevAddr 98 (MIC verifying at the fresh counter 5 under the session's
key) is ignored: the hypotheses of `handle_rx_other_devaddr` hold on it and nothing changes -/
example :
    @Gen.SessionRx.Session.handle_rx RegionState exOps 4 exSess (RegionState.init .EU868) exCfg exRxOther [] 250 3 false
      = some (.NoUpdate, exSess, RegionState.init .EU868, exCfg, exRxOther, []) :=
  @handle_rx_other_devaddr exOps 4 exSess (RegionState.init .EU868) exCfg exRxOther [] 250 3 false exEncOther rfl rfl
    (by omega) (by decide) (by decide)

#print axioms tieA_handle_rx_accept
#print axioms handle_rx_uplink_typed
#print axioms handle_rx_other_devaddr
#print axioms handle_rx_unparsed
#print axioms exOps_ok
end TieA.Rx
