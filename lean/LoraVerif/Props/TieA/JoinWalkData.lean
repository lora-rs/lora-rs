import LoraVerif.Props.TieA.JoinWalk
/-!
# Tie A for the channel selection (C09), fixed plans: a data frame after the join bias, on the regenerated walk

The one case of the data-frame branch of `FixedChannelPlan::select_tx_channel` tied besides the biased one
(`Props/TieA/PlanSelectFixed.lean`): the channel `first_data_channel` prefers is usable.  Legality of what the method
returns, carried over from the model for the cases tied.
-/
set_option linter.unusedSimpArgs false
namespace C09
open Model Gen.Region Gen.Modulation TieA.Select TieA.CMask Rt.OfNat

/-- **a data frame of a fixed plan after the bias, preferred sub-band usable** (a part of the data-frame branch of
`FixedChannelPlan::select_tx_channel`): no bias in force, `first_data_channel` proposes a channel, the mask enables it and the requested data rate is a 125 kHz one:
the regenerated method (regenerated walk plugged in, not called on this path) is the model's — that channel at the
requested data rate, bias cleared.  Missing for the full statement: the two bandwidth groups (re-enabling + redraw). -/
theorem tieA_fixed_select_data_pref_partial {σ} (g : Rng σ) (rs : RegionState) (p : Gen.PlanSelectFn.FixedChannelPlan)
    (hplan : rs.plan = .fix (fixOf p)) (hj : JcWF p.join_channels) (hm : MaskWF p) (dr : DR) (s : σ)
    (hb : (jcOf p.join_channels).hasBiasAndNotExhausted = false)
    (ch : Nat) (jc' : JoinChannels) (s1 : σ) (d : Datarate)
    (hfd : (jcOf p.join_channels).firstDataChannel g s = (some ch, jc', s1))
    (hen : Mask.isEnabled (natsOf p.channel_mask._0) ch = .ok true)
    (hd : (datarates rs.id)[dr.toInt.toNat]? = some (some d)) (hbw : d.bandwidth = Bandwidth._125KHz) :
    (@Gen.PlanSelectFn.FixedChannelPlan.select_tx_channel σ (rngOf g) (fuelOf loopFuel) (fregOf rs.id) (walkOps g) p s dr .Data).map
        (fun o => (txOf o.1, { rs with plan := .fix (fixOf o.2.1) }, o.2.2))
      = (selectTxChannel g rs dr .data s).toOption := by
  obtain ⟨hml, hoct⟩ := hm
  have hb' := tieA_has_bias_and_not_exhausted p.join_channels hj
  rw [hb] at hb'
  obtain ⟨o, ho, hoe, hob, hojw, hoa⟩ := tieA_first_data_channel g p.join_channels hj s
  rw [hfd] at hoe
  obtain ⟨o1, o2, o3⟩ := o
  simp only [Prod.mk.injEq] at hoe
  obtain ⟨e1, e2, e3⟩ := hoe
  cases o1 with
  | none => simp at e1
  | some c =>
    simp only [Option.map_some, Option.some.injEq] at e1
    obtain ⟨c0, c1⟩ := hob c rfl
    have hcn : c = ((ch : Nat) : Int) := by omega
    subst hcn
    have hie := is_enabled_nat9 p.channel_mask hoct hml ch
    unfold Gen.PlanSelectFn.FixedChannelPlan.select_tx_channel selectTxChannel
    simp only [hplan, Option.bind_eq_bind, Option.pure_def, fixOf, hb, hb', Bool.false_eq_true, if_false, ho, Option.bind_some,
      bind_bind_id, hie, hen, toOption_ok, hfd]
    simp only [if_true, show (fregOf rs.id).datarates = datarates rs.id from rfl, idx_datarates, hd, Option.bind_some,
      Option.map_some, hbw, beq_self_eq_true]
    have hidx : indexDatarate rs.id dr.toInt.toNat = .ok (some d) := indexDatarate_of_get (by rw [getDatarate, hd])
    subst e3
    subst e2
    simp only [pure, Except.pure, ok_bind, hidx, unwrapDatarate, hfd, hen, hbw, beq_self_eq_true, Bool.and_self, id,
      Option.bind_some, show (fregOf rs.id).uplink_channels = uplinkChannels rs.id from rfl,
      show (fregOf rs.id).downlink_channels = downlinkChannels rs.id from rfl, idx_nat, rem8_u8 _ c0 (by omega), Int.toNat_natCast]
    cases (uplinkChannels rs.id)[ch]? with
    | none => rfl
    | some f =>
      cases (downlinkChannels rs.id)[ch % 8]? with
      | none => rfl
      | some f1 => rfl

/-- the hypotheses are satisfiable: US915 after a biased join on channel 13 (bias exhausted: one try of one), stream at 6:
`first_data_channel` proposes channel 14 of the same sub-band, the default mask enables it, DR0 is a 125 kHz rate -/
example :
    (jcOf (exJc 1 13)).hasBiasAndNotExhausted = false ∧
    (jcOf (exJc 1 13)).firstDataChannel exGen 6 = (some 14, (jcOf (exJc 1 13)).clearBias, 7) ∧
    (Mask.isEnabled (natsOf (List.replicate 9 255)) 14).toOption = some true ∧
    (((datarates .US915)[DR._0.toInt.toNat]?).bind id).map (fun d => d.bandwidth) = some Bandwidth._125KHz := by
  refine ⟨?_, ?_, ?_, ?_⟩ <;> decide +kernel

#print axioms tieA_fixed_select_data_pref_partial

/-- **C09's legality carried over to the regenerated fixed-plan method, data frames** (for the two
cases of a data frame that are tied: under the bias with the biased channel enabled; after the bias with the preferred
channel usable) -/
theorem tieA_fixed_select_data_legal_partial {σ} (g : Rng σ) (rs : RegionState) (p p' : Gen.PlanSelectFn.FixedChannelPlan)
    (hplan : rs.plan = .fix (fixOf p)) (hw : WalkWF p.join_channels) (hm : MaskWF p) (hwf : regionWF rs = true) (dr : DR)
    (s s' : σ) (tx : Gen.PlanSelectFn.TxChannel)
    (hcase :
      ((jcOf p.join_channels).hasBiasAndNotExhausted = true ∧
        ∀ ch jc' s1, (jcOf p.join_channels).getNextChannel g s = .ok (ch, jc', s1) →
          Mask.isEnabled (natsOf p.channel_mask._0) ch ≠ .ok false) ∨
      ((jcOf p.join_channels).hasBiasAndNotExhausted = false ∧
        ∃ ch jc' s1 d, (jcOf p.join_channels).firstDataChannel g s = (some ch, jc', s1) ∧
          Mask.isEnabled (natsOf p.channel_mask._0) ch = .ok true ∧
          (datarates rs.id)[dr.toInt.toNat]? = some (some d) ∧ d.bandwidth = Bandwidth._125KHz))
    (hsel : @Gen.PlanSelectFn.FixedChannelPlan.select_tx_channel σ (rngOf g) (fuelOf loopFuel) (fregOf rs.id) (walkOps g) p s dr .Data
      = some (tx, p', s')) :
    getDatarate rs.id tx.dr.toInt.toNat = some tx.datarate ∧
    ChannelLegal { rs with plan := .fix (fixOf p') } .data (txOf tx) ∧
    (isUplinkDatarate rs.id dr.toInt.toNat = true → isUplinkDatarate rs.id tx.dr.toInt.toNat = true) := by
  rcases hcase with ⟨hb, hen⟩ | ⟨hb, ch, jc', s1, d, hfd, hen, hd, hbw⟩
  · exact legal_of_tie (fun q => .fix (fixOf q)) g rs dr .data s s' tx p' _ (tieA_fixed_select_data_biased g rs p hplan hw hm dr s hb hen) hwf hsel
  · exact legal_of_tie (fun q => .fix (fixOf q)) g rs dr .data s s' tx p' _
      (tieA_fixed_select_data_pref_partial g rs p hplan hw.1 hm dr s hb ch jc' s1 d hfd hen hd hbw) hwf hsel

#print axioms tieA_fixed_select_data_legal_partial

end C09
