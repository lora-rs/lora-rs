import LoraVerif.Props.TieA.HandleMacsRxParam
/-!
# Tie A for `Session::handle_downlink_macs` — the LinkADRReq block arm

One iteration of the regenerated dispatch loop (`Gen/SessionMacs.lean`) on a LinkADRReq is the model's handling of
that command inside its block (`adrStepModel` = the `0x03` arm of `handleCmds`, `handleCmds_adr_cons`, both in
`Lemmas/HandleCmds.lean`); what the block does in LoRaWAN terms is at `C08.tieA_link_adr_block` (`HandleMacsLoop.lean`).
While the next command is another LinkADRReq only the block state moves (`adr_step_more`).  On the last command the
model's decision is followed step by step (`adr_finish`: power, verdict on the mask, then the `n` identical answers,
`Rt.forRangeM` against the model's `foldl` over `List.range n`: `push_loop`, `adr_close`).
-/
set_option linter.unusedSimpArgs false
namespace TieA.Macs
open Model Gen.Region

/-- `n` pushes of the same one-byte answer through `Rt.forRangeM` = the model's fold over `List.range n` -/
theorem push_loop (cid b : Int) (cidN ansN : Nat) (hc : cid.toNat = cidN) (hb : b.toNat = ansN)
    (f : Int → Gen.SessionRx.Session × Bool → Option (Gen.SessionRx.Session × Bool))
    (hf : ∀ i s fl, f i (s, fl) = (Gen.SessionMacs.push_answer s.uplink fl ⟨cid, [b], 1⟩).bind fun x => some ({ s with uplink := x.1 }, x.2)) :
    ∀ (k : Nat) (i : Int) (gs : Gen.SessionRx.Session) (full : Bool) (c : MacCtx),
      c.pending = Rx.natsOf gs.uplink.pending → c.full = full → gs.uplink.pending.length ≤ 15 →
      ∃ pend', Rt.forRangeM.go f k i (gs, full)
          = some ({ gs with uplink := { gs.uplink with pending := pend' } }, ((List.range k).foldl (fun c _ => c.push cidN [ansN]) c).full) ∧
        ((List.range k).foldl (fun c _ => c.push cidN [ansN]) c).pending = Rx.natsOf pend' ∧ pend'.length ≤ 15 ∧
        ((List.range k).foldl (fun c _ => c.push cidN [ansN]) c).cfg = c.cfg ∧
        ((List.range k).foldl (fun c _ => c.push cidN [ansN]) c).region = c.region := by
  intro k
  induction k with
  | zero =>
    intro i gs full c hp hfl hq
    exact ⟨gs.uplink.pending, by simp [Rt.forRangeM.go, hfl], by simpa using hp, hq, rfl, rfl⟩
  | succ k ih =>
    intro i gs full c hp hfl hq
    obtain ⟨u', h1, h2, h3, h4, -⟩ := C08.tieA_push_answer gs.uplink full
      (⟨cid, [b], 1⟩ : Gen.SessionMacs.SerializableMacCommand) rfl hq (by simp) c hp hfl
    have e : Rx.natsOf [b] = [ansN] := by simp [Rx.natsOf, hb]
    simp only [e, hc] at h1 h2
    obtain ⟨pend', g1, g2, g3, -⟩ := ih (i + 1) { gs with uplink := u' } (c.push cidN [ansN]).full (c.push cidN [ansN]) h2 rfl h4
    refine ⟨pend', ?_, ?_, g3, foldl_push_cfg (fun _ => (cidN, [ansN])) _ c⟩
    · rw [Rt.forRangeM.go, hf, h1]
      simp only [Option.bind_some]
      rw [g1, foldl_range_succ]
      simp only [h3]
    · rw [foldl_range_succ]; exact g2

/-- configuration after the decision: data rate and power stored iff all three acknowledged -/
def decideCfg (cfg : Config) : Bool → Option Nat → Option (Option Nat) → Config
  | true, some d, some p => { cfg with dataRate := d, txPower := p }
  | _, _, _ => cfg

/-- region after the decision: the working copy becomes the mask in force iff all three acknowledged -/
def decideReg (region : RegionState) (mask : Mask) : Bool → Option Nat → Option (Option Nat) → RegionState
  | true, some _, some _ => channelMaskSet region mask
  | _, _, _ => region

/-- the model's context after the decision, before the answers are pushed -/
def decided (c : MacCtx) (mask : Mask) (ack : Bool) (dr : Option Nat) (pw : Option (Option Nat)) : MacCtx :=
  { cfg := decideCfg c.cfg ack dr pw, region := decideReg c.region mask ack dr pw, pending := c.pending, full := c.full }

def adrAns (cm dr pw : Bool) : Nat := (if cm then 1 else 0) + (if dr then 2 else 0) + (if pw then 4 else 0)

theorem linkAdrCmAck_eq (region : RegionState) (mask : Mask) (rfu : Bool) (dr : Option DR) :
    linkAdrCmAck region mask rfu (dr.map fun d => d.toInt.toNat) = if rfu then .ok false else channelMaskValidate region mask dr := by
  cases dr with
  | none => simp [linkAdrCmAck, bind, Except.bind, pure, Except.pure]
  | some d => simp [linkAdrCmAck, drOfNat_toInt, bind, Except.bind, pure, Except.pure]

theorem drg_post (x : DR) (hx : x ≠ ._15) (cfg : Config) (r : RegionId) :
    (if isUplinkDatarate r x.toInt.toNat = true then some x else none).map (fun d => d.toInt.toNat) = linkAdrDr cfg r x.toInt.toNat := by
  have h : (x.toInt.toNat == 15) = false := by cases x <;> first | rfl | exact absurd rfl hx
  simp only [linkAdrDr, h, Bool.false_eq_true, if_false]
  split <;> rfl

theorem pw_post (x : DR) (hx : x ≠ ._15) (cfg : Config) (r : RegionId) :
    (((txPowerAdjust r x.toInt.toNat).toOption.map fun r => r.map fun v => some (v : Int)).map
        fun r => r.map (fun o => o.map Int.toNat)) = (linkAdrPw cfg r x.toInt.toNat).toOption := by
  have h : (x.toInt.toNat == 15) = false := by cases x <;> first | rfl | exact absurd rfl hx
  simp only [linkAdrPw, h, Bool.false_eq_true, if_false, bind, Except.bind]
  cases txPowerAdjust r x.toInt.toNat with
  | error e => rfl
  | ok v => cases v <;> simp [Except.toOption, pure, Except.pure]

/-- `if let Some(LinkADRReq(..)) = cmd_iter.peek()` -/
def isAdr : Option Gen.SessionMacs.DownlinkMacCommand → Bool
  | some (.LinkADRReq _) => true
  | _ => false

/-- a step inside a LinkADR block: `Out`, and the block state the model's -/
def AdrOut (gs : Gen.SessionRx.Session)
    (o : Gen.SessionRx.Session × Gen.SessionRx.Configuration × RegionState × Bool × Gen.SessionMacs.ChannelMask × Int × Bool)
    (r : MacCtx × Mask × Bool × Nat) : Prop :=
  Out gs (o.1, o.2.1, o.2.2.1, o.2.2.2.1) r.1 ∧ o.2.2.2.2 = (maskOf r.2.1, (r.2.2.2 : Int), r.2.2.1)

/-- closing step of the block arm: the `for` loop of identical answers, then the reset of the block state -/
theorem adr_close {gs : Gen.SessionRx.Session} {full : Bool} (c : MacCtx) {g' : Gen.SessionRx.Configuration}
    (hrel : Rel gs g' full c) (hq : gs.uplink.pending.length ≤ 15) (b : Int) {ansN : Nat} (hb : b.toNat = ansN) (k : Nat)
    (F : Int → Gen.SessionRx.Session × Bool → Option (Gen.SessionRx.Session × Bool))
    (hF : ∀ i s fl, F i (s, fl) = (Gen.SessionMacs.push_answer s.uplink fl ⟨3, [b], 1⟩).bind fun x => some ({ s with uplink := x.1 }, x.2))
    {rs' : RegionState} (hr : c.region = rs') :
    Tie (AdrOut gs)
      ((Rt.forRangeM 0 ((k : Int) + 1) F (gs, full)).bind fun x =>
        some (x.fst, g', rs', x.snd, Gen.SessionMacs.MacRegionOps.channel_mask_get rs', (0 : Int), false))
      (.ok ((List.range (k + 1)).foldl (fun c _ => c.push 3 [ansN]) c,
        channelMaskGet ((List.range (k + 1)).foldl (fun c _ => c.push 3 [ansN]) c).region, false, 0)) := by
  obtain ⟨pend', h1, h2, h3, h4, h5⟩ := push_loop 3 b 3 ansN rfl hb F hF (k + 1) 0 gs full c hrel.pending hrel.full hq
  have hk : ((k : Int) + 1 - 0).toNat = k + 1 := by omega
  subst hr
  simp only [Rt.forRangeM, hk, h1, Option.bind_some]
  exact Tie.pure ⟨Out.iff.2 ⟨pend', g', by rw [h5], h2, h4.trans hrel.cfg, h3⟩, by rw [h5]; rfl⟩

/-- what one iteration of the generated loop must do on a LinkADRReq with lookahead `peek`: the model's step on the
context and the block state (working mask, counter, RFU flag), nothing of the session touched but the answer
queue, a panic on one side iff on the other -/
def AdrStepTie (snr : Int) (p : List Nat) (peek : Option Gen.SessionMacs.DownlinkMacCommand) : Prop :=
  ∀ (gs : Gen.SessionRx.Session) (g : Gen.SessionRx.Configuration) (full : Bool) (mask : Mask) (nA : Nat) (rfu : Bool) (c : MacCtx),
    Rel gs g full c → gs.uplink.pending.length ≤ 15 → nA < 2147483647 →
    match adrStepModel p (isAdr peek) c mask rfu nA with
    | .error _ => Gen.SessionMacs.Session.handle_downlink_macs.while_step snr gs g c.region full (maskOf mask) nA rfu (decCmd (3, p)) peek = none
    | .ok r => ∃ pend' g', Gen.SessionMacs.Session.handle_downlink_macs.while_step snr gs g c.region full (maskOf mask) nA rfu (decCmd (3, p)) peek
          = some ({ gs with uplink := { gs.uplink with pending := pend' } }, g', r.1.region, r.1.full, maskOf r.2.1, (r.2.2.2 : Int), r.2.2.1) ∧
        r.1.pending = Rx.natsOf pend' ∧ r.1.cfg = Rx.cfgOf g' ∧ pend'.length ≤ 15

/-- `AdrStepTie` in the calculus -/
structure AdrStepSim (snr : Int) (p : List Nat) (peek : Option Gen.SessionMacs.DownlinkMacCommand) : Prop where
  tie : ∀ ⦃gs : Gen.SessionRx.Session⦄ ⦃g : Gen.SessionRx.Configuration⦄ ⦃full : Bool⦄ ⦃c : MacCtx⦄ (mask : Mask) (nA : Nat) (rfu : Bool),
    Rel gs g full c → gs.uplink.pending.length ≤ 15 → nA < 2147483647 →
    Tie (AdrOut gs)
      (Gen.SessionMacs.Session.handle_downlink_macs.while_step snr gs g c.region full (maskOf mask) nA rfu (decCmd (3, p)) peek)
      (adrStepModel p (isAdr peek) c mask rfu nA)

theorem AdrStepTie.of_sim {snr : Int} {p : List Nat} {peek : Option Gen.SessionMacs.DownlinkMacCommand}
    (h : AdrStepSim snr p peek) : AdrStepTie snr p peek := by
  intro gs g full mask nA rfu c hrel hq hn
  have := h.tie mask nA rfu hrel hq hn
  split <;> rename_i e <;> rw [e] at this
  · exact Tie.error_iff.1 this
  · exact Out.spelt (π := fun r : MacCtx × Mask × Bool × Nat => r.1) (blk := fun r => (maskOf r.2.1, (r.2.2.2 : Int), r.2.2.1)) this

/-- the end of a block along the model: the power, the verdict on the mask, then whatever the generated code does with the
two (`K`), which is `hK`'s business.  `PW`, `A`, `K` are found by unification, so the lemma reads the ORDER of the two
generated steps and nothing of how either is spelt. -/
theorem adr_finish {gs : Gen.SessionRx.Session} {c : MacCtx} (m1 : Mask) (r : Bool) (b0 b1 b2 b3 nA : Nat)
    {PW : Option (Option (Option Int))} {A : Option Bool}
    {K : Option (Option Int) → Bool →
      Option (Gen.SessionRx.Session × Gen.SessionRx.Configuration × RegionState × Bool × Gen.SessionMacs.ChannelMask × Int × Bool)}
    (hPW : Tie (fun pw pwm => pwm = pw.map fun o => o.map Int.toNat) PW (linkAdrPw c.cfg c.region.id (b0 % 16)))
    (hA : Tie (fun a b => b = a) A (linkAdrCmAck c.region m1 r (linkAdrDr c.cfg c.region.id (b0 / 16))))
    (hK : ∀ (pw : Option (Option Int)) (ack : Bool), Tie (AdrOut gs) (K pw ack)
      (.ok ((List.range (nA + 1)).foldl (fun (x : MacCtx) _ => x.push 3 [adrAns ack (linkAdrDr c.cfg c.region.id (b0 / 16)).isSome pw.isSome])
          (decided c m1 ack (linkAdrDr c.cfg c.region.id (b0 / 16)) (pw.map fun o => o.map Int.toNat)),
        channelMaskGet ((List.range (nA + 1)).foldl (fun (x : MacCtx) _ => x.push 3 [adrAns ack (linkAdrDr c.cfg c.region.id (b0 / 16)).isSome pw.isSome])
          (decided c m1 ack (linkAdrDr c.cfg c.region.id (b0 / 16)) (pw.map fun o => o.map Int.toNat))).region, false, 0))) :
    Tie (AdrOut gs) (PW.bind fun pw => A.bind fun ack => K pw ack)
      (finishLinkAdrBlock c m1 r (nA + 1) [b0, b1, b2, b3] >>= fun c' => pure (c', channelMaskGet c'.region, false, 0)) := by
  simp only [finishLinkAdrBlock, linkAdrDecide, byteAt, List.getElem?_cons_zero, ok_bind, bind_assoc]
  refine hPW.bind fun pw pwm hp => hA.bind fun a b ha => ?_
  subst hp ha
  generalize linkAdrDr c.cfg c.region.id (b0 / 16) = dr at hK ⊢
  cases b <;> cases dr <;> cases pw <;> exact hK _ _

-- `adr_open` / `adr_tail` are unhygienic: they introduce, and the arm proofs and `adr_tail` use BY NAME, `gs g full c mask nA rfu
-- hrel hq hn upd`, and they read the theorem's binders `b0 b1 b2 b3`; renaming any of these breaks the three of them together.
-- `adr_open`: both sides up to the region's `channel_mask_update` and past its failure.
set_option hygiene false in
macro "adr_open" : tactic => `(tactic| (
  refine ⟨fun gs g full c mask nA rfu hrel hq hn => ?_⟩
  have hck : Rt.ck .i32 ((nA : Int) + 1) = some ((nA : Int) + 1) := Rt.ck_i32 (by omega) (by omega)
  simp only [adrStepModel, byteAt, List.getElem?_cons_zero, List.getElem?_cons_succ, ok_bind, bind_assoc, pure_bind]
  unfold Gen.SessionMacs.Session.handle_downlink_macs.while_step
  simp only [decCmd, hck, Option.bind_eq_bind, Option.bind_some, Gen.SessionMacs.MacRegionOps.channel_mask_update,
    Int.toNat_natCast, natsOf_maskOf]
  rcases hU : channelMaskUpdate c.region mask (b3 / 16 % 8) b1 b2 with e | upd
  · simp [Except.toOption, bind, Except.bind, Tie.error_iff]
  simp only [Except.toOption, Option.map_some, Option.bind_some, ok_bind]
  clear hU))

/-- normalisation after the case split on the update's verdict and on the RFU flag (both literals then) -/
macro "adr_norm" : tactic => `(tactic|
  simp only [isAdr, Option.isNone_none, Option.isNone_some, Bool.false_eq_true, if_false, if_true, Bool.not_true, Bool.not_false,
    Gen.SessionMacs.LinkADRAnsCreator.new, Gen.SessionMacs.LinkADRAnsCreator.set_channel_mask_ack,
    Gen.SessionMacs.LinkADRAnsCreator.set_data_rate_ack, Gen.SessionMacs.LinkADRAnsCreator.set_tx_power_ack])

-- The end of a block with working mask `m1` and RFU flag `r` after the update.  The idea of the step: the two nibbles of the
-- command select a data rate and a power exactly as the model's `linkAdrDr` / `linkAdrPw` do (`hDm`, `hPm`, by a case split on
-- the nibble's `DR` value); the verdict on the mask is the model's `linkAdrCmAck` (`linkAdrCmAck_eq`); and for every outcome
-- of the three the generated store-all-or-nothing and the `n` answers are `decided` followed by the pushes (`adr_close`).
-- A macro, not a lemma: what it does before
-- `adr_finish` names the two `match`es of the generated code on the data-rate and power nibbles (`gen_match`), which a lemma
-- would have to spell; `adr_finish` then finds the two steps and the rest by unification, whatever their spelling.
set_option hygiene false in
macro "adr_tail " m1:term:max r:term:max : tactic => `(tactic| (
  adr_norm
  gen_match (drOfNatT (b0 % 16)) as PW hPW
  gen_match (drOfNatT (b0 / 16)) as DRG hDRG
  have hDm : DRG.map (fun d => d.toInt.toNat) = linkAdrDr c.cfg c.region.id (b0 / 16) := by
    have hxk := drOfNatT_toInt (b0 / 16) (by omega)
    generalize drOfNatT (b0 / 16) = x at hDRG hxk
    rw [← hDRG, ← hxk]
    cases x <;> first
      | (simp only [Gen.SessionMacs.MacRegionOps.is_uplink_datarate, wrap_dr]; exact drg_post _ (by decide) _ _)
      | (simp [linkAdrDr, hrel.cfg, Rx.cfgOf, show DR._15.toInt.toNat = 15 from rfl]; done)
  have hPm : PW.map (fun r => r.map (fun o => o.map Int.toNat)) = (linkAdrPw c.cfg c.region.id (b0 % 16)).toOption := by
    have hxk := drOfNatT_toInt (b0 % 16) (by omega)
    generalize drOfNatT (b0 % 16) = x at hPW hxk
    rw [← hPW, ← hxk]
    cases x <;> first
      | (simp only [Gen.SessionMacs.MacRegionOps.check_tx_power, wrap_dr]; exact pw_post _ (by decide) _ _)
      | (simp [linkAdrPw, hrel.cfg, Rx.cfgOf, Except.toOption, pure, Except.pure, show DR._15.toInt.toNat = 15 from rfl]; done)
  clear hPW hDRG
  refine adr_finish $m1 $r b0 b1 b2 b3 nA (Tie.iff_map.2 hPm) ?_ fun pw ack => ?_
  · rw [← hDm, linkAdrCmAck_eq]
    by_cases hr : $r = true <;>
      simp [hr, Gen.SessionMacs.MacRegionOps.channel_mask_validate, natsOf_maskOf, Tie.toOption, Tie.ok_iff]
  · rw [← hDm]
    refine adr_close (decided c $m1 ack _ _) ⟨?_, hrel.pending, hrel.full⟩ hq _ ?_ nA _ (fun i s fl => rfl) ?_
    · cases ack <;> cases DRG <;> cases pw <;> simp [decided, decideCfg, Rx.cfgOf, hrel.cfg]
    · cases ack <;> cases DRG <;> cases pw <;> rfl
    · cases ack <;> cases DRG <;> cases pw <;> simp [decided, decideReg, Gen.SessionMacs.MacRegionOps.channel_mask_set, natsOf_maskOf]))

/-- the last LinkADRReq of a block, stated for no lookahead: for a lookahead that is another command the statement
is the same after the matcher of `isAdr` and the generated `match cmd_iter_peek` reduce, which is how
`tieA_step_link_adr` uses it -/
theorem adr_step_last (snr : Int) (b0 b1 b2 b3 : Nat) (h0 : b0 < 256) : AdrStepSim snr [b0, b1, b2, b3] none := by
  adr_open
  cases upd with
  | none => adr_tail mask true
  | some m' => adr_tail m' rfu

/-- a LinkADRReq followed by another one: counter, working mask and RFU flag move, nothing else -/
theorem adr_step_more (snr : Int) (b0 b1 b2 b3 : Nat) (a : Gen.SessionMacs.LinkADRReqPayload) :
    AdrStepSim snr [b0, b1, b2, b3] (some (.LinkADRReq a)) := by
  adr_open
  cases upd <;> cases rfu <;> adr_norm <;> exact Tie.pure ⟨Out.refl hrel hq, by simp⟩

theorem tieA_step_link_adr (snr : Int) (b0 b1 b2 b3 : Nat) (h0 : b0 < 256) (peek : Option Gen.SessionMacs.DownlinkMacCommand) :
    AdrStepSim snr [b0, b1, b2, b3] peek := by
  cases peek with
  | none => exact adr_step_last snr b0 b1 b2 b3 h0
  | some cmd =>
    cases cmd with
    | LinkADRReq a => exact adr_step_more snr b0 b1 b2 b3 a
    | _ => exact ⟨(adr_step_last snr b0 b1 b2 b3 h0).tie⟩

#print axioms tieA_step_link_adr
#print axioms push_loop
end TieA.Macs
