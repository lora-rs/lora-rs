import LoraVerif.Model.Mac
import LoraVerif.Gen.OtaaFn
/-!
# Tie A for a whole stateful method: `Otaa::handle_rx` (the join step, C11)

`Gen/OtaaFn.lean` holds the state-passing translation of
`Otaa::handle_rx(&mut self, region, configuration, rx) -> Option<Session>` together with
`Session::derive_new`, `Session::new`, `DLSettings::{rx1_dr_offset, rx2_data_rate}` and
`del_to_delay_ms`.  Abstract in the translation (inputs of the theorem): the crypto
(`check_mic_and_decrypt_in_place` is what the buffer yields under a key, the two key derivations are
functions of the decrypted view) and the region (`RegionOps`: the three methods the join step calls,
instantiated here with the hand model's `processJoinAccept`, `rx1DrOffsetValidate`, `getDatarate`).

`tieA_otaa_handle_rx` proves the generated method equal to the model's `Mac::handle_rx` on a joining
device (`macHandleRx` → `otaaAccept`): same answer (a session iff the MIC verifies), same new session
(every field: keys and address from the view, counters 0, nothing pending, no ACK owed), same
configuration (RxDelay 0 → 1 s, RX1DROffset / RX2 data rate stored iff the region accepts them), same
region state (CFList handed over first), no panic on one side iff none on the other.
-/
set_option linter.unusedSimpArgs false
namespace TieA.OtaaRx
open Model Gen.Region

/-- the model's CFList for the parser's -/
def cfOf : Gen.OtaaFn.CfList → CfList
  | .DynamicChannel fs => .dynamicChannel (fs.map Int.toNat)
  | .FixedChannel m => .fixedChannel (m.map Int.toNat)

/-- the region of the generated code IS the model's region state: the three methods the join step
calls are the model's (`none` = the model's panic) -/
instance : Gen.OtaaFn.RegionOps RegionState where
  process_join_accept rs cf := (processJoinAccept rs (cf.map cfOf)).toOption
  rx1_dr_offset_validate rs v := (rx1DrOffsetValidate rs.id v.toNat).map Int.ofNat
  get_datarate rs dr := getDatarate rs.id dr.toNat

/-- the model configuration a generated `Configuration` stands for -/
def cfgOf (g : Gen.OtaaFn.Configuration) : Config :=
  { dataRate := g.data_rate.toInt.toNat, rx1Delay := g.rx1_delay.toNat, txPower := g.tx_power.map Int.toNat,
    rx1DrOffset := g.rx1_dr_offset.toNat, rx2DataRate := g.rx2_data_rate.map (fun d => d.toInt.toNat),
    rx2Frequency := g.rx2_frequency.map Int.toNat, adrEnabled := g.adr_enabled }

/-- the model session a generated `Session` stands for — every field -/
def sessOf (g : Gen.OtaaFn.Session) : Session :=
  { pending := g.uplink.pending.map Int.toNat, ackOwed := g.uplink.confirmed, confirmed := g.confirmed,
    devAddr := g.devaddr.id.toNat, fcntUp := g.fcnt_up.toNat, fcntDown := g.fcnt_down.map Int.toNat,
    adrAckCnt := g.adr_ack_cnt.toNat, nwkKey := g.nwkskey.id.toNat, appKey := g.appskey.id.toNat }

/-- the crypto context `Otaa::handle_rx` must use: bound to the device's AppKey -/
def cryptoOf (o : Gen.OtaaFn.Otaa) : Gen.OtaaFn.DefaultCrypto := ⟨o.network_credentials.appkey.inner⟩

/-- the decoded view the model receives: what the buffer yields under the device's AppKey; the key
identities are the derivations under the DevNonce of the pending request and that same key -/
def viewOf (o : Gen.OtaaFn.Otaa) (rx : Gen.OtaaFn.RadioBuffer) : RxView :=
  match rx.as_mut_for_read.check_mic_and_decrypt_in_place (cryptoOf o) with
  | none => .garbage
  | some d => .joinAccept
      { micOk := true, devAddr := d.dev_addr.id.toNat, dlSettings := d.dl_settings._0.toNat, rxDelay := d.rx_delay.toNat,
        cfList := d.c_f_list.map cfOf, nwkKey := (d.derive_nwkskey o.dev_nonce (cryptoOf o)).id.toNat,
        appKey := (d.derive_appskey o.dev_nonce (cryptoOf o)).id.toNat }

/-- the fields of the decrypted view are within their wire widths (one octet of DLSettings, the low
nibble of RxDelay — `rx_delay()` masks it) -/
def ViewWF (o : Gen.OtaaFn.Otaa) (rx : Gen.OtaaFn.RadioBuffer) : Prop :=
  ∀ d, rx.as_mut_for_read.check_mic_and_decrypt_in_place (cryptoOf o) = some d →
    0 ≤ d.dl_settings._0 ∧ d.dl_settings._0 ≤ 255 ∧ 0 ≤ d.rx_delay ∧ d.rx_delay ≤ 15

/-- the MAC state after the generated method: configuration and region written back, the state
`Joined(session)` iff a session was returned (that is `Mac::handle_rx`'s wrapper around it) -/
def macAfter (m : MacState) (out : Option Gen.OtaaFn.Session × Gen.OtaaFn.Otaa × RegionState × Gen.OtaaFn.Configuration × Gen.OtaaFn.RadioBuffer) : MacState :=
  { m with cfg := cfgOf out.2.2.2.1, region := out.2.2.1,
           st := match out.1 with | some s => .joined (sessOf s) | none => m.st }

/-- DLSettings: RX1DROffset = bits 6..4, RX2 data rate = bits 3..0, for every octet -/
theorem dl_settings_fields : ∀ k : Fin 256,
    Gen.OtaaFn.DLSettings.rx1_dr_offset ⟨(k.val : Int)⟩ = some ((k.val / 16 % 8 : Nat) : Int) ∧
    (Gen.OtaaFn.DLSettings.rx2_data_rate ⟨(k.val : Int)⟩).map (fun d => Rt.wrap .u8 (DR.toInt d)) = some ((k.val % 16 : Nat) : Int) ∧
    (Gen.OtaaFn.DLSettings.rx2_data_rate ⟨(k.val : Int)⟩).map (fun d => d.toInt.toNat) = some (k.val % 16) := by
  decide +kernel

/-- `del_to_delay_ms` as this unit regenerates it is the one the model calls, and total on a nibble -/
theorem del_fields : ∀ k : Fin 16,
    Gen.OtaaFn.del_to_delay_ms (k.val : Int) = Gen.Session.del_to_delay_ms (k.val : Int) ∧
    ∃ v : Nat, Gen.Session.del_to_delay_ms (k.val : Int) = some (v : Int) := by
  intro k
  refine ⟨by revert k; decide +kernel, ?_⟩
  have : ∀ k : Fin 16, (Gen.Session.del_to_delay_ms (k.val : Int)).isSome ∧ ∀ v, Gen.Session.del_to_delay_ms (k.val : Int) = some v → 0 ≤ v := by
    decide +kernel
  obtain ⟨h1, h2⟩ := this k
  obtain ⟨v, hv⟩ := Option.isSome_iff_exists.mp h1
  exact ⟨v.toNat, by rw [hv, Int.toNat_of_nonneg (h2 v hv)]⟩

theorem toOption_bind {α β} (x : M α) (f : α → M β) :
    (x >>= f).toOption = x.toOption.bind (fun a => (f a).toOption) := by
  cases x <;> rfl

/-- `Otaa::handle_rx` (state-passing translation, checked arithmetic; crypto
and region abstract) is the model's `Mac::handle_rx` on a joining device: the answer is a session
exactly when the model answers `JoinSuccess`, the MAC state afterwards (configuration, region,
`Joined(session)` with every session field) is the model's, a panic on one side is a panic on the
other, and the `Otaa` value and the buffer view are left as they were -/
theorem tieA_otaa_handle_rx (m : MacState) (st : OtaaState) (o : Gen.OtaaFn.Otaa) (g : Gen.OtaaFn.Configuration)
    (rx : Gen.OtaaFn.RadioBuffer) (maxPayload : Nat) (snr : Int)
    (hst : m.st = .otaa st) (hcfg : m.cfg = cfgOf g) (hwf : ViewWF o rx) :
    (Gen.OtaaFn.Otaa.handle_rx o m.region g rx).map
        (fun out => ((if out.1.isSome then Response.joinSuccess else Response.noUpdate), macAfter m out, out.2.1, out.2.2.2.2))
      = (macHandleRx m (viewOf o rx) maxPayload snr false).toOption.bind
          (fun r => r.1.map (fun ro => (ro.resp, r.2, o, rx))) := by
  unfold Gen.OtaaFn.Otaa.handle_rx
  -- `try`: a `simp only` over the unit's helper methods; it would fail under a respelling that leaves none of them here
  try gen_unfold_methods_OtaaFn
  simp only [viewOf, cryptoOf, macHandleRx, hst, Gen.OtaaFn.DefaultCrypto.new]
  cases hd : rx.as_mut_for_read.check_mic_and_decrypt_in_place ⟨o.network_credentials.appkey.inner⟩ with
  | none =>
    simp only [Option.pure_def, Option.map_some, Option.isSome_none, Bool.false_eq_true, if_false, macAfter, ← hcfg]
    cases m; simp_all [Except.toOption, pure, Except.pure]
  | some d =>
    obtain ⟨h1, h2, h3, h4⟩ := hwf d hd
    obtain ⟨cf, rd, ⟨dl⟩, da, dn, dap⟩ := d
    simp only at h1 h2 h3 h4
    obtain ⟨dlN, rfl⟩ : ∃ n : Nat, dl = (n : Int) := ⟨dl.toNat, by omega⟩
    obtain ⟨rdN, rfl⟩ : ∃ n : Nat, rd = (n : Int) := ⟨rd.toNat, by omega⟩
    have hdl : dlN < 256 := by omega
    have hrd : rdN < 16 := by omega
    obtain ⟨e1, e2, e3⟩ := dl_settings_fields ⟨dlN, hdl⟩
    obtain ⟨e4, v, e5⟩ := del_fields ⟨rdN, hrd⟩
    simp only at e1 e2 e3 e4 e5
    simp only [if_true, otaaAccept, toOption_bind, Gen.OtaaFn.RegionOps.process_join_accept,
      Gen.OtaaFn.RegionOps.rx1_dr_offset_validate, Gen.OtaaFn.RegionOps.get_datarate, Int.toNat_natCast,
      Option.bind_eq_bind, Option.pure_def, delToDelayMs, Nat.mod_eq_of_lt hrd, e4, e5, e1, ofGen]
    cases hp : processJoinAccept m.region (cf.map cfOf) with
    | error e => simp [Except.toOption, bind, Except.bind]
    | ok rs' =>
      cases hr2 : Gen.OtaaFn.DLSettings.rx2_data_rate ⟨(dlN : Int)⟩ with
      | none => rw [hr2] at e3; simp at e3
      | some dr =>
        rw [hr2] at e2 e3
        simp only [Option.map_some, Option.some.injEq] at e2 e3
        simp only [Except.toOption, Option.bind_some, bind, Except.bind, pure, Except.pure, Option.map_some, e2,
          Int.toNat_natCast, Option.isSome_some, if_true, Gen.OtaaFn.Session.derive_new, Gen.OtaaFn.Session.new]
        gen_unfold_helpers_OtaaFn
        cases hv : rx1DrOffsetValidate rs'.id (dlN / 16 % 8) <;> cases hg : (getDatarate rs'.id (dlN % 16)).isSome <;>
          simp [macAfter, cfgOf, sessOf, Session.new, hcfg, hv, hg, e3]

/-- a decrypted view: DLSettings 0x23 (offset 2, RX2 DR3), RxDelay 0, no CFList -/
def exView : Gen.OtaaFn.DecryptedJoinAcceptPayload :=
  ⟨none, 0, ⟨0x23⟩, ⟨0x01020304⟩, fun n c => ⟨n.value + c.key.id⟩, fun n c => ⟨2 * n.value + c.key.id⟩⟩
/-- a buffer that verifies under key 7 only -/
def exRx : Gen.OtaaFn.RadioBuffer := ⟨⟨fun c => if c.key.id = 7 then some exView else none⟩⟩

/-- non-vacuity: EU868, DLSettings 0x23 (offset 2, RX2 DR3), RxDelay 0 → 1000 ms, session with counters 0 -/
example :
    (Gen.OtaaFn.Otaa.handle_rx ⟨⟨100⟩, ⟨⟨⟨7⟩⟩⟩⟩ (RegionState.init .EU868)
        ⟨._0, 5000, 5000, 6000, none, 0, none, none, true⟩ exRx).map
      (fun out => (out.1.map (fun s => (s.nwkskey.id, s.appskey.id, s.devaddr.id, s.fcnt_up, s.fcnt_down)),
        out.2.2.2.1.rx1_delay, out.2.2.2.1.rx1_dr_offset, out.2.2.2.1.rx2_data_rate))
      = some (some (107, 207, 0x01020304, 0, none), 1000, 2, some ._3) := by rfl

/-- non-vacuity: under another key the buffer does not verify — nothing is returned, nothing changes -/
example :
    (Gen.OtaaFn.Otaa.handle_rx ⟨⟨100⟩, ⟨⟨⟨8⟩⟩⟩⟩ (RegionState.init .EU868)
        ⟨._0, 5000, 5000, 6000, none, 0, none, none, true⟩ exRx).map (fun out => (out.1.isSome, out.2.2.2.1.rx1_delay))
      = some (false, 5000) := by decide

#print axioms tieA_otaa_handle_rx
end TieA.OtaaRx
