import LoraVerif.Props.TieA.C13Sx127
import LoraVerif.Lemmas.PhyRegs127
/-!
# C13, tie A for the SX127x command encoders, part 2: `set_packet_params` and
`set_modulation_params` of `Sx127x` with the variant functions of `Sx1276` / `Sx1272`

The proofs walk through both programs one register access at a time (`tie_rd`, `tie_wr`, `tie_call` of
`C13Sx127.lean`, over `tie_read` / `tie_write` of `Lemmas/PhyTieA127.lean`): a read is compared for every byte the chip may answer, a write needs the
two sides to have computed the same byte (`tie_val`: `Rt`'s integer operations and the model's
`UInt8` operations meet in `Nat`; the SF / BW / CR codes stay variables, `wrap_mul_val`).  Both programs are put
in bind-normal form once (`tie_norm`), so that a step only instantiates a continuation.  An optional block (a
one-armed `if`, an errata block) stays in front of what follows it on both sides (`Prog.ite_seq`,
`Sx127x.variantSetModulationParams_1276`) and is tied by itself (`tie_bind`); what follows is stepped through once.
The `_1276` / `_1272` theorems of a method repeat one script: the two units are distinct generated definitions with
types of their own, so a shared lemma would have to state the generated text.
-/
open Model.Phy TieA.Phy Gen.PhyCodes127
set_option linter.unusedSimpArgs false  -- as in `C13Sx127.lean`: the step macros' lists

namespace C13

/-- the remaining register accesses when every value is concrete: whichever step applies, until the programs end -/
macro "tie_auto" : tactic => `(tactic| (
  repeat (first | exact tie_done _ _ | tie_rd | (tie_wr_end; tie_val []) | (tie_wr; tie_val []))))

/-- `Sx127x::<Sx1276>::set_packet_params` IS the model's `setPacketParams` on an SX1276: preamble length (two
registers), the variant's header / CRC bits, RegPayloadLength in implicit-header mode, RegInvertiq / RegInvertiq2 —
every preamble, flag, length below 256, chip content and prefix. -/
theorem tieA_set_packet_params_1276 (cfg : Sx127x.Config) (hc : cfg.chip = .sx1276) (d : Gen.PhyEnc1276.Sx1276Data)
    (p : PacketParams) (hlen : p.payloadLength < 256) (c : Chip) (log : List Rt.Phy.Ev) :
    view id (Gen.PhyEnc1276.Sx127x.set_packet_params ⟨genCfg1276 cfg, d⟩ (genPkt76 p) chipDev c log)
      = denote (Sx127x.setPacketParams cfg p) c log := by
  have hv := tieA_sx1276_set_packet_params ⟨genCfg1276 cfg, d⟩ cfg hc p
  obtain ⟨pre, ih, len, crc, iq⟩ := p
  simp only at hlen
  simp only [Gen.PhyEnc1276.Sx127x.set_packet_params, Sx127x.setPacketParams, genPkt76] at hv ⊢
  tie_norm [if_true]
  tie_wr
  · simp only [Int.reduceToNat, Int.reducePow, wrap_and255_div _ 256, hi8, UInt8.toNat_ofNat', Nat.reducePow, Nat.mod_mod]
  tie_wr
  · simp only [wrap_and255_nat, lo8, UInt8.toNat_ofNat', Nat.reducePow, Nat.mod_mod]
  tie_call (hv _ _)
  -- RegPayloadLength, in implicit-header mode only
  refine tie_bind id id _ _ _ _ _ _ ?_ (fun _ c2 log2 => ?_)
  · cases ih
    · rfl
    · simp only [if_true]
      tie_wr_end
      tie_val [Nat.mod_eq_of_lt hlen]
  tie_norm [if_true]
  cases iq <;> (tie_wr; (· tie_val [if_true]); tie_wr_end; tie_val [if_true])

#print axioms tieA_set_packet_params_1276

/-- `Sx127x::<Sx1272>::set_packet_params` IS the model's `setPacketParams` on an SX1272: preamble length (two
registers), the variant's header / CRC bits, RegPayloadLength in implicit-header mode, RegInvertiq / RegInvertiq2 —
every preamble, flag, length below 256, chip content and prefix. -/
theorem tieA_set_packet_params_1272 (cfg : Sx127x.Config) (hc : cfg.chip = .sx1272) 
    (p : PacketParams) (hlen : p.payloadLength < 256) (c : Chip) (log : List Rt.Phy.Ev) :
    view id (Gen.PhyEnc1272.Sx127x.set_packet_params ⟨genCfg1272 cfg⟩ (genPkt72 p) chipDev c log)
      = denote (Sx127x.setPacketParams cfg p) c log := by
  have hv := tieA_sx1272_set_packet_params ⟨genCfg1272 cfg⟩ cfg hc p
  obtain ⟨pre, ih, len, crc, iq⟩ := p
  simp only at hlen
  simp only [Gen.PhyEnc1272.Sx127x.set_packet_params, Sx127x.setPacketParams, genPkt72] at hv ⊢
  tie_norm [if_true]
  tie_wr
  · simp only [Int.reduceToNat, Int.reducePow, wrap_and255_div _ 256, hi8, UInt8.toNat_ofNat', Nat.reducePow, Nat.mod_mod]
  tie_wr
  · simp only [wrap_and255_nat, lo8, UInt8.toNat_ofNat', Nat.reducePow, Nat.mod_mod]
  tie_call (hv _ _)
  -- RegPayloadLength, in implicit-header mode only
  refine tie_bind id id _ _ _ _ _ _ ?_ (fun _ c2 log2 => ?_)
  · cases ih
    · rfl
    · simp only [if_true]
      tie_wr_end
      tie_val [Nat.mod_eq_of_lt hlen]
  tie_norm [if_true]
  cases iq <;> (tie_wr; (· tie_val [if_true]); tie_wr_end; tie_val [if_true])

#print axioms tieA_set_packet_params_1272

abbrev genMod76 (m : Sx127x.ModulationParams) : Gen.PhyEnc1276.ModulationParams :=
  { spreading_factor := m.sf, bandwidth := m.bw, coding_rate := m.cr, low_data_rate_optimize := m.ldro.toNat, frequency_in_hz := m.freq }
abbrev genMod72 (m : Sx127x.ModulationParams) : Gen.PhyEnc1272.ModulationParams :=
  { spreading_factor := m.sf, bandwidth := m.bw, coding_rate := m.cr, low_data_rate_optimize := m.ldro.toNat, frequency_in_hz := m.freq }

/-- the generated `Result`-valued code tables are the `Option`-valued ones the model reads -/
theorem gen_sf_value_1272 {σ : Type} (sf : SpreadingFactor) :
    (Gen.PhyEnc1272.spreading_factor_value sf : Rt.Phy.IoM Gen.PhyErr.RadioError σ Int) =
      match spreading_factor_value sf with | some v => pure v | none => Rt.Phy.throw .UnavailableSpreadingFactor := by
  cases sf <;> rfl
theorem gen_bw_value_1272 {σ : Type} (bw : Bandwidth) :
    (Gen.PhyEnc1272.Sx1272.bandwidth_value bw : Rt.Phy.IoM Gen.PhyErr.RadioError σ Int) =
      match Sx127x.bandwidthValue .sx1272 bw with | some v => pure v | none => Rt.Phy.throw .UnavailableBandwidth := by
  cases bw <;> rfl
theorem gen_cr_value_1272 {σ : Type} (cr : CodingRate) :
    (Gen.PhyEnc1272.coding_rate_value cr : Rt.Phy.IoM Gen.PhyErr.RadioError σ Int) =
      match coding_rate_value cr with | some v => pure v | none => Rt.Phy.throw .InvalidConfiguration := by
  cases cr <;> rfl
theorem gen_crd_value_1272 {σ : Type} (cr : CodingRate) :
    (Gen.PhyEnc1272.coding_rate_denominator_value cr : Rt.Phy.IoM Gen.PhyErr.RadioError σ Int) =
      match coding_rate_denominator_value cr with | some v => pure v | none => Rt.Phy.throw .InvalidConfiguration := by
  cases cr <;> rfl

/-- `Sx1272::set_modulation_params` IS the model's variant program: RegModemConfig1 (bandwidth code, coding rate, LDRO;
bits 2..1 kept) and RegModemConfig2 (spreading factor; low nibble kept) by read-modify-write, the `Err` of an
unavailable bandwidth / spreading factor before any request and of the coding rate after the first read — every
parameter record (any LDRO byte), chip content and prefix. -/
theorem tieA_sx1272_set_modulation_params (radio : Gen.PhyEnc1272.Sx127x) (cfg : Sx127x.Config) (hc : cfg.chip = .sx1272) (d : Sx127x.Data)
    (m : Sx127x.ModulationParams) (c : Chip) (log : List Rt.Phy.Ev) :
    view id (Gen.PhyEnc1272.Sx1272.set_modulation_params radio (genMod72 m) chipDev c log)
      = denote (Sx127x.variantSetModulationParams cfg d m) c log := by
  obtain ⟨chip, tcxo, boost, rxb⟩ := cfg
  simp only at hc; subst hc
  obtain ⟨sf, bw, cr, ldro, f⟩ := m
  simp only [Gen.PhyEnc1272.Sx1272.set_modulation_params, Sx127x.variantSetModulationParams, gen_sf_value_1272, gen_bw_value_1272,
    gen_cr_value_1272, Sx127x.errOr]
  cases hbw : Sx127x.bandwidthValue .sx1272 bw with
  | none => simp [view, radioErr]
  | some vbw =>
  cases hsf : spreading_factor_value sf with
  | none => simp [view, radioErr]
  | some vsf =>
  have hsfb : 6 ≤ vsf ∧ vsf ≤ 12 := by cases sf <;> cases hsf <;> decide
  have hbwb : 0 ≤ vbw ∧ vbw ≤ 2 := by cases bw <;> cases hbw <;> decide
  tie_norm [if_true]
  tie_rd
  cases hcr : coding_rate_value cr with
  | none => simp [view, radioErr]
  | some vcr =>
  have hcrb : 1 ≤ vcr ∧ vcr ≤ 4 := by cases cr <;> cases hcr <;> decide
  tie_norm [if_true]
  tie_wr
  · simp only [Int.reduceToNat, Int.reducePow]
    rw [wrap_mul_val _ _ (by omega) (by decide), wrap_mul_val _ _ (by omega) (by decide)]
    tie_val []
  tie_rd
  tie_wr_end
  · simp only [Int.reduceToNat, Int.reducePow]
    rw [wrap_mul_val _ _ (by omega) (by decide)]
    tie_val []

#print axioms tieA_sx1272_set_modulation_params

/-- `Sx127x::<Sx1272>::set_modulation_params` IS the model's `setModulationParams` on an SX1272: the three table
look-ups (their `Err` before any request), DetectionOptimize[2:0] by read-modify-write and DetectionThreshold
(0x05 / 0x0C for SF6, else 0x03 / 0x0A), then the variant's program. -/
theorem tieA_set_modulation_params_1272 (cfg : Sx127x.Config) (hc : cfg.chip = .sx1272) (d : Sx127x.Data)
    (m : Sx127x.ModulationParams) (c : Chip) (log : List Rt.Phy.Ev) :
    view id (Gen.PhyEnc1272.Sx127x.set_modulation_params ⟨genCfg1272 cfg⟩ (genMod72 m) chipDev c log)
      = denote (Sx127x.setModulationParams cfg d m) c log := by
  have hv := tieA_sx1272_set_modulation_params ⟨genCfg1272 cfg⟩ cfg hc d m
  obtain ⟨chip, tcxo, boost, rxb⟩ := cfg
  simp only at hc; subst hc
  obtain ⟨sf, bw, cr, ldro, f⟩ := m
  simp only [Gen.PhyEnc1272.Sx127x.set_modulation_params, Sx127x.setModulationParams, genMod72, gen_sf_value_1272, gen_bw_value_1272,
    gen_crd_value_1272, Sx127x.errOr] at hv ⊢
  cases hsf : spreading_factor_value sf with
  | none => simp [view, radioErr]
  | some vsf =>
  cases hbw : Sx127x.bandwidthValue .sx1272 bw with
  | none => simp [view, radioErr]
  | some vbw =>
  cases hcr : coding_rate_denominator_value cr with
  | none => simp [view, radioErr]
  | some vcr =>
  by_cases h6 : sf = ._6 <;> simp only [h6, if_true, if_false] at hv ⊢ <;>
  · tie_norm [if_true]
    tie_rd
    tie_wr
    · tie_val []
    tie_wr
    · tie_val []
    rw [bind_pure_unit]
    exact hv _ _

#print axioms tieA_set_modulation_params_1272
theorem gen_sf_value_1276 {σ : Type} (sf : SpreadingFactor) :
    (Gen.PhyEnc1276.spreading_factor_value sf : Rt.Phy.IoM Gen.PhyErr.RadioError σ Int) =
      match spreading_factor_value sf with | some v => pure v | none => Rt.Phy.throw .UnavailableSpreadingFactor := by
  cases sf <;> rfl
theorem gen_bw_value_1276 {σ : Type} (bw : Bandwidth) :
    (Gen.PhyEnc1276.Sx1276.bandwidth_value bw : Rt.Phy.IoM Gen.PhyErr.RadioError σ Int) =
      match Sx127x.bandwidthValue .sx1276 bw with | some v => pure v | none => Rt.Phy.throw .UnavailableBandwidth := by
  cases bw <;> rfl
theorem gen_crd_value_1276 {σ : Type} (cr : CodingRate) :
    (Gen.PhyEnc1276.coding_rate_denominator_value cr : Rt.Phy.IoM Gen.PhyErr.RadioError σ Int) =
      match coding_rate_denominator_value cr with | some v => pure v | none => Rt.Phy.throw .InvalidConfiguration := by
  cases cr <;> rfl

def genData76 (d : Sx127x.Data) : Gen.PhyEnc1276.Sx1276Data := ⟨d.sensitivityQuirk⟩

theorem tieA_sx1276_set_modulation_params (cfg : Sx127x.Config) (hc : cfg.chip = .sx1276) (d : Sx127x.Data)
    (m : Sx127x.ModulationParams) (c : Chip) (log : List Rt.Phy.Ev) :
    view id (Gen.PhyEnc1276.Sx1276.set_modulation_params ⟨genCfg1276 cfg, genData76 d⟩ (genMod76 m) chipDev c log)
      = denote (Sx127x.variantSetModulationParams cfg d m) c log := by
  rw [Sx127x.variantSetModulationParams_1276 cfg hc]
  obtain ⟨sf, bw, cr, ldro, f⟩ := m
  obtain ⟨quirk⟩ := d
  simp only [Gen.PhyEnc1276.Sx1276.set_modulation_params, genData76, gen_sf_value_1276, gen_bw_value_1276,
    gen_crd_value_1276, Sx127x.errOr]
  cases hbw : Sx127x.bandwidthValue .sx1276 bw with
  | none => simp [view, radioErr]
  | some vbw =>
  cases hsf : spreading_factor_value sf with
  | none => simp [view, radioErr]
  | some vsf =>
  cases hcr : coding_rate_denominator_value cr with
  | none => simp [view, radioErr]
  | some vcr =>
  -- the driver record is only passed on from here: as a variable it keeps the goal, which every step instantiates, small
  generalize (⟨genCfg1276 _, ⟨quirk⟩⟩ : Gen.PhyEnc1276.Sx127x) = radio
  have hsfb : 6 ≤ vsf ∧ vsf ≤ 12 := by cases sf <;> cases hsf <;> decide
  have hbwb : 0 ≤ vbw ∧ vbw ≤ 9 := by cases bw <;> cases hbw <;> decide
  have hcrb : 5 ≤ vcr ∧ vcr ≤ 8 := by cases cr <;> cases hcr <;> decide
  -- the four fields, with `errata21` / `errata23` folded
  tie_norm [if_true, Sx127x.modFields1276]
  tie_norm [if_true]
  tie_rd
  tie_wr
  · simp only [Int.reduceToNat, Int.reducePow]
    rw [wrap_mul_val _ _ (by omega) (by decide)]
    tie_val []
  tie_rd
  tie_wr
  · simp only [Int.reduceToNat, Int.reducePow]
    rw [wrap_mul_val _ _ (by omega) (by decide)]
    tie_val []
  tie_rd
  tie_wr
  · simp only [Int.reduceToNat, Int.reducePow]
    rw [wrap_mul_val _ _ (by omega) (by decide), show (vcr - 4).toNat = vcr.toNat - 4 by omega]
    tie_val []
  tie_rd
  tie_wr
  · have hd : decide ((ldro.toNat : Int) ≠ 0) = (ldro != 0) := by
      rw [Bool.eq_iff_iff]; simp [← UInt8.toNat_inj]
    rw [hd]
    cases ldro != 0 <;> tie_val []
  refine tie_bind id id _ _ _ _ _ _ ?_ (fun _ c2 log2 => ?_)
  · -- errata 2.1
    have g1 : ((862000000 : Int) ≤ (f : Int) ∧ (f : Int) ≤ 1020000000) ↔ (862000000 ≤ f ∧ f ≤ 1020000000) := by omega
    have g2 : ((410000000 : Int) ≤ (f : Int) ∧ (f : Int) ≤ 525000000) ↔ (410000000 ≤ f ∧ f ≤ 525000000) := by omega
    simp only [Sx127x.errata21, g1, g2]
    cases quirk
    · rfl
    · by_cases h500 : bw = ._500KHz
      · subst h500
        by_cases h1 : 862000000 ≤ f ∧ f ≤ 1020000000 <;> by_cases h2 : 410000000 ≤ f ∧ f ≤ 525000000 <;>
        · tie_norm [if_true, true_and, h1, h2, and_self, and_true, and_false, decide_true, decide_false]
          tie_auto
      · tie_norm [if_true, h500, false_and, decide_false]
        tie_auto
  · -- errata 2.3 depends on the bandwidth only through these two conditions
    have hhz : Sx127x.hzOf bw ≥ 62500 ↔ Bandwidth.hz bw ≥ 62500 := by cases bw <;> decide
    simp only [Sx127x.errata23, hhz, beq_iff_eq]
    tie_norm [if_true]
    tie_rd
    by_cases h500 : bw = ._500KHz
    · subst h500
      tie_norm [if_true]
      tie_auto
    · by_cases h62 : Bandwidth.hz bw ≥ 62500 <;>
      · tie_norm [if_true, h500, h62, decide_true, decide_false]
        tie_auto

#print axioms tieA_sx1276_set_modulation_params
/-- `Sx127x::<Sx1276>::set_modulation_params` IS the model's `setModulationParams` on an SX1276 (with the errata 2.1 / 2.3 register writes of the variant): the three table
look-ups (their `Err` before any request), DetectionOptimize[2:0] by read-modify-write and DetectionThreshold
(0x05 / 0x0C for SF6, else 0x03 / 0x0A), then the variant's program. -/
theorem tieA_set_modulation_params_1276 (cfg : Sx127x.Config) (hc : cfg.chip = .sx1276) (d : Sx127x.Data)
    (m : Sx127x.ModulationParams) (c : Chip) (log : List Rt.Phy.Ev) :
    view id (Gen.PhyEnc1276.Sx127x.set_modulation_params ⟨genCfg1276 cfg, genData76 d⟩ (genMod76 m) chipDev c log)
      = denote (Sx127x.setModulationParams cfg d m) c log := by
  have hv := tieA_sx1276_set_modulation_params cfg hc d m
  obtain ⟨chip, tcxo, boost, rxb⟩ := cfg
  simp only at hc; subst hc
  obtain ⟨sf, bw, cr, ldro, f⟩ := m
  simp only [Gen.PhyEnc1276.Sx127x.set_modulation_params, Sx127x.setModulationParams, genMod76, gen_sf_value_1276, gen_bw_value_1276,
    gen_crd_value_1276, Sx127x.errOr] at hv ⊢
  cases hsf : spreading_factor_value sf with
  | none => simp [view, radioErr]
  | some vsf =>
  cases hbw : Sx127x.bandwidthValue .sx1276 bw with
  | none => simp [view, radioErr]
  | some vbw =>
  cases hcr : coding_rate_denominator_value cr with
  | none => simp [view, radioErr]
  | some vcr =>
  by_cases h6 : sf = ._6 <;> simp only [h6, if_true, if_false] at hv ⊢ <;>
  · tie_norm [if_true]
    tie_rd
    tie_wr
    · tie_val []
    tie_wr
    · tie_val []
    rw [bind_pure_unit]
    exact hv _ _

#print axioms tieA_set_modulation_params_1276

/-- `Sx127x::set_lora_symbol_num_timeout` IS the model's `setLoraSymbolNumTimeout`: the count clamped to 1023, its bits
9..8 into RegModemConfig2[1:0] by read-modify-write (always performed), its low byte into RegSymbTimeoutLsb — every
`u16` count (indeed every natural number), chip content and prefix. -/
theorem tieA_set_lora_symbol_num_timeout_127x (self : Gen.PhyEnc1276.Sx127x) (n : Nat) (c : Chip) (log : List Rt.Phy.Ev) :
    view id (Gen.PhyEnc1276.Sx127x.set_lora_symbol_num_timeout self (n : Int) chipDev c log)
      = denote (Sx127x.setLoraSymbolNumTimeout n) c log := by
  have e : min (n : Int) 1023 = ((min n 1023 : Nat) : Int) := by omega
  -- `e'`: for the clamp spelt `if n > 1023 { 1023 } else { n }`; the present source has `min`
  have e' : (if decide ((n : Int) > 1023) = true then (1023 : Int) else (n : Int)) = ((min n 1023 : Nat) : Int) := by
    split <;> rename_i h <;> simp only [decide_eq_true_eq] at h <;> omega
  simp only [Gen.PhyEnc1276.Sx127x.set_lora_symbol_num_timeout, Sx127x.setLoraSymbolNumTimeout, Sx127x.SX127X_MAX_LORA_SYMB_NUM_TIMEOUT, e, e']
  have hv : min n 1023 ≤ 1023 := by omega
  generalize min n 1023 = v at hv ⊢
  have e2 : (v : Int) / 256 = ((v / 256 : Nat) : Int) := by omega
  have hq : v / 256 ≤ 3 := by omega
  tie_norm [Int.reduceToNat, Int.reducePow, e2]
  generalize v / 256 = q at hq ⊢
  tie_rd
  tie_wr
  · have hq' : q = 0 ∨ q = 1 ∨ q = 2 ∨ q = 3 := by omega
    rcases hq' with rfl | rfl | rfl | rfl <;> tie_val []
  tie_wr_last
  · simp only [wrap_and255_nat, UInt8.toNat_ofNat', Nat.reducePow, Nat.mod_mod]

#print axioms tieA_set_lora_symbol_num_timeout_127x

/-- non-vacuity: 600 symbols = 0x258 on a chip whose RegModemConfig2 reads 0x74 -/
example : Gen.PhyEnc1276.Sx127x.set_lora_symbol_num_timeout ⟨⟨⟨⟩, false, true, false⟩, ⟨false⟩⟩ 600
    (fun (_ : Unit) _ n => (List.replicate n 0x74, ())) () [] =
    some (.ok (), (), [.spi [0x1E] 1, .busy, .spi [0x9E, 0x76] 0, .busy, .spi [0x9F, 0x58] 0, .busy]) := rfl

/-- non-vacuity: SF7 / 125 kHz / 4-5 on an SX1276 (silicon 0x12) whose registers all read 0x25 -/
example : Gen.PhyEnc1276.Sx127x.set_modulation_params ⟨⟨⟨⟩, false, true, false⟩, ⟨true⟩⟩
    (genMod76 ⟨._7, ._125KHz, ._4_5, 0, 868100000⟩) (fun (_ : Unit) _ n => (List.replicate n 0x25, ())) () [] =
    some (.ok (), (), [.spi [0x31] 1, .busy, .spi [0xB1, 0x23] 0, .busy, .spi [0xB7, 0x0A] 0, .busy,
      .spi [0x1E] 1, .busy, .spi [0x9E, 0x75] 0, .busy, .spi [0x1D] 1, .busy, .spi [0x9D, 0x75] 0, .busy,
      .spi [0x1D] 1, .busy, .spi [0x9D, 0x23] 0, .busy, .spi [0x26] 1, .busy, .spi [0xA6, 0x21] 0, .busy,
      .spi [0xB6, 0x03] 0, .busy, .spi [0x31] 1, .busy, .spi [0xB1, 0x25] 0, .busy, .spi [0xAF, 0x40] 0, .busy, .spi [0xB0, 0x00] 0, .busy]) := rfl

/-- non-vacuity: implicit header, CRC on, inverted IQ on an SX1272 whose registers all read 0 -/
example : Gen.PhyEnc1272.Sx127x.set_packet_params ⟨⟨⟨⟩, false, true, false⟩⟩ (genPkt72 ⟨8, true, 17, true, true⟩)
    (fun (_ : Unit) _ n => (List.replicate n 0, ())) () [] =
    some (.ok (), (), [.spi [0xA0, 0] 0, .busy, .spi [0xA1, 8] 0, .busy, .spi [0x1D] 1, .busy, .spi [0x9D, 6] 0, .busy,
      .spi [0xA2, 17] 0, .busy, .spi [0xB3, 0x66] 0, .busy, .spi [0xBB, 0x19] 0, .busy]) := rfl

end C13
