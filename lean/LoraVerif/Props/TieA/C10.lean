import LoraVerif.Props.TieA.Basic
import LoraVerif.Props.TieA.DynPlan
import LoraVerif.Gen.MacStatic
/-!
# C10, tie A: RX2 defaults, RX1 data-rate-offset limits, receive delays, initial configuration

The hand model's `rx2Frequency`, `maxRx1DrOffset` / `rx1DrOffsetValidate`, `macRxDelay` and the
configuration `MacState.init` starts from are proved equal to the items regenerated from the
current source: the associated constants `DEFAULT_RX2_FREQ` / `MAX_RX1_DR_OFFSET` of every region
type and the `RegionHandler` methods that read them (`Gen/RegionStatic.lean`), `Mac::get_rx_delay`
and the `Configuration { .. }` literal of `Mac::new` (`Gen/MacStatic.lean`).  Last, `channel_dl_update` of `DynPlan.lean`
stated for this property.
-/
namespace C10
open Model TieA Gen.Region

/-- RX1DROffset limit: the region type's `MAX_RX1_DR_OFFSET` -/
theorem tieA_maxRx1DrOffset (r : RegionId) :
    (maxRx1DrOffset r : Int) = Gen.RegionStatic.MAX_RX1_DR_OFFSET (toGen r) := by
  cases r <;> rfl

/-- `RegionHandler::rx1_dr_offset_validate` (`value <= MAX_RX1_DR_OFFSET`) for every region and value.
The proof decides the model side first and only then splits the generated `if`, so that it does not
depend on how the source spells the test -/
theorem tieA_rx1DrOffsetValidate (r : RegionId) (v : Nat) :
    (rx1DrOffsetValidate r v).map Int.ofNat = Gen.RegionStatic.rx1_dr_offset_validate (toGen r) (v : Int) := by
  have h := tieA_maxRx1DrOffset r
  by_cases hv : v ≤ maxRx1DrOffset r <;>
    simp only [rx1DrOffsetValidate, hv, if_true, if_false, Option.map_some, Option.map_none] <;>
    cases r <;> simp only [toGen, maxRx1DrOffset, Gen.RegionStatic.MAX_RX1_DR_OFFSET] at h hv <;>
    simp only [toGen, Gen.RegionStatic.rx1_dr_offset_validate,
      Gen.RegionStatic.AS923_1.rx1_dr_offset_validate, Gen.RegionStatic.AS923_2.rx1_dr_offset_validate,
      Gen.RegionStatic.AS923_3.rx1_dr_offset_validate, Gen.RegionStatic.AS923_4.rx1_dr_offset_validate,
      Gen.RegionStatic.AU915.rx1_dr_offset_validate, Gen.RegionStatic.EU868.rx1_dr_offset_validate,
      Gen.RegionStatic.EU433.rx1_dr_offset_validate, Gen.RegionStatic.IN865.rx1_dr_offset_validate,
      Gen.RegionStatic.US915.rx1_dr_offset_validate, ← h, decide_eq_true_eq] <;>
    split <;> first | rfl | (exfalso; omega)

example : rx1DrOffsetValidate .US915 3 = some 3 ∧ rx1DrOffsetValidate .US915 4 = none := by decide

#print axioms tieA_maxRx1DrOffset
#print axioms tieA_rx1DrOffsetValidate

/-- default RX2 frequency: the region type's `DEFAULT_RX2_FREQ`, which is what
`RegionHandler::get_rx2_frequency` returns -/
theorem tieA_rx2Frequency (r : RegionId) :
    (rx2Frequency r : Int) = Gen.RegionStatic.DEFAULT_RX2_FREQ (toGen r) ∧
    (rx2Frequency r : Int) = Gen.RegionStatic.get_rx2_frequency (toGen r) := by
  cases r <;> exact ⟨rfl, rfl⟩

/-- the generated `Frame` a "join?" flag of the model stands for -/
def frameOf (join : Bool) : Gen.MacStatic.Frame := if join then .Join else .Data
/-- the generated `Window` a "second window?" flag of the model stands for -/
def windowOf (second : Bool) : Window := if second then ._2 else ._1

set_option linter.unusedSimpArgs false in -- the simp set serves either operand order of `rx1_delay + 1000`
/-- `Mac::get_rx_delay` on a configuration that agrees with the model's on `rx1_delay` and still
carries the join-accept delays `Mac::new` put there is the model's `macRxDelay`: join 5 s / 6 s from
the constants, RX2 = RX1 + 1000 ms.  (`rx1_delay` is at most 15 000 in every reachable state; the
hypothesis only excludes the `u32` overflow of `+ 1000`, which the generated function reports as a panic.) -/
theorem tieA_rxDelay (g : Gen.MacStatic.Configuration) (m : MacState) (d : DR) (join second : Bool)
    (h1 : g.rx1_delay = m.cfg.rx1Delay)
    (hj1 : g.join_accept_delay1 = (Gen.MacStatic.Mac.new.configuration d).join_accept_delay1)
    (hj2 : g.join_accept_delay2 = (Gen.MacStatic.Mac.new.configuration d).join_accept_delay2)
    (hb : m.cfg.rx1Delay + 1000 ≤ 4294967295) :
    Gen.MacStatic.Mac.get_rx_delay ⟨g⟩ (frameOf join) (windowOf second) = some (macRxDelay m join second : Int) := by
  have e1 : (Gen.MacStatic.Mac.new.configuration d).join_accept_delay1 = (Gen.Session.JOIN_ACCEPT_DELAY1.toNat : Int) := rfl
  have e2 : (Gen.MacStatic.Mac.new.configuration d).join_accept_delay2 = (Gen.Session.JOIN_ACCEPT_DELAY2.toNat : Int) := rfl
  cases join <;> cases second
  · simp only [frameOf, windowOf, Gen.MacStatic.Mac.get_rx_delay, macRxDelay, h1]; rfl
  · -- the generated `rx1_delay + 1000` in whatever order the source writes it: one checked `u32` addition
    simp (disch := omega) only [frameOf, windowOf, Gen.MacStatic.Mac.get_rx_delay, macRxDelay, h1, Rt.ck_u32,
      Option.bind_some, Option.bind_eq_bind, Option.pure_def, Option.some.injEq, if_true, if_false, Bool.false_eq_true]
    omega
  · simp only [frameOf, windowOf, Gen.MacStatic.Mac.get_rx_delay, macRxDelay, hj1, e1]; rfl
  · simp only [frameOf, windowOf, Gen.MacStatic.Mac.get_rx_delay, macRxDelay, hj2, e2]; rfl

/-- the hypotheses of `tieA_rxDelay` are satisfiable: the initial state of EU868 -/
example : Gen.MacStatic.Mac.get_rx_delay ⟨Gen.MacStatic.Mac.new.configuration DR._0⟩ (frameOf false) (windowOf true)
    = some (macRxDelay (MacState.init (RegionState.init .EU868) 14 0) false true : Int) :=
  tieA_rxDelay _ _ DR._0 false true rfl rfl rfl (by decide)

/-- `RECEIVE_DELAY2 = RECEIVE_DELAY1 + 1000` evaluates without overflow -/
theorem tieA_receiveDelay2 :
    Gen.MacStatic.RECEIVE_DELAY2_chk = some (Gen.MacStatic.RECEIVE_DELAY1 + 1000) ∧
    Gen.MacStatic.RECEIVE_DELAY1 = Gen.Session.RECEIVE_DELAY1 := by decide

/-- the configuration `Mac::new` starts from (the `Configuration { .. }` literal, with the region's
`get_default_datarate`) is the one `MacState.init` starts from, field by field -/
theorem tieA_initConfiguration (r : RegionId) (maxPower : Nat) (gain : Int) :
    let g := Gen.MacStatic.Mac.new.configuration (Gen.RegionStatic.get_default_datarate (toGen r))
    let c := (MacState.init (RegionState.init r) maxPower gain).cfg
    g.data_rate.toInt = c.dataRate ∧ g.rx1_delay = c.rx1Delay ∧ g.tx_power = c.txPower.map Int.ofNat ∧
    g.rx1_dr_offset = c.rx1DrOffset ∧ g.rx2_data_rate.map DR.toInt = c.rx2DataRate.map Int.ofNat ∧
    g.rx2_frequency = c.rx2Frequency.map Int.ofNat ∧ g.adr_enabled = c.adrEnabled ∧
    g.join_accept_delay1 = Gen.Session.JOIN_ACCEPT_DELAY1 ∧ g.join_accept_delay2 = Gen.Session.JOIN_ACCEPT_DELAY2 := by
  cases r <;> exact ⟨rfl, rfl, rfl, rfl, rfl, rfl, rfl, rfl, rfl⟩

example : macRxDelay (MacState.init (RegionState.init .EU868) 14 0) false true = 2000 := by decide

#print axioms tieA_rx2Frequency
#print axioms tieA_rxDelay
#print axioms tieA_initConfiguration
/-- DlChannelReq stores a downlink (RX1) frequency: see `C08.tieA_channel_dl_update` -/
theorem tieA_channel_dl_update (rs : RegionState)
    (p : Gen.DynPlanFn.DynamicChannelPlan) (hplan : rs.plan = .dyn (TieA.Dyn.planOf p)) (hw : TieA.Dyn.PlanWF p)
    (index freq : Int) (hi : 0 ≤ index) (hf : 0 ≤ freq) :
    (Gen.DynPlanFn.DynamicChannelPlan.channel_dl_update (TieA.Dyn.regOf rs.id) TieA.DynMask.genMops p index freq).map
        (fun o => (o.1, { rs with plan := .dyn (TieA.Dyn.planOf o.2) }))
      = (channelDlUpdate rs index.toNat freq.toNat).toOption :=
  TieA.Dyn.tieA_channel_dl_update TieA.DynMask.genMops TieA.DynMask.genMops_ok rs p hplan hw index freq hi hf


example : TieA.Dyn.MaskOk TieA.Dyn.exMops := TieA.Dyn.exMops_ok
#print axioms tieA_channel_dl_update
end C10
