import LoraVerif.Props.TieA.PrepareBuffer
import LoraVerif.Gen.SessionStatic
import LoraVerif.Props.TieA.SetAdr
import LoraVerif.Props.TieA.Rx2Complete
/-!
# C12, tie A: the ADR thresholds of `session.rs`

The hand model (`rx2Complete`, `prepareBuffer`) tests `cnt ≥ ADR_ACK_LIMIT + ADR_ACK_DELAY` and
`adrAckCnt ≥ ADR_ACK_LIMIT` with the constants of `Gen.Session`.  The comparisons of the current
source (`self.adr_ack_cnt >= (ADR_ACK_LIMIT + ADR_ACK_DELAY) as u32` in `rx2_complete`,
`self.adr_ack_cnt >= ADR_ACK_LIMIT as u32` in `prepare_buffer`) are regenerated as functions of the
counter (`Gen/SessionStatic.lean`) and proved equal to the model's, for every counter value.  Then the methods that
use them, stated for this property: `set_adr` / `set_datarate` (`SetAdr.lean`), `rx2_complete` (`Rx2Complete.lean`) and
the header `prepare_buffer` builds (`PrepareBuffer.lean`).
-/
namespace C12
open Model

/-- ADR back-off is due (`rx2_complete`): the model's `cnt ≥ lim + del` -/
theorem tieA_backoffDue (cnt : Nat) :
    Gen.SessionStatic.Session.rx2_complete.backoff_due cnt =
      some (decide (cnt ≥ Gen.Session.ADR_ACK_LIMIT.toNat + Gen.Session.ADR_ACK_DELAY.toNat)) := by
  have e : Gen.SessionStatic.Session.rx2_complete.backoff_due cnt = some (decide ((cnt : Int) ≥ 96)) := by
    simp only [Gen.SessionStatic.Session.rx2_complete.backoff_due]
    rfl
  rw [e, Option.some.injEq, Bool.eq_iff_iff]; simp only [decide_eq_true_eq]
  have : Gen.Session.ADR_ACK_LIMIT.toNat + Gen.Session.ADR_ACK_DELAY.toNat = 96 := by decide
  omega

/-- ADRACKReq threshold (`prepare_buffer`): the model's `adrAckCnt ≥ ADR_ACK_LIMIT` -/
theorem tieA_adrAckLimitReached (cnt : Nat) :
    Gen.SessionStatic.Session.prepare_buffer.adr_ack_limit_reached cnt =
      decide (cnt ≥ Gen.Session.ADR_ACK_LIMIT.toNat) := by
  have e : Gen.SessionStatic.Session.prepare_buffer.adr_ack_limit_reached cnt = decide ((cnt : Int) ≥ 64) := rfl
  rw [e, Bool.eq_iff_iff]; simp only [decide_eq_true_eq]
  have := adr_limit
  omega

example : Gen.SessionStatic.Session.rx2_complete.backoff_due 96 = some true ∧
    Gen.SessionStatic.Session.rx2_complete.backoff_due 95 = some false ∧
    Gen.SessionStatic.Session.prepare_buffer.adr_ack_limit_reached 64 = true := by decide

/-- both generated units read the same ADR constants -/
theorem tieA_adrConstants :
    Gen.SessionStatic.ADR_ACK_LIMIT = Gen.Session.ADR_ACK_LIMIT ∧ Gen.SessionStatic.ADR_ACK_DELAY = Gen.Session.ADR_ACK_DELAY :=
  ⟨rfl, rfl⟩

#print axioms tieA_backoffDue
#print axioms tieA_adrAckLimitReached
/-- `Device::set_adr` of the async front-end, of the non-blocking front-end and of the
cfg-guarded hook facade `VerifMac` (through which the MAC-level histories of the correspondence are
driven) as SEMANTIC functions: each, translated from its current source (`Gen/SetAdrAsync.lean`,
`Gen/SetAdrNb.lean`, `Gen/SetAdrHook.lean`; `Mac::get_session_mut`, an `Option<&mut Session>`, as a
getter/setter pair), IS the model's `macSetAdr` on the `Mac` value it holds: the ADR flag is stored,
and switching ADR off in a joined session resets `adr_ack_cnt`; nothing else changes.  The
three bodies may differ in their text as long as each means `macSetAdr`. -/
theorem tieA_set_adr (m0 : MacState) (on : Bool) :
    (∀ d : Gen.SetAdrAsync.Device, TieA.Async.macOf m0 (Gen.SetAdrAsync.Device.set_adr d on).mac = macSetAdr (TieA.Async.macOf m0 d.mac) on) ∧
    (∀ d : Gen.SetAdrNb.Device, TieA.Nb.macOf m0 (Gen.SetAdrNb.Device.set_adr d on).shared.mac = macSetAdr (TieA.Nb.macOf m0 d.shared.mac) on) ∧
    (∀ d : Gen.SetAdrHook.VerifMac, TieA.Hook.macOf m0 (Gen.SetAdrHook.VerifMac.set_adr d on).mac = macSetAdr (TieA.Hook.macOf m0 d.mac) on) :=
  ⟨fun d => TieA.Async.tieA_set_adr m0 d on, fun d => TieA.Nb.tieA_set_adr m0 d on, fun d => TieA.Hook.tieA_set_adr m0 d on⟩

/-- likewise `set_datarate` of the three = the model's `macSetDatarate` (C09 / C12: the data rate
otherwise changes only by an accepted LinkADRReq or the ADR back-off) -/
theorem tieA_set_datarate (m0 : MacState) (dr : Gen.Region.DR) :
    (∀ d : Gen.SetAdrAsync.Device, TieA.Async.macOf m0 (Gen.SetAdrAsync.Device.set_datarate d dr).mac = macSetDatarate (TieA.Async.macOf m0 d.mac) dr.toInt.toNat) ∧
    (∀ d : Gen.SetAdrNb.Device, TieA.Nb.macOf m0 (Gen.SetAdrNb.Device.set_datarate d dr).shared.mac = macSetDatarate (TieA.Nb.macOf m0 d.shared.mac) dr.toInt.toNat) ∧
    (∀ d : Gen.SetAdrHook.VerifMac, TieA.Hook.macOf m0 (Gen.SetAdrHook.VerifMac.set_datarate d dr).mac = macSetDatarate (TieA.Hook.macOf m0 d.mac) dr.toInt.toNat) :=
  ⟨fun d => TieA.Async.tieA_set_datarate m0 d dr, fun d => TieA.Nb.tieA_set_datarate m0 d dr, fun d => TieA.Hook.tieA_set_datarate m0 d dr⟩

#print axioms tieA_set_adr
#print axioms tieA_set_datarate

/-- the WHOLE method: the state-passing translation of
`Session::rx2_complete` (`Gen/SessionFn.lean`) is the model's `rx2Complete` on every session whose
counters fit `u32` and every configuration: `adr_ack_cnt` counts (saturating) only while ADR is on, the
data rate steps to `next_lower_datarate` exactly at 96, 128, … and only if a lower rate exists, and the
answer is `NoAck` exactly after a confirmed uplink.  (`C12.timeout_refines`, `C12.stepdown_only_at`
are about that model function.)  `next_lower_datarate` itself is abstract in the translation; it is
instantiated with the model's `nextLowerDatarate`, which is the regenerated loop (`C12.tieA_next_lower_ops`). -/
theorem tieA_rx2_complete (s0 : Session) (gs : Gen.SessionFn.Session) (g : Gen.SessionFn.Configuration) (r : RegionId)
    (hw : TieA.SessWF gs) :
    (Gen.SessionFn.Session.rx2_complete gs g (TieA.regionOf r)).bind
        (fun o => (TieA.respOf o.1).map (fun resp => (resp, TieA.sessOf s0 o.2.1, TieA.cfgOf o.2.2)))
      = some (rx2Complete (TieA.sessOf s0 gs) (TieA.cfgOf g) r) :=
  TieA.tieA_rx2_complete s0 gs g r hw

/-- non-vacuity: at count 127 with ADR on, EU868 DR3 → DR2, the count becomes 128 -/
example :
    (Gen.SessionFn.Session.rx2_complete ⟨true, 200, some 3, 127⟩ ⟨._3, 1000, 5000, 6000, none, 0, none, none, true⟩ (TieA.regionOf .EU868)).map
        (fun o => (o.1, o.2.1.adr_ack_cnt, o.2.2.data_rate))
      = some (.NoAck, 128, ._2) := by decide

#print axioms tieA_rx2_complete
/-- the header of the uplink: the state-passing translation of
`Session::prepare_buffer` (`Gen/SessionTx.lean`; the `Uplink` helpers it calls translated as well) hands,
for EVERY frame codec and radio buffer, exactly one `DataFrame` to `build_into` under the session's
NwkSKey / AppSKey, and the model's `prepareBuffer` yields exactly that frame's description and the
corresponding new session: ADR = `adr_enabled`; ADRACKReq = ADR ∧ `adr_ack_cnt ≥ ADR_ACK_LIMIT` ∧ a lower
data rate exists; ACK = the owed-ACK flag, which is cleared; FCnt = `fcnt_up` (not advanced here);
confirmed flag stored and used for the frame type; pending answers in FOpts when FPort ≠ 0, as the
port-0 payload with empty FOpts when FPort = 0; data on port 0 panics on both sides; FPending never
set; afterwards the pending answers are reduced to the sticky ones.  Abstract: frame encryption / MIC
(`codec`), the radio buffer, `next_lower_datarate` (the model's = the regenerated loop, `tieA_next_lower_ops`), the iterator pipeline of
`clear_mac_commands(true)` (`hret`).  The model's two length panics are stated on the frame's length. -/
theorem tieA_prepare_buffer_header {β : Type} [Gen.SessionTx.TxBufOps β] (codec : Gen.SessionTx.FrameCodec)
    (gs : Gen.SessionTx.Session) (d : Gen.SessionTx.SendData) (tx : β) (g : Gen.SessionTx.Configuration) (r : RegionId)
    (hp : 0 ≤ d.fport)
    (hret : ∀ p, TieA.Tx.natsOf (Gen.SessionTx.retained_pipeline p []) = retainSticky (p.length + 1) (TieA.Tx.natsOf p)) :
    if d.fport = 0 ∧ d.data ≠ [] then
      Gen.SessionTx.Session.prepare_buffer codec gs d tx g (TieA.Tx.regionOf r) = none ∧
      prepareBuffer (TieA.Tx.sessOf gs) (TieA.Tx.cfgOf g) r (TieA.Tx.natsOf d.data) d.fport.toNat d.confirmed
        = panic "Data payload with fport 0 not allowed"
    else ∃ (f : Gen.SessionTx.DataFrame) (gs' : Gen.SessionTx.Session),
      Gen.SessionTx.Session.prepare_buffer codec gs d tx g (TieA.Tx.regionOf r)
        = (codec.build_into f (List.replicate 256 0) ⟨gs.nwkskey.inner⟩ (some ⟨gs.appskey.inner⟩)).bind (fun pkt =>
            let o := Gen.SessionTx.TxBufOps.extend_from_slice (Gen.SessionTx.TxBufOps.clear (Gen.SessionTx.TxBufOps.clear tx)) pkt
            o.1.map (fun _ => (gs.fcnt_up, gs', o.2)))
      ∧ f.f_pending = false
      ∧ f.frame_type = (if d.confirmed then .ConfirmedUp else .UnconfirmedUp)
      ∧ prepareBuffer (TieA.Tx.sessOf gs) (TieA.Tx.cfgOf g) r (TieA.Tx.natsOf d.data) d.fport.toNat d.confirmed
          = (if TieA.Tx.frameLen f > 256 then panic "Error assembling packet: BufferTooShort"
             else if TieA.Tx.frameLen f ≥ 256 then panic "tx_buffer.extend_from_slice unwrap"
             else .ok (TieA.Tx.descOf f, TieA.Tx.sessOf gs')) :=
  TieA.Tx.tieA_prepare_buffer_header codec gs d tx g r hp hret

/-- non-vacuity: a recording codec (answers the FCtrl bits, FCnt, FOpts, port and payload) and a list as
the buffer.  ADR on at count 64 in EU868 DR5 with an ACK owed and one pending answer: ADR, ADRACKReq and
ACK are set, the answer rides in FOpts on port 7, and the session forgets the owed ACK -/
example :
    let codec : Gen.SessionTx.FrameCodec := ⟨fun f _ _ _ => some ([Rt.b2i f.adr, Rt.b2i f.adr_ack_req, Rt.b2i f.ack, f.fcnt] ++ f.f_opts ++
      (match f.payload with | .Data p d => p :: d | .MacCommands c => 0 :: c | .None => []))⟩
    let _ : Gen.SessionTx.TxBufOps (List Int) := ⟨fun _ => [], fun b s => (some (), b ++ s)⟩
    (Gen.SessionTx.Session.prepare_buffer codec ⟨⟨[6, 255, 10], true⟩, false, ⟨⟨1⟩⟩, ⟨⟨2⟩⟩, ⟨3⟩, 41, none, 64⟩ ⟨[170], 7, true⟩ ([9] : List Int)
        ⟨._5, 1000, 5000, 6000, none, 0, none, none, true⟩ (TieA.Tx.regionOf .EU868)).map
      (fun o => (o.1, o.2.1.uplink.confirmed, o.2.1.confirmed, o.2.1.fcnt_up, o.2.2))
      = some (41, false, true, 41, [1, 1, 1, 41, 6, 255, 10, 7, 170]) := by
  rfl

#print axioms tieA_prepare_buffer_header
end C12
