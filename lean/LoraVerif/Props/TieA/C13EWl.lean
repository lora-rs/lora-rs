import LoraVerif.Props.TieA.C13
import LoraVerif.Gen.PhyEncEWl
/-!
# C13 / C17, tie A: `set_tx_power_and_ramp_time` of the SX126x driver instantiated at `Stm32wl`
(both `use_high_power_pa` values): the high-power output behaves as an SX1262 with `STM32WL_HP_PA_TABLE`, the
low-power output as an SX1261 (refusal of +15 dBm below 400 MHz, `SX1261_PA_TABLE`).
-/
open Model.Phy TieA.Phy

namespace C13

/-- the model's hand-copied STM32WL high-power table and lookup give, for EVERY requested power, the row and power
byte of the regenerated `STM32WL_HP_PA_TABLE` / `PaTable::lookup` -/
theorem tieA_pa_lookup_stm32wl_hp (req : Int) :
    paViewG (Gen.PhyArith.STM32WL_HP_PA_TABLE.lookup req) = paViewM (Sx126x.stm32wlHpTable.lookup req) :=
  pa_lookup_tie _ _ ⟨22, 0x04, 0x07, 22⟩ 32 rfl rfl rfl (by decide) (by decide +kernel) req

/-- `Sx126x::<Stm32wl>::set_tx_power_and_ramp_time`, regenerated (with `get_device_sel` / `pa_table` of the variant),
IS the model's `setTxPowerAndRampTime` on a `.stm32wl hp` chip, for both outputs, every requested power, optional
modulation record (only its `u32` frequency is read), ramp choice, chip content and prefix. -/
theorem tieA_stm32wl_tx_power (self : Gen.PhyEncEWl.Sx126x) (cfg : Sx126x.Config)
    (hc : cfg.chip = .stm32wl self.config.chip.use_high_power_pa)
    (power : Int) (mp : Option Gen.PhyEncEWl.ModulationParams) (hfreq : ∀ g, mp = some g → 0 ≤ g.frequency_in_hz)
    (prep : Bool) (c : Chip) (log : List Rt.Phy.Ev) :
    view id (Gen.PhyEncEWl.Sx126x.set_tx_power_and_ramp_time self power mp prep chipDev c log)
      = denote (Sx126x.setTxPowerAndRampTime cfg power (mp.map (fun g => g.frequency_in_hz.toNat)) prep) c log := by
  obtain ⟨chip, tcxo, dcdc, rxb⟩ := cfg
  obtain ⟨⟨⟨hp⟩, t', d', r'⟩⟩ := self
  simp only at hc; subst hc
  cases hp
  · -- low-power output: as the SX1261
    obtain ⟨e, b, e', b', hg, hm, h1, h2, h3⟩ :=
      pa_view_eq (tieA_pa_lookup_1261 power) (model_lookup_isSome _ ⟨15, 0x06, 0x00, 14⟩ rfl power)
    simp only [Gen.PhyEncEWl.Sx126x.set_tx_power_and_ramp_time, Sx126x.setTxPowerAndRampTime_seq, Sx126x.Variant.highPower,
      Sx126x.Variant.paTable, Sx126x.Variant.deviceSel, Sx126x.setPaConfig, Model.Phy.bind_eq]
    try gen_unfold_helpers_PhyEncEWl
    simp only [Bool.false_eq_true, if_false]
    refine tie_bind id id _ _ _ _ _ _ ?_ (fun _ c1 log1 => ?_)
    · rcases mp with _ | m
      · phy_run [Sx126x.txGuard, Option.map_none, ite_self]
      · have h0 := hfreq m rfl
        have hf : (m.frequency_in_hz < 400000000) = (m.frequency_in_hz.toNat < 400000000) := by simp only [eq_iff_iff]; omega
        by_cases hp : power ≥ 15 <;> by_cases hlow : m.frequency_in_hz.toNat < 400000000 <;>
          phy_run [Sx126x.txGuard, Option.map_some, hf, hp, hlow, decide_true, decide_false, and_self, and_false, false_and]
    · cases prep <;> phy_tie [hg, hm, h1, h2, h3] [Gen.PhyEncEWl.DeviceSel.toInt]
  · -- high-power output: as the SX1262, with the STM32WL table
    obtain ⟨e, b, e', b', hg, hm, h1, h2, h3⟩ :=
      pa_view_eq (tieA_pa_lookup_stm32wl_hp power) (model_lookup_isSome _ ⟨22, 0x04, 0x07, 22⟩ rfl power)
    simp only [Gen.PhyEncEWl.Sx126x.set_tx_power_and_ramp_time, Sx126x.setTxPowerAndRampTime_seq, Sx126x.Variant.highPower,
      Sx126x.Variant.paTable, Sx126x.Variant.deviceSel, Sx126x.setPaConfig, Model.Phy.bind_eq]
    try gen_unfold_helpers_PhyEncEWl
    simp only [if_true]
    refine tie_bind id id _ _ _ _ _ _ ?_ (fun _ c1 log1 => ?_)
    · phy_tie [Sx126x.txGuard] [byteAt_mod]
    · cases prep <;> phy_tie [hg, hm, h1, h2, h3] [Gen.PhyEncEWl.DeviceSel.toInt]

#print axioms tieA_stm32wl_tx_power

/-- non-vacuity: +14 dBm on the low-power output: SetPaConfig 04 00 01 01, SetTxParams 14 / 40 us -/
example : Gen.PhyEncEWl.Sx126x.set_tx_power_and_ramp_time ⟨⟨⟨false⟩, none, true, false⟩⟩ 14 none true
    (fun (_ : Unit) _ n => (List.replicate n 0xC0, ())) () [] =
    some (.ok (), (), [.spi [0x95, 4, 0, 1, 1] 0, .busy, .spi [0x8E, 14, 2] 0, .busy]) := rfl
/-- the hypothesis `hc` is satisfiable for both outputs -/
example : (⟨.stm32wl true, none, true, false⟩ : Sx126x.Config).chip
    = .stm32wl (⟨⟨⟨true⟩, none, true, false⟩⟩ : Gen.PhyEncEWl.Sx126x).config.chip.use_high_power_pa := rfl

end C13

namespace C17
/-- C17's name for the same equality -/
theorem tieA_stm32wl_tx_power (self : Gen.PhyEncEWl.Sx126x) (cfg : Sx126x.Config)
    (hc : cfg.chip = .stm32wl self.config.chip.use_high_power_pa)
    (power : Int) (mp : Option Gen.PhyEncEWl.ModulationParams) (hfreq : ∀ g, mp = some g → 0 ≤ g.frequency_in_hz)
    (prep : Bool) (c : Chip) (log : List Rt.Phy.Ev) :
    view id (Gen.PhyEncEWl.Sx126x.set_tx_power_and_ramp_time self power mp prep chipDev c log)
      = denote (Sx126x.setTxPowerAndRampTime cfg power (mp.map (fun g => g.frequency_in_hz.toNat)) prep) c log :=
  C13.tieA_stm32wl_tx_power self cfg hc power mp hfreq prep c log
end C17
