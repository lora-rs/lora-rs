import LoraVerif.Props.TieA.MacCmdCreators
import LoraVerif.Gen.MacCmdCreatorIntoFn
/-!
# Tie A for the creator setters generic over `T: Into<X>` (C19)

`Gen/MacCmdCreatorIntoFn.lean` holds `LinkADRReqCreator::set_channel_mask` / `set_redundancy` and
`NewChannelReqCreator::set_frequency` / `set_data_rate_range` instantiated at `T = X` (the payload newtype itself: the reflexive
`Into`, `x.into() = x`), with `raw_value` and the `AsRef<[u8]>` impls of types.rs translated from the source.  Each is proved
equal to the model's setter (`setLinkADRReq`, `setNewChannelReq` of `Model/MacCmdCreators.lean`) for every creator state and
every value of the newtype.  What the OTHER `Into` sources do (`From<u8>`, `From<[u8; N]>`, `From<&[u8; 3]>`: wrap the value)
is not regenerated here.
-/
namespace C19
open MacCmd TieA.MacCmdFrame TieA.Creators

/-- `LinkADRReqCreator::set_channel_mask` at `T = ChannelMask<2>`: the regenerated setter IS the model's, for every
creator state and every two-octet mask. -/
theorem tieA_creator_LinkADRReq_set_channel_mask (c b0 b1 b2 b3 m0 m1 : Nat) :
    (Gen.MacCmdCreatorIntoFn.LinkADRReqCreator.set_channel_mask ⟨ints [c, b0, b1, b2, b3]⟩ ⟨ints [m0, m1]⟩).map (resI (·.data))
      = (toOpt (setLinkADRReq ⟨[c, b0, b1, b2, b3], 0⟩ "set_channel_mask" (.bytes [m0, m1]))).map resUp :=
  rfl -- two stores into a five-octet array: both sides compute

/-- `LinkADRReqCreator::set_redundancy` at `T = Redundancy`. -/
theorem tieA_creator_LinkADRReq_set_redundancy (c b0 b1 b2 b3 v : Nat) :
    (Gen.MacCmdCreatorIntoFn.LinkADRReqCreator.set_redundancy ⟨ints [c, b0, b1, b2, b3]⟩ ⟨(v : Int)⟩).map (resI (·.data))
      = (toOpt (setLinkADRReq ⟨[c, b0, b1, b2, b3], 0⟩ "set_redundancy" (.n v))).map resUp :=
  raw_tie (fun _ => rfl) 4 v (by simp) rfl rfl

/-- `NewChannelReqCreator::set_data_rate_range` at `T = DataRateRange`. -/
theorem tieA_creator_NewChannelReq_set_data_rate_range (c b0 b1 b2 b3 b4 v : Nat) :
    (Gen.MacCmdCreatorIntoFn.NewChannelReqCreator.set_data_rate_range ⟨ints [c, b0, b1, b2, b3, b4]⟩ ⟨(v : Int)⟩).map (resI (·.data))
      = (toOpt (setNewChannelReq ⟨[c, b0, b1, b2, b3, b4], 0⟩ "set_data_rate_range" (.n v))).map resUp :=
  raw_tie (fun _ => rfl) 5 v (by simp) rfl rfl

/-- `NewChannelReqCreator::set_frequency` at `T = Frequency<'_>`, for a borrowed slice of ANY length (`Frequency::new_from_raw`
does not check it): `copy_from_slice` panics unless it has 3 octets — on both sides. -/
theorem tieA_creator_NewChannelReq_set_frequency (c b0 b1 b2 b3 b4 : Nat) (f : List Nat) :
    (Gen.MacCmdCreatorIntoFn.NewChannelReqCreator.set_frequency ⟨ints [c, b0, b1, b2, b3, b4]⟩ ⟨ints f⟩).map (resI (·.data))
      = (toOpt (setNewChannelReq ⟨[c, b0, b1, b2, b3, b4], 0⟩ "set_frequency" (.bytes f))).map resUp :=
  copy_tie (fun _ => rfl) 2 5 f rfl rfl

/-! non-vacuity: concrete calls through the regenerated code -/
example : (Gen.MacCmdCreatorIntoFn.LinkADRReqCreator.set_channel_mask ⟨[3, 0x53, 0, 0, 0]⟩ ⟨[0xc7, 0x0b]⟩).map (·.data) = some [3, 0x53, 0xc7, 0x0b, 0] := by decide
example : (Gen.MacCmdCreatorIntoFn.LinkADRReqCreator.set_redundancy ⟨[3, 0x53, 0xc7, 0x0b, 0]⟩ ⟨0x37⟩).map (·.data) = some [3, 0x53, 0xc7, 0x0b, 0x37] := by decide
example : (Gen.MacCmdCreatorIntoFn.NewChannelReqCreator.set_frequency ⟨[7, 3, 0, 0, 0, 0]⟩ ⟨[0x12, 0x34, 0x56]⟩).map (·.data) = some [7, 3, 0x12, 0x34, 0x56, 0] := by decide
example : (Gen.MacCmdCreatorIntoFn.NewChannelReqCreator.set_frequency ⟨[7, 3, 0, 0, 0, 0]⟩ ⟨[0x12, 0x34]⟩) = none := by decide

#print axioms tieA_creator_LinkADRReq_set_channel_mask
#print axioms tieA_creator_LinkADRReq_set_redundancy
#print axioms tieA_creator_NewChannelReq_set_data_rate_range
#print axioms tieA_creator_NewChannelReq_set_frequency
end C19
