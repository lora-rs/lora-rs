import LoraVerif.Props.TieA.MacCmdFrameGen
import LoraVerif.Gen.MacCmdFnUplinkMacCommand
/-!
# Tie A for the framing step of `UplinkMacCommand` (C03)

`Gen/MacCmdFnUplinkMacCommand.lean` holds what `#[derive(CommandHandler)]` generates for `UplinkMacCommand` (payload structs,
`new_from_raw` / `max_len`, `MacCommandSet::parse_one`, expanded from the `quote!` templates with the `#[cmd]` attributes of
the current source; every payload of this set has a fixed length) and the source's
`MacCommands::next` for `T = UplinkMacCommand`.  Here: the regenerated framing IS the hand model `Model/MacCmd.lean` over the
regenerated table `Gen.CmdTables.uplinkMacCommand`, for every octet stream.  The set-independent part of the argument is
`Props/TieA/MacCmdFrameGen.lean`; this file supplies the reading of the set's own types (`infoOf` …), instantiates the arm
lemmas of that file at the CIDs of the table, and shows that the unit's `next` is `gNext` of the unit's `parse_one` (`next_bridge`).
-/
namespace TieA.FrameUplinkMacCommand
open MacCmd TieA.FrameGen

def TS : Table := C03.T Gen.CmdTables.uplinkMacCommand

def infoOf : Gen.MacCmdFnUplinkMacCommand.UplinkMacCommand → Info
  | .LinkCheckReq _ => (2, "LinkCheckReq", "LinkCheckReqPayload", [])
  | .LinkADRAns p => (3, "LinkADRAns", "LinkADRAnsPayload", p._0)
  | .DutyCycleAns _ => (4, "DutyCycleAns", "DutyCycleAnsPayload", [])
  | .RXParamSetupAns p => (5, "RXParamSetupAns", "RXParamSetupAnsPayload", p._0)
  | .DevStatusAns p => (6, "DevStatusAns", "DevStatusAnsPayload", p._0)
  | .NewChannelAns p => (7, "NewChannelAns", "NewChannelAnsPayload", p._0)
  | .RXTimingSetupAns _ => (8, "RXTimingSetupAns", "RXTimingSetupAnsPayload", [])
  | .TXParamSetupAns _ => (9, "TXParamSetupAns", "TXParamSetupAnsPayload", [])
  | .DlChannelAns p => (10, "DlChannelAns", "DlChannelAnsPayload", p._0)
  | .DeviceTimeReq _ => (13, "DeviceTimeReq", "DeviceTimeReqPayload", [])

def errOf : Gen.MacCmdFnUplinkMacCommand.ParseError → MacCmd.ParseError
  | .UnknownCid c => .unknownCid c.toNat
  | .Truncated c => .truncated c.toNat

def oneOf : Gen.MacCmdFnUplinkMacCommand.ParseOne → POne
  | .Ok c n => .ok (infoOf c, n)
  | .Err e => .error (errOf e)

def itemOf : Gen.MacCmdFnUplinkMacCommand.NextItem → GItem
  | .Ok c => .ok (infoOf c)
  | .Err e => .error (errOf e)

def stOf (g : Gen.MacCmdFnUplinkMacCommand.MacCommands) : GSt := (g.data, g.errored)

def P (d : List Int) : Option POne := (Gen.MacCmdFnUplinkMacCommand.UplinkMacCommand.parse_one d).map oneOf

theorem next_bridge (s : Gen.MacCmdFnUplinkMacCommand.MacCommands) :
    (Gen.MacCmdFnUplinkMacCommand.MacCommands.next s).map (fun r => (r.1.map itemOf, stOf r.2)) = gNext P (stOf s) :=
  gNext_of (fun _ => by rfl) (fun s r => by
    cases r with
    | Err x => rfl
    | Ok c n => exact Option.map_bind) s

def runOf (r : List Gen.MacCmdFnUplinkMacCommand.NextItem × Gen.MacCmdFnUplinkMacCommand.MacCommands × Bool) := (r.1.map itemOf, stOf r.2.1, r.2.2)

end TieA.FrameUplinkMacCommand

namespace C03
open MacCmd TieA.MacCmdFrame TieA.FrameGen TieA.FrameUplinkMacCommand

/-- the derive-generated `parse_one` of `UplinkMacCommand` (expanded from the `quote!` templates of the `CommandHandler`
derive with the `#[cmd(cid, len)]` attributes of the current source) IS the
model's `parseOne` over the regenerated table, for EVERY octet string: same variant, payload type, payload octets and
consumed count, `UnknownCid` / `Truncated` with the same CID on the same inputs, a panic exactly on the empty slice. -/
theorem tieA_parse_one_UplinkMacCommand (data : List Nat) :
    (Gen.MacCmdFnUplinkMacCommand.UplinkMacCommand.parse_one (ints data)).map TieA.FrameUplinkMacCommand.oneOf = (toOpt (parseOne TieA.FrameUplinkMacCommand.TS varLen data)).map oneUp := by
  cases data with
  | nil => rfl
  | cons cid rest =>
    by_cases h : cid ∈ [2, 3, 4, 5, 6, 7, 8, 9, 10, 13]
    · simp only [List.mem_cons, List.not_mem_nil, or_false] at h
      rcases h with rfl | rfl | rfl | rfl | rfl | rfl | rfl | rfl | rfl | rfl <;>
        exact fixed_arm_tie (fun c => .Err (.Truncated c)) (by decide) rfl rfl rfl fun _ => rfl
    · refine unknown_arm_tie (e := .Err (.UnknownCid cid)) (Table.lookup_none_of TS cid h) ?_ rfl
      have hI := not_mem_cast h
      simp only [List.map, List.mem_cons, List.not_mem_nil, or_false, not_or, Int.cast_ofNat_Int] at hI
      simp only [Gen.MacCmdFnUplinkMacCommand.UplinkMacCommand.parse_one, idx0, Option.bind_eq_bind, Option.bind_some, decide_eq_true_eq, hI, if_false]
      rfl

/-- the source's `MacCommands::next` for `T = UplinkMacCommand` IS the model's `next` in every state. -/
theorem tieA_next_UplinkMacCommand (data : List Nat) (err : Bool) :
    (Gen.MacCmdFnUplinkMacCommand.MacCommands.next ⟨ints data, err⟩).map (fun r => (r.1.map TieA.FrameUplinkMacCommand.itemOf, TieA.FrameUplinkMacCommand.stOf r.2))
      = (toOpt (MacCmd.next TieA.FrameUplinkMacCommand.TS varLen ⟨data, err⟩)).map (fun r => (r.1.map itemUp, stUp r.2)) := by
  rw [TieA.FrameUplinkMacCommand.next_bridge]
  exact gNext_tie _ _ _ (fun _ => True) (fun d _ => tieA_parse_one_UplinkMacCommand d) data err trivial

/-- the `UplinkMacCommand` iterator over `data`, drained through the REGENERATED `next` (`MacCommands::new(data)`, then
`next` until `None`, budget `data.len() + 2`), is the model's run, for every octet stream: the same items in the same order,
the same final state, within the same budget. -/
theorem tieA_iterator_UplinkMacCommand (data : List Nat) :
    (runFuelOf Gen.MacCmdFnUplinkMacCommand.MacCommands.next (data.length + 2) ⟨ints data, false⟩).map TieA.FrameUplinkMacCommand.runOf
      = (toOpt (run TieA.FrameUplinkMacCommand.TS varLen data)).map runUp :=
  (runFuelOf_sim _ _ TieA.FrameUplinkMacCommand.itemOf TieA.FrameUplinkMacCommand.stOf TieA.FrameUplinkMacCommand.next_bridge _ _).trans
    (gRun_tie _ _ _ (fun _ => True) (fun _ _ _ _ => trivial) (fun d _ => tieA_parse_one_UplinkMacCommand d) _ data false trivial)

/-! non-vacuity: a concrete stream through the regenerated iterator (CID and payload octets of every item, `none` = the
error item; the unread rest and the `errored` flag; budget not exhausted) -/
example : (runFuelOf Gen.MacCmdFnUplinkMacCommand.MacCommands.next (4 + 2) ⟨[3, 7, 6, 85], false⟩).map
    (fun r => (r.1.map (fun i => (TieA.FrameUplinkMacCommand.itemOf i).toOption.map (fun c => (c.1, c.2.2.2))), TieA.FrameUplinkMacCommand.stOf r.2.1, r.2.2))
    = some ([some (3, [7]), none], ([6, 0x55], true), false) := by decide


#print axioms tieA_parse_one_UplinkMacCommand
#print axioms tieA_next_UplinkMacCommand
#print axioms tieA_iterator_UplinkMacCommand
end C03
