import LoraVerif.Props.TieA.Common
import LoraVerif.Props.TieA.HandleRx
import LoraVerif.Gen.SessionMacs
/-!
# Tie A for `Session::handle_downlink_macs` + `push_answer` (session.rs; C08) — the per-command dispatch

`Gen/SessionMacs.lean` holds the state-passing translation of `handle_downlink_macs`
(the `while let Some(cmd) = cmd_iter.next()` loop as a recursion over the list of commands the iterator yields,
`cmd_iter.peek()` = the head of the rest, `continue` = next iteration; the `for _ in 0..num_adrreq` loop of
identical LinkADRAns), of `push_answer` (the `answers_full` latch), `Uplink::add_mac_command`,
`DLSettings::{rx1_dr_offset, rx2_data_rate}` and `del_to_delay_ms`.

Abstract in the translation: parsing (a command is what its payload accessors yield — `decCmd` gives the
model's reading of the payload bytes), the region (`MacRegionOps`, instantiated here with the model's functions:
`modelOps`), and the answer creators (a hand-written prelude in the unit: records of the settable fields,
serialised as CID + status byte).
-/
set_option linter.unusedSimpArgs false
namespace TieA.Macs
open Model

def maskOf (m : Mask) : Gen.SessionMacs.ChannelMask := ⟨m.map Int.ofNat⟩

theorem natsOf_maskOf (m : Mask) : Rx.natsOf (maskOf m).bytes = m := map_toNat_ofNat m

/-- the region's methods, from the model (`Model/Region.lean`); `Err`/panic of the model = `none` -/
instance modelOps : Gen.SessionMacs.MacRegionOps RegionState where
  channel_mask_get rs := maskOf (channelMaskGet rs)
  has_fixed_channel_plan rs := rs.id.isFixed
  channel_dl_update rs i f := (channelDlUpdate rs i.toNat f.toNat).toOption
  channel_mask_update rs m cntl cm :=
    match cm.bytes with
    | [b0, b1] => (channelMaskUpdate rs (Rx.natsOf m.bytes) cntl.toNat b0.toNat b1.toNat).toOption.map fun r =>
        match r with
        | some m' => (some (), maskOf m')
        | none => (none, m)
    | _ => none
  is_uplink_datarate rs d := isUplinkDatarate rs.id d.toNat
  check_tx_power rs p := (txPowerAdjust rs.id p.toNat).toOption.map fun r => r.map fun x => some (x : Int)
  channel_mask_validate rs m dr := (channelMaskValidate rs (Rx.natsOf m.bytes) dr).toOption
  channel_mask_set rs m := channelMaskSet rs (Rx.natsOf m.bytes)
  handle_new_channel rs i f d := (handleNewChannel rs i.toNat f.toNat (d.map fun x => x._0.toNat)).toOption
  frequency_valid rs f := frequencyValid rs.id f.toNat
  rx1_dr_offset_validate rs v := (rx1DrOffsetValidate rs.id v.toNat).map Int.ofNat
  get_datarate rs d := getDatarate rs.id d.toNat

/-- the 24-bit little-endian frequency field, in Hz -/
def freqOf (a b c : Nat) : Gen.SessionMacs.Frequency := ⟨(((c * 65536 + b * 256 + a) * 100 : Nat) : Int)⟩

/-- the decoded command the iterator yields for a well-formed (CID, payload) pair: the model's reading of the
payload bytes (`handleCmds`) as the values of the payload accessors -/
def decCmd : Nat × List Nat → Gen.SessionMacs.DownlinkMacCommand
  | (0x03, [b0, b1, b2, b3]) =>
    .LinkADRReq ⟨drOfNatT (b0 / 16), drOfNatT (b0 % 16), ⟨[(b1 : Int), (b2 : Int)]⟩, ⟨(((b3 / 16) % 8 : Nat) : Int)⟩⟩
  | (0x05, [d, f0, f1, f2]) => .RXParamSetupReq ⟨⟨(d : Int)⟩, freqOf f0 f1 f2⟩
  | (0x06, _) => .DevStatusReq ⟨⟩
  | (0x07, [i, f0, f1, f2, r]) => .NewChannelReq ⟨(i : Int), freqOf f0 f1 f2, if r / 16 < r % 16 then none else some ⟨(r : Int)⟩⟩
  | (0x08, [d]) => .RXTimingSetupReq ⟨((d % 16 : Nat) : Int)⟩
  | (0x0A, [i, f0, f1, f2]) => .DlChannelReq ⟨(i : Int), freqOf f0 f1 f2⟩
  | (0x04, p) => .DutyCycleReq ⟨p.map Int.ofNat⟩
  | (0x09, p) => .TXParamSetupReq ⟨p.map Int.ofNat⟩
  | (0x0D, p) => .DeviceTimeAns ⟨p.map Int.ofNat⟩
  | (_, p) => .LinkCheckAns ⟨p.map Int.ofNat⟩

/-- a (CID, payload) pair as `parseDownlinkCmds` yields it: a known CID with its payload length, octets -/
def WfCmd (x : Nat × List Nat) : Prop := downlinkCmdLen x.1 = some x.2.length ∧ ∀ b ∈ x.2, b < 256

theorem cid_of_len {cid n : Nat} (h : downlinkCmdLen cid = some n) :
    cid = 2 ∨ cid = 3 ∨ cid = 4 ∨ cid = 5 ∨ cid = 6 ∨ cid = 7 ∨ cid = 8 ∨ cid = 9 ∨ cid = 10 ∨ cid = 13 := by
  unfold downlinkCmdLen at h
  split at h <;> simp_all

/-- a step outside a LinkADR block: `Out`, and the block state (working mask, counter, RFU flag) as it was -/
def StepOut (gs : Gen.SessionRx.Session) (cm : Gen.SessionMacs.ChannelMask) (n : Int) (rfu : Bool)
    (o : Gen.SessionRx.Session × Gen.SessionRx.Configuration × RegionState × Bool × Gen.SessionMacs.ChannelMask × Int × Bool)
    (c : MacCtx) : Prop :=
  Out gs (o.1, o.2.1, o.2.2.1, o.2.2.2.1) c ∧ o.2.2.2.2 = (cm, n, rfu)

theorem add_mac_command_tie (u : Gen.SessionRx.Uplink) (cmd : Gen.SessionMacs.SerializableMacCommand)
    (hlen : cmd.payload_len = cmd.payload_bytes.length)
    (h : u.pending.length + cmd.payload_bytes.length ≤ 18446744073709551615) :
    Gen.SessionMacs.Uplink.add_mac_command u cmd
      = some (decide (u.pending.length + cmd.payload_bytes.length < 15),
          if u.pending.length + cmd.payload_bytes.length < 15 then { u with pending := u.pending ++ cmd.cid :: cmd.payload_bytes } else u) := by
  obtain ⟨pend, conf⟩ := u
  obtain ⟨cid, pb, pl⟩ := cmd
  simp only at hlen h
  subst hlen
  have hof : ∀ n : Nat, Int.ofNat n = (n : Int) := fun _ => rfl
  have hcap : Gen.SessionRx.FOPTS_MAX_LEN = 15 := rfl
  unfold Gen.SessionMacs.Uplink.add_mac_command
  simp only [hof, hcap, Rt.hvPush, Rt.hvPushOk, Rt.hvExtend, Rt.hvExtendOk,
    List.length_append, List.length_singleton, List.length_cons, List.length_nil]
  have hl1 : ((pend ++ [cid]).length : Int) = (pend.length : Int) + 1 := by
    simp only [List.length_append, List.length_singleton]; omega
  -- the tests are decided by `omega` from the bounds, whichever way the source spells them
  by_cases hc : pend.length + pb.length < 15
  · tie_eval
    simp only [List.append_assoc, List.singleton_append]
  · tie_eval

end TieA.Macs

namespace C08
open Model

/-- `push_answer` (session.rs), regenerated from the current source with `Uplink::add_mac_command`
(`Gen/SessionMacs.lean`), is the model's `MacCtx.push`: nothing is queued once the `answers_full` latch is up; an
answer that fits (queue + payload < 15) is appended as CID then payload; the first answer that does not fit raises
the latch and leaves the queue; the owed-ACK flag is untouched; a queue of at most 15 bytes stays so; no panic. -/
theorem tieA_push_answer (u : Gen.SessionRx.Uplink) (full : Bool) (cmd : Gen.SessionMacs.SerializableMacCommand)
    (hlen : cmd.payload_len = cmd.payload_bytes.length) (hq : u.pending.length ≤ 15) (hpl : cmd.payload_bytes.length ≤ 15)
    (c : MacCtx) (hp : c.pending = TieA.Rx.natsOf u.pending) (hf : c.full = full) :
    ∃ u', Gen.SessionMacs.push_answer u full cmd = some (u', (c.push cmd.cid.toNat (TieA.Rx.natsOf cmd.payload_bytes)).full) ∧
      (c.push cmd.cid.toNat (TieA.Rx.natsOf cmd.payload_bytes)).pending = TieA.Rx.natsOf u'.pending ∧ u'.confirmed = u.confirmed ∧
      u'.pending.length ≤ 15 ∧
      (c.push cmd.cid.toNat (TieA.Rx.natsOf cmd.payload_bytes)).cfg = c.cfg ∧
      (c.push cmd.cid.toNat (TieA.Rx.natsOf cmd.payload_bytes)).region = c.region := by
  unfold Gen.SessionMacs.push_answer
  subst hf
  have hl : c.pending.length = u.pending.length := by rw [hp]; simp [TieA.Rx.natsOf]
  have hl2 : (TieA.Rx.natsOf cmd.payload_bytes).length = cmd.payload_bytes.length := by simp [TieA.Rx.natsOf]
  simp only [MacCtx.push, hl, hl2, TieA.Macs.add_mac_command_tie u cmd hlen (by omega)]
  cases hfl : c.full
  · by_cases hc : u.pending.length + cmd.payload_bytes.length < 15
    · simp [hc, hfl, hp, TieA.Rx.natsOf]
      omega
    · simp [hc, hfl, hp, hq]
  · simp [hfl, hp, hq]

end C08

namespace TieA.Macs
open Model Gen.Region

/-- closing step of an arm that pushes an answer: `push_answer`, the write-back of the queue and the return of the carried
variables, against `MacCtx.push` on a context that stands for them -/
theorem push_close {gs : Gen.SessionRx.Session} {full : Bool} {c : MacCtx} {g' : Gen.SessionRx.Configuration}
    (hrel : Rel gs g' full c) (hq : gs.uplink.pending.length ≤ 15) (cmd : Gen.SessionMacs.SerializableMacCommand)
    (hlen : cmd.payload_len = cmd.payload_bytes.length) (hpl : cmd.payload_bytes.length ≤ 15)
    {cidN : Nat} {ans : List Nat} (hc : cmd.cid.toNat = cidN) (hb : Rx.natsOf cmd.payload_bytes = ans)
    (cm : Gen.SessionMacs.ChannelMask) (n : Int) (rfu : Bool) :
    Tie (StepOut gs cm n rfu)
      ((Gen.SessionMacs.push_answer gs.uplink full cmd).bind fun x =>
        pure (({ gs with uplink := x.fst } : Gen.SessionRx.Session), g', c.region, x.snd, cm, n, rfu))
      (pure (c.push cidN ans)) := by
  obtain ⟨u', h1, h2, h3, h4, h5, h6⟩ := C08.tieA_push_answer gs.uplink full cmd hlen hq hpl c hrel.pending hrel.full
  subst hc hb
  rw [h1]
  refine Tie.pure ⟨⟨⟨u'.pending, ?_⟩, h6.symm, ⟨h5.trans hrel.cfg, h2, rfl⟩, h4⟩, rfl⟩
  cases u'; cases h3; rfl

/-- what one iteration of the generated loop must do for a command that is not a LinkADRReq: the model's arm on
the context, the LinkADR block state (working mask, counter, RFU flag) untouched, nothing of the session
touched but the answer queue, a panic on one side iff on the other -/
def StepTie (snr : Int) (x : Nat × List Nat) : Prop :=
  ∀ (gs : Gen.SessionRx.Session) (g : Gen.SessionRx.Configuration) (rs : RegionState) (full : Bool)
    (cm : Gen.SessionMacs.ChannelMask) (n : Int) (rfu : Bool) (peek : Option Gen.SessionMacs.DownlinkMacCommand) (c : MacCtx),
    Rel gs g full c → c.region = rs → gs.uplink.pending.length ≤ 15 →
    match stepModel snr x c with
    | .error _ => Gen.SessionMacs.Session.handle_downlink_macs.while_step snr gs g rs full cm n rfu (decCmd x) peek = none
    | .ok c' => ∃ pend' g', Gen.SessionMacs.Session.handle_downlink_macs.while_step snr gs g rs full cm n rfu (decCmd x) peek
          = some ({ gs with uplink := { gs.uplink with pending := pend' } }, g', c'.region, c'.full, cm, n, rfu) ∧
        c'.pending = Rx.natsOf pend' ∧ c'.cfg = Rx.cfgOf g' ∧ pend'.length ≤ 15

/-- `StepTie` in the calculus: the form in which the arms are proved and the loop composes them.
(`StepTie`, fixed, is the relation spelt out as a `match` and uses no `Tie`; `StepSim` is the one stated with `Tie`.) -/
structure StepSim (snr : Int) (x : Nat × List Nat) : Prop where
  tie : ∀ ⦃gs : Gen.SessionRx.Session⦄ ⦃g : Gen.SessionRx.Configuration⦄ ⦃full : Bool⦄ ⦃c : MacCtx⦄
    (cm : Gen.SessionMacs.ChannelMask) (n : Int) (rfu : Bool) (peek : Option Gen.SessionMacs.DownlinkMacCommand),
    Rel gs g full c → gs.uplink.pending.length ≤ 15 →
    Tie (StepOut gs cm n rfu)
      (Gen.SessionMacs.Session.handle_downlink_macs.while_step snr gs g c.region full cm n rfu (decCmd x) peek) (stepModel snr x c)

theorem StepTie.of_sim {snr : Int} {x : Nat × List Nat} (h : StepSim snr x) : StepTie snr x := by
  intro gs g rs full cm n rfu peek c hrel hreg hq
  subst hreg
  have := h.tie cm n rfu peek hrel hq
  split <;> rename_i e <;> rw [e] at this
  · exact Tie.error_iff.1 this
  · exact Out.spelt (π := id) (blk := fun _ => (cm, n, rfu)) this

/-- `DevStatusAnsCreator::set_margin` on −32..=31, the range of the 6-bit margin (`C08.tieA_devStatusMargin` has it
on −128..=127; proved here for the smaller range so that the
properties that import this file — C05/C06/C07 through `HandleRxFull.lean` — do not inherit the generated units of
`Props/TieA/C08.lean`) -/
theorem margin_byte (snr : Int) (h : -32 ≤ snr ∧ snr ≤ 31) :
    Gen.UplinkStatic.DevStatusAnsCreator.set_margin.byte snr = some (some (devStatusMargin snr : Int)) := by
  have all : ∀ k : Fin 64,
      Gen.UplinkStatic.DevStatusAnsCreator.set_margin.byte ((k.val : Int) - 32) =
        some (some (devStatusMargin ((k.val : Int) - 32) : Int)) := by decide +kernel
  have := all ⟨(snr + 32).toNat, by omega⟩
  have e : (((snr + 32).toNat : Nat) : Int) - 32 = snr := by omega
  simpa only [e] using this

theorem set_margin_eq (snr : Int) (b : Int) :
    ∃ r, Gen.SessionMacs.DevStatusAnsCreator.set_margin ⟨b, 0⟩ snr = some (r, ⟨b, (devStatusMargin snr : Int)⟩) := by
  unfold Gen.SessionMacs.DevStatusAnsCreator.set_margin
  by_cases h : -32 ≤ snr ∧ snr ≤ 31
  · rw [margin_byte snr h]
    exact ⟨_, rfl⟩
  · have hb : Gen.UplinkStatic.DevStatusAnsCreator.set_margin.byte snr = some none := by
      unfold Gen.UplinkStatic.DevStatusAnsCreator.set_margin.byte
      simp [h]
    have hz : devStatusMargin snr = 0 := by simp [devStatusMargin, h]
    rw [hb, hz]
    exact ⟨_, rfl⟩

/-- DevStatusReq: `DevStatusAns(255, margin)` is pushed -/
theorem tieA_step_dev_status (snr : Int) (p : List Nat) : StepSim snr (0x06, p) := by
  refine ⟨fun gs g full c cm n rfu peek hrel hq => ?_⟩
  obtain ⟨r, hm⟩ := set_margin_eq snr 255
  simp only [stepModel]
  unfold Gen.SessionMacs.Session.handle_downlink_macs.while_step
  simp only [decCmd, Gen.SessionMacs.DevStatusAnsCreator.new, Gen.SessionMacs.DevStatusAnsCreator.set_battery, hm,
    Option.bind_eq_bind, Option.bind_some]
  exact push_close hrel hq ⟨0x06, [255, (devStatusMargin snr : Int)], 2⟩ rfl (by simp) rfl (by simp [Rx.natsOf]) cm n rfu

/-- commands the device ignores (LinkCheckAns, DutyCycleReq, TXParamSetupReq, DeviceTimeAns): nothing changes -/
theorem tieA_step_ignored (snr : Int) (cid : Nat) (p : List Nat) (h : cid = 2 ∨ cid = 4 ∨ cid = 9 ∨ cid = 13) :
    StepSim snr (cid, p) := by
  refine ⟨fun gs g full c cm n rfu peek hrel hq => ?_⟩
  unfold Gen.SessionMacs.Session.handle_downlink_macs.while_step
  rcases h with h | h | h | h <;> subst h <;>
  · simp only [stepModel, decCmd]
    exact Tie.pure ⟨Out.refl hrel hq, rfl⟩

theorem del_eq : Gen.SessionMacs.del_to_delay_ms = Gen.Session.del_to_delay_ms := by
  funext d
  unfold Gen.SessionMacs.del_to_delay_ms Gen.Session.del_to_delay_ms
  rfl

/-- RXTimingSetupReq: `rx1_delay` from the low nibble, the (empty) answer pushed -/
theorem tieA_step_rx_timing (snr : Int) (d : Nat) : StepSim snr (0x08, [d]) := by
  refine ⟨fun gs g full c cm n rfu peek hrel hq => ?_⟩
  simp only [stepModel, byteAt, delToDelayMs, List.getElem?_cons_zero, ok_bind, bind_assoc, pure_bind]
  unfold Gen.SessionMacs.Session.handle_downlink_macs.while_step
  simp only [decCmd, del_eq]
  refine (Tie.ofGen _ _).bind ?_
  rintro _ v rfl
  exact push_close (c := { c with cfg := { c.cfg with rx1Delay := v.toNat } }) (g' := { g with rx1_delay := v })
    ⟨by simp [Rx.cfgOf, hrel.cfg], hrel.pending, hrel.full⟩ hq ⟨0x08, [], 0⟩ rfl (by simp) rfl rfl cm n rfu

/-- DlChannelReq: ignored on a fixed plan; otherwise the region's `channel_dl_update` and the two answer bits -/
theorem tieA_step_dl_channel (snr : Int) (i f0 f1 f2 : Nat) : StepSim snr (0x0A, [i, f0, f1, f2]) := by
  refine ⟨fun gs g full c cm n rfu peek hrel hq => ?_⟩
  simp only [stepModel, byteAt, freq24, List.getElem?_cons_zero, List.getElem?_cons_succ, ok_bind, bind_assoc, pure_bind]
  unfold Gen.SessionMacs.Session.handle_downlink_macs.while_step
  simp only [decCmd, freqOf, Gen.SessionMacs.MacRegionOps.has_fixed_channel_plan, Gen.SessionMacs.MacRegionOps.channel_dl_update,
    Int.toNat_natCast]
  cases hfx : c.region.id.isFixed
  · simp only [Bool.false_eq_true, if_false]
    refine (Tie.toOption _).bind ?_
    rintro _ ⟨⟨ackF, ackC⟩, region⟩ rfl
    exact push_close (c := { c with region := region }) ⟨hrel.cfg, hrel.pending, hrel.full⟩ hq
      ⟨0x0A, [Rt.b2i ackF + 2 * Rt.b2i ackC], 1⟩ rfl (by simp) rfl (by cases ackF <;> cases ackC <;> rfl) cm n rfu
  · simp only [if_true]
    exact Tie.pure ⟨Out.refl hrel hq, rfl⟩

/-- NewChannelReq: ignored on a fixed plan; otherwise the region's `handle_new_channel` (a malformed
DataRateRange passed as `None`) and the two answer bits -/
theorem tieA_step_new_channel (snr : Int) (i f0 f1 f2 r : Nat) : StepSim snr (0x07, [i, f0, f1, f2, r]) := by
  refine ⟨fun gs g full c cm n rfu peek hrel hq => ?_⟩
  simp only [stepModel, byteAt, freq24, List.getElem?_cons_zero, List.getElem?_cons_succ, ok_bind, bind_assoc, pure_bind]
  unfold Gen.SessionMacs.Session.handle_downlink_macs.while_step
  simp only [decCmd, freqOf, Gen.SessionMacs.MacRegionOps.has_fixed_channel_plan, Gen.SessionMacs.MacRegionOps.handle_new_channel,
    Int.toNat_natCast]
  have hdr : (Option.map (fun x : Gen.SessionMacs.DataRateRange => x._0.toNat) (if r / 16 < r % 16 then none else some ⟨(r : Int)⟩))
      = (if r / 16 < r % 16 then none else some r) := by
    split <;> simp
  cases hfx : c.region.id.isFixed
  · simp only [Bool.false_eq_true, if_false, hdr]
    refine (Tie.toOption _).bind ?_
    rintro _ ⟨⟨ackF, ackD⟩, region⟩ rfl
    exact push_close (c := { c with region := region }) ⟨hrel.cfg, hrel.pending, hrel.full⟩ hq
      ⟨0x07, [Rt.b2i ackF + 2 * Rt.b2i ackD], 1⟩ rfl (by simp) rfl (by cases ackF <;> cases ackD <;> rfl) cm n rfu
  · simp only [if_true]
    exact Tie.pure ⟨Out.refl hrel hq, rfl⟩

/-- a DevStatusReq with SNR −3 on an empty queue: `DevStatusAns(255, 0x3D)` is queued; a second one after 13
queued bytes does not fit and raises the latch -/
example :
    (@Gen.SessionMacs.Session.handle_downlink_macs RegionState modelOps ⟨⟨[], false⟩, false, ⟨⟨1⟩⟩, ⟨⟨2⟩⟩, ⟨3⟩, 0, none, 0⟩
        TieA.Rx.exCfg (RegionState.init .EU868) [some (decCmd (6, []))] (-3) false).map (fun o => (o.1.uplink.pending, o.2.2.2))
      = some ([6, 255, 0x3D], false) ∧
    (@Gen.SessionMacs.Session.handle_downlink_macs RegionState modelOps ⟨⟨List.replicate 13 0, false⟩, false, ⟨⟨1⟩⟩, ⟨⟨2⟩⟩, ⟨3⟩, 0, none, 0⟩
        TieA.Rx.exCfg (RegionState.init .EU868) [some (decCmd (6, []))] (-3) false).map (fun o => (o.1.uplink.pending.length, o.2.2.2))
      = some (13, true) := by
  constructor <;> rfl

/-- a block of two LinkADRReq on EU868 (mask 0x0007, DR5, power 1): two identical `LinkADRAns(0b111)`, the data
rate and the power are applied — the generated loop run on the model's region -/
example :
    (@Gen.SessionMacs.Session.handle_downlink_macs RegionState modelOps ⟨⟨[], false⟩, false, ⟨⟨1⟩⟩, ⟨⟨2⟩⟩, ⟨3⟩, 0, none, 0⟩
        TieA.Rx.exCfg (RegionState.init .EU868)
        [some (decCmd (3, [0x51, 0x07, 0x00, 0x00])), some (decCmd (3, [0x51, 0x07, 0x00, 0x00]))] 0 false).map
        (fun o => (o.1.uplink.pending, o.2.1.data_rate, o.2.1.tx_power))
      = some ([3, 7, 3, 7], DR._5, some 14) := by
  rfl

example : WfCmd (6, []) ∧ WfCmd (3, [0x51, 0x07, 0x00, 0x00]) := by
  refine ⟨⟨rfl, by simp⟩, ⟨rfl, ?_⟩⟩
  intro b hb
  simp at hb
  omega

#print axioms tieA_step_dev_status
#print axioms tieA_step_ignored
#print axioms tieA_step_rx_timing
#print axioms tieA_step_dl_channel
#print axioms tieA_step_new_channel
end TieA.Macs

namespace C08
open Model TieA.Macs

/-- `Session::handle_downlink_macs`, the arms of this file (steps of `C08.tieA_handle_downlink_macs`): one iteration of the regenerated dispatch loop
(`Gen/SessionMacs.lean`: `while let Some(cmd) = cmd_iter.next()` as a recursion over the commands the iterator
yields, the region's methods instantiated with the model's) is the model's arm of `handleCmds` (`stepModel`;
`handleCmds_cons`: on a well-formed command that is not a LinkADRReq, `handleCmds` is that arm followed by the
rest with the LinkADR block state untouched) for DevStatusReq (battery 255, the 6-bit margin), RXTimingSetupReq
(`rx1_delay` from the low nibble), NewChannelReq and DlChannelReq (ignored on fixed plans; the region's handler,
the two answer bits in the order frequency / range resp. frequency / uplink-exists), and the commands the device
ignores (LinkCheckAns, DutyCycleReq, TXParamSetupReq, DeviceTimeAns): same answer queue and latch, same
configuration and region, the LinkADR block state (working mask, counter, RFU flag) and every other field of the
session untouched, a panic on one side iff on the other. -/
theorem tieA_handle_downlink_macs_partial (snr : Int) :
    (∀ (x : Nat × List Nat) (rest : List (Nat × List Nat)) (c : MacCtx) (mask : Mask) (rfu : Bool) (n : Nat), WfCmd x → x.1 ≠ 3 →
      handleCmds snr (x :: rest) c mask rfu n = (stepModel snr x c).bind fun c' => handleCmds snr rest c' mask rfu n) ∧
    (∀ p, StepTie snr (0x06, p)) ∧
    (∀ d, StepTie snr (0x08, [d])) ∧
    (∀ i f0 f1 f2 r, StepTie snr (0x07, [i, f0, f1, f2, r])) ∧
    (∀ i f0 f1 f2, StepTie snr (0x0A, [i, f0, f1, f2])) ∧
    (∀ cid p, cid = 2 ∨ cid = 4 ∨ cid = 9 ∨ cid = 13 → StepTie snr (cid, p)) :=
  ⟨fun x rest c mask rfu n _ h3 => handleCmds_cons snr x rest c mask rfu n h3,
   fun p => .of_sim (tieA_step_dev_status snr p), fun d => .of_sim (tieA_step_rx_timing snr d),
   fun i f0 f1 f2 r => .of_sim (tieA_step_new_channel snr i f0 f1 f2 r), fun i f0 f1 f2 => .of_sim (tieA_step_dl_channel snr i f0 f1 f2),
   fun cid p h => .of_sim (tieA_step_ignored snr cid p h)⟩

#print axioms tieA_push_answer
#print axioms tieA_handle_downlink_macs_partial
end C08
