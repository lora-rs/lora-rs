import LoraVerif.Props.TieA.MacCmdFrameGen
import LoraVerif.Gen.MacCmdFn
/-!
# Tie A for the downlink MAC-command iterator: the framing step (C03; used by C08)

`Gen/MacCmdFn.lean` holds what `#[derive(CommandHandler)]` generates for `DownlinkMacCommand` — the payload structs
with `new_from_raw` / `max_len` and `MacCommandSet::parse_one`, EXPANDED by the translator from the `quote!`
templates of lorawan-macros/src/lib.rs with the `#[cmd(cid, len)]` attributes of maccommands.rs — and the source's
`MacCommands::next` for that set.  Here the regenerated framing step is proved EQUAL, for every octet stream, to
the hand model of C03 (`MacCmd.parseOne` / `MacCmd.next` over the table `Gen.CmdTables.downlinkMacCommand`) and to
the independent specification's splitter (`Spec.MacCmd.split` over LoRaWAN 1.0.4 Table 4).

The set-independent part of the argument is `Props/TieA/MacCmdFrameGen.lean`, as for the five other sets (`MacCmdFrame<Set>.lean`);
the namespace is that of its vocabulary (`ints`, `toOpt`, `cmdUp` …).  Here `oneOf` / `itemOf` spell out
`TieA.FrameGen.POne` / `GItem`, and `genRunFuel` is `runFuelOf` at this unit's `next` (`genRunFuel_eq`): unlike the drains of the
other five sets, `genRun` is named outside this file (`TieA.MacCmdAcc.regenCmds`, which C08 hands to `handle_downlink_macs`).
-/
namespace TieA.MacCmdFrame
open MacCmd

def TD : Table := C03.T Gen.CmdTables.downlinkMacCommand

/-- what a yielded command is: CID (LoRaWAN 1.0.4 Table 4), variant, payload type, the octets its payload view borrows -/
def infoOf : Gen.MacCmdFn.DownlinkMacCommand → Nat × String × String × List Int
  | .LinkCheckAns p => (2, "LinkCheckAns", "LinkCheckAnsPayload", p._0)
  | .LinkADRReq p => (3, "LinkADRReq", "LinkADRReqPayload", p._0)
  | .DutyCycleReq p => (4, "DutyCycleReq", "DutyCycleReqPayload", p._0)
  | .RXParamSetupReq p => (5, "RXParamSetupReq", "RXParamSetupReqPayload", p._0)
  | .DevStatusReq _ => (6, "DevStatusReq", "DevStatusReqPayload", [])
  | .NewChannelReq p => (7, "NewChannelReq", "NewChannelReqPayload", p._0)
  | .RXTimingSetupReq p => (8, "RXTimingSetupReq", "RXTimingSetupReqPayload", p._0)
  | .TXParamSetupReq p => (9, "TXParamSetupReq", "TXParamSetupReqPayload", p._0)
  | .DlChannelReq p => (10, "DlChannelReq", "DlChannelReqPayload", p._0)
  | .DeviceTimeAns p => (13, "DeviceTimeAns", "DeviceTimeAnsPayload", p._0)

def errOf : Gen.MacCmdFn.ParseError → MacCmd.ParseError
  | .UnknownCid c => .unknownCid c.toNat
  | .Truncated c => .truncated c.toNat

def oneOf : Gen.MacCmdFn.ParseOne → Except MacCmd.ParseError ((Nat × String × String × List Int) × Int)
  | .Ok c n => .ok (infoOf c, n)
  | .Err e => .error (errOf e)

def itemOf : Gen.MacCmdFn.NextItem → Except MacCmd.ParseError (Nat × String × String × List Int)
  | .Ok c => .ok (infoOf c)
  | .Err e => .error (errOf e)

def stOf (g : Gen.MacCmdFn.MacCommands) : List Int × Bool := (g.data, g.errored)

open TieA.FrameGen in
theorem next_bridge (s : Gen.MacCmdFn.MacCommands) :
    (Gen.MacCmdFn.MacCommands.next s).map (fun r => (r.1.map itemOf, stOf r.2))
      = gNext (fun d => (Gen.MacCmdFn.DownlinkMacCommand.parse_one d).map oneOf) (stOf s) :=
  gNext_of (fun _ => by rfl) (fun s r => by
    cases r with
    | Err x => rfl
    | Ok c n => exact Option.map_bind) s

/-- what a `for` loop over the REGENERATED iterator observes: `next` until it returns `None`, at most `fuel` times
(items, final state, budget exhausted) — the driver of `MacCmd.runFuel`, over `Gen.MacCmdFn.MacCommands.next` -/
def genRunFuel : Nat → Gen.MacCmdFn.MacCommands → Option (List Gen.MacCmdFn.NextItem × Gen.MacCmdFn.MacCommands × Bool)
  | 0, s => some ([], s, true)
  | fuel + 1, s =>
    match Gen.MacCmdFn.MacCommands.next s with
    | none => none
    | some (none, s') => some ([], s', false)
    | some (some it, s') =>
      match genRunFuel fuel s' with
      | none => none
      | some r => some (it :: r.1, r.2.1, r.2.2)

/-- `parse_downlink_mac_commands(data)` drained: `MacCommands::new(data)` then `next` until `None` -/
def genRun (data : List Int) : Option (List Gen.MacCmdFn.NextItem × Gen.MacCmdFn.MacCommands × Bool) :=
  genRunFuel (data.length + 2) ⟨data, false⟩

def runOf (r : List Gen.MacCmdFn.NextItem × Gen.MacCmdFn.MacCommands × Bool) := (r.1.map itemOf, stOf r.2.1, r.2.2)

open TieA.FrameGen in
theorem genRunFuel_eq : ∀ (fuel : Nat) (s : Gen.MacCmdFn.MacCommands),
    genRunFuel fuel s = runFuelOf Gen.MacCmdFn.MacCommands.next fuel s
  | 0, _ => rfl
  | fuel + 1, s => by
    unfold genRunFuel runFuelOf
    rcases Gen.MacCmdFn.MacCommands.next s with _ | ⟨_ | it, s'⟩
    · rfl
    · rfl
    · simp only [genRunFuel_eq fuel s']
      rcases runFuelOf Gen.MacCmdFn.MacCommands.next fuel s' with _ | r <;> rfl

/-- an item of the regenerated iterator in the specification's vocabulary -/
def specItem : Gen.MacCmdFn.NextItem → Spec.MacCmd.Item
  | .Ok c => .cmd ⟨(infoOf c).1, (infoOf c).2.1, .fixed (infoOf c).2.2.2.length⟩ (nats (infoOf c).2.2.2)
  | .Err (.UnknownCid c) => .unknown c.toNat
  | .Err (.Truncated c) => .truncated c.toNat

/-- the regenerated table against LoRaWAN 1.0.4 Table 4, CID by CID -/
theorem spec_lookup : SpecRows TD Spec.MacCmd.macDownlink := fun cid => by
  by_cases h : cid ∈ [2, 3, 4, 5, 6, 7, 8, 9, 10, 13]
  · simp only [List.mem_cons, List.not_mem_nil, or_false] at h
    rcases h with rfl | rfl | rfl | rfl | rfl | rfl | rfl | rfl | rfl | rfl <;> rfl
  · rw [Table.lookup_none_of TD cid h]
    exact List.find?_eq_none.mpr fun c hc hcc =>
      h (beq_iff_eq.mp hcc ▸ (List.mem_map_of_mem hc : c.cid ∈ Spec.MacCmd.macDownlink.map (·.cid)))

theorem fixed_TD : ∀ e ∈ TD, e.len.isSome := by decide

theorem vlTotal_TD : VlTotal TD varLen := C03.vl_total ("DownlinkMacCommand", Gen.CmdTables.downlinkMacCommand) List.mem_cons_self

/-- the octets an item occupies on the wire: CID then payload for a command, nothing for the error -/
def wireOf : Gen.MacCmdFn.NextItem → List Int
  | .Ok c => ((infoOf c).1 : Int) :: (infoOf c).2.2.2
  | .Err _ => []

def isErr : Gen.MacCmdFn.NextItem → Bool
  | .Ok _ => false
  | .Err _ => true

/-- the wire octets of an item, from its reading (`itemOf` / `itemUp`) alone -/
def wireR : Except MacCmd.ParseError (Nat × String × String × List Int) → List Int
  | .ok i => (i.1 : Int) :: i.2.2.2
  | .error _ => []

theorem wire_of_reading (l : List Gen.MacCmdFn.NextItem) (l' : List MacCmd.Item) (h : l.map itemOf = l'.map itemUp) :
    (l.map wireOf).flatten = ints (l'.map Item.wire).flatten ∧ l.map isErr = l'.map Item.isErr := by
  have e1 : wireOf = wireR ∘ itemOf := funext fun a => by cases a <;> rfl
  have e2 : (fun a' : MacCmd.Item => ints a'.wire) = wireR ∘ itemUp := funext fun a' => by cases a' <;> rfl
  have e3 : isErr = (fun x => !x.toBool) ∘ itemOf := funext fun a => by cases a <;> rfl
  have e4 : Item.isErr = (fun x => !x.toBool) ∘ itemUp := funext fun a' => by cases a' <;> rfl
  refine ⟨?_, ?_⟩
  · rw [e1, ← List.map_map, h, List.map_map, ← e2, ints, List.map_flatten, List.map_map]; rfl
  · rw [e3, e4, ← List.map_map, h, List.map_map]

/-- an item's reading (`itemOf` / `itemUp`) in the specification's vocabulary: `specItem` and `Item.spec` through it -/
def specR : Except MacCmd.ParseError (Nat × String × String × List Int) → Spec.MacCmd.Item
  | .ok i => .cmd ⟨i.1, i.2.1, .fixed i.2.2.2.length⟩ (nats i.2.2.2)
  | .error (.unknownCid c) => .unknown c
  | .error (.truncated c) => .truncated c

end TieA.MacCmdFrame

namespace C03
open TieA.MacCmdFrame MacCmd

/-- the derive-generated `parse_one` of `DownlinkMacCommand` (expanded from the `quote!` templates of the
`CommandHandler` derive with the `#[cmd(cid, len)]` attributes of the current source; `Gen/MacCmdFn.lean`) IS the model's
`parseOne` over the regenerated table, for EVERY octet string: the same variant, payload type and payload octets, the
same number of octets consumed, `UnknownCid` / `Truncated` with the same CID on the same inputs, a panic on the same
input (the empty slice, which the trait's contract excludes). -/
theorem tieA_parse_one (data : List Nat) :
    (Gen.MacCmdFn.DownlinkMacCommand.parse_one (ints data)).map oneOf = (toOpt (parseOne TD varLen data)).map oneUp := by
  cases data with
  | nil => rfl
  | cons cid rest =>
    by_cases h : cid ∈ [2, 3, 4, 5, 6, 7, 8, 9, 10, 13]
    · simp only [List.mem_cons, List.not_mem_nil, or_false] at h
      rcases h with rfl | rfl | rfl | rfl | rfl | rfl | rfl | rfl | rfl | rfl <;>
        exact TieA.FrameGen.fixed_arm_tie (fun c => .Err (.Truncated c)) (by decide) rfl rfl rfl fun _ => rfl
    · refine TieA.FrameGen.unknown_arm_tie (e := .Err (.UnknownCid cid)) (Table.lookup_none_of TD cid h) ?_ rfl
      have hI := TieA.FrameGen.not_mem_cast h
      simp only [List.map, List.mem_cons, List.not_mem_nil, or_false, not_or, Int.cast_ofNat_Int] at hI
      simp only [Gen.MacCmdFn.DownlinkMacCommand.parse_one, idx0, Option.bind_eq_bind, Option.bind_some, decide_eq_true_eq, hI, if_false]
      rfl

/-- the source's `MacCommands::next` (for `T = DownlinkMacCommand`) IS the model's `next` in every state:
same item, same remaining slice, same `errored` flag. -/
theorem tieA_next (data : List Nat) (err : Bool) :
    (Gen.MacCmdFn.MacCommands.next ⟨ints data, err⟩).map (fun r => (r.1.map itemOf, stOf r.2))
      = (toOpt (MacCmd.next TD varLen ⟨data, err⟩)).map (fun r => (r.1.map itemUp, stUp r.2)) := by
  rw [next_bridge]
  exact TieA.FrameGen.gNext_tie TD varLen _ (fun _ => True) (fun d _ => tieA_parse_one d) data err trivial

/-- `parse_downlink_mac_commands(data)` drained through the REGENERATED `next` is the model's run, for every
octet stream: the same items in the same order, the same final state, within the same budget. -/
theorem tieA_iterator (data : List Nat) :
    (genRun (ints data)).map runOf = (toOpt (run TD varLen data)).map runUp := by
  unfold genRun run
  rw [ints_length, genRunFuel_eq]
  exact (TieA.FrameGen.runFuelOf_sim _ _ itemOf stOf next_bridge _ _).trans
    (TieA.FrameGen.gRun_tie TD varLen _ (fun _ => True) (fun _ _ _ _ => trivial) (fun d _ => tieA_parse_one d) _ data false trivial)

/-- what `tieA_iterator` says once the model's run is known -/
theorem genRun_of_run {data : List Nat} {m : Run} (hm : run TD varLen data = .ok m) :
    ∃ r, genRun (ints data) = some r ∧ r.1.map itemOf = m.items.map itemUp ∧ stOf r.2.1 = stUp m.final ∧ r.2.2 = m.hang := by
  have h := tieA_iterator data
  rw [hm] at h
  obtain ⟨r, hr, he⟩ := Option.map_eq_some_iff.mp h
  exact ⟨r, hr, congrArg (·.1) he, congrArg (·.2.1) he, congrArg (·.2.2) he⟩

/-- C03's iterator theorems carried over to the regenerated iterator: on every octet stream the drain
returns (no panic) and reaches `None` within the budget; the wire octets of the yielded commands followed by the
unread rest are exactly the input (whole commands only); an error item is the last item (at most one error). -/
theorem tieA_iterator_total (data : List Nat) :
    ∃ r, genRun (ints data) = some r ∧ r.2.2 = false ∧
      (r.1.map wireOf).flatten ++ r.2.1.data = ints data ∧
      (∀ pre it post, r.1 = pre ++ it :: post → isErr it = true → post = []) := by
  obtain ⟨m, hm, ok⟩ := run_ok vlTotal_TD data
  obtain ⟨r, hr, hi, hst, hhang⟩ := genRun_of_run hm
  obtain ⟨hw1, hw2⟩ := wire_of_reading r.1 m.items hi
  have hp : _ = data := ok.prefix_eq
  refine ⟨r, hr, hhang.trans ok.no_hang, ?_, ?_⟩
  · rw [hw1, show r.2.1.data = ints m.final.data from congrArg (·.1) hst, ← hp]; simp [ints]
  · intro pre it post hsplit hit
    have hsplit' := congrArg (List.map isErr) hsplit
    rw [hw2] at hsplit'
    simp only [List.map_append, List.map_cons, hit] at hsplit'
    obtain ⟨pre', rest', hm1, hm2, hm3⟩ := List.map_eq_append_iff.mp hsplit'
    obtain ⟨it', post', hr1, hr2, hr3⟩ := List.map_eq_cons_iff.mp hm3
    have := ok.fused pre' it' post' (by rw [hm1, hr1]) hr2
    subst this
    simpa using hr3.symm

/-! non-vacuity: a LinkADRReq, a DevStatusReq and a DlChannelReq cut short — two commands, then ONE `Truncated` error,
the iterator fused on the unread tail; an unknown CID (0x0B) likewise -/
example : (genRun [3, 0x51, 7, 0, 0, 6, 0x0A, 1]).map (fun r => (r.1.map wireOf, r.1.map isErr, r.2.1, r.2.2))
    = some ([[3, 0x51, 7, 0, 0], [6], []], [false, false, true], ⟨[0x0A, 1], true⟩, false) := by decide
example : (Gen.MacCmdFn.DownlinkMacCommand.parse_one [0x0B, 1, 2]) = some (.Err (.UnknownCid 0x0B)) := by decide
example : (Gen.MacCmdFn.DownlinkMacCommand.parse_one [0x0A, 1, 2]) = some (.Err (.Truncated 0x0A)) := by decide
example : (Gen.MacCmdFn.DownlinkMacCommand.parse_one [0x08, 1, 2]) = some (.Ok (.RXTimingSetupReq ⟨[1]⟩) 2) := by decide
example : (toOpt (run TD varLen [3, 0x51, 7, 0, 0, 6, 0x0A, 1])).map (fun r => (r.items.length, r.hang)) = some (3, false) := by decide

/-- the REGENERATED iterator against the independent specification: for every octet stream, draining
`parse_downlink_mac_commands` yields exactly what the specification's splitter (`Spec.MacCmd.splitAll` over LoRaWAN 1.0.4
Table 4) yields — the same whole commands (CID, name, payload octets) in the same order, then at most one error item
(`unknown` / `truncated` with the offending CID) — and leaves exactly the octets the splitter leaves unread. -/
theorem tieA_iterator_spec (data : List Nat) :
    ∃ r, genRun (ints data) = some r ∧ r.2.2 = false ∧
      r.1.map specItem = (Spec.MacCmd.splitAll Spec.MacCmd.macDownlink data).1 ∧
      r.2.1.data = ints (Spec.MacCmd.splitAll Spec.MacCmd.macDownlink data).2 := by
  obtain ⟨m, hm, hh, h1, h2⟩ := run_split (vl := varLen) fixed_TD spec_lookup data
  obtain ⟨r, hr, hi, hst, hhang⟩ := genRun_of_run hm
  have e1 : specItem = specR ∘ itemOf := funext fun a => by rcases a with _ | ⟨_ | _⟩ <;> rfl
  have e2 : Item.spec = specR ∘ itemUp := funext fun a => by
    rcases a with c | ⟨_ | _⟩ <;> simp only [Function.comp, itemUp, cmdUp, specR, ints_length, nats_ints, Item.spec]
  refine ⟨r, hr, hhang.trans hh, ?_, ?_⟩
  · rw [← h1, e1, e2, ← List.map_map, hi, List.map_map]
  · rw [← h2]; exact congrArg (·.1) hst

#print axioms tieA_iterator_spec
#print axioms tieA_parse_one
#print axioms tieA_next
#print axioms tieA_iterator
#print axioms tieA_iterator_total
end C03
