import LoraVerif.Props.C19
import LoraVerif.Gen.MacCmdCreatorFn
import LoraVerif.Props.TieA.MacCmdFrame
/-!
# Tie A for the command creators (C19)

`Gen/MacCmdCreatorFn.lean` holds, for eight MAC commands, the creator `#[derive(CommandHandler)]` generates (`XCreator { data }`,
`new`, `len`, `build`, expanded from the `quote!` template with the `#[cmd]` attributes of the current source) and the
hand-written setters of maccommandcreator.rs that take plain integers / booleans.  Here each regenerated function is proved
EQUAL to the hand model `Model/MacCmdCreators.lean` (`Creator.new`, `Creator.build`, `setLinkADRReq` … — the functions the C19
refinement lemmas `MacCmd.set_*` and `buildWith` are stated about), for EVERY state of the creator (`data` is an array of
`max_len + 1` octets: a list of exactly that length) and every argument of the setter's Rust type.
A setter's result is compared as (accepted?, new `data`); which `Error` a refusal carries is not modelled on the generated side.
The setters come in a few shapes (store of an octet, flag, range-checked nibble, `copy_from_slice`): one lemma per shape, about
an arbitrary creator state; a tie names its shape, and the regenerated setter and the model's are recognised as that shape by unfolding.
-/
-- the statements bound every argument by its Rust type (`hv`), also where the equality holds without the bound
set_option linter.unusedVariables false
namespace TieA.Creators
open MacCmd TieA.MacCmdFrame

/-- a setter's outcome: accepted?, the new `data` -/
def resUp (r : SetRes × Creator) : Bool × List Int := (r.1 == .ok, ints r.2.data)
/-- the same of a regenerated fallible setter (`Result<&mut Self, Error>`) / infallible setter (`&mut Self`) -/
def resF {C : Type} (data : C → List Int) (r : Option Unit × C) : Bool × List Int := (r.1.isSome, data r.2)
def resI {C : Type} (data : C → List Int) (r : C) : Bool × List Int := (true, data r)

def b2n (b : Bool) : Nat := if b then 1 else 0

theorem leBytes_nat : ∀ (n v : Nat), Rt.leBytes n (v : Int) = ints (toLeBytes n v) := by
  intro n
  induction n with
  | zero => intro v; rfl
  | succ n ih =>
    intro v
    have h1 : ((v : Int) % 256) = ((v % 256 : Nat) : Int) := by omega
    have h2 : ((v : Int) / 256) = ((v / 256 : Nat) : Int) := by omega
    simp only [Rt.leBytes, toLeBytes, h1, h2, ih]
    rfl

/-- `data[1] &= m; data[1] |= s`, as the setters of a bit field do it (`s`, the value put in place, may be a checked shift);
`k` is what the setter returns -/
def rmw2 {R : Type} (d : List Int) (m : Int) (s : Option Int) (k : List Int → R) : Option R :=
  (Rt.idx d 1).bind fun t1 => (Rt.setIdx d 1 (Rt.andI t1 m)).bind fun d2 => (Rt.idx d2 1).bind fun t3 => s.bind fun t4 =>
    (Rt.setIdx d2 1 (Rt.orI t3 t4)).bind fun d3 => some (k d3)

theorem rmw2_eq {R : Type} {c b : Nat} {rest : List Nat} (m w : Nat) (s : Option Int) (k : List Int → R) (hs : s = some (w : Int)) :
    rmw2 (ints (c :: b :: rest)) m s k = some (k (ints (c :: (b &&& m ||| w) :: rest))) := by
  subst hs
  show some (k ((c : Int) :: Rt.orI (Rt.andI b m) w :: ints rest)) = _
  rw [Rt.andI_ofNat, Rt.orI_ofNat]
  rfl

theorem shl_flag (k : Nat) (hk : k < 8) (ack : Bool) :
    Rt.shlC .u8 (Rt.b2i ack) k = some (((b2n ack <<< k) % 256 : Nat) : Int) := by
  rw [← Rt.OfNat.shlC_u8_nat (b2n ack) k hk]; cases ack <;> rfl

section
variable {C : Type} {y : Outcome (SetRes × Creator)} {data : C → List Int} {mk : List Int → C} (hmk : ∀ l, data (mk l) = l)
  {c b : Nat} {rest : List Nat}

include hmk

/-- a flag setter (`data[1] &= !(1 << k); data[1] |= (ack as u8) << k`) against the model's `setFlag`.  `x` is the regenerated
setter on a creator `c :: b :: rest`; that it has this shape (`hx`) holds by unfolding, the mask being evaluated; `s` is the
flag put in place as the setter computes it. -/
theorem flag_tie {x : Option C} (k : Nat) (ack : Bool) (s : Option Int)
    (hx : x = rmw2 (ints (c :: b :: rest)) ((255 - 1 <<< k : Nat) : Int) s mk)
    (hy : y = setFlag ⟨c :: b :: rest, 0⟩ k (.n (b2n ack))) (hs : s = some (((b2n ack <<< k) % 256 : Nat) : Int)) :
    x.map (resI data) = (toOpt y).map resUp := by
  rw [hx, hy, rmw2_eq _ _ _ mk hs]
  simp only [Option.map_some, resI, hmk]
  rfl

/-- a setter that refuses values above 15 and otherwise writes a nibble of `data[1]` (`&=` the other nibble's mask `m`, `|=` the
value `w` put in place), against the model's inline form of it (`setLowNibbleChecked` unfolds to that form) -/
theorem checked_tie {x : Option (Option Unit × C)} {e s1 s2 : String} (v m w : Nat) (s : Option Int)
    (hx : x = if decide ((v : Int) > 15) then some (none, mk (ints (c :: b :: rest))) else
      rmw2 (ints (c :: b :: rest)) m s fun d => (some (), mk d))
    (hy : y = if v > 15 then refuse ⟨c :: b :: rest, 0⟩ e else do
      let d ← modByte s1 (c :: b :: rest) 1 (· &&& m)
      let d ← modByte s2 d 1 (· ||| w)
      okD ⟨c :: b :: rest, 0⟩ d)
    (hs : s = some (w : Int)) :
    x.map (resF data) = (toOpt y).map resUp := by
  by_cases h : v > 15
  · have h' : (v : Int) > 15 := by omega
    rw [hx, hy, if_pos (decide_eq_true h'), if_pos h]
    simp only [Option.map_some, resF, hmk]
    rfl
  · have h' : ¬ (v : Int) > 15 := by omega
    rw [hx, hy, if_neg (by simpa using h'), if_neg h, rmw2_eq m w s _ hs]
    simp only [Option.map_some, resF, hmk]
    rfl

/-- a setter that stores one octet: `data[i] = v` -/
theorem raw_tie {x : Option C} {d : List Nat} (i v : Nat) (hi : i < d.length)
    (hx : x = (Rt.setIdx (ints d) (i : Int) (v : Int)).bind fun t => some (mk t)) (hy : y = setRaw ⟨d, 0⟩ i (.n v)) :
    x.map (resI data) = (toOpt y).map resUp := by
  rw [hx, hy, show Rt.setIdx (ints d) (i : Int) (v : Int) = _ from Rt.setIdx_map Int.ofNat d i v, if_pos hi]
  simp only [Option.bind_some, Option.map_some, resI, hmk, setRaw, setByte, hi, if_true, Outcome.ok_bind, okD, toOpt, resUp]
  rfl

/-- `data[a..b].copy_from_slice(src)` on both sides (a panic on the same lengths) -/
theorem copy_tie {x : Option C} {d : List Nat} {s : String} (a b : Nat) (src : List Nat)
    (hx : x = (Rt.copyFromSlice (ints d) (a : Int) (b : Int) (ints src)).bind fun t => some (mk t))
    (hy : y = do let t ← copyInto s d a b src; okD ⟨d, 0⟩ t) :
    x.map (resI data) = (toOpt y).map resUp := by
  rw [hx, hy, ints, ints, Rt.copyFromSlice_map, copyInto]
  by_cases h : a ≤ b ∧ b ≤ d.length ∧ src.length = b - a
  · simp only [if_pos h, Option.bind_some, Option.map_some, resI, hmk]
    rfl
  · rw [if_neg h, if_neg h]
    rfl

end

/-! The rows of the eight commands in the regenerated tables (`#[cmd]` attributes), as `Creator.new` / `build` take them. -/

def eLinkADRReq : Entry := ⟨3, some 4, "LinkADRReq", "LinkADRReqPayload"⟩
theorem eLinkADRReq_row : (C03.T Gen.CmdTables.downlinkMacCommand).lookup 3 = some eLinkADRReq := by decide

def eLinkADRAns : Entry := ⟨3, some 1, "LinkADRAns", "LinkADRAnsPayload"⟩
theorem eLinkADRAns_row : (C03.T Gen.CmdTables.uplinkMacCommand).lookup 3 = some eLinkADRAns := by decide

def eNewChannelReq : Entry := ⟨7, some 5, "NewChannelReq", "NewChannelReqPayload"⟩
theorem eNewChannelReq_row : (C03.T Gen.CmdTables.downlinkMacCommand).lookup 7 = some eNewChannelReq := by decide

def eDlChannelReq : Entry := ⟨10, some 4, "DlChannelReq", "DlChannelReqPayload"⟩
theorem eDlChannelReq_row : (C03.T Gen.CmdTables.downlinkMacCommand).lookup 10 = some eDlChannelReq := by decide

def eRXParamSetupReq : Entry := ⟨5, some 4, "RXParamSetupReq", "RXParamSetupReqPayload"⟩
theorem eRXParamSetupReq_row : (C03.T Gen.CmdTables.downlinkMacCommand).lookup 5 = some eRXParamSetupReq := by decide

def eDevStatusAns : Entry := ⟨6, some 2, "DevStatusAns", "DevStatusAnsPayload"⟩
theorem eDevStatusAns_row : (C03.T Gen.CmdTables.uplinkMacCommand).lookup 6 = some eDevStatusAns := by decide

def eTXParamSetupReq : Entry := ⟨9, some 1, "TXParamSetupReq", "TXParamSetupReqPayload"⟩
theorem eTXParamSetupReq_row : (C03.T Gen.CmdTables.downlinkMacCommand).lookup 9 = some eTXParamSetupReq := by decide

def eDeviceTimeAns : Entry := ⟨13, some 5, "DeviceTimeAns", "DeviceTimeAnsPayload"⟩
theorem eDeviceTimeAns_row : (C03.T Gen.CmdTables.downlinkMacCommand).lookup 13 = some eDeviceTimeAns := by decide

/-- `build()` of a fixed-length creator (`&self.data[..max_len + 1]`) on a `data` array of that length: the whole array, on both
sides; `x` is a regenerated `build` (which unfolds to this shape) -/
theorem build_tie {x : Option (List Int)} (e : Entry) (n : Nat) (d : List Nat) (hn : n < 2 ^ 32) (he : e.len = some n)
    (hd : d.length = n + 1)
    (hx : x = ((Rt.ck .usize ((n : Int) + 1)).bind fun k => some k).bind fun k => (Rt.slice (ints d) 0 k).bind fun r => some r) :
    x = (toOpt (Creator.build e ⟨d, 0⟩)).map ints := by
  have hk : Rt.ck .usize ((n : Int) + 1) = some ((d.length : Nat) : Int) := by rw [hd]; exact Rt.ck_usize (by omega) (by omega)
  have hs := slice_ints d 0 d.length
  rw [if_pos ⟨Nat.zero_le _, Nat.le_refl _⟩, List.drop_zero, Nat.sub_zero, List.take_length] at hs
  have hm : Creator.build e ⟨d, 0⟩ = .ok d := by
    have hl : Creator.len e ⟨d, 0⟩ = d.length := by simp only [Creator.len, he, hd]
    simp only [Creator.build, hl, slice, Nat.zero_le, Nat.le_refl, and_self, if_true, List.drop_zero, Nat.sub_zero, List.take_length]
  rw [hx, hk, hm]
  rw [Option.bind_some, Option.bind_some, show Rt.slice (ints d) 0 (d.length : Int) = some (ints d) from hs]
  rfl

end TieA.Creators

namespace C19
open MacCmd TieA.MacCmdFrame TieA.Creators

/-! `C19.tieA_creator_*`: each regenerated creator function (derive-generated `new` / `build`, hand-written setter)
IS the model's (`Creator.new`, `Creator.build`, `set<Cmd>` of `Model/MacCmdCreators.lean`, the functions `buildWith` and the C19
refinement lemmas `MacCmd.set_*` are about), for every state of the creator and every argument. -/


theorem tieA_creator_LinkADRReq_set_data_rate (c b0 b1 b2 b3 v : Nat) (hv : v < 256) :
    (Gen.MacCmdCreatorFn.LinkADRReqCreator.set_data_rate ⟨ints [c, b0, b1, b2, b3]⟩ v).map (resF (·.data))
      = (toOpt (setLinkADRReq ⟨[c, b0, b1, b2, b3], 0⟩ "set_data_rate" (.n v))).map resUp :=
  checked_tie (fun _ => rfl) v 15 (v <<< 4 % 256) (Rt.shlC .u8 v 4) rfl rfl (Rt.OfNat.shlC_u8_nat v 4 (by decide))

theorem tieA_creator_LinkADRReq_set_tx_power (c b0 b1 b2 b3 v : Nat) (hv : v < 256) :
    (Gen.MacCmdCreatorFn.LinkADRReqCreator.set_tx_power ⟨ints [c, b0, b1, b2, b3]⟩ v).map (resF (·.data))
      = (toOpt (setLinkADRReq ⟨[c, b0, b1, b2, b3], 0⟩ "set_tx_power" (.n v))).map resUp :=
  checked_tie (fun _ => rfl) v 240 (v &&& 15) (some (Rt.andI v 15)) rfl rfl (congrArg some (Rt.andI_ofNat v 15))

theorem tieA_creator_LinkADRAns_set_channel_mask_ack (c b0 : Nat) (ack : Bool) :
    (Gen.MacCmdCreatorFn.LinkADRAnsCreator.set_channel_mask_ack ⟨ints [c, b0]⟩ ack).map (resI (·.data))
      = (toOpt (setLinkADRAns ⟨[c, b0], 0⟩ "set_channel_mask_ack" (.n (b2n ack)))).map resUp :=
  flag_tie (fun _ => rfl) 0 ack (some (Rt.b2i ack)) rfl rfl (by cases ack <;> rfl)

theorem tieA_creator_LinkADRAns_set_data_rate_ack (c b0 : Nat) (ack : Bool) :
    (Gen.MacCmdCreatorFn.LinkADRAnsCreator.set_data_rate_ack ⟨ints [c, b0]⟩ ack).map (resI (·.data))
      = (toOpt (setLinkADRAns ⟨[c, b0], 0⟩ "set_data_rate_ack" (.n (b2n ack)))).map resUp :=
  flag_tie (fun _ => rfl) 1 ack _ rfl rfl (shl_flag 1 (by decide) ack)

theorem tieA_creator_LinkADRAns_set_tx_power_ack (c b0 : Nat) (ack : Bool) :
    (Gen.MacCmdCreatorFn.LinkADRAnsCreator.set_tx_power_ack ⟨ints [c, b0]⟩ ack).map (resI (·.data))
      = (toOpt (setLinkADRAns ⟨[c, b0], 0⟩ "set_tx_power_ack" (.n (b2n ack)))).map resUp :=
  flag_tie (fun _ => rfl) 2 ack _ rfl rfl (shl_flag 2 (by decide) ack)

theorem tieA_creator_NewChannelReq_set_channel_index (c b0 b1 b2 b3 b4 v : Nat) (hv : v < 256) :
    (Gen.MacCmdCreatorFn.NewChannelReqCreator.set_channel_index ⟨ints [c, b0, b1, b2, b3, b4]⟩ v).map (resI (·.data))
      = (toOpt (setNewChannelReq ⟨[c, b0, b1, b2, b3, b4], 0⟩ "set_channel_index" (.n v))).map resUp :=
  raw_tie (fun _ => rfl) 1 v (by simp) rfl rfl

theorem tieA_creator_DlChannelReq_set_channel_index (c b0 b1 b2 b3 v : Nat) (hv : v < 256) :
    (Gen.MacCmdCreatorFn.DlChannelReqCreator.set_channel_index ⟨ints [c, b0, b1, b2, b3]⟩ v).map (resI (·.data))
      = (toOpt (setDlChannelReq ⟨[c, b0, b1, b2, b3], 0⟩ "set_channel_index" (.n v))).map resUp :=
  raw_tie (fun _ => rfl) 1 v (by simp) rfl rfl

theorem tieA_creator_DevStatusAns_set_battery (c b0 b1 v : Nat) (hv : v < 256) :
    (Gen.MacCmdCreatorFn.DevStatusAnsCreator.set_battery ⟨ints [c, b0, b1]⟩ v).map (resI (·.data))
      = (toOpt (setDevStatusAns ⟨[c, b0, b1], 0⟩ "set_battery" (.n v))).map resUp :=
  raw_tie (fun _ => rfl) 1 v (by simp) rfl rfl

theorem tieA_creator_TXParamSetupReq_set_downlink_dwell_time (c b0 : Nat) (ack : Bool) :
    (Gen.MacCmdCreatorFn.TXParamSetupReqCreator.set_downlink_dwell_time ⟨ints [c, b0]⟩ ack).map (resI (·.data))
      = (toOpt (setTXParamSetupReq ⟨[c, b0], 0⟩ "set_downlink_dwell_time" (.n (b2n ack)))).map resUp :=
  flag_tie (fun _ => rfl) 5 ack _ rfl rfl (shl_flag 5 (by decide) ack)

theorem tieA_creator_TXParamSetupReq_set_uplink_dwell_time (c b0 : Nat) (ack : Bool) :
    (Gen.MacCmdCreatorFn.TXParamSetupReqCreator.set_uplink_dwell_time ⟨ints [c, b0]⟩ ack).map (resI (·.data))
      = (toOpt (setTXParamSetupReq ⟨[c, b0], 0⟩ "set_uplink_dwell_time" (.n (b2n ack)))).map resUp :=
  flag_tie (fun _ => rfl) 4 ack _ rfl rfl (shl_flag 4 (by decide) ack)

theorem tieA_creator_TXParamSetupReq_set_max_eirp (c b0 v : Nat) (hv : v < 256) :
    (Gen.MacCmdCreatorFn.TXParamSetupReqCreator.set_max_eirp ⟨ints [c, b0]⟩ v).map (resF (·.data))
      = (toOpt (setTXParamSetupReq ⟨[c, b0], 0⟩ "set_max_eirp" (.n v))).map resUp :=
  checked_tie (fun _ => rfl) v 240 v (some v) rfl rfl rfl

theorem tieA_creator_DeviceTimeAns_set_nano_seconds (c b0 b1 b2 b3 b4 v : Nat) (hv : v < 4294967296) :
    (Gen.MacCmdCreatorFn.DeviceTimeAnsCreator.set_nano_seconds ⟨ints [c, b0, b1, b2, b3, b4]⟩ v).map (resF (·.data))
      = (toOpt (setDeviceTimeAns ⟨[c, b0, b1, b2, b3, b4], 0⟩ "set_nano_seconds" (.n v))).map resUp := by
  unfold Gen.MacCmdCreatorFn.DeviceTimeAnsCreator.set_nano_seconds setDeviceTimeAns
  by_cases h : v > 1000000000
  · have h' : ((v : Int) > 1000000000) := by omega
    simp [h, h', refuse, toOpt, resUp, resF, ints]
  · have h' : ¬ ((v : Int) > 1000000000) := by omega
    have hd : Rt.divC .u32 (v : Int) 3906250 = some (((v / 3906250 : Nat)) : Int) :=
      (Rt.OfNat.divC_nat .u32 v 3906250 (by decide)).trans (Rt.ck_u32 (by omega) (by omega))
    simp only [h, h', if_false, decide_false, Bool.false_eq_true, hd]
    simp [toOpt, resUp, resF, ints, Rt.setIdx, Rt.wrap, Rt.ITy.bits, Rt.ITy.signed, setByte, okD, bind, Outcome.bind]

theorem tieA_creator_LinkADRReq_new : (Gen.MacCmdCreatorFn.LinkADRReqCreator.new).map (·.data) = (toOpt (Creator.new eLinkADRReq)).map (fun c => ints c.data) := by decide

theorem tieA_creator_LinkADRReq_build (c b0 b1 b2 b3 : Nat) :
    Gen.MacCmdCreatorFn.LinkADRReqCreator.build ⟨ints [c, b0, b1, b2, b3]⟩ = (toOpt (Creator.build eLinkADRReq ⟨[c, b0, b1, b2, b3], 0⟩)).map ints :=
  build_tie _ 4 _ (by decide) rfl rfl rfl

theorem tieA_creator_LinkADRAns_new : (Gen.MacCmdCreatorFn.LinkADRAnsCreator.new).map (·.data) = (toOpt (Creator.new eLinkADRAns)).map (fun c => ints c.data) := by decide

theorem tieA_creator_LinkADRAns_build (c b0 : Nat) :
    Gen.MacCmdCreatorFn.LinkADRAnsCreator.build ⟨ints [c, b0]⟩ = (toOpt (Creator.build eLinkADRAns ⟨[c, b0], 0⟩)).map ints :=
  build_tie _ 1 _ (by decide) rfl rfl rfl

theorem tieA_creator_NewChannelReq_new : (Gen.MacCmdCreatorFn.NewChannelReqCreator.new).map (·.data) = (toOpt (Creator.new eNewChannelReq)).map (fun c => ints c.data) := by decide

theorem tieA_creator_NewChannelReq_build (c b0 b1 b2 b3 b4 : Nat) :
    Gen.MacCmdCreatorFn.NewChannelReqCreator.build ⟨ints [c, b0, b1, b2, b3, b4]⟩ = (toOpt (Creator.build eNewChannelReq ⟨[c, b0, b1, b2, b3, b4], 0⟩)).map ints :=
  build_tie _ 5 _ (by decide) rfl rfl rfl

theorem tieA_creator_DlChannelReq_new : (Gen.MacCmdCreatorFn.DlChannelReqCreator.new).map (·.data) = (toOpt (Creator.new eDlChannelReq)).map (fun c => ints c.data) := by decide

theorem tieA_creator_DlChannelReq_build (c b0 b1 b2 b3 : Nat) :
    Gen.MacCmdCreatorFn.DlChannelReqCreator.build ⟨ints [c, b0, b1, b2, b3]⟩ = (toOpt (Creator.build eDlChannelReq ⟨[c, b0, b1, b2, b3], 0⟩)).map ints :=
  build_tie _ 4 _ (by decide) rfl rfl rfl

theorem tieA_creator_RXParamSetupReq_new : (Gen.MacCmdCreatorFn.RXParamSetupReqCreator.new).map (·.data) = (toOpt (Creator.new eRXParamSetupReq)).map (fun c => ints c.data) := by decide

theorem tieA_creator_RXParamSetupReq_build (c b0 b1 b2 b3 : Nat) :
    Gen.MacCmdCreatorFn.RXParamSetupReqCreator.build ⟨ints [c, b0, b1, b2, b3]⟩ = (toOpt (Creator.build eRXParamSetupReq ⟨[c, b0, b1, b2, b3], 0⟩)).map ints :=
  build_tie _ 4 _ (by decide) rfl rfl rfl

theorem tieA_creator_DevStatusAns_new : (Gen.MacCmdCreatorFn.DevStatusAnsCreator.new).map (·.data) = (toOpt (Creator.new eDevStatusAns)).map (fun c => ints c.data) := by decide

theorem tieA_creator_DevStatusAns_build (c b0 b1 : Nat) :
    Gen.MacCmdCreatorFn.DevStatusAnsCreator.build ⟨ints [c, b0, b1]⟩ = (toOpt (Creator.build eDevStatusAns ⟨[c, b0, b1], 0⟩)).map ints :=
  build_tie _ 2 _ (by decide) rfl rfl rfl

theorem tieA_creator_TXParamSetupReq_new : (Gen.MacCmdCreatorFn.TXParamSetupReqCreator.new).map (·.data) = (toOpt (Creator.new eTXParamSetupReq)).map (fun c => ints c.data) := by decide

theorem tieA_creator_TXParamSetupReq_build (c b0 : Nat) :
    Gen.MacCmdCreatorFn.TXParamSetupReqCreator.build ⟨ints [c, b0]⟩ = (toOpt (Creator.build eTXParamSetupReq ⟨[c, b0], 0⟩)).map ints :=
  build_tie _ 1 _ (by decide) rfl rfl rfl

theorem tieA_creator_DeviceTimeAns_new : (Gen.MacCmdCreatorFn.DeviceTimeAnsCreator.new).map (·.data) = (toOpt (Creator.new eDeviceTimeAns)).map (fun c => ints c.data) := by decide

theorem tieA_creator_DeviceTimeAns_build (c b0 b1 b2 b3 b4 : Nat) :
    Gen.MacCmdCreatorFn.DeviceTimeAnsCreator.build ⟨ints [c, b0, b1, b2, b3, b4]⟩ = (toOpt (Creator.build eDeviceTimeAns ⟨[c, b0, b1, b2, b3, b4], 0⟩)).map ints :=
  build_tie _ 5 _ (by decide) rfl rfl rfl

/-- `set_seconds` writes the 32-bit value LEAST significant octet first (`to_le_bytes`), as the model says — the creator
half of the known finding C19-devicetime-seconds (the parser's accessor reads the octets most significant first:
`MacCmd.acc_DeviceTimeAns_seconds`, `C19.c19_devicetime_counterexample`) -/
theorem tieA_creator_DeviceTimeAns_set_seconds (c b0 b1 b2 b3 b4 v : Nat) (hv : v < 4294967296) :
    (Gen.MacCmdCreatorFn.DeviceTimeAnsCreator.set_seconds ⟨ints [c, b0, b1, b2, b3, b4]⟩ v).map (resI (·.data))
      = (toOpt (setDeviceTimeAns ⟨[c, b0, b1, b2, b3, b4], 0⟩ "set_seconds" (.n v))).map resUp :=
  copy_tie (fun _ => rfl) 1 5 (toLeBytes 4 v) (by rw [← leBytes_nat]; rfl) rfl

/-- the known finding, on the REGENERATED creator: 0x01020304 seconds are written as 04 03 02 01 (little-endian) -/
example : (Gen.MacCmdCreatorFn.DeviceTimeAnsCreator.set_seconds ⟨[13, 0, 0, 0, 0, 0]⟩ 0x01020304).map (·.data) = some [13, 4, 3, 2, 1, 0] := by decide

/-! non-vacuity: concrete calls through the regenerated code (LinkADRReq: data rate 5 over power 3 kept; 16 refused;
DeviceTimeAns: 500 ms = 128/256 s; the fresh creator; `build` of a full creator) -/
example : (Gen.MacCmdCreatorFn.LinkADRReqCreator.set_data_rate ⟨[3, 0x03, 0, 0, 0]⟩ 5).map (resF (·.data)) = some (true, [3, 0x53, 0, 0, 0]) := by decide
example : (Gen.MacCmdCreatorFn.LinkADRReqCreator.set_data_rate ⟨[3, 0x03, 0, 0, 0]⟩ 16).map (resF (·.data)) = some (false, [3, 0x03, 0, 0, 0]) := by decide
example : (Gen.MacCmdCreatorFn.DeviceTimeAnsCreator.set_nano_seconds ⟨[13, 0, 0, 0, 0, 0]⟩ 500000000).map (resF (·.data)) = some (true, [13, 0, 0, 0, 0, 128]) := by decide
example : (Gen.MacCmdCreatorFn.TXParamSetupReqCreator.set_downlink_dwell_time ⟨[9, 0x0f]⟩ true).map (·.data) = some [9, 0x2f] := by decide
example : (Gen.MacCmdCreatorFn.NewChannelReqCreator.new).bind (·.build) = some [7, 0, 0, 0, 0, 0] := by decide

#print axioms tieA_creator_LinkADRReq_set_data_rate
#print axioms tieA_creator_LinkADRReq_set_tx_power
#print axioms tieA_creator_LinkADRAns_set_channel_mask_ack
#print axioms tieA_creator_LinkADRAns_set_data_rate_ack
#print axioms tieA_creator_LinkADRAns_set_tx_power_ack
#print axioms tieA_creator_NewChannelReq_set_channel_index
#print axioms tieA_creator_DlChannelReq_set_channel_index
#print axioms tieA_creator_DevStatusAns_set_battery
#print axioms tieA_creator_TXParamSetupReq_set_downlink_dwell_time
#print axioms tieA_creator_TXParamSetupReq_set_uplink_dwell_time
#print axioms tieA_creator_TXParamSetupReq_set_max_eirp
#print axioms tieA_creator_DeviceTimeAns_set_seconds
#print axioms tieA_creator_DeviceTimeAns_set_nano_seconds
#print axioms tieA_creator_LinkADRReq_new
#print axioms tieA_creator_LinkADRReq_build
#print axioms tieA_creator_LinkADRAns_new
#print axioms tieA_creator_LinkADRAns_build
#print axioms tieA_creator_NewChannelReq_new
#print axioms tieA_creator_NewChannelReq_build
#print axioms tieA_creator_DlChannelReq_new
#print axioms tieA_creator_DlChannelReq_build
#print axioms tieA_creator_RXParamSetupReq_new
#print axioms tieA_creator_RXParamSetupReq_build
#print axioms tieA_creator_DevStatusAns_new
#print axioms tieA_creator_DevStatusAns_build
#print axioms tieA_creator_TXParamSetupReq_new
#print axioms tieA_creator_TXParamSetupReq_build
#print axioms tieA_creator_DeviceTimeAns_new
#print axioms tieA_creator_DeviceTimeAns_build
end C19
