import LoraVerif.Props.TieA.HandleMacsAdr
import LoraVerif.Props.TieA.PlanMask
/-!
# Tie A for `Session::handle_downlink_macs` — the whole method

The induction over the list of commands the iterator yields: the regenerated loop (`Gen/SessionMacs.lean`:
`while_loop`, one `while_step` per command with `cmd_iter.peek()` = the head of the rest) run on the commands of a
well-formed stream is the model's `handleCmds` — same answer queue and latch, same configuration and region, a
panic on one side iff on the other; nothing of the session is touched but the answer queue.
-/
namespace TieA.Macs
open Model

theorem step_tie_all (snr : Int) (x : Nat × List Nat) (hx : WfCmd x) (h3 : x.1 ≠ 3) : StepSim snr x := by
  obtain ⟨cid, p⟩ := x
  obtain ⟨hl, ho⟩ := hx
  simp only at hl h3 ho
  rcases cid_of_len hl with h | h | h | h | h | h | h | h | h | h <;> subst h
  · exact tieA_step_ignored snr 2 p (by simp)
  · exact absurd rfl h3
  · exact tieA_step_ignored snr 4 p (by simp)
  · match p, hl, ho with
    | [d, f0, f1, f2], _, ho => exact tieA_step_rx_param snr d f0 f1 f2 (ho d (by simp))
  · exact tieA_step_dev_status snr p
  · match p, hl with
    | [i, f0, f1, f2, r], _ => exact tieA_step_new_channel snr i f0 f1 f2 r
  · match p, hl with
    | [d], _ => exact tieA_step_rx_timing snr d
  · exact tieA_step_ignored snr 9 p (by simp)
  · match p, hl with
    | [i, f0, f1, f2], _ => exact tieA_step_dl_channel snr i f0 f1 f2
  · exact tieA_step_ignored snr 13 p (by simp)

/-- `cmd_iter.peek()` is a LinkADRReq exactly when the model's rest of the stream starts with CID 3 -/
theorem isAdr_head (rest : List (Nat × List Nat)) (hw : ∀ x ∈ rest, WfCmd x) :
    isAdr (rest.map decCmd).head? = startsAdr rest := by
  match rest, hw with
  | [], _ => rfl
  | (cid, p) :: rest', hw =>
    obtain ⟨hl, _⟩ := hw (cid, p) (by simp)
    simp only at hl
    rcases cid_of_len hl with h | h | h | h | h | h | h | h | h | h <;> subst h
    · rfl
    · match p, hl with
      | [a, b, c, d], _ => rfl
    · rfl
    · match p, hl with
      | [a, b, c, d], _ => rfl
    · rfl
    · match p, hl with
      | [a, b, c, d, e], _ => rfl
    · match p, hl with
      | [a], _ => rfl
    · rfl
    · match p, hl with
      | [a, b, c, d], _ => rfl
    · rfl

/-- the loop in the calculus: each command by the tie of its arm, the rest by the induction hypothesis for related results -/
theorem loop_sim (snr : Int) : ∀ (cmds : List (Nat × List Nat)), (∀ x ∈ cmds, WfCmd x) →
    ∀ (gs : Gen.SessionRx.Session) (g : Gen.SessionRx.Configuration) (full : Bool) (mask : Mask) (nA : Nat) (rfu : Bool) (c : MacCtx),
      Rel gs g full c → gs.uplink.pending.length ≤ 15 → nA + cmds.length < 2147483647 →
      Tie (fun o c' => Out gs (o.1, o.2.1, o.2.2.1, o.2.2.2.1) c')
        (Gen.SessionMacs.Session.handle_downlink_macs.while_loop snr (cmds.map decCmd) gs g c.region full (maskOf mask) nA rfu)
        (handleCmds snr cmds c mask rfu nA) := by
  intro cmds
  induction cmds with
  | nil =>
    intro _ gs g full mask nA rfu c hrel hq _
    exact Tie.pure (Out.refl hrel hq)
  | cons x rest ih =>
    intro hw gs g full mask nA rfu c hrel hq hn
    have hwr : ∀ y ∈ rest, WfCmd y := fun y hy => hw y (List.mem_cons_of_mem _ hy)
    rw [List.length_cons] at hn
    rw [List.map_cons, Gen.SessionMacs.Session.handle_downlink_macs.while_loop]
    by_cases h3 : x.1 = 3
    · obtain ⟨cid, p⟩ := x
      cases h3
      obtain ⟨hl, ho⟩ := hw _ List.mem_cons_self
      match p, hl, ho with
      | [b0, b1, b2, b3], _, ho =>
        rw [handleCmds_adr_cons, ← isAdr_head rest hwr]
        refine (((tieA_step_link_adr snr b0 b1 b2 b3 (ho b0 List.mem_cons_self) _).tie mask nA rfu hrel hq (by omega)).and_post
          (adrStepModel_count _ _ _ _ _ _)).bind ?_
        rintro ⟨gs1, g1, rs1, full1, cm1, n1, rfu1⟩ r ⟨⟨ho1, hb⟩, hcnt⟩
        cases hb
        obtain ⟨-, hr, hrel1, hq1⟩ := id ho1
        cases hr
        exact (ih hwr gs1 g1 full1 r.2.1 r.2.2.2 r.2.2.1 r.1 hrel1 hq1 (by omega)).mono fun _ _ => ho1.trans
    · rw [handleCmds_cons snr x rest c mask rfu nA h3]
      refine ((step_tie_all snr x (hw x List.mem_cons_self) h3).tie (maskOf mask) nA rfu _ hrel hq).bind ?_
      rintro ⟨gs1, g1, rs1, full1, cm1, n1, rfu1⟩ c1 ⟨ho1, hb⟩
      cases hb
      obtain ⟨-, hr, hrel1, hq1⟩ := id ho1
      cases hr
      exact (ih hwr gs1 g1 full1 mask nA rfu c1 hrel1 hq1 (by omega)).mono fun _ _ => ho1.trans

/-- `loop_sim` as a `match` on the model's result -/
theorem loop_tie (snr : Int) : ∀ (cmds : List (Nat × List Nat)), (∀ x ∈ cmds, WfCmd x) →
    ∀ (gs : Gen.SessionRx.Session) (g : Gen.SessionRx.Configuration) (full : Bool) (mask : Mask) (nA : Nat) (rfu : Bool) (c : MacCtx),
      Rel gs g full c → gs.uplink.pending.length ≤ 15 → nA + cmds.length < 2147483647 →
      match handleCmds snr cmds c mask rfu nA with
      | .error _ => Gen.SessionMacs.Session.handle_downlink_macs.while_loop snr (cmds.map decCmd) gs g c.region full (maskOf mask) nA rfu = none
      | .ok c' => ∃ pend' g' cm' n' rfu',
          Gen.SessionMacs.Session.handle_downlink_macs.while_loop snr (cmds.map decCmd) gs g c.region full (maskOf mask) nA rfu
            = some ({ gs with uplink := { gs.uplink with pending := pend' } }, g', c'.region, c'.full, cm', n', rfu') ∧
          c'.pending = Rx.natsOf pend' ∧ c'.cfg = Rx.cfgOf g' ∧ pend'.length ≤ 15 := by
  intro cmds hw gs g full mask nA rfu c hrel hq hn
  have := loop_sim snr cmds hw gs g full mask nA rfu c hrel hq hn
  split <;> rename_i e <;> rw [e] at this
  · exact Tie.error_iff.1 this
  · obtain ⟨⟨s, g', r, f, cm', n', rfu'⟩, ho, hout⟩ := Tie.ok_iff.1 this
    obtain ⟨p, g'', hs, h⟩ := Out.iff.1 hout
    cases hs
    exact ⟨p, g', cm', n', rfu', ho, h⟩

/-- the whole method in the calculus: the loop, then the return of four of the seven carried variables -/
theorem handle_downlink_macs_sim (snr : Int) (cmds : List (Nat × List Nat)) (hw : ∀ x ∈ cmds, WfCmd x)
    (gs : Gen.SessionRx.Session) (g : Gen.SessionRx.Configuration) (full : Bool) (c : MacCtx) (hrel : Rel gs g full c)
    (hq : gs.uplink.pending.length ≤ 15) (hn : cmds.length < 2147483647) :
    Tie (Out gs) (Gen.SessionMacs.Session.handle_downlink_macs gs g c.region (cmds.map (some ∘ decCmd)) snr full)
      (handleCmds snr cmds c (channelMaskGet c.region) false 0) := by
  unfold Gen.SessionMacs.Session.handle_downlink_macs
  rw [List.filterMap_map, Function.id_comp, List.filterMap_eq_map]
  have := (loop_sim snr cmds hw gs g full (channelMaskGet c.region) 0 false c hrel hq (by omega)).bind
    (S := Out gs) (k' := Pure.pure) (k := fun o => some (o.1, o.2.1, o.2.2.1, o.2.2.2.1)) (fun o c' h => Tie.pure h)
  rw [bind_pure] at this
  exact this

#print axioms loop_tie
end TieA.Macs

namespace C08
open Model TieA.Macs

/-- the RXParamSetupReq arm of `Session::handle_downlink_macs` (`Gen/SessionMacs.lean`) is the model's
`rxParamSetup`: RX1DROffset = bits 6..4 of DLSettings and the RX2 data rate = bits 3..0 (15 keeps the current one)
validated by the region, the frequency validated by the region, the three stored all together or not at all, the
answer's status bits in the order channel / RX2 data rate / RX1DROffset; the LinkADR block state and every
session field other than the answer queue untouched. -/
theorem tieA_rx_param_setup (snr : Int) (d f0 f1 f2 : Nat) (hd : d < 256) : StepTie snr (0x05, [d, f0, f1, f2]) :=
  .of_sim (tieA_step_rx_param snr d f0 f1 f2 hd)

/-- the LinkADRReq BLOCK arm: the model's `0x03` arm of `handleCmds` is `adrStepModel` followed by the rest
(first conjunct), and one iteration of the regenerated loop on a LinkADRReq with ANY lookahead `cmd_iter.peek()`
is that step: the counter goes up, the region updates the working copy of the channel mask, a ChMaskCntl the region
does not define raises the RFU flag of the WHOLE block (it is only lowered when the block ends); while the next
command is a LinkADRReq nothing else happens; on the last command of the block the data rate (15 = keep), the
power (15 = keep) and the accumulated mask are validated, applied all together or not at all, `n` identical
LinkADRAns are pushed (`Rt.forRangeM` = the model's fold over `List.range n`) and the block state is reset
(counter 0, flag down, working copy = the mask in force). -/
theorem tieA_link_adr_block (snr : Int) :
    (∀ (p : List Nat) (rest : List (Nat × List Nat)) (c : MacCtx) (mask : Mask) (rfu : Bool) (n : Nat),
      handleCmds snr ((3, p) :: rest) c mask rfu n
        = (adrStepModel p (startsAdr rest) c mask rfu n).bind fun r => handleCmds snr rest r.1 r.2.1 r.2.2.1 r.2.2.2) ∧
    (∀ (b0 b1 b2 b3 : Nat), b0 < 256 → ∀ peek, AdrStepTie snr [b0, b1, b2, b3] peek) :=
  ⟨fun p rest c mask rfu n => handleCmds_adr_cons snr p rest c mask rfu n,
   fun b0 b1 b2 b3 h0 peek => .of_sim (tieA_step_link_adr snr b0 b1 b2 b3 h0 peek)⟩

/-- the WHOLE of `Session::handle_downlink_macs` (`Gen/SessionMacs.lean`: the
`while let Some(cmd) = cmd_iter.next()` loop with `peek()` / `continue`, the `for` loop of identical LinkADRAns,
`push_answer`), run on the commands the iterator yields for any well-formed stream of octets (`decCmd`), with the
region's methods the model's, IS the model's `handleCmds` from the mask in force: same answer queue and
`answers_full` latch, same configuration, same region, nothing of the session touched but the answer queue, a
queue of at most 15 bytes stays so, and a panic on one side iff on the other.  By induction over the command list
(`loop_sim`) from the per-command arms (`step_tie_all`, `tieA_step_link_adr`), then `handle_downlink_macs_sim`. -/
theorem tieA_handle_downlink_macs (snr : Int) (cmds : List (Nat × List Nat)) (hw : ∀ x ∈ cmds, WfCmd x)
    (gs : Gen.SessionRx.Session) (g : Gen.SessionRx.Configuration) (rs : RegionState) (full : Bool)
    (hq : gs.uplink.pending.length ≤ 15) (hn : cmds.length < 2147483647) :
    match handleCmds snr cmds { cfg := TieA.Rx.cfgOf g, region := rs, pending := TieA.Rx.natsOf gs.uplink.pending, full := full }
        (channelMaskGet rs) false 0 with
    | .error _ => Gen.SessionMacs.Session.handle_downlink_macs gs g rs (cmds.map (some ∘ decCmd)) snr full = none
    | .ok c => ∃ pend' g', Gen.SessionMacs.Session.handle_downlink_macs gs g rs (cmds.map (some ∘ decCmd)) snr full
          = some ({ gs with uplink := { gs.uplink with pending := pend' } }, g', c.region, c.full)
        ∧ TieA.Rx.natsOf pend' = c.pending ∧ TieA.Rx.cfgOf g' = c.cfg ∧ pend'.length ≤ 15 := by
  have h := handle_downlink_macs_sim snr cmds hw gs g full
    { cfg := TieA.Rx.cfgOf g, region := rs, pending := TieA.Rx.natsOf gs.uplink.pending, full := full } ⟨rfl, rfl, rfl⟩ hq hn
  split <;> rename_i e <;> rw [e] at h
  · exact TieA.Tie.error_iff.1 h
  · obtain ⟨o, ho, hout⟩ := TieA.Tie.ok_iff.1 h
    obtain ⟨p, g', rfl, h1, h2, h3⟩ := Out.iff.1 hout
    exact ⟨p, g', ho, h1.symm, h2.symm, h3⟩

#print axioms tieA_rx_param_setup
#print axioms tieA_link_adr_block
#print axioms tieA_handle_downlink_macs
end C08

/-! ## The region method of `handle_downlink_macs` is the regenerated one (C08)

`C08.tieA_handle_downlink_macs` above is proved with the region's methods abstract,
instantiated with the model's (`TieA.Macs.modelOps`).  For `channel_mask_update` — the method each LinkADRReq of a
block calls on the working copy of the mask — that instance IS the regenerated code: the regenerated
`FixedChannelPlan::channel_mask_update` on a region with a fixed plan, the regenerated
`DynamicChannelPlan::channel_mask_update` on a region with a dynamic plan (the `region_dispatch!` macro that selects
the plan by the region stays trusted through the correspondence).
-/
namespace C08
open Model TieA.CMask
open Gen.ChannelMaskFn Gen.PlanMaskFn

theorem tieA_region_channel_mask_update (rs : RegionState) (m : Gen.SessionMacs.ChannelMask) (hm : Octets m.bytes)
    (cntl : Int) (hc0 : 0 ≤ cntl) (hc1 : cntl ≤ 255)
    (b0 b1 : Int) (hb0 : 0 ≤ b0 ∧ b0 ≤ 255) (hb1 : 0 ≤ b1 ∧ b1 ≤ 255) :
    Gen.SessionMacs.MacRegionOps.channel_mask_update rs m cntl ⟨[b0, b1]⟩
      = (match rs.plan with
          | .fix _ => FixedChannelPlan.channel_mask_update ⟨⟩ ⟨m.bytes⟩ cntl ⟨[b0, b1]⟩
          | .dyn _ => DynamicChannelPlan.channel_mask_update ⟨⟩ ⟨m.bytes⟩ cntl ⟨[b0, b1]⟩).map
        fun (r : Option Unit × ChannelMask) => (r.1, (⟨r.2._0⟩ : Gen.SessionMacs.ChannelMask)) := by
  -- both plans: the regenerated method is `channelMaskUpdate` up to `post`, which is what the instance does with it
  have key : ∀ x : Option (Option Unit × ChannelMask),
      x = (channelMaskUpdate rs (natsOf m.bytes) cntl.toNat b0.toNat b1.toNat).toOption.map (TieA.PlanMask.post ⟨m.bytes⟩) →
      Gen.SessionMacs.MacRegionOps.channel_mask_update rs m cntl ⟨[b0, b1]⟩
        = x.map fun r => (r.1, (⟨r.2._0⟩ : Gen.SessionMacs.ChannelMask)) := by
    intro x hx
    rw [hx, Option.map_map]
    -- `CMask.natsOf` (the region ties) and `Rx.natsOf` (the instance `modelOps`) are the same function under two names
    show (channelMaskUpdate rs (TieA.Rx.natsOf m.bytes) cntl.toNat b0.toNat b1.toNat).toOption.map _ = _
    congr 1
    funext r
    cases r <;> rfl
  cases hp : rs.plan with
  | fix p => exact key _ (C11.tieA_fixed_channel_mask_update rs p hp ⟨⟩ ⟨m.bytes⟩ hm cntl hc0 hc1 b0 b1 hb0 hb1)
  | dyn p => exact key _ (C11.tieA_dynamic_channel_mask_update rs p hp ⟨⟩ ⟨m.bytes⟩ hm cntl hc0 hc1 b0 b1 hb0 hb1)

#print axioms tieA_region_channel_mask_update
end C08
