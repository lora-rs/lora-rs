import LoraVerif.Gen.DynPlanFn
import LoraVerif.Lemmas.MacWF
import LoraVerif.Props.TieA.ChannelMask
/-!
# Tie A for whole stateful methods: `DynamicChannelPlan::handle_new_channel` and `channel_dl_update`
(NewChannelReq / DlChannelReq on dynamic plans, C08 / C10)

`Gen/DynPlanFn.lean` holds the state-passing translation of the CURRENT source of the two handlers
(`RegionHandler for DynamicChannelPlan<R>`), with `DataRateRange::{min,max}_data_rate` and
`Channel::new_with_dr`.  Abstract in the translation: the region type's parameters (`R::NUM_JOIN_CHANNELS`,
`R::datarates()`, the band test behind `frequency_valid` — instantiated here with the model's, which
`Props/TieA/C09.lean`, `C08.lean` tie to the source) and the two `ChannelMask` methods
(`set_channel`, `is_enabled` — assumed to be the model's `Mask.setChannel` / `Mask.isEnabled`, hypothesis
`MaskOk`).

`tieA_handle_new_channel`, `tieA_channel_dl_update`: on a plan with 16 slots and a 9-byte mask the
generated handlers are the model's `handleNewChannel` / `channelDlUpdate`: same two answer bits, same plan
afterwards, a panic on one side iff on the other.
-/
set_option linter.unusedSimpArgs false
namespace TieA.Dyn
open Model Rt.OfNat

def natsOf (l : List Int) : List Nat := l.map Int.toNat

def chanOf (c : Gen.DynPlanFn.Channel) : Channel :=
  { freq := c.frequency.toNat, drRange := c._datarates._0.toNat, dlFreq := c.dl_frequency.map Int.toNat }

/-- the model plan a generated `DynamicChannelPlan` stands for -/
def planOf (p : Gen.DynPlanFn.DynamicChannelPlan) : DynPlan :=
  { channels := p.channels.map (Option.map chanOf), mask := natsOf p.channel_mask.bytes }

/-- the region parameters of the generated code, from the model's tables -/
def regOf (r : RegionId) : Gen.DynPlanFn.DynRegion :=
  ⟨numJoinChannels r, datarates r, fun f => frequencyValid r f.toNat⟩

/-- the `ChannelMask` methods are the model's, on a 9-byte mask (of octets) and a channel index below 16;
discharged for the regenerated `ChannelMask` methods by `TieA.DynMask.genMops_ok` -/
def MaskOk (mops : Gen.DynPlanFn.MaskFns) : Prop :=
  ∀ (m : Gen.DynPlanFn.ChannelMask) (i : Int), 0 ≤ i → i < 16 → m.bytes.length = 9 → (∀ x ∈ m.bytes, 0 ≤ x ∧ x ≤ 255) →
    mops.is_enabled m i = (Mask.isEnabled (natsOf m.bytes) i.toNat).toOption ∧
    ∀ b, (mops.set_channel m i b).map (fun m' => natsOf m'.bytes) = (Mask.setChannel (natsOf m.bytes) i.toNat b).toOption

/-- 16 slots, 9 mask bytes (octets), non-negative frequencies -/
def PlanWF (p : Gen.DynPlanFn.DynamicChannelPlan) : Prop :=
  p.channels.length = 16 ∧ p.channel_mask.bytes.length = 9 ∧
  (∀ c, some c ∈ p.channels → 0 ≤ c.frequency) ∧ ∀ x ∈ p.channel_mask.bytes, 0 ≤ x ∧ x ≤ 255

/-- `DataRateRange::max_data_rate` / `min_data_rate`: the high and the low nibble, for every byte -/
theorem dr_range_fields : ∀ k : Fin 256,
    Gen.DynPlanFn.DataRateRange.max_data_rate ⟨(k.val : Int)⟩ = some ((k.val / 16 : Nat) : Int) ∧
    Gen.DynPlanFn.DataRateRange.min_data_rate ⟨(k.val : Int)⟩ = ((k.val % 16 : Nat) : Int) := by
  decide +kernel

theorem filter_ge_range (lo n : Nat) : (List.range n).filter (· ≥ lo) = List.range' lo (n - lo) := by
  induction n with
  | zero => rw [Nat.zero_sub]; rfl
  | succ n ih =>
    rw [List.range_succ, List.filter_append, ih]
    by_cases h : lo ≤ n
    · rw [show n + 1 - lo = (n - lo) + 1 by omega, List.range'_concat]
      simp [h]
    · rw [show n + 1 - lo = 0 by omega, show n - lo = 0 by omega]; simp [h]

/-- every rate of `lo..=hi` is defined in the region's table: the generated loop (over `R::datarates()[c]`, which
panics past the table) is the model's -/
theorem all_rates_defined (r : RegionId) (lo hi : Nat) :
    Tie (fun a b => b = a)
      (Rt.rangeAllM (lo : Int) (hi : Int) (fun c => (Rt.idx (datarates r) c).bind fun t => some t.isSome))
      (allM (fun c => do pure (← indexDatarate r c).isSome) ((List.range (hi + 1)).filter (· ≥ lo))) := by
  rw [filter_ge_range]
  refine Tie.rangeAll (fun j => ?_) lo hi
  simp only [Rt.idx, indexDatarate]
  rw [if_neg (by omega), Int.toNat_natCast]
  cases (datarates r)[j]? with
  | none => trivial
  | some d => exact rfl

/-- `channel_dl_update` (DlChannelReq) as the current source has it is the model's `channelDlUpdate`: the
frequency bit, the channel bit (index below 16, channel enabled in the mask, defined, frequency non-zero),
and the downlink frequency stored only when both are set (`None` when it equals the uplink frequency) -/
theorem tieA_channel_dl_update (mops : Gen.DynPlanFn.MaskFns) (hm : MaskOk mops) (rs : RegionState)
    (p : Gen.DynPlanFn.DynamicChannelPlan) (hplan : rs.plan = .dyn (planOf p)) (hw : PlanWF p)
    (index freq : Int) (hi : 0 ≤ index) (hf : 0 ≤ freq) :
    (Gen.DynPlanFn.DynamicChannelPlan.channel_dl_update (regOf rs.id) mops p index freq).map
        (fun o => (o.1, { rs with plan := .dyn (planOf o.2) }))
      = (channelDlUpdate rs index.toNat freq.toNat).toOption := by
  obtain ⟨hc, hmk, hfr, hoct⟩ := hw
  have hN : Gen.DynPlanFn.NUM_CHANNELS_DYNAMIC = 16 := rfl
  have keep : ∀ x : Bool × Bool, (x, rs) = (x, { rs with plan := .dyn (planOf p) }) := fun x => by rw [plan_eta hplan]
  refine Tie.iff_map.mp ?_
  unfold Gen.DynPlanFn.DynamicChannelPlan.channel_dl_update
  simp only [channelDlUpdate, hplan, hN, Gen.DynPlanFn.DynamicChannelPlan.frequency_valid, regOf]
  refine Tie.ite_decide (by omega) (fun _ => Tie.pure (keep _)) fun h16 => ?_
  have hlt : index.toNat < p.channels.length := by omega
  have hen : mops.is_enabled p.channel_mask index = (Mask.isEnabled (planOf p).mask index.toNat).toOption :=
    (hm p.channel_mask index hi (by omega) hmk hoct).1
  obtain ⟨en, hen'⟩ := (isEnabled_tot (planOf p).mask index.toNat (by simp [planOf, natsOf, hmk]) (by omega)).returns
  have hch : (planOf p).channels[index.toNat]? = some (p.channels[index.toNat].map chanOf) := by simp [planOf, hlt]
  simp only [hen, hen', hch, Except.toOption, Option.isSome_some, if_true, Option.bind_eq_bind, Option.bind_some,
    idx_eq _ hi, List.getElem?_eq_getElem hlt, bind, Except.bind]
  cases hs : p.channels[index.toNat] with
  | none => cases en <;> exact Tie.pure (keep _)
  | some c =>
    cases en with
    | false => exact Tie.pure (keep _)
    | true =>
      have hcf : 0 ≤ c.frequency := hfr c (by rw [← hs]; exact List.getElem_mem hlt)
      simp only [if_true, Option.map_some]
      refine Tie.ite_decide (by simp [chanOf]; omega) (fun hfz => ?_) fun _ => Tie.pure (keep _)
      -- the model has the answer inside the arms of the band test, the source after it
      by_cases hfv : frequencyValid rs.id freq.toNat = true
      · have hne : freq.toNat = c.frequency.toNat ↔ freq = c.frequency := by omega
        simp only [hfv, if_true, setIdx_eq_some p.channels hi hlt, Option.bind_some, Option.pure_def]
        have hsym : c.frequency = freq ↔ freq = c.frequency := eq_comm
        exact Tie.pure (by by_cases heq : freq = c.frequency <;> simp [planOf, List.map_set, chanOf, hsym, heq, hne])
      · simp only [hfv, Bool.false_eq_true, if_false, Option.bind_some, Option.pure_def]
        exact Tie.pure (keep _)

set_option linter.unusedVariables false in -- `hfix` is part of the statement; the proof does not need it
/-- `handle_new_channel` (NewChannelReq) as the current source has it is the model's `handleNewChannel`: join
channels and indices from 16 up are refused, frequency 0 removes the channel and clears its mask bit,
otherwise the channel is created and enabled iff the frequency is in the band and every data rate of
the range is defined (maximum below 15) -/
theorem tieA_handle_new_channel (mops : Gen.DynPlanFn.MaskFns) (hm : MaskOk mops) (rs : RegionState)
    (hfix : rs.id.isFixed = false)
    (p : Gen.DynPlanFn.DynamicChannelPlan) (hplan : rs.plan = .dyn (planOf p)) (hw : PlanWF p)
    (index freq : Int) (dr : Option Gen.DynPlanFn.DataRateRange) (hi : 0 ≤ index) (hf : 0 ≤ freq)
    (hdr : ∀ d, dr = some d → 0 ≤ d._0 ∧ d._0 ≤ 255) :
    (Gen.DynPlanFn.DynamicChannelPlan.handle_new_channel (regOf rs.id) mops p index freq dr).map
        (fun o => (o.1, { rs with plan := .dyn (planOf o.2) }))
      = (handleNewChannel rs index.toNat freq.toNat (dr.map (fun d => d._0.toNat))).toOption := by
  obtain ⟨hc, hmk, hfr, hoct⟩ := hw
  have hN : Gen.DynPlanFn.NUM_CHANNELS_DYNAMIC = 16 := rfl
  have keep : ∀ x : Bool × Bool, (x, rs) = (x, { rs with plan := .dyn (planOf p) }) := fun x => by rw [plan_eta hplan]
  refine Tie.iff_map.mp ?_
  unfold Gen.DynPlanFn.DynamicChannelPlan.handle_new_channel
  simp only [handleNewChannel, hplan, hN, Gen.DynPlanFn.DynamicChannelPlan.frequency_valid, regOf]
  refine Tie.ite_decide (by omega) (fun _ => Tie.pure (keep _)) fun hj => ?_
  refine Tie.ite_decide (by omega) (fun _ => Tie.pure (keep _)) fun h16 => ?_
  have hset : ∀ b, Tie (fun m' n => n = natsOf m'.bytes) (mops.set_channel p.channel_mask index b)
      (Mask.setChannel (natsOf p.channel_mask.bytes) index.toNat b) := fun b =>
    Tie.iff_map.mpr ((hm p.channel_mask index hi (by omega) hmk hoct).2 b)
  have hsi := setIdx_eq_some p.channels hi (by omega : index.toNat < p.channels.length)
  -- split on the model's test; the generated one is decided from it whichever way round the source has the arms
  refine Tie.ite_right (fun hz => ?_) fun hz => ?_
  · obtain rfl : freq = 0 := by simp at hz; omega
    simp only [eq_self_iff_true, ne_eq, not_true_eq_false, decide_true, decide_false, if_true, if_false, Bool.false_eq_true,
      hsi, Option.bind_eq_bind, Option.bind_some, planOf]
    refine Tie.bind (hset false) fun m' n hn => ?_
    subst hn
    exact Tie.pure (by simp [planOf, List.map_set])
  · have h1 : ¬ freq = 0 := by simp at hz; omega
    have h2 : ¬ 0 = freq := fun h => h1 h.symm
    simp only [h1, h2, ne_eq, not_false_eq_true, decide_true, decide_false, if_true, if_false, Bool.false_eq_true]
    cases dr with
    | none => exact Tie.pure (keep _)
    | some d =>
      obtain ⟨hd0, hd1⟩ := hdr d rfl
      obtain ⟨dv⟩ := d
      obtain ⟨k, rfl⟩ : ∃ k : Nat, dv = (k : Int) := ⟨dv.toNat, by simp only at hd0; omega⟩
      obtain ⟨e1, e2⟩ := dr_range_fields ⟨k, by simp only at hd1; omega⟩
      have hND : Gen.DynPlanFn.NUM_DATARATES = 15 := rfl
      simp only at e1 e2
      simp only [Option.map_some, Int.toNat_natCast, e1, e2, hND, Option.bind_eq_bind, Option.bind_some, Option.pure_def]
      refine Tie.bind (R := fun a b => b = a) ?_ fun b b' hb => ?_
      · refine Tie.ite_decide (by omega) (fun _ => ?_) fun _ => Tie.pure rfl
        exact all_rates_defined rs.id (k % 16) (k / 16)
      · subst hb
        -- the model has the last step inside the arms of this test, the source after it
        by_cases hgo : (frequencyValid rs.id freq.toNat && b') = true
        · simp only [hgo, if_true, hsi, Option.bind_some, Option.bind_assoc, planOf]
          refine Tie.bind (hset true) fun m' n hn => ?_
          subst hn
          exact Tie.pure (by simp [planOf, List.map_set, chanOf, Gen.DynPlanFn.Channel.new_with_dr])
        · simp only [hgo, Bool.false_eq_true, if_false, Option.bind_some]
          exact Tie.pure (keep _)

/-- the model's mask operations as `MaskFns` -/
def exMops : Gen.DynPlanFn.MaskFns where
  set_channel m i b := (Mask.setChannel (natsOf m.bytes) i.toNat b).toOption.map (fun m' => ⟨m'.map Int.ofNat⟩)
  is_enabled m i := (Mask.isEnabled (natsOf m.bytes) i.toNat).toOption

theorem exMops_ok : MaskOk exMops := by
  intro m i _ _ _ _
  refine ⟨rfl, fun b => ?_⟩
  simp only [exMops, Option.map_map]
  cases Mask.setChannel (natsOf m.bytes) i.toNat b with
  | error e => rfl
  | ok mm => exact congrArg some (map_toNat_ofNat mm)

/-- an EU868 plan: three default channels, all 72 mask bits set -/
def exPlan : Gen.DynPlanFn.DynamicChannelPlan :=
  ⟨[some ⟨868100000, ⟨0x50⟩, none⟩, some ⟨868300000, ⟨0x50⟩, none⟩, some ⟨868500000, ⟨0x50⟩, none⟩] ++ List.replicate 13 none,
   ⟨List.replicate 9 255⟩⟩

example : PlanWF exPlan := by
  refine ⟨by decide, by decide, ?_, ?_⟩
  rotate_left
  · exact octets_replicate 9
  intro c hc
  simp only [exPlan, List.mem_append, List.mem_cons, List.mem_replicate, Option.some.injEq] at hc
  rcases hc with (h | h | h | h) | h
  · subst h; decide
  · subst h; decide
  · subst h; decide
  · cases h
  · exact absurd h.2 (by simp)

/-- NewChannelReq: index 3, 867.1 MHz, DR0..DR5 is accepted and creates the channel; index 1 (a join
channel) and 900 MHz (outside the band) are refused -/
example :
    ((Gen.DynPlanFn.DynamicChannelPlan.handle_new_channel (regOf .EU868) exMops exPlan 3 867100000 (some ⟨0x50⟩)).map
        (fun o => (o.1, o.2.channels[3]?))) = some ((true, true), some (some ⟨867100000, ⟨0x50⟩, none⟩)) ∧
    ((Gen.DynPlanFn.DynamicChannelPlan.handle_new_channel (regOf .EU868) exMops exPlan 1 867100000 (some ⟨0x50⟩)).map (·.1))
        = some (false, false) ∧
    ((Gen.DynPlanFn.DynamicChannelPlan.handle_new_channel (regOf .EU868) exMops exPlan 3 900000000 (some ⟨0x50⟩)).map (·.1))
        = some (false, true) := by
  refine ⟨by rfl, by rfl, by rfl⟩

/-- DlChannelReq: channel 0 gets the downlink frequency 869.525 MHz; slot 5 is not defined -/
example :
    ((Gen.DynPlanFn.DynamicChannelPlan.channel_dl_update (regOf .EU868) exMops exPlan 0 869525000).map
        (fun o => (o.1, (o.2.channels[0]?.bind id).map (·.dl_frequency)))) = some ((true, true), some (some 869525000)) ∧
    ((Gen.DynPlanFn.DynamicChannelPlan.channel_dl_update (regOf .EU868) exMops exPlan 5 869525000).map (·.1))
        = some (true, false) := by
  refine ⟨by rfl, by rfl⟩

#print axioms tieA_channel_dl_update
#print axioms tieA_handle_new_channel
#print axioms exMops_ok
end TieA.Dyn

/-! ## The NewChannelReq / DlChannelReq handlers with the regenerated `ChannelMask` operations

The two handlers above are equal to the model under the hypothesis `MaskOk` on the abstract `ChannelMask` methods.
`genMops` plugs the regenerated methods (`Gen/ChannelMaskFn.lean`, from the current types.rs) into that parameter;
`genMops_ok` discharges `MaskOk` for them (`TieA.CMask.set_channel_tie`, `is_enabled_tie`), so the two handler theorems
hold with no hypothesis about the mask operations.
-/
namespace TieA.DynMask
open TieA.Dyn

/-- the regenerated `ChannelMask::set_channel` / `is_enabled` as the `MaskFns` of `Gen.DynPlanFn` (the two
units name the byte array `bytes` / `_0`; `is_enabled`: `Err(InvalidIndex)` and a panic both read `none`,
neither occurs below index `N * 8`) -/
def genMops : Gen.DynPlanFn.MaskFns where
  set_channel m i b := (Gen.ChannelMaskFn.ChannelMask.set_channel ⟨m.bytes⟩ i b).map (fun m' => ⟨m'._0⟩)
  is_enabled m i := (Gen.ChannelMaskFn.ChannelMask.is_enabled ⟨m.bytes⟩ i).bind id

theorem len9 {l : List Int} (h : l.length = 9) : 0 < l.length ∧ TieA.CMask.LenOk l.length := by
  rw [h]; exact ⟨by decide, by unfold TieA.CMask.LenOk; decide⟩

theorem genMops_ok : MaskOk genMops := by
  intro m i h0 h16 hlen hoct
  refine ⟨?_, fun b => ?_⟩
  · exact (TieA.CMask.is_enabled_tie ⟨m.bytes⟩ hoct (len9 hlen).1 (len9 hlen).2 i h0 (by omega)).1
  · have := (Tie.iff_map_post.mp (TieA.CMask.set_channel_tie ⟨m.bytes⟩ hoct i h0 (by omega) b)).1
    simp only [genMops, Option.map_map]
    exact this

/-- inside the mask the regenerated `is_enabled` answers `Ok` (no `Err`, no panic is conflated) -/
theorem genMops_is_enabled_ok (m : Gen.DynPlanFn.ChannelMask) (i : Int) (h0 : 0 ≤ i) (h16 : i < 16) (hlen : m.bytes.length = 9)
    (hoct : ∀ x ∈ m.bytes, 0 ≤ x ∧ x ≤ 255) : ∃ b, Gen.ChannelMaskFn.ChannelMask.is_enabled ⟨m.bytes⟩ i = some (some b) := by
  exact (TieA.CMask.is_enabled_tie ⟨m.bytes⟩ hoct (len9 hlen).1 (len9 hlen).2 i h0 (by omega)).2 (by simp only [hlen]; omega)

#print axioms genMops_ok
end TieA.DynMask
