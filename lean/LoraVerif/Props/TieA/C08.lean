import LoraVerif.Gen.UplinkFn
import LoraVerif.Props.TieA.DynPlan
import LoraVerif.Props.TieA.Basic
import LoraVerif.Gen.CmdTables
import LoraVerif.Gen.UplinkStatic
/-!
# C08, tie A: MAC command lengths, the 15-byte answer queue, the retained answers, the margin byte

`Model/Mac.lean` hand-copies the payload lengths of the uplink / downlink MAC commands, the
`FOPTS_MAX_LEN` limit of the answer queue, the set of answers that are repeated until the next
downlink and the 6-bit margin of DevStatusAns.  Each is proved equal, for all arguments, to what
`tools/translate` regenerates from the current source: the `#[cmd(cid, len)]` tables
(`Gen/CmdTables.lean`), the whole of `Uplink::add_mac_command` (`Gen/UplinkFn.lean`), the `matches!` filter of
`Uplink::clear_mac_commands` and `DevStatusAnsCreator::set_margin` (`Gen/UplinkStatic.lean`).  Then what else the property
rests on, stated for it: the two dynamic-plan handlers (`DynPlan.lean`) with the regenerated mask operations, the
`ChannelMask` operations in one statement, and the index / data-rate-range guards of NewChannelReq / DlChannelReq, which
`Gen/RegionStatic.lean` regenerates as functions of their operands.
-/
namespace C08
open Model

/-- framing length of a CID in a generated `#[cmd(cid, len)]` table (the first row with that CID,
as the derived `match`), `none` = unknown CID -/
def tableLen (t : List Gen.CmdTables.Row) (cid : Nat) : Option Nat :=
  match t.find? (fun r => r.1 == cid) with
  | some r => r.2.1
  | none => none

/-- payload lengths of the uplink MAC commands = the `UplinkMacCommand` table of maccommands.rs -/
theorem tieA_uplinkCmdLen : ∀ cid : Nat, uplinkCmdLen cid = tableLen Gen.CmdTables.uplinkMacCommand cid
  | 0 | 1 | 2 | 3 | 4 | 5 | 6 | 7 | 8 | 9 | 10 | 11 | 12 | 13 | 14 | 15 => by decide
  | _ + 16 => rfl

/-- payload lengths of the downlink MAC commands = the `DownlinkMacCommand` table of maccommands.rs -/
theorem tieA_downlinkCmdLen : ∀ cid : Nat, downlinkCmdLen cid = tableLen Gen.CmdTables.downlinkMacCommand cid
  | 0 | 1 | 2 | 3 | 4 | 5 | 6 | 7 | 8 | 9 | 10 | 11 | 12 | 13 | 14 | 15 => by decide
  | _ + 16 => rfl

example : uplinkCmdLen 6 = some 2 ∧ downlinkCmdLen 3 = some 4 ∧ uplinkCmdLen 11 = none := by decide

/-- CIDs of the `UplinkMacCommand` variants the `matches!` filter of `clear_mac_commands(true)` names -/
def retainedCids : List Nat :=
  (Gen.CmdTables.uplinkMacCommand.filter
    (fun r => Gen.UplinkStatic.Uplink.clear_mac_commands.retained.contains r.2.2.1)).map (·.1)

/-- every variant the filter names exists in the table (a renamed variant cannot silently drop out) -/
theorem tieA_retained_known :
    Gen.UplinkStatic.Uplink.clear_mac_commands.retained.all
      (fun v => Gen.CmdTables.uplinkMacCommand.any (fun r => r.2.2.1 == v)) = true := by decide

/-- the sticky answers of the model are exactly the retained variants' CIDs -/
theorem tieA_isSticky (cid : Nat) : isSticky cid = retainedCids.contains cid := by
  have h : retainedCids = [5, 8, 10] := by decide
  rw [h]
  simp only [isSticky, List.contains, List.elem]
  cases h5 : cid == 5 <;> cases h8 : cid == 8 <;> cases h10 : cid == 10 <;> rfl

example : isSticky 5 = true ∧ isSticky 3 = false := by decide

/-- `push_answer` as modelled (`MacCtx.push`): while no answer of this downlink has been dropped it
queues exactly as `addMacCommand` (= `Uplink::add_mac_command`, `tieA_add_mac_command` below) and
raises `full` exactly when that refuses -/
theorem tieA_push (c : MacCtx) (cid : Nat) (payload : List Nat) (hf : c.full = false) :
    (c.push cid payload).pending = addMacCommand c.pending cid payload ∧
    (c.push cid payload).full = !decide (c.pending.length + payload.length < 15) := by
  unfold MacCtx.push addMacCommand
  by_cases hc : c.pending.length + payload.length < 15 <;> simp [hc, hf]

example : addMacCommand (List.replicate 13 0) 6 [255, 0] = List.replicate 13 0 := by decide

/-- `DevStatusAnsCreator::set_margin` for every `i8`: refused outside −32..=31, otherwise the byte
`((margin << 2) as u8) >> 2` is the model's 6-bit two's complement margin; it is stored in `data[2]`,
the second payload byte of the answer -/
theorem tieA_devStatusMargin (snr : Int) (h : -128 ≤ snr ∧ snr ≤ 127) :
    Gen.UplinkStatic.DevStatusAnsCreator.set_margin.byte snr =
      some (if -32 ≤ snr ∧ snr ≤ 31 then some (devStatusMargin snr : Int) else none) ∧
    Gen.UplinkStatic.DevStatusAnsCreator.set_margin.index = 2 := by
  refine ⟨?_, rfl⟩
  -- all 256 values of an `i8`, evaluated by the kernel
  have all : ∀ k : Fin 256,
      Gen.UplinkStatic.DevStatusAnsCreator.set_margin.byte ((k.val : Int) - 128) =
        some (if -32 ≤ (k.val : Int) - 128 ∧ (k.val : Int) - 128 ≤ 31
          then some (devStatusMargin ((k.val : Int) - 128) : Int) else none) := by decide +kernel
  have := all ⟨(snr + 128).toNat, by omega⟩
  have e : (((snr + 128).toNat : Nat) : Int) - 128 = snr := by omega
  simpa only [e] using this

example : devStatusMargin (-5) = 59 ∧ devStatusMargin 40 = 0 := by decide

#print axioms tieA_uplinkCmdLen
#print axioms tieA_downlinkCmdLen
#print axioms tieA_isSticky
#print axioms tieA_push
#print axioms tieA_devStatusMargin

/-! Whole methods of `Uplink` (state-passing translation, `Gen/UplinkFn.lean`).

`heapless::Vec<u8, FOPTS_MAX_LEN>` is a list with a capacity (`Rt.hvPush` / `Rt.hvExtend`: `push`
answers `Err` when full, `extend_from_slice(..).unwrap()` panics when the slice does not fit); the
`M: SerializableMacCommand` argument is the triple of what the method observes of it. -/

/-- the byte list a generated `heapless::Vec<u8, _>` stands for -/
def natsOf (l : List Int) : List Nat := l.map Int.toNat

set_option linter.unusedSimpArgs false in -- `if_pos` and `if_neg` are both given: the source may write the fit test either way round
/-- `Uplink::add_mac_command` as the current source has it never panics and is the model's
`addMacCommand`: the answer is queued (CID, then payload) iff queue + payload stay below 15 bytes,
otherwise the queue is untouched and `false` is returned; the owed-ACK flag is not touched.
(`hlen`: the trait's `payload_len()` is the length of `payload_bytes()`, as the derive macro
generates it; `h` excludes only a `usize` overflow no list length can cause.) -/
theorem tieA_add_mac_command (u : Gen.UplinkFn.Uplink) (cmd : Gen.UplinkFn.SerializableMacCommand)
    (hlen : cmd.payload_len = cmd.payload_bytes.length)
    (h : u.pending.length + cmd.payload_bytes.length ≤ 18446744073709551615) :
    (Gen.UplinkFn.Uplink.add_mac_command u cmd).map (fun o => (o.1, natsOf o.2.pending, o.2.confirmed))
      = some (decide (u.pending.length + cmd.payload_bytes.length < 15),
              addMacCommand (natsOf u.pending) cmd.cid.toNat (natsOf cmd.payload_bytes), u.confirmed) := by
  obtain ⟨pend, conf⟩ := u
  obtain ⟨cid, pb, pl⟩ := cmd
  simp only at hlen h
  subst hlen
  unfold Gen.UplinkFn.Uplink.add_mac_command
  simp only [Int.ofNat_eq_natCast, show Gen.UplinkFn.FOPTS_MAX_LEN = 15 from rfl, addMacCommand, natsOf, List.length_map]
  rw [Rt.ck_usize (by omega) (by omega)]
  simp only [Option.bind_eq_bind, Option.bind_some]
  -- the tests are decided by `omega` from `hc`, however the source spells them
  by_cases hc : pend.length + pb.length < 15
  · -- the CID fits (`push` is `Ok`), then the payload fits (`extend_from_slice` is `Ok`)
    simp (disch := omega) only [if_pos, if_neg, decide_eq_true_eq, Rt.hvPush, Rt.hvExtend, Rt.hvExtendOk, List.length_append,
      List.length_singleton, Int.natCast_add, Int.natCast_one, Option.bind_some, Option.pure_def, Option.map_some,
      decide_eq_true hc, List.map_append, List.map_cons, List.append_assoc, List.singleton_append]
  · simp (disch := omega) only [if_pos, if_neg, decide_eq_true_eq, Option.pure_def, Option.map_some, decide_eq_false hc]

example : (Gen.UplinkFn.Uplink.add_mac_command ⟨[3, 7], true⟩ ⟨6, [255, 10], 2⟩).map (fun o => (o.1, o.2.pending))
    = some (true, [3, 7, 6, 255, 10]) := by decide
example : (Gen.UplinkFn.Uplink.add_mac_command ⟨List.replicate 13 0, false⟩ ⟨6, [255, 10], 2⟩).map (fun o => (o.1, o.2.pending.length))
    = some (false, 13) := by decide

/-- `set_downlink_confirmation` / `clear_downlink_confirmation` / `confirms_downlink` /
`mac_commands`: the model's `ackOwed := true` (`sessionHandleRx`), `ackOwed := false` and the reads
`s.ackOwed`, `s.pending` (`prepareBuffer`); none of them touches the other field -/
theorem tieA_downlink_confirmation (u : Gen.UplinkFn.Uplink) :
    Gen.UplinkFn.Uplink.set_downlink_confirmation u = { u with confirmed := true } ∧
    Gen.UplinkFn.Uplink.clear_downlink_confirmation u = { u with confirmed := false } ∧
    Gen.UplinkFn.Uplink.confirms_downlink u = u.confirmed ∧
    Gen.UplinkFn.Uplink.mac_commands u = u.pending := by
  exact ⟨rfl, rfl, rfl, rfl⟩

/-- `clear_mac_commands`: with `retain_acks == false` the queue is emptied (the model's
`pending := []` on an accepted Class A downlink); with `true` it is REPLACED by what the iterator
pipeline (parse → `matches!` filter → re-serialise; uninterpreted here, its variant list is
`tieA_isSticky`) yields from the old queue and an empty accumulator; the owed-ACK flag is untouched -/
theorem tieA_clear_mac_commands (u : Gen.UplinkFn.Uplink) :
    Gen.UplinkFn.Uplink.clear_mac_commands u false = { u with pending := [] } ∧
    Gen.UplinkFn.Uplink.clear_mac_commands u true = { u with pending := Gen.UplinkFn.retained_pipeline u.pending [] } := by
  exact ⟨rfl, rfl⟩

#print axioms tieA_add_mac_command
#print axioms tieA_downlink_confirmation
#print axioms tieA_clear_mac_commands
/-- NewChannelReq, the WHOLE handler: the state-passing translation of the current source of
`DynamicChannelPlan::handle_new_channel` (`Gen/DynPlanFn.lean`, with `DataRateRange::{min,max}_data_rate`
and `Channel::new_with_dr`) is the model's `handleNewChannel` on every plan with 16 slots and a 9-byte
mask: join channels and indices ≥ 16 are refused with (false, false); frequency 0 removes the channel,
clears its mask bit and answers (true, true); otherwise the answer is (frequency in band, every rate of
min..=max defined and max < 15) and the channel is created and enabled iff both hold.  Abstract: the
region's parameters (the model's; tied by `tieA_newChannel_*`, C09/C10 tie A).  The two `ChannelMask`
methods are the regenerated ones (`TieA.DynMask.genMops`; `MaskOk` holds of them, `tieA_channel_mask_ops`). -/
theorem tieA_handle_new_channel (rs : RegionState)
    (hfix : rs.id.isFixed = false)
    (p : Gen.DynPlanFn.DynamicChannelPlan) (hplan : rs.plan = .dyn (TieA.Dyn.planOf p)) (hw : TieA.Dyn.PlanWF p)
    (index freq : Int) (dr : Option Gen.DynPlanFn.DataRateRange) (hi : 0 ≤ index) (hf : 0 ≤ freq)
    (hdr : ∀ d, dr = some d → 0 ≤ d._0 ∧ d._0 ≤ 255) :
    (Gen.DynPlanFn.DynamicChannelPlan.handle_new_channel (TieA.Dyn.regOf rs.id) TieA.DynMask.genMops p index freq dr).map
        (fun o => (o.1, { rs with plan := .dyn (TieA.Dyn.planOf o.2) }))
      = (handleNewChannel rs index.toNat freq.toNat (dr.map (fun d => d._0.toNat))).toOption :=
  TieA.Dyn.tieA_handle_new_channel TieA.DynMask.genMops TieA.DynMask.genMops_ok rs hfix p hplan hw index freq dr hi hf hdr

/-- DlChannelReq, the WHOLE handler: the state-passing translation of the current source of
`DynamicChannelPlan::channel_dl_update` is the model's `channelDlUpdate`: answer (frequency in band, index
below 16 ∧ channel enabled ∧ defined ∧ its frequency non-zero); the downlink frequency is stored only when
both bits are set (`None` when it equals the uplink frequency: RX1 then follows the uplink), otherwise
nothing changes. -/
theorem tieA_channel_dl_update (rs : RegionState)
    (p : Gen.DynPlanFn.DynamicChannelPlan) (hplan : rs.plan = .dyn (TieA.Dyn.planOf p)) (hw : TieA.Dyn.PlanWF p)
    (index freq : Int) (hi : 0 ≤ index) (hf : 0 ≤ freq) :
    (Gen.DynPlanFn.DynamicChannelPlan.channel_dl_update (TieA.Dyn.regOf rs.id) TieA.DynMask.genMops p index freq).map
        (fun o => (o.1, { rs with plan := .dyn (TieA.Dyn.planOf o.2) }))
      = (channelDlUpdate rs index.toNat freq.toNat).toOption :=
  TieA.Dyn.tieA_channel_dl_update TieA.DynMask.genMops TieA.DynMask.genMops_ok rs p hplan hw index freq hi hf


example : TieA.Dyn.MaskOk TieA.Dyn.exMops := TieA.Dyn.exMops_ok

/-- the bit operations of `ChannelMask<N>` (types.rs), regenerated from the current source
(`Gen/ChannelMaskFn.lean`: `channel >> 3`, `1 << (channel & 7)` typed `u8` from its later use, `!flag`, `|=` /
`&=` through the index, `N * 8 - 1`), are the model's on every mask of octets, for every `usize` index and value:
`set_channel` = `Mask.setChannel` (one bit set or cleared, out of bounds a panic) and keeps the mask a list of
octets of the same length; `is_enabled(i).unwrap()` = `Mask.isEnabled` and answers `Ok` for `i ≤ N*8 − 1`;
`set_bank` = `Mask.setBank`; `get_index` reads byte `index`.  With `genMops_ok` this discharges the hypothesis
`MaskOk` of the two handler theorems, which are stated above for the regenerated operations
(`TieA.DynMask.genMops`). -/
theorem tieA_channel_mask_ops (m : Gen.ChannelMaskFn.ChannelMask) (hm : TieA.CMask.Octets m._0) (i : Int) (h0 : 0 ≤ i)
    (h1 : i ≤ 18446744073709551615) :
    (∀ set, (Gen.ChannelMaskFn.ChannelMask.set_channel m i set).map (fun m' => TieA.CMask.natsOf m'._0)
        = (Mask.setChannel (TieA.CMask.natsOf m._0) i.toNat set).toOption) ∧
    (∀ set m', Gen.ChannelMaskFn.ChannelMask.set_channel m i set = some m' → TieA.CMask.Octets m'._0 ∧ m'._0.length = m._0.length) ∧
    (0 < m._0.length → TieA.CMask.LenOk m._0.length →
      (Gen.ChannelMaskFn.ChannelMask.is_enabled m i).bind id = (Mask.isEnabled (TieA.CMask.natsOf m._0) i.toNat).toOption ∧
      (i.toNat ≤ m._0.length * 8 - 1 → ∃ b, Gen.ChannelMaskFn.ChannelMask.is_enabled m i = some (some b))) ∧
    (∀ v, 0 ≤ v → (Gen.ChannelMaskFn.ChannelMask.set_bank m i v).map (fun m' => TieA.CMask.natsOf m'._0)
        = (Mask.setBank (TieA.CMask.natsOf m._0) i.toNat v.toNat).toOption) ∧
    (Gen.ChannelMaskFn.ChannelMask.get_index m i).map Int.toNat = (TieA.CMask.natsOf m._0)[i.toNat]? ∧
    TieA.Dyn.MaskOk TieA.DynMask.genMops :=
  ⟨fun set => (TieA.Tie.iff_map_post.mp (TieA.CMask.set_channel_tie m hm i h0 h1 set)).1,
   fun set m' h => (TieA.Tie.iff_map_post.mp (TieA.CMask.set_channel_tie m hm i h0 h1 set)).2 m' h,
   fun hl h64 => TieA.CMask.is_enabled_tie m hm hl h64 i h0 h1,
   fun v _ => TieA.CMask.set_bank_tie m i h0 v,
   TieA.CMask.get_index_tie m i h0,
   TieA.DynMask.genMops_ok⟩

/-- the octet hypothesis is satisfiable: the all-enabled 9-byte mask -/
example : TieA.CMask.Octets (⟨List.replicate 9 255⟩ : Gen.ChannelMaskFn.ChannelMask)._0 :=
  TieA.octets_replicate 9

#print axioms tieA_channel_mask_ops
#print axioms tieA_handle_new_channel
#print axioms tieA_channel_dl_update

open TieA

/-- `index < R::NUM_JOIN_CHANNELS` with the region's constant is the model's `index < numJoinChannels r` -/
theorem tieA_newChannel_joinIndex (r : RegionId) (h : r.isFixed = false) (index : Nat) :
    ∃ n, Gen.RegionStatic.NUM_JOIN_CHANNELS (toGen r) = some n ∧
      Gen.RegionStatic.DynamicChannelPlan.handle_new_channel.index_is_join_channel index n
        = decide (index < numJoinChannels r) := by
  refine ⟨(numJoinChannels r : Int), ?_, ?_⟩
  · cases r <;> first | (exact absurd h (by decide)) | rfl
  · simp only [Gen.RegionStatic.DynamicChannelPlan.handle_new_channel.index_is_join_channel]
    rw [Bool.eq_iff_iff]; simp only [decide_eq_true_eq]; omega

/-- `index >= NUM_CHANNELS_DYNAMIC` (both handlers) is the model's `index ≥ 16` -/
theorem tieA_newChannel_pastPlan (index : Nat) :
    Gen.RegionStatic.DynamicChannelPlan.handle_new_channel.index_past_plan index = decide (index ≥ 16) ∧
    Gen.RegionStatic.DynamicChannelPlan.channel_dl_update.index_past_plan index = decide (index ≥ 16) := by
  have hn : Gen.RegionStatic.NUM_CHANNELS_DYNAMIC = 16 := rfl
  constructor <;>
    simp only [Gen.RegionStatic.DynamicChannelPlan.handle_new_channel.index_past_plan,
      Gen.RegionStatic.DynamicChannelPlan.channel_dl_update.index_past_plan] <;>
    rw [Bool.eq_iff_iff] <;> simp only [decide_eq_true_eq] <;> omega

/-- `r.max_data_rate() < NUM_DATARATES` is the model's `dmax < 15` -/
theorem tieA_newChannel_maxDr (dmax : Nat) :
    Gen.RegionStatic.DynamicChannelPlan.handle_new_channel.max_dr_in_table dmax = decide (dmax < 15) := by
  have hn : Gen.RegionStatic.NUM_DATARATES = 15 := rfl
  simp only [Gen.RegionStatic.DynamicChannelPlan.handle_new_channel.max_dr_in_table]
  rw [Bool.eq_iff_iff]; simp only [decide_eq_true_eq]; omega

example : Gen.RegionStatic.DynamicChannelPlan.handle_new_channel.index_past_plan 16 = true ∧
    Gen.RegionStatic.DynamicChannelPlan.handle_new_channel.index_is_join_channel 2 3 = true ∧
    Gen.RegionStatic.DynamicChannelPlan.handle_new_channel.max_dr_in_table 15 = false := by decide

#print axioms tieA_newChannel_joinIndex
#print axioms tieA_newChannel_pastPlan
#print axioms tieA_newChannel_maxDr
end C08
