import LoraVerif.Lemmas.PhyTieA
import LoraVerif.Gen.PhyEnc1262
import LoraVerif.Gen.PhyEnc1261
import LoraVerif.Lemmas.PhyArithLemmas
/-!
# C13, tie A for the SX126x command encoders

Each theorem `C13.tieA_<method>` says: the driver method, regenerated from its current source as a
value of `Rt.Phy.IoM` (`Gen/PhyEnc126*.lean`: the list of SPI transactions and busy waits it
requests, in `Rt`'s checked arithmetic, reads answered by an abstract device), run on the wire-level
chip of `Model/PhyIo.lean` (`chipDev`) after any requests `log`, gives exactly what the hand model's
`Prog` for the same operation gives (`denote`: its fault-free run — the same requests in the same
order with the same bytes, the same chip afterwards, the same `Ok` / `Err`; a panic on one side is
a panic on the other), for ALL parameter values and ALL chip contents.  The proofs evaluate both
sides (`phy_run`, `phy_tie`) and name of the method bodies only what a piece tied by itself needs (`Sx126x.txGuard`,
`DeviceSel.toInt`); the helpers the translator emitted are
unfolded by `gen_unfold_helpers_<Unit>` (under `try`: whether a method has helpers is the translator's choice and
changes with the spelling of the source).  The three `Result`-valued code tables of
`radio_kind_params.rs` are tied to the `Option`-valued tables of `Gen.PhyCodes126` the model reads
(`gen_*_value`).  `set_tx_power_and_ramp_time` is tied in two pieces (`tie_bind` over
`Sx126x.setTxPowerAndRampTime_seq`): what precedes the table lookup, then the part common to all outputs.
-/
open Model.Phy TieA.Phy Gen.PhyCodes126

namespace C13

/-- evaluates a generated encoder on `chipDev` and the hand model's program under `denote`, request by request; the
list names what this needs besides the `_app` equations: hypotheses deciding branches, facts about checked arithmetic -/
syntax "phy_run" "[" Lean.Parser.Tactic.simpLemma,* "]" : tactic
macro_rules
  | `(tactic| phy_run [$ls,*]) => `(tactic|
    simp +decide only [Rt.shrC, Rt.shlC, Rt.ITy.bits, Rt.ck, Rt.ITy.lo, Rt.ITy.hi, Rt.ITy.signed, bind_assoc_app, pure_bind_app, write_bind_app, read_bind_app, ofOpt_some_bind_app, ofOpt_none_bind_app,
      throw_bind_app, panic_bind_app, write_app, writeWithPayload_app, writeWithPayload_bind_app, pure_app, pure_app', throw_app,
      ofOpt_some_app, ite_app, ite_bind_app, Sx126x.addr1_val,
      idx_fill_one, beBytes_u16, beBytes_u32, idx_zero, idx_one, idx_two, idx_three, chipDev_fst, chipDev_snd, List.length_cons, List.length_nil,
      Sx126x.regR8, Sx126x.regW8, Sx126x.addr1_ret, ofOpt,
      Model.Phy.pure_eq_ret, Model.Phy.bind_eq, Model.Phy.bind_ret, Model.Phy.bind_fail, Prog.bind_assoc, prog_bind_ite,
      denote_intfWrite_bind, denote_intfRead_bind, denote_intfWriteWithPayload_bind, denote_intfWriteWithPayload,
      denote_intfWrite, denote_ite, denote_ret, denote_fail, denote_panic, view, beq_self_eq_true, if_true, beq_iff_eq, if_false,
      Bool.false_eq_true, Bool.true_eq_false, if_pos, if_neg, radioErr, $ls,*])

/-- `phy_run`, then the comparison of the two results (chip, requests with their bytes); the second list names what
the data level needs: code tables, bounds of the bytes.  Where the evaluation alone ends with the same term on both
sides, `phy_run` is the whole proof. -/
syntax "phy_tie" "[" Lean.Parser.Tactic.simpLemma,* "]" "[" Lean.Parser.Tactic.simpLemma,* "]" : tactic
macro_rules
  | `(tactic| phy_tie [$ls,*] [$ds,*]) => `(tactic| (
    phy_run [$ls,*]
    simp +decide [toBytes_cons, toInts_cons, toBytes_nil, toInts_nil, Sx126x.op, Sx126x.addr2, OpCode.value, OpCode.toInt,
      Register.toInt, Register.addr2, RampTime.value, RampTime.toInt, Rt.wrap, Rt.ITy.bits, Rt.ITy.signed, Rt.notI, Rt.ITy.hi, Rt.ITy.lo, byte, Rt.andI, Rt.orI, Rt.xorI, byteAt_mod, radioErr, view, $ds,*]))

def genMod (m : Sx126x.ModulationParams) : Gen.PhyEnc1262.ModulationParams :=
  { spreading_factor := m.sf, bandwidth := m.bw, coding_rate := m.cr, low_data_rate_optimize := m.ldro.toNat, frequency_in_hz := m.freq }

def genPkt (p : PacketParams) : Gen.PhyEnc1262.PacketParams :=
  { preamble_length := p.preambleLength, implicit_header := p.implicitHeader, payload_length := p.payloadLength,
    crc_on := p.crcOn, iq_inverted := p.iqInverted }

/-- every value of the generated record is the image of a model record (u8 / u16 / u32 fields in range) -/
theorem genMod_surjective (g : Gen.PhyEnc1262.ModulationParams) (h1 : 0 ≤ g.low_data_rate_optimize ∧ g.low_data_rate_optimize < 256)
    (h2 : 0 ≤ g.frequency_in_hz) : ∃ m, genMod m = g := by
  obtain ⟨sf, bw, cr, l, f⟩ := g
  refine ⟨⟨sf, bw, cr, UInt8.ofNat l.toNat, f.toNat⟩, ?_⟩
  simp only [genMod, Gen.PhyEnc1262.ModulationParams.mk.injEq, true_and, UInt8.toNat_ofNat'] at *
  constructor <;> omega

/-- the generated `Result`-valued code tables are the `Option`-valued ones of `Gen.PhyCodes126` the model reads -/
theorem gen_sf_value {σ : Type} (sf : SpreadingFactor) :
    (Gen.PhyEnc1262.spreading_factor_value sf : Rt.Phy.IoM Gen.PhyErr.RadioError σ Int) =
      match spreading_factor_value sf with | some v => pure v | none => Rt.Phy.throw .UnavailableSpreadingFactor := by
  cases sf <;> rfl
theorem gen_bw_value {σ : Type} (bw : Bandwidth) :
    (Gen.PhyEnc1262.bandwidth_value bw : Rt.Phy.IoM Gen.PhyErr.RadioError σ Int) =
      match bandwidth_value bw with | some v => pure v | none => Rt.Phy.throw .UnavailableBandwidth := by
  cases bw <;> rfl
theorem gen_cr_value {σ : Type} (cr : CodingRate) :
    (Gen.PhyEnc1262.coding_rate_value cr : Rt.Phy.IoM Gen.PhyErr.RadioError σ Int) =
      match coding_rate_value cr with | some v => pure v | none => Rt.Phy.throw .InvalidConfiguration := by
  cases cr <;> rfl
theorem sf_byte (sf : SpreadingFactor) (v : Int) (h : spreading_factor_value sf = some v) : ∃ n : Nat, v = n ∧ n < 256 := by
  cases sf <;> cases h <;> exact ⟨_, rfl, by decide⟩
theorem bw_byte (bw : Bandwidth) (v : Int) (h : bandwidth_value bw = some v) : ∃ n : Nat, v = n ∧ n < 256 := by
  cases bw <;> cases h <;> exact ⟨_, rfl, by decide⟩
theorem cr_byte (cr : CodingRate) (v : Int) (h : coding_rate_value cr = some v) : ∃ n : Nat, v = n ∧ n < 256 := by
  cases cr <;> cases h <;> exact ⟨_, rfl, by decide⟩

/-- `Sx126x::set_modulation_params` (translated from the current source) IS the model's
`setModulationParams`: the SetModulationParams command with the SF / BW / CR codes and the LDRO byte,
then the read-modify-write of register 0x0889 (bit 2 cleared for 500 kHz, set otherwise); the
`Err` of an unavailable SF / BW / CR before any request — for every parameter record, chip and prefix
of requests. -/
theorem tieA_set_modulation_params (self : Gen.PhyEnc1262.Sx126x) (m : Sx126x.ModulationParams) (c : Chip) (log : List Rt.Phy.Ev) :
    view id (Gen.PhyEnc1262.Sx126x.set_modulation_params self (genMod m) chipDev c log)
      = denote (Sx126x.setModulationParams m) c log := by
  obtain ⟨sf, bw, cr, ldro, f⟩ := m
  simp only [Gen.PhyEnc1262.Sx126x.set_modulation_params, genMod, gen_sf_value, gen_bw_value, gen_cr_value, Sx126x.setModulationParams, Sx126x.errUnavailable]
  cases hsf : spreading_factor_value sf with
  | none => simp [view, radioErr]
  | some vsf =>
  cases hbw : bandwidth_value bw with
  | none => simp [view, radioErr]
  | some vbw =>
  cases hcr : coding_rate_value cr with
  | none => simp [view, radioErr]
  | some vcr =>
  obtain ⟨nsf, rfl, h1⟩ := sf_byte _ _ hsf
  obtain ⟨nbw, rfl, h2⟩ := bw_byte _ _ hbw
  obtain ⟨ncr, rfl, h3⟩ := cr_byte _ _ hcr
  by_cases h5 : bw = Bandwidth._500KHz <;> (
    try gen_unfold_helpers_PhyEnc1262
    phy_tie [h5] [Nat.mod_eq_of_lt h1, Nat.mod_eq_of_lt h2, Nat.mod_eq_of_lt h3])

/-- non-vacuity: SF7 / 125 kHz / 4-5 on a device whose registers all read 0x25 -/
example : Gen.PhyEnc1262.Sx126x.set_modulation_params ⟨⟨⟨⟩, none, true, false⟩⟩
    (genMod ⟨._7, ._125KHz, ._4_5, 0, 868100000⟩) (fun (_ : Unit) _ n => (List.replicate n 0x25, ())) () [] =
    some (.ok (), (), [.spi [0x8B, 7, 4, 1, 0] 0, .busy, .spi [0x1D, 0x08, 0x89, 0] 1, .busy, .spi [0x0D, 0x08, 0x89, 0x25] 0, .busy]) := rfl

#print axioms tieA_set_modulation_params

theorem tieA_set_packet_params (self : Gen.PhyEnc1262.Sx126x) (p : PacketParams) (c : Chip) (log : List Rt.Phy.Ev)
    (hlen : p.payloadLength < 256) :
    view id (Gen.PhyEnc1262.Sx126x.set_packet_params self (genPkt p) chipDev c log)
      = denote (Sx126x.setPacketParams p) c log := by
  obtain ⟨pre, ih, len, crc, iq⟩ := p
  simp only at hlen
  simp only [Gen.PhyEnc1262.Sx126x.set_packet_params, genPkt, Sx126x.setPacketParams]
  have hb : ∀ b : Bool, Rt.b2i b = ((b2u b).toNat : Int) := by intro b; cases b <;> rfl
  -- only the IQ flag decides a branch (the polarity workaround); header and CRC flags are bytes of the command
  cases iq <;> (
    try gen_unfold_helpers_PhyEnc1262
    phy_tie [wrap_and255_nat, wrap_and255_div _ 256, Int.reducePow, Int.reduceToNat, Nat.reducePow] [hb, hi8, lo8, Nat.mod_eq_of_lt hlen, ofNat_toNat_mod, ofNat_toNat_div _ 256])

#print axioms tieA_set_packet_params

/-- what the encoders use of a generated lookup result: paDutyCycle, hpMax, the SetTxParams power byte -/
def paViewG : Option (Gen.PhyArith.PaTableEntry × Int) → Option (Int × Int × Int)
  | some (e, b) => some (e.pa_duty_cycle, e.hp_max, b)
  | none => none
/-- the same of the hand model's lookup -/
def paViewM : Option (Sx126x.PaEntry × UInt8) → Option (Int × Int × Int)
  | some (e, b) => some (e.duty.toNat, e.hpMax.toNat, b.toNat)
  | none => none

theorem model_lookup_clamp (t : Sx126x.PaTable) (last : Sx126x.PaEntry) (hl : t.entries.getLast? = some last) (req : Int) :
    t.lookup req = t.lookup (Spec.Semtech.clampI t.minDbm last.maxDbm req) := by
  unfold Sx126x.PaTable.lookup Spec.Semtech.clampI
  rw [hl]
  simp only [clamp_idem]
theorem model_lookup_isSome (t : Sx126x.PaTable) (last : Sx126x.PaEntry) (hl : t.entries.getLast? = some last) (req : Int) :
    (t.lookup req).isSome := by
  unfold Sx126x.PaTable.lookup; rw [hl]; rfl

/-- two lookups with the same view, the model's not the empty-table panic: a row on both sides, with the same three bytes -/
theorem pa_view_eq {g : Option (Gen.PhyArith.PaTableEntry × Int)} {m : Option (Sx126x.PaEntry × UInt8)}
    (h : paViewG g = paViewM m) (hs : m.isSome) :
    ∃ e b e' b', g = some (e, b) ∧ m = some (e', b') ∧
      e.pa_duty_cycle = e'.duty.toNat ∧ e.hp_max = e'.hpMax.toNat ∧ b = b'.toNat := by
  obtain ⟨⟨e', b'⟩, rfl⟩ := Option.isSome_iff_exists.mp hs
  rcases g with _ | ⟨e, b⟩
  · simp [paViewG, paViewM] at h
  · simp only [paViewG, paViewM, Option.some.injEq, Prod.mk.injEq] at h
    exact ⟨e, b, e', b', rfl, rfl, h⟩

/-- a hand-copied table and lookup of the model against a regenerated table and `PaTable::lookup`: both lookups see the
request only through its clamp into the table's range, so the `n` powers of the range decide, for EVERY request -/
theorem pa_lookup_tie (G : Gen.PhyArith.PaTable) (M : Sx126x.PaTable) (last : Sx126x.PaEntry) (n : Nat)
    (hmx : Gen.PhyArith.lastMax G = some last.maxDbm) (hl : M.entries.getLast? = some last) (hmin : G.min_dbm = M.minDbm)
    (hn : M.minDbm ≤ last.maxDbm ∧ last.maxDbm < M.minDbm + n)
    (h : ∀ i : Fin n, paViewG (G.lookup (M.minDbm + i)) = paViewM (M.lookup (M.minDbm + i))) (req : Int) :
    paViewG (G.lookup req) = paViewM (M.lookup req) := by
  rw [Gen.PhyArith.lookup_clamp _ req _ hmx, model_lookup_clamp M last hl, hmin]
  exact of_clamp (P := fun k => paViewG (G.lookup k) = paViewM (M.lookup k)) _ _ n hn h req

/-- the hand-copied SX1262 table and lookup of the model give, for EVERY requested power, the row and
power byte of the regenerated `SX1262_PA_TABLE` / `PaTable::lookup` -/
theorem tieA_pa_lookup_1262 (req : Int) :
    paViewG (Gen.PhyArith.SX1262_PA_TABLE.lookup req) = paViewM (Sx126x.sx1262Table.lookup req) :=
  pa_lookup_tie _ _ ⟨22, 0x04, 0x07, 22⟩ 32 rfl rfl rfl (by decide) (by decide +kernel) req
theorem tieA_pa_lookup_1261 (req : Int) :
    paViewG (Gen.PhyArith.SX1261_PA_TABLE.lookup req) = paViewM (Sx126x.sx1261Table.lookup req) :=
  pa_lookup_tie _ _ ⟨15, 0x06, 0x00, 14⟩ 33 rfl rfl rfl (by decide) (by decide +kernel) req

#print axioms tieA_pa_lookup_1262
#print axioms tieA_pa_lookup_1261

/-- `Sx126x::<Sx1262>::set_tx_power_and_ramp_time` (with `set_pa_config`, the variant's `get_device_sel` /
`pa_table`, `PaTable::lookup` and the table constant, all from the current source) IS the model's
`setTxPowerAndRampTime` on an SX1262: the TxClampCfg read-modify-write (bits 4..1 set), SetPaConfig with the
row of the table and device 0, SetTxParams with the power byte and the ramp code — every requested
power, ramp choice, chip and prefix. -/
theorem tieA_set_tx_power_and_ramp_time_1262 (self : Gen.PhyEnc1262.Sx126x) (cfg : Sx126x.Config) (hc : cfg.chip = .sx1262)
    (power : Int) (mp : Option Sx126x.ModulationParams) (prep : Bool) (c : Chip) (log : List Rt.Phy.Ev) :
    view id (Gen.PhyEnc1262.Sx126x.set_tx_power_and_ramp_time self power (mp.map genMod) prep chipDev c log)
      = denote (Sx126x.setTxPowerAndRampTime cfg power (mp.map (·.freq)) prep) c log := by
  obtain ⟨chip, tcxo, dcdc, rxb⟩ := cfg
  simp only at hc; subst hc
  obtain ⟨e, b, e', b', hg, hm, h1, h2, h3⟩ :=
    pa_view_eq (tieA_pa_lookup_1262 power) (model_lookup_isSome _ ⟨22, 0x04, 0x07, 22⟩ rfl power)
  simp only [Gen.PhyEnc1262.Sx126x.set_tx_power_and_ramp_time, Sx126x.setTxPowerAndRampTime_seq, Sx126x.Variant.highPower,
    Sx126x.Variant.paTable, Sx126x.Variant.deviceSel, Sx126x.setPaConfig, Model.Phy.bind_eq]
  try gen_unfold_helpers_PhyEnc1262
  refine tie_bind id id _ _ _ _ _ _ ?_ (fun _ c1 log1 => ?_)
  · phy_tie [Sx126x.txGuard] [byteAt_mod]
  · cases prep <;> phy_tie [hg, hm, h1, h2, h3] [Gen.PhyEnc1262.DeviceSel.toInt]

#print axioms tieA_set_tx_power_and_ramp_time_1262

/-- the same for the SX1261 (unit `Gen.PhyEnc1261`, the driver instantiated at `Sx1261`): the refusal of
+15 dBm and more below 400 MHz (`Err(InvalidOutputPowerForFrequency)` before any request; no refusal
when the channel is not given), no TxClampCfg access, SetPaConfig with the row of `SX1261_PA_TABLE` and
device 1, SetTxParams.  Stated from the generated side: for every generated parameter record (of
which only the frequency, a `u32`, is read). -/
theorem tieA_set_tx_power_and_ramp_time_1261 (self : Gen.PhyEnc1261.Sx126x) (cfg : Sx126x.Config) (hc : cfg.chip = .sx1261)
    (power : Int) (mp : Option Gen.PhyEnc1261.ModulationParams) (hfreq : ∀ g, mp = some g → 0 ≤ g.frequency_in_hz)
    (prep : Bool) (c : Chip) (log : List Rt.Phy.Ev) :
    view id (Gen.PhyEnc1261.Sx126x.set_tx_power_and_ramp_time self power mp prep chipDev c log)
      = denote (Sx126x.setTxPowerAndRampTime cfg power (mp.map (fun g => g.frequency_in_hz.toNat)) prep) c log := by
  obtain ⟨chip, tcxo, dcdc, rxb⟩ := cfg
  simp only at hc; subst hc
  obtain ⟨e, b, e', b', hg, hm, h1, h2, h3⟩ :=
    pa_view_eq (tieA_pa_lookup_1261 power) (model_lookup_isSome _ ⟨15, 0x06, 0x00, 14⟩ rfl power)
  simp only [Gen.PhyEnc1261.Sx126x.set_tx_power_and_ramp_time, Sx126x.setTxPowerAndRampTime_seq, Sx126x.Variant.highPower,
    Sx126x.Variant.paTable, Sx126x.Variant.deviceSel, Sx126x.setPaConfig, Model.Phy.bind_eq]
  try gen_unfold_helpers_PhyEnc1261
  refine tie_bind id id _ _ _ _ _ _ ?_ (fun _ c1 log1 => ?_)
  · -- the refusal of +15 dBm and more below 400 MHz: no request on either side
    rcases mp with _ | m
    · phy_run [Sx126x.txGuard, Option.map_none, ite_self]
    · have h0 := hfreq m rfl
      have hf : (m.frequency_in_hz < 400000000) = (m.frequency_in_hz.toNat < 400000000) := by simp only [eq_iff_iff]; omega
      by_cases hp : power ≥ 15 <;> by_cases hlow : m.frequency_in_hz.toNat < 400000000 <;>
        phy_run [Sx126x.txGuard, Option.map_some, hf, hp, hlow, decide_true, decide_false, and_self, and_false, false_and]
  · cases prep <;> phy_tie [hg, hm, h1, h2, h3] [Gen.PhyEnc1261.DeviceSel.toInt]

#print axioms tieA_set_tx_power_and_ramp_time_1261

theorem tieA_pll126_closed (f : Int) (h0 : 0 ≤ f) (h1 : f < 4096000000) :
    Gen.PhyArith.Sx126x.convert_freq_in_hz_to_pll_step f = some ((f * 16384 + 7812) / 15625) :=
  Gen.PhyArith.Sx126x.convert_freq_in_hz_to_pll_step_closed f h0 h1

/-- `Sx126x::set_channel` (with the regenerated `convert_freq_in_hz_to_pll_step`) IS the model's `setChannel`:
SetRfFrequency with the four bytes of the PLL word, most significant first — every frequency below
2^30 Hz (the chips reach 1.02 GHz), chip and prefix. -/
theorem tieA_set_channel (self : Gen.PhyEnc1262.Sx126x) (f : Nat) (hf : f < 1073741824) (c : Chip) (log : List Rt.Phy.Ev) :
    view id (Gen.PhyEnc1262.Sx126x.set_channel self (f : Int) chipDev c log) = denote (Sx126x.setChannel f) c log := by
  have hg := tieA_pll126_closed (f : Int) (by omega) (by omega)
  have hm := Sx126x.pllStep_closed f hf
  have e : ((f : Int) * 16384 + 7812) / 15625 = (((f * 16384 + 7812) / 15625 : Nat) : Int) := by omega
  rw [e] at hg
  -- (`generalize … at hm` would leave a proof in which the kernel evaluates `Sx126x.pllStep f`)
  obtain ⟨p, hp⟩ : ∃ p, (f * 16384 + 7812) / 15625 = p := ⟨_, rfl⟩
  rw [hp] at hg hm
  simp only [Gen.PhyEnc1262.Sx126x.set_channel, Sx126x.setChannel, hg, hm]
  try gen_unfold_helpers_PhyEnc1262
  phy_tie [Int.reducePow, Int.reduceToNat, Nat.reducePow, wrap_and255_nat, wrap_and255_div _ 256, wrap_and255_div _ 65536, wrap_and255_div _ 16777216]
    [ofNat_toNat_mod, ofNat_toNat_div _ 256, ofNat_toNat_div _ 65536, ofNat_toNat_div _ 16777216]

#print axioms tieA_set_channel

end C13
