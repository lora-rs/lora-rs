import LoraVerif.Props.TieA.C13
import LoraVerif.Gen.PhyEncE126Cal
/-!
# C13, tie A: SX126x `calibrate_image`

The image-calibration band bytes are chosen by array element assignments inside an `if` chain: the translation has to
carry the assigned array out of the branches (one that drops `x[i] = v` always sends `[0x98, 0, 0]`, which the theorem
below refutes).
-/
open Model.Phy TieA.Phy

namespace C13

/-- `Sx126x::calibrate_image`, regenerated, IS the model's `calibrateImage`: `CalibrateImage` with the band's two
frequency bytes, for EVERY frequency (every natural number, so all of `u32`), chip content and prefix. -/
theorem tieA_sx126x_calibrate_image (self : Gen.PhyEncE126Cal.Sx126x) (f : Nat) (c : Chip) (log : List Rt.Phy.Ev) :
    view id (Gen.PhyEncE126Cal.Sx126x.calibrate_image self (f : Int) chipDev c log) = denote (Sx126x.calibrateImage f) c log := by
  simp only [Gen.PhyEncE126Cal.Sx126x.calibrate_image, Sx126x.calibrateImage, Sx126x.calFreq]
  try gen_unfold_helpers_PhyEncE126Cal
  -- the band thresholds are compared in `i64` by the driver, in `Nat` by the model
  have g : ∀ k : Nat, decide ((f : Int) > (k : Int)) = decide (f > k) := fun k => by simp
  simp only [show (900000000 : Int) = ((900000000 : Nat) : Int) from rfl, show (850000000 : Int) = ((850000000 : Nat) : Int) from rfl,
    show (770000000 : Int) = ((770000000 : Nat) : Int) from rfl, show (460000000 : Int) = ((460000000 : Nat) : Int) from rfl,
    show (425000000 : Int) = ((425000000 : Nat) : Int) from rfl, g, decide_eq_true_eq]
  -- one band after the other, the same test deciding both sides (splitting each side by itself gives 36 goals for 6 bands)
  by_cases h1 : f > 900000000
  · phy_tie [h1, Rt.setIdx, Rt.idx] [Rt.setIdx, Rt.idx]
  by_cases h2 : f > 850000000
  · phy_tie [h1, h2, Rt.setIdx, Rt.idx] [Rt.setIdx, Rt.idx]
  by_cases h3 : f > 770000000
  · phy_tie [h1, h2, h3, Rt.setIdx, Rt.idx] [Rt.setIdx, Rt.idx]
  by_cases h4 : f > 460000000
  · phy_tie [h1, h2, h3, h4, Rt.setIdx, Rt.idx] [Rt.setIdx, Rt.idx]
  by_cases h5 : f > 425000000 <;> phy_tie [h1, h2, h3, h4, h5, Rt.setIdx, Rt.idx] [Rt.setIdx, Rt.idx]

#print axioms tieA_sx126x_calibrate_image

/-- non-vacuity: 868.1 MHz is in the 863–870 MHz band: `CalibrateImage 0xD7 0xDB` -/
example : Gen.PhyEncE126Cal.Sx126x.calibrate_image ⟨⟨⟨⟩, none, true, false⟩⟩ 868100000
    (fun (_ : Unit) _ n => (List.replicate n 0, ())) () [] = some (.ok (), (), [.spi [0x98, 0xD7, 0xDB] 0, .busy]) := rfl

end C13
