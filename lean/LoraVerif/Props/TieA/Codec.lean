import LoraVerif.Model.Codec
import LoraVerif.Gen.CodecFn
import LoraVerif.Lemmas.CodecLemmas
import LoraVerif.Lemmas.RtLemmas
/-!
# Tie A for the frame codec (C01, C02): `securityhelpers.rs` regenerated (`Gen.CodecFn`) = the hand model

`Gen.CodecFn` is regenerated from `lorawan-encoding/src/securityhelpers.rs` on every run.  Its values are
`Int`s and `List Int`s (Rust's checked arithmetic, `none` = panic); the hand model (`Model/Codec.lean`) works on
`UInt8` / `Block`.  The state map is total: `ints` (a byte ↦ its value), the crypto object of the model
(`Crypto` = abstract `Cipher` + key) ↦ the record `genCrypto cr` of the two trait methods.  A tie is an equality of
outcomes, `Outcome.ofOption (generated …) = (model …).map ints`: the same bytes, or a panic on both sides (the model
never answers `err` here), for all arguments up to `usize` bounds on lengths where the statement carries one;
`calculate_mic` cannot panic and is a plain equation, and `tieA_encrypt_eq_keystream` composes a tie with the model's
keystream theorem.  `ofOption_bind` is the one rule of sequencing, `forRangeM_eq` the loop.
-/
namespace TieA.Codec
open Lora Lora.Codec

def toI (b : UInt8) : Int := (b.toNat : Int)
def ofI (i : Int) : UInt8 := UInt8.ofNat i.toNat
def ints (bs : Bytes) : List Int := bs.map toI
def bytes (l : List Int) : Bytes := l.map ofI

@[simp] theorem bytes_ints (bs : Bytes) : bytes (ints bs) = bs := by
  simp [bytes, ints, ofI, toI, Function.comp_def]
@[simp] theorem ints_length (bs : Bytes) : (ints bs).length = bs.length := by simp [ints]
theorem toI_nonneg (b : UInt8) : 0 ≤ toI b := Int.natCast_nonneg _
theorem toI_lt (b : UInt8) : toI b < 256 := by have := b.toNat_lt; simp only [toI]; omega

/-- the model's crypto object (abstract cipher + key) as the record of the two methods of `dyn Crypto` -/
def genCrypto (cr : Crypto) : Gen.CodecFn.Crypto where
  calculate_mic b0 data := ints (cr.calculateMic (bytes b0) (bytes data))
  encrypt_block blk := match cr.encryptBlock (bytes blk) with
    | .ok r => some (ints r)
    | _ => none

/-! The runtime primitives on encoded byte lists.  The generated text indexes with `Int` literals, hence an `Int`
index with `0 ≤ i` as a side condition: the `Rt.*_map` lemmas (`Lemmas/RtLemmas`) at `toI`, primed for such an index. -/

theorem setIdx_ints' (l : Bytes) (i : Int) (v : UInt8) (hi : 0 ≤ i) :
    Rt.setIdx (ints l) i (toI v) = if i.toNat < l.length then some (ints (l.set i.toNat v)) else none := by
  obtain ⟨k, rfl⟩ := Int.eq_ofNat_of_zero_le hi
  exact Rt.setIdx_map toI l k v

theorem idx_ints' (l : Bytes) (i : Int) (hi : 0 ≤ i) : Rt.idx (ints l) i = (l[i.toNat]?).map toI := by
  obtain ⟨k, rfl⟩ := Int.eq_ofNat_of_zero_le hi
  exact Rt.idx_map toI l k

theorem slice_ints' (l : Bytes) (a b : Int) (ha : 0 ≤ a) (hb : 0 ≤ b) :
    Rt.slice (ints l) a b = if a.toNat ≤ b.toNat ∧ b.toNat ≤ l.length then some (ints ((l.take b.toNat).drop a.toNat)) else none := by
  obtain ⟨k, rfl⟩ := Int.eq_ofNat_of_zero_le ha
  obtain ⟨m, rfl⟩ := Int.eq_ofNat_of_zero_le hb
  exact (Rt.slice_map toI l k m).trans (by rw [List.drop_take]; rfl)

theorem copyFromSlice_ints' (l src : Bytes) (a b : Int) (ha : 0 ≤ a) (hb : 0 ≤ b) :
    Rt.copyFromSlice (ints l) a b (ints src)
      = if a.toNat ≤ b.toNat ∧ b.toNat ≤ l.length ∧ src.length = b.toNat - a.toNat then
          some (ints (l.take a.toNat ++ src ++ l.drop b.toNat)) else none := by
  obtain ⟨k, rfl⟩ := Int.eq_ofNat_of_zero_le ha
  obtain ⟨m, rfl⟩ := Int.eq_ofNat_of_zero_le hb
  exact Rt.copyFromSlice_map toI l k m src

theorem setIdx_block (b : Block) (i : Int) (v : UInt8) (h0 : 0 ≤ i) (hi : i.toNat < 16) :
    Rt.setIdx (ints b.toList) i (toI v) = some (ints (b.set i.toNat v).toList) := by
  rw [setIdx_ints' _ _ _ h0, Vector.length_toList, if_pos hi, Vector.toList_set]

theorem slice_block (b : Block) : Rt.slice (ints b.toList) 0 16 = some (ints b.toList) := by
  rw [slice_ints' _ _ _ (by decide) (by decide), Vector.length_toList, if_pos (by decide)]
  exact congrArg (some ∘ ints) (List.take_of_length_le (by rw [Vector.length_toList]; decide))

theorem copy_block (b : Block) (src : Bytes) :
    Rt.copyFromSlice (ints b.toList) 0 16 (ints src) = if src.length = 16 then some (ints src) else none := by
  rw [copyFromSlice_ints' _ _ _ _ (by decide) (by decide), Vector.length_toList]
  simp only [Int.reduceToNat, Nat.zero_le, Nat.le_refl, true_and, Nat.sub_zero, List.take_zero, List.nil_append,
    List.drop_of_length_le (Nat.le_of_eq b.length_toList), List.append_nil]

theorem encrypt_block_block (cr : Crypto) (b : Block) :
    (genCrypto cr).encrypt_block (ints b.toList) = some (ints (cr.cipher.enc cr.key b).toList) := by
  have hb : Block.ofList? b.toList = some b := by simp [Block.ofList?, Vector.toList]
  simp only [genCrypto, bytes_ints, Crypto.encryptBlock, hb]

theorem zero_block_ints : List.replicate (Int.toNat 16) (0 : Int) = ints Block.zero.toList := by decide

theorem xor_toI (a b : UInt8) : Rt.xorI (toI a) (toI b) = toI (a ^^^ b) := by
  simp [Rt.xorI, toI]

/-- `n as u8` -/
theorem wrap_u8 (n : Nat) : Rt.wrap .u8 (n : Int) = toI (UInt8.ofNat n) := by
  show (n : Int) % 2 ^ 8 = ((UInt8.ofNat n).toNat : Int)
  rw [UInt8.toNat_ofNat']; norm_cast

theorem len_as_u8 (data : Bytes) : Rt.wrap .u8 (Int.ofNat (ints data).length) = toI (UInt8.ofNat data.length) := by
  rw [ints_length]; exact wrap_u8 _

/-- `(f & 0xff) as u8` -/
theorem low_octet (f : UInt32) : Rt.wrap .u8 (Rt.andI (f.toNat : Int) 255) = toI (f &&& 0xff).toUInt8 := by
  rw [show (255 : Int) = ((255 : Nat) : Int) from rfl, Rt.andI_ofNat, wrap_u8]; rfl

/-- `f >> k` on a `u32` -/
theorem shrC_u32 (f : UInt32) (k : Int) (h0 : 0 ≤ k) (hk : k < 32) :
    Rt.shrC .u32 (f.toNat : Int) k = some (((f >>> UInt32.ofNat k.toNat).toNat : Nat) : Int) := by
  have hn : k.toNat < 32 := by omega
  rw [Rt.shrC, if_pos ⟨h0, hk⟩, UInt32.toNat_shiftRight, UInt32.toNat_ofNat', Nat.shiftRight_eq_div_pow,
    Nat.mod_eq_of_lt (Nat.lt_trans hn (by decide)), Nat.mod_eq_of_lt hn, Int.natCast_ediv, Int.natCast_pow]
  rfl

/-- `(data[0] & 0x20) >> 5` -/
theorem dir_bit (d : UInt8) : Rt.shrC .u8 (Rt.andI (toI d) 32) 5 = some (toI ((d &&& 0x20) >>> 5)) := by
  rw [show (32 : Int) = ((32 : Nat) : Int) from rfl, toI, Rt.andI_ofNat, Rt.shrC, if_pos (by decide)]
  simp only [toI, UInt8.toNat_shiftRight, UInt8.toNat_and, Nat.shiftRight_eq_div_pow]
  norm_cast

/-- `ctr += 1` on a `u8` -/
theorem ck_u8_succ (c : UInt8) : Rt.ck .u8 (toI c + 1) = if c = 255 then none else some (toI (c + 1)) := by
  by_cases hc : c = 255
  · subst hc; decide
  · have hlt : c.toNat < 255 := Nat.lt_of_le_of_ne (Nat.le_of_lt_succ c.toNat_lt) fun e => hc (UInt8.toNat_inj.mp e)
    have e : toI (c + 1) = toI c + 1 := by
      rw [toI, UInt8.toNat_add, Nat.mod_eq_of_lt (show c.toNat + UInt8.toNat 1 < 2 ^ 8 from Nat.succ_lt_succ hlt)]; rfl
    rw [if_neg hc, e]
    exact Rt.ck_eq_some ⟨Int.natCast_nonneg (c.toNat + 1), Int.ofNat_le.mpr hlt⟩

/-- `buf[p] ^= s[j]`: two reads, then one write -/
theorem xor_assign (buf : Bytes) (s : Block) (p j : Int) (hp : 0 ≤ p) (h0 : 0 ≤ j) (hj : j.toNat < 16) {β}
    (g : List Int → Option β) :
    ((Rt.idx (ints buf) p).bind fun t8 => (Rt.idx (ints s.toList) j).bind fun t9 =>
        (Rt.setIdx (ints buf) p (Rt.xorI t8 t9)).bind g)
      = (buf[p.toNat]?).bind fun b => g (ints (buf.set p.toNat (b ^^^ s[j.toNat]))) := by
  rw [idx_ints' _ _ hp, idx_ints' _ _ h0, Vector.getElem?_toList, Vector.getElem?_eq_getElem hj]
  cases hb : buf[p.toNat]? with
  | none => rfl
  | some b =>
    simp only [Option.map_some, Option.bind_some, xor_toI, setIdx_ints' _ _ _ hp,
      if_pos (List.getElem?_eq_some_iff.mp hb).1]

/-- a panic stays a panic, a result is encoded -/
def enc {α β} (f : α → β) (o : Outcome α) : Outcome β := o.map f

@[simp] theorem bind_ok {α β} (a : α) (f : α → Outcome β) : (Outcome.ok a >>= f) = f a := rfl
@[simp] theorem bind_panic {α β} (f : α → Outcome β) : (Outcome.panic >>= f) = Outcome.panic := rfl
@[simp] theorem bind_err {α β} (e : Err) (f : α → Outcome β) : (Outcome.err e >>= f) = Outcome.err e := rfl
@[simp] theorem pure_ok {α} (a : α) : (pure a : Outcome α) = Outcome.ok a := rfl

theorem eq_some_of_ofOption {α} {o : Option α} {a : α} (h : Outcome.ofOption o = .ok a) : o = some a := by
  cases o <;> cases h; rfl

/-- Sequencing: when a generated step `o` answers as the model's `m` does (through `e`), and the generated
continuation `g` as the model's `k` on every encoded value, then so do the two composed.  (`h` already rules out
that `m` is an `err`: no `ofOption` is one.) -/
theorem ofOption_bind {α α' β β'} {e : α' → α} {e' : β' → β} {o : Option α} {m : Outcome α'}
    {g : α → Option β} {k : α' → Outcome β'} (h : Outcome.ofOption o = m.map e)
    (hg : ∀ a, Outcome.ofOption (g (e a)) = (k a).map e') :
    Outcome.ofOption (o.bind g) = (m >>= k).map e' := by
  cases m <;> cases o <;> cases h
  · exact hg _
  · rfl

/-- the loop-carried variables of the generated loop, as the model's loop state -/
def encSt (st : KsState) : List Int × List Int × List Int × Int :=
  (ints st.buf, ints st.a.toList, ints st.s.toList, toI st.ctr)

section
variable {σ} (e : KsState → σ) (cr : Crypto) (start : Nat) (f : Int → σ → Option σ)

/-- The loop rule.  `TieA.Tie.forRange_go` (Props/TieA/Calc) is the same induction for a model in `Except Fault` whose loop is
a `foldlM`; the codec's `Outcome` has a third answer, `err`, which a tie excludes, and its loop is `ksLoop`. -/
theorem forRangeM_go_eq : ∀ (n lo : Nat) (st : KsState),
    (∀ i, i < lo + n → ∀ st, Outcome.ofOption (f (i : Int) (e st)) = (ksStep cr start st i).map e) →
    Outcome.ofOption (Rt.forRangeM.go f n (lo : Int) (e st)) = (ksLoop cr start (List.range' lo n) st).map e
  | 0, _, _, _ => rfl
  | n + 1, lo, st, h => by
    have hgo : Rt.forRangeM.go f (n + 1) lo (e st) = (f lo (e st)).bind (Rt.forRangeM.go f n ((lo + 1 : Nat) : Int)) := by
      rw [Rt.forRangeM.go]; cases f lo (e st) <;> rfl
    rw [hgo]
    exact ofOption_bind (h lo (by omega) st) fun st' => forRangeM_go_eq n (lo + 1) st' fun i hi => h i (by omega)

theorem forRangeM_eq (len : Nat) (st : KsState)
    (hstep : ∀ i, i < len → ∀ st, Outcome.ofOption (f (i : Int) (e st)) = (ksStep cr start st i).map e) :
    Outcome.ofOption (Rt.forRangeM 0 (len : Int) f (e st)) = (ksLoop cr start (List.range len) st).map e := by
  rw [List.range_eq_range']
  simpa [Rt.forRangeM] using forRangeM_go_eq e cr start f len 0 st (fun i hi => hstep i (by omega))

end

end TieA.Codec

namespace C01
open Lora Lora.Codec TieA.Codec

/-- **Tie A.** `generate_helper_block` regenerated from `securityhelpers.rs` = the hand model's `generateHelperBlock`, for
every frame, first octet, counter and scratch block: the same sixteen octets, or a panic on both sides. -/
theorem tieA_generate_helper_block (data : Bytes) (first : UInt8) (fcnt : UInt32) (res : Block) :
    Outcome.ofOption (Gen.CodecFn.generate_helper_block (ints data) (toI first) (fcnt.toNat : Int) (ints res.toList))
      = (generateHelperBlock data first fcnt res).map (fun b => ints b.toList) := by
  simp only [Gen.CodecFn.generate_helper_block, generateHelperBlock, getByte, slice, setIdx_block, idx_ints', slice_ints',
    Int.reduceLE, Int.reduceToNat, Nat.reduceLT, Option.bind_eq_bind, Option.bind_some]
  cases data[0]? with
  | none => rfl
  | some d0 =>
    simp only [Option.map_some, Option.bind_some, dir_bit, setIdx_block, Int.reduceLE, Int.reduceToNat, Nat.reduceLT,
      Outcome.ofOption, bind_ok]
    by_cases h : 5 ≤ data.length
    · have hl : ((data.take 5).drop 1).length = 4 := by rw [List.length_drop, List.length_take, Nat.min_eq_left h]
      generalize (data.take 5).drop 1 = da at hl
      match da, hl with
      | [a1, a2, a3, a4], _ =>
        simp only [h, Nat.reduceLeDiff, and_self, if_true, Option.bind_some, bind_ok, copyFromSlice_ints',
          CodecLemmas.take_append4_drop, ← Vector.toList_set, setIdx_block, shrC_u32, low_octet, Vector.length_toList, List.length_cons, List.length_nil,
          Int.reduceLE, Int.reduceLT, Int.reduceToNat, Nat.reduceLT, Nat.reduceAdd, Nat.reduceSub, UInt32.reduceOfNat,
          pure_ok, Outcome.map, Option.pure_def]
    · simp only [h, and_false, if_false]; rfl

/-- **Tie A.** `calculate_data_mic` regenerated = the hand model's `calculateDataMic`, for every frame, counter, cipher
and key (`genCrypto cr` is the trait object `&dyn Crypto` answering as the model's `cr` does). -/
theorem tieA_calculate_data_mic (cr : Crypto) (data : Bytes) (fcnt : UInt32) :
    Outcome.ofOption ((Gen.CodecFn.calculate_data_mic (ints data) (genCrypto cr) (fcnt.toNat : Int)).map (·._0))
      = (calculateDataMic cr data fcnt).map ints := by
  simp only [Gen.CodecFn.calculate_data_mic, calculateDataMic, zero_block_ints, slice_block, Option.bind_eq_bind,
    Option.bind_some, Option.map_bind]
  refine ofOption_bind (tieA_generate_helper_block data 0x49 fcnt Block.zero) fun b => ?_
  simp only [Function.comp_apply, copy_block, setIdx_block, len_as_u8, Vector.length_toList, if_true, Option.bind_some,
    Int.reduceLE, Int.reduceToNat, Nat.reduceLT, Option.pure_def, Option.map_some, genCrypto, bytes_ints, pure_ok,
    Outcome.map, Outcome.ofOption]

/-- **Tie A.** `calculate_mic` (join messages) regenerated = the hand model's `calculateMic`. -/
theorem tieA_calculate_mic (cr : Crypto) (data : Bytes) :
    (Gen.CodecFn.calculate_mic (ints data) (genCrypto cr))._0 = ints (calculateMic cr data) := by
  simp only [Gen.CodecFn.calculate_mic, calculateMic, genCrypto, bytes_ints]; rfl

/-- **Tie A.** `encrypt_frm_data_payload` regenerated (the in-place keystream loop with its `u8` block counter) = the hand
model's `encryptFrmDataPayload`, for every buffer, `start`, `end`, counter, cipher and key: the same buffer afterwards, or
a panic on both sides (range underflow, short header, index out of range, `ctr += 1` overflowing when a 255th
keystream block is due).
`hstop`: `end` is a `usize`. -/
theorem tieA_encrypt_frm_data_payload (cr : Crypto) (phy : Bytes) (start stop : Nat) (fcnt : UInt32) (hstop : stop < 2 ^ 64) :
    Outcome.ofOption (Gen.CodecFn.encrypt_frm_data_payload (ints phy) (start : Int) (stop : Int) (fcnt.toNat : Int) (genCrypto cr))
      = (encryptFrmDataPayload cr phy start stop fcnt).map ints := by
  simp only [Gen.CodecFn.encrypt_frm_data_payload, encryptFrmDataPayload, usizeSub, zero_block_ints, Rt.ck_usize_sub _ _ hstop,
    ints_length, Vector.length_toList, Int.ofNat_eq_natCast, Int.cast_ofNat_Int, slice_block, Option.bind_eq_bind,
    Option.bind_some]
  by_cases hs : start ≤ stop
  · simp only [hs, if_true, Option.bind_some, bind_ok]
    refine ofOption_bind (tieA_generate_helper_block phy 0x01 fcnt Block.zero) fun a => ?_
    simp only [copy_block, Vector.length_toList, if_true, Option.bind_some]
    refine ofOption_bind (forRangeM_eq encSt cr start _ (stop - start) ⟨a, Block.zero, 1, phy⟩ fun i hi st => ?_) fun st => rfl
    have hj : i &&& 15 < 16 := Nat.lt_of_le_of_lt Nat.and_le_right (by decide)
    have hck : Rt.ck .usize ((start : Int) + (i : Int)) = some ((start + i : Nat) : Int) :=
      Rt.ck_usize (Int.natCast_nonneg _) (by omega)
    simp only [encSt, ksStep, show Rt.andI (i : Int) 15 = ((i &&& 15 : Nat) : Int) from Rt.andI_ofNat i 15, hck, Option.bind_some]
    generalize i &&& 15 = j at hj
    by_cases hj0 : j = 0
    · by_cases hc : st.ctr = 255
      · -- a new keystream block is due and `ctr += 1` overflows
        simp only [hj0, hc, Int.cast_ofNat_Int, decide_true, if_true, setIdx_block, ck_u8_succ, Int.reduceLE,
          Int.reduceToNat, Nat.reduceLT, Option.bind_some, Option.bind_none]
        rfl
      · -- a new keystream block `s = aes(key, a[15 := ctr])`, then the xor
        simp only [hj0, hc, Int.cast_ofNat_Int, decide_true, if_true, if_false, setIdx_block, ck_u8_succ,
          encrypt_block_block, xor_assign, Int.natCast_nonneg, Int.toNat_natCast, Int.reduceLE, Int.reduceToNat,
          Nat.reduceLT, Option.bind_some, Option.pure_def, Outcome.bind, Vector.getElem?_eq_getElem]
        cases st.buf[start + i]? <;> rfl
    · -- the xor alone
      have hd : ((j : Int) = 0) = False := eq_false (by omega)
      simp only [hd, decide_false, Bool.false_eq_true, if_false, hj0, Option.pure_def, Option.bind_some, xor_assign,
        Int.natCast_nonneg, Int.toNat_natCast, hj, Outcome.bind, Vector.getElem?_eq_getElem]
      cases st.buf[start + i]? <;> rfl
  · simp only [hs, if_false]; rfl

/-- non-vacuity: a 20-octet payload (two keystream blocks) after a 9-octet header, identity cipher: both sides answer -/
example : (encryptFrmDataPayload ⟨⟨fun _ b => b, fun _ b => b, fun _ _ => Block.zero⟩, Block.zero⟩
    (List.replicate 29 0x40) 9 29 7).map List.length = .ok 29 := by decide

/-- **Tie A (creator.rs).** `write_mic` regenerated = the hand model's `writeMic`, for every buffer (its length is a
`usize`), cipher and key: the join MIC of everything before the last four octets written into the last four octets,
or a panic on both sides (buffer shorter than four octets). -/
theorem tieA_write_mic (cr : Crypto) (out : Bytes) (hlen : out.length < 2 ^ 64) :
    Outcome.ofOption (Gen.CodecFn.write_mic (ints out) (genCrypto cr)) = (writeMic cr out).map ints := by
  simp only [Gen.CodecFn.write_mic, writeMic, Gen.CodecFn.MIC_LEN, usizeSub, Int.ofNat_eq_natCast, ints_length,
    show (4 : Int) = ((4 : Nat) : Int) from rfl, Rt.ck_usize_sub _ _ hlen, Option.bind_eq_bind]
  by_cases h4 : 4 ≤ out.length
  · simp only [h4, if_true, Option.bind_some, bind_ok, slice_ints', copyFromSlice_ints', tieA_calculate_mic, Codec.slice,
      Codec.copyFromSlice, Int.natCast_nonneg, Int.le_refl, Int.toNat_natCast, Int.toNat_zero, Nat.zero_le, Nat.sub_le,
      and_self]
    split <;> rfl
  · simp only [h4, if_false]; rfl

example : (writeMic ⟨⟨fun _ b => b, fun _ b => b, fun _ _ => Vector.replicate 16 7⟩, Block.zero⟩ [1, 2, 3, 4, 5, 6]).map ints
    = .ok [1, 2, 7, 7, 7, 7] := by decide

/-- **Tie A, composed with the model's keystream theorem.** On a frame `pre ++ pl ++ post` whose header yields the block
`a0`, the REGENERATED `encrypt_frm_data_payload` returns `pre ++ (pl XOR keystream) ++ post`, keystream octet `i` =
`ksByte cr a0 i` (octet `i mod 16` of `aes(key, a0[15 := i / 16 + 1])`), for every payload up to 4064 octets: no panic,
`pre` and `post` untouched. -/
theorem tieA_encrypt_eq_keystream (cr : Crypto) (pre pl post : Bytes) (fcnt : UInt32) (a0 : Block)
    (ha : generateHelperBlock (pre ++ pl ++ post) 0x01 fcnt Block.zero = .ok a0) (hmax : pl.length ≤ 4064)
    (hlen : pre.length + pl.length < 2 ^ 64) :
    Gen.CodecFn.encrypt_frm_data_payload (ints (pre ++ pl ++ post)) (pre.length : Int) ((pre.length + pl.length : Nat) : Int)
        (fcnt.toNat : Int) (genCrypto cr)
      = some (ints (pre ++ List.zipWith (· ^^^ ·) pl ((List.range pl.length).map (Lora.CodecLemmas.ksByte cr a0)) ++ post)) := by
  have h := tieA_encrypt_frm_data_payload cr (pre ++ pl ++ post) pre.length (pre.length + pl.length) fcnt hlen
  rw [Lora.CodecLemmas.encryptFrm_spec cr pre pl post fcnt a0 _ _ rfl rfl ha hmax] at h
  exact eq_some_of_ofOption h

/-- the hypotheses are satisfiable: an uplink header of nine octets, a two-octet payload -/
example : (generateHelperBlock ([0x40, 1, 2, 3, 4, 0, 5, 0, 1] ++ [9, 9] ++ [0, 0, 0, 0]) 0x01 5 Block.zero).map (fun _ => ())
    = .ok () := by decide

/-- non-vacuity: on a concrete downlink header both sides of `tieA_generate_helper_block` are a block (not a panic) -/
example : (generateHelperBlock [0x60, 1, 2, 3, 4, 0, 7, 0] 0x49 0x01020304 Block.zero).map (fun b => ints b.toList)
    = .ok [73, 0, 0, 0, 0, 1, 1, 2, 3, 4, 4, 3, 2, 1, 0, 0] := by decide
example : Gen.CodecFn.generate_helper_block (ints [0x60, 1, 2, 3, 4, 0, 7, 0]) (toI 0x49) ((0x01020304 : UInt32).toNat : Int)
    (ints Block.zero.toList) = some [73, 0, 0, 0, 0, 1, 1, 2, 3, 4, 4, 3, 2, 1, 0, 0] := by decide

end C01

namespace C02
open Lora Lora.Codec TieA.Codec
/-- the parser's `validate_mic` calls the same `calculate_data_mic` -/
theorem tieA_calculate_data_mic (cr : Crypto) (data : Bytes) (fcnt : UInt32) :
    Outcome.ofOption ((Gen.CodecFn.calculate_data_mic (ints data) (genCrypto cr) (fcnt.toNat : Int)).map (·._0))
      = (calculateDataMic cr data fcnt).map ints :=
  C01.tieA_calculate_data_mic cr data fcnt
/-- the join messages' `validate_mic` calls the same `calculate_mic` -/
theorem tieA_calculate_mic (cr : Crypto) (data : Bytes) :
    (Gen.CodecFn.calculate_mic (ints data) (genCrypto cr))._0 = ints (calculateMic cr data) :=
  C01.tieA_calculate_mic cr data
/-- `decrypt_in_place` of the parser runs the same `encrypt_frm_data_payload` -/
theorem tieA_encrypt_frm_data_payload (cr : Crypto) (phy : Bytes) (start stop : Nat) (fcnt : UInt32) (hstop : stop < 2 ^ 64) :
    Outcome.ofOption (Gen.CodecFn.encrypt_frm_data_payload (ints phy) (start : Int) (stop : Int) (fcnt.toNat : Int) (genCrypto cr))
      = (encryptFrmDataPayload cr phy start stop fcnt).map ints :=
  C01.tieA_encrypt_frm_data_payload cr phy start stop fcnt hstop
end C02
