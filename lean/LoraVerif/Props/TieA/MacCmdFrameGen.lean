import LoraVerif.Props.C03
import LoraVerif.Props.TieA.Common
/-!
# Tie A for the framing step of ANY `CommandHandler` set: the set-independent part (C03)

Every unit `Gen.MacCmdFn<Set>` declares its own command enum, `ParseOne`, `NextItem`, `ParseError`, `MacCommands` and its own
copy of the source's `MacCommands::next` (for `T = <Set>`).  Both sides are read in one vocabulary (namespace
`TieA.MacCmdFrame`: octets as `ints`, a panic as `none`, a command as CID, variant, payload type and payload octets).

A regenerated `parse_one` on `cid :: rest` unfolds to the arm the derive emits for the variant with that CID (`fixedArm`,
`varArm`).  The arm lemmas
(`fixed_arm_tie`, `var_arm_tie`, `unknown_arm_tie`) tie such an arm to the model's `parseOne` over any table; a set file
instantiates them at the CIDs of its table.  `gNext` is `MacCommands::next` over an arbitrary `parse_one`: once a set's `next`
is shown to be `gNext` of its `parse_one` (`gNext_of`), `gNext_tie` / `gRun_tie` carry the tie to `next` and to the drained iterator
(`runFuelOf`).  The length bound `Q` is `True` for the fixed-length sets, `< 2^64` where an arm computes `1 + rest.len()`.

A variant added to a command enum is entered by hand in the set file's `infoOf` and in the CID list of its `tieA_parse_one*`
(for `DownlinkMacCommand` also in `spec_lookup` and, for C08, in `Model.downlinkCmdLen` / `TieA.Macs.decCmd`); the table itself is regenerated.
-/
namespace TieA.MacCmdFrame
open MacCmd

def ints (d : List Nat) : List Int := d.map Int.ofNat
def nats (d : List Int) : List Nat := d.map Int.toNat

@[simp] theorem nats_ints (d : List Nat) : nats (ints d) = d := TieA.map_toNat_ofNat d

@[simp] theorem ints_nil : ints [] = [] := rfl

@[simp] theorem ints_length (d : List Nat) : (ints d).length = d.length := by simp [ints]

theorem slice_ints (d : List Nat) (a b : Nat) :
    Rt.slice (ints d) (a : Int) (b : Int) = if a ≤ b ∧ b ≤ d.length then some (ints ((d.drop a).take (b - a))) else none :=
  Rt.slice_map _ d a b

theorem sliceFrom_ints (d : List Nat) (a : Nat) :
    Rt.sliceFrom (ints d) (a : Int) = if a ≤ d.length then some (ints (d.drop a)) else none := Rt.sliceFrom_map _ d a

/-- a panic carries no value -/
def toOpt {α} : Outcome α → Option α
  | .ok a => some a
  | .panic _ => none

/-- what a command of the model is: CID, variant, payload type, payload octets -/
def cmdUp (c : MacCmd.Cmd) : Nat × String × String × List Int := (c.cid, c.variant, c.payloadTy, ints c.payload)

def oneUp : Except MacCmd.ParseError (MacCmd.Cmd × Nat) → Except MacCmd.ParseError ((Nat × String × String × List Int) × Int)
  | .ok (c, k) => .ok (cmdUp c, (k : Int))
  | .error e => .error e

def itemUp : MacCmd.Item → Except MacCmd.ParseError (Nat × String × String × List Int)
  | .cmd c => .ok (cmdUp c)
  | .err e => .error e

def stUp (s : Iter) : List Int × Bool := (ints s.data, s.errored)
def runUp (r : MacCmd.Run) := (r.items.map itemUp, stUp r.final, r.hang)

theorem idx0 (cid : Nat) (rest : List Nat) : Rt.idx (ints (cid :: rest)) 0 = some (cid : Int) := rfl

theorem slice1 (cid : Nat) (rest : List Nat) (len : Nat) (k : Int) (hk : k = 1 + (len : Int)) (h : ¬ rest.length < len) :
    Rt.slice (ints (cid :: rest)) 1 k = some (ints (rest.take len)) := by
  have := slice_ints (cid :: rest) 1 (1 + len)
  have h2 : 1 ≤ 1 + len ∧ 1 + len ≤ (cid :: rest).length := by simp only [List.length_cons]; omega
  simp only [h2, and_self, if_true, List.drop_succ_cons, List.drop_zero, Nat.add_sub_cancel_left] at this
  subst hk
  simpa using this

theorem sliceFrom1 (cid : Nat) (rest : List Nat) : Rt.sliceFrom (ints (cid :: rest)) 1 = some (ints rest) := by
  have := sliceFrom_ints (cid :: rest) 1
  simpa using this

theorem slice0take (r : List Nat) (n : Nat) (k : Int) (hk : k = (n : Int)) (h : n ≤ r.length) :
    Rt.slice (ints r) 0 k = some (ints (r.take n)) := by
  have := slice_ints r 0 n
  subst hk
  simpa [h] using this

end TieA.MacCmdFrame

namespace TieA.FrameGen
open MacCmd TieA.MacCmdFrame

abbrev Info := Nat × String × String × List Int
abbrev POne := Except MacCmd.ParseError (Info × Int)
abbrev GItem := Except MacCmd.ParseError Info
abbrev GSt := List Int × Bool

/-- what `MacCommands::next` does with the result of `parse_one`, in state `s`: advance past a command, or latch `errored` -/
def gStep (s : GSt) : POne → Option (Option GItem × GSt)
  | .ok (c, n) => (Rt.sliceFrom s.1 n).bind fun d' => some (some (.ok c), (d', s.2))
  | .error e => some (some (.error e), (s.1, true))

/-- `MacCommands::next` in set-independent vocabulary, over an arbitrary `parse_one` -/
def gNext (P : List Int → Option POne) (s : GSt) : Option (Option GItem × GSt) :=
  if s.2 || s.1.isEmpty then some (none, s) else (P s.1).bind (gStep s)

/-- A unit's `MacCommands::next`, read through the unit's `oneOf` / `itemOf` / `stOf`, is `gNext` of its `parse_one` once it has
the source's form: `None` on a fused or empty iterator, else `parse_one` followed by a continuation `K` (`hnext` holds by
unfolding, and `K` is found by unification: pass `by rfl`, not `rfl`, so that the goal fixes `next` first), where `K` reads as
`gStep` (`hK`: one case per constructor of the unit's `ParseOne`). -/
theorem gNext_of {MC PO NI : Type} {next : MC → Option (Option NI × MC)} {parse : List Int → Option PO}
    {oneOf : PO → POne} {itemOf : NI → GItem} {stOf : MC → GSt} {K : MC → PO → Option (Option NI × MC)}
    (hnext : ∀ s, next s = if (stOf s).2 || (stOf s).1.isEmpty then some (none, s) else (parse (stOf s).1).bind (K s))
    (hK : ∀ s r, (K s r).map (fun r => (r.1.map itemOf, stOf r.2)) = gStep (stOf s) (oneOf r)) (s : MC) :
    (next s).map (fun r => (r.1.map itemOf, stOf r.2)) = gNext (fun d => (parse d).map oneOf) (stOf s) := by
  rw [hnext, gNext]
  by_cases h : ((stOf s).2 || (stOf s).1.isEmpty) = true
  · rw [if_pos h, if_pos h]; rfl
  · rw [if_neg h, if_neg h]
    cases parse (stOf s).1 with
    | none => rfl
    | some r => exact hK s r

/-- what a `for` loop over an iterator observes: `next` until it returns `None`, at most `fuel` times (items, final
state, budget exhausted); `none` = a panic -/
def runFuelOf {S I : Type} (next : S → Option (Option I × S)) : Nat → S → Option (List I × S × Bool)
  | 0, s => some ([], s, true)
  | fuel + 1, s =>
    match next s with
    | none => none
    | some (none, s') => some ([], s', false)
    | some (some it, s') =>
      match runFuelOf next fuel s' with
      | none => none
      | some r => some (it :: r.1, r.2.1, r.2.2)

theorem runFuelOf_sim {S I S' I' : Type} (next : S → Option (Option I × S)) (next' : S' → Option (Option I' × S'))
    (f : I → I') (g : S → S') (h : ∀ s, (next s).map (fun r => (r.1.map f, g r.2)) = next' (g s)) :
    ∀ n s, (runFuelOf next n s).map (fun r => (r.1.map f, g r.2.1, r.2.2)) = runFuelOf next' n (g s) := by
  intro n
  induction n with
  | zero => intro s; rfl
  | succ n ih =>
    intro s
    unfold runFuelOf
    rw [← h s]
    rcases next s with _ | ⟨_ | it, s'⟩
    · rfl
    · rfl
    · simp only [Option.map_some, ← ih s']
      rcases runFuelOf next n s' with _ | y <;> rfl

section tie
variable (T : Table) (vl : VarLen) (P : List Int → Option POne) (Q : Nat → Prop)

theorem gNext_tie (hP : ∀ data, Q data.length → P (ints data) = (toOpt (parseOne T vl data)).map oneUp)
    (data : List Nat) (err : Bool) (hq : Q data.length) :
    gNext P (ints data, err) = (toOpt (MacCmd.next T vl ⟨data, err⟩)).map (fun r => (r.1.map itemUp, stUp r.2)) := by
  unfold gNext MacCmd.next
  cases err with
  | true => rfl
  | false =>
    cases data with
    | nil => rfl
    | cons cid rest =>
      have he : (ints (cid :: rest)).isEmpty = false := rfl
      simp only [he, Bool.or_self, Bool.false_eq_true, if_false, List.isEmpty_cons]
      rw [hP _ hq]
      cases hm : parseOne T vl (cid :: rest) with
      | panic s => rfl
      | ok x =>
        cases x with
        | error e => rfl
        | ok y =>
          obtain ⟨mc, k⟩ := y
          simp only [toOpt, Option.map_some, oneUp, Option.bind_some, gStep, sliceFrom_ints, bind, Outcome.bind, MacCmd.sliceFrom,
            List.length_cons]
          by_cases hk : k ≤ rest.length + 1 <;> simp only [hk, if_true, if_false] <;> rfl

theorem gRun_tie (hQ : ∀ a b, a ≤ b → Q b → Q a)
    (hP : ∀ data, Q data.length → P (ints data) = (toOpt (parseOne T vl data)).map oneUp) :
    ∀ (fuel : Nat) (data : List Nat) (err : Bool), Q data.length →
      runFuelOf (gNext P) fuel (ints data, err) = (toOpt (runFuel T vl fuel ⟨data, err⟩)).map runUp := by
  intro fuel
  induction fuel with
  | zero => intro data err _; rfl
  | succ fuel ih =>
    intro data err hq
    unfold runFuelOf runFuel
    rw [gNext_tie T vl P Q hP data err hq]
    cases hm : MacCmd.next T vl ⟨data, err⟩ with
    | panic s => rfl
    | ok x =>
      obtain ⟨_ | it', s'⟩ := x
      · rfl
      · simp only [toOpt, Option.map_some, stUp, bind, Outcome.bind,
          ih s'.data s'.errored (hQ _ _ (next_len hm) hq)]
        cases runFuel T vl fuel ⟨s'.data, s'.errored⟩ <;> rfl

end tie

theorem ints_cons (a : Nat) (t : List Nat) : ints (a :: t) = (a : Int) :: ints t := rfl

theorem not_mem_cast {cid : Nat} {l : List Nat} (h : cid ∉ l) : (cid : Int) ∉ l.map Nat.cast := fun hm => by
  obtain ⟨k, hk, e⟩ := List.mem_map.mp hm
  exact h (Int.ofNat.inj e ▸ hk)

/-- the arm the derive emits for a fixed-length variant (`n`: the `len =` of the `#[cmd]` attribute; `err`, `ok`: the set's
`Truncated` and `Ok`): `if data.len() < 1 + n { Truncated } else { Ok(new_from_raw(&data[1..1 + n]), 1 + n) }` -/
def fixedArm {R : Type} (data : List Int) (n : Int) (err : R) (ok : List Int → Int → R) : Option R :=
  (Rt.ck .usize (1 + n)).bind fun t => if decide (Int.ofNat data.length < t) then some err else
    (Rt.ck .usize (1 + n)).bind fun t3 => (Rt.slice data 1 t3).bind fun t4 => (Rt.ck .usize (1 + n)).bind fun t5 => some (ok t4 t5)

theorem gen_fixed {R : Type} (cid : Nat) (rest : List Nat) (n : Nat) (hn : n < 2 ^ 32) (err : R) (ok : List Int → Int → R) :
    fixedArm (ints (cid :: rest)) n err ok = some (if rest.length < n then err else ok (ints (rest.take n)) (1 + n)) := by
  have hk : Rt.ck .usize (1 + (n : Int)) = some (1 + (n : Int)) := Rt.ck_usize (by omega) (by omega)
  simp only [fixedArm, hk, Option.bind_some, ints_length, List.length_cons, decide_eq_true_eq, Int.ofNat_eq_natCast]
  by_cases hl : rest.length < n
  · have : ((rest.length + 1 : Nat) : Int) < 1 + (n : Int) := by omega
    simp only [hl, this, if_true]
  · have : ¬ ((rest.length + 1 : Nat) : Int) < 1 + (n : Int) := by omega
    simp only [hl, this, if_false, slice1 cid rest n _ rfl hl, Option.bind_some]

/-- a fixed-length arm against the model.  `x` is a regenerated `parse_one` on `cid :: rest`, which unfolds to the arm of
that CID (`hx` holds by `rfl`); `f` is the set's reading of its results, `err` its `Truncated`.  For `n = 0` the
`Truncated` branch is unreachable and unfolds away, which is why `err` cannot be left to unification. -/
theorem fixed_arm_tie {R : Type} {T : Table} {vl : VarLen} {f : R → POne} {x : Option R} {cid n : Nat} {v pt : String}
    {rest : List Nat} {ok : List Int → Int → R} (err : Int → R) (hn : n < 2 ^ 32)
    (hlk : T.lookup cid = some ⟨cid, some n, v, pt⟩)
    (hx : x = fixedArm (ints (cid :: rest)) n (err cid) ok)
    (herr : f (err cid) = .error (.truncated cid))
    (hok : ∀ k, f (ok (ints (rest.take n)) k) = .ok ((cid, v, pt, ints (rest.take n)), k)) :
    x.map f = (toOpt (parseOne T vl (cid :: rest))).map oneUp := by
  rw [hx, gen_fixed cid rest n hn, parseOne_fixed hlk rfl, parsed]
  by_cases hl : rest.length < n <;> simp only [hl, if_true, if_false, Option.map_some, toOpt, oneUp, cmdUp, herr, hok] <;> rfl

theorem unknown_arm_tie {R : Type} {T : Table} {vl : VarLen} {f : R → POne} {x : Option R} {cid : Nat} {rest : List Nat} {e : R}
    (hlk : T.lookup cid = none) (hx : x = some e) (he : f e = .error (.unknownCid cid)) :
    x.map f = (toOpt (parseOne T vl (cid :: rest))).map oneUp := by
  rw [hx, parseOne_unknown hlk, Option.map_some, he]; rfl

theorem max1 (n : Nat) : max (1 : Int) ((n + 1 : Nat) : Int) = ((n + 1 : Nat) : Int) := by omega

/-- `x + 1` and `1 + x` are the same checked sum (a re-spelling of the source must not matter) -/
theorem ck_add_one (t : Rt.ITy) (x : Int) : Rt.ck t (x + 1) = Rt.ck t (1 + x) := by rw [Int.add_comm]

/-- the arm the derive emits for a variable-length variant; `len` is the payload type's hand-written `len()` (it may panic):
`rest = &data[1..]`, an empty `rest` or `rest.len() < len` is `Truncated`, else `Ok(new_from_raw(&rest[..len]), 1 + len)` -/
def varArm {R : Type} (data : List Int) (len : List Int → Option Int) (err : R) (ok : List Int → Int → R) : Option R :=
  (Rt.sliceFrom data 1).bind fun r => if r.isEmpty then some err else
    (len r).bind fun l => if decide (Int.ofNat r.length < l) then some err else
      (Rt.slice r 0 l).bind fun t => (Rt.ck .usize (1 + l)).bind fun k => some (ok t k)

theorem gen_var {R : Type} (cid L : Nat) (rest : List Nat) (len : List Int → Option Int) (err : R) (ok : List Int → Int → R)
    (hL : rest ≠ [] → len (ints rest) = some (L : Int)) (hb : L + 1 < 2 ^ 64) :
    varArm (ints (cid :: rest)) len err ok
      = some (if rest = [] ∨ rest.length < L then err else ok (ints (rest.take L)) (1 + L)) := by
  unfold varArm
  rw [sliceFrom1]
  cases rest with
  | nil => simp
  | cons b t =>
    have hk : Rt.ck .usize (1 + (L : Int)) = some (1 + (L : Int)) := Rt.ck_usize (by omega) (by omega)
    have he : (ints (b :: t)).isEmpty = false := rfl
    simp only [Option.bind_some, he, Bool.false_eq_true, if_false, hL (List.cons_ne_nil b t),
      ints_length, decide_eq_true_eq, Int.ofNat_eq_natCast, reduceCtorEq, false_or, hk]
    by_cases hl : (b :: t).length < L
    · have : (((b :: t).length : Nat) : Int) < (L : Int) := by omega
      simp only [hl, this, if_true]
    · have : ¬ (((b :: t).length : Nat) : Int) < (L : Int) := by omega
      simp only [hl, this, if_false, slice0take (b :: t) L _ rfl (by omega), Option.bind_some]

/-- a variable-length arm against the model (as `fixed_arm_tie`); `L` is what both `len()` return on the non-empty rest -/
theorem var_arm_tie {R : Type} {T : Table} {vl : VarLen} {f : R → POne} {x : Option R} {cid : Nat} {v pt : String}
    {rest : List Nat} {len : List Int → Option Int} {ok : List Int → Int → R} (err : Int → R) (L : Nat) (hb : L + 1 < 2 ^ 64)
    (hlk : T.lookup cid = some ⟨cid, none, v, pt⟩)
    (hx : x = varArm (ints (cid :: rest)) len (err cid) ok)
    (hL : rest ≠ [] → len (ints rest) = some (L : Int)) (hv : rest ≠ [] → vl pt rest = .ok L)
    (herr : f (err cid) = .error (.truncated cid))
    (hok : ∀ k, f (ok (ints (rest.take L)) k) = .ok ((cid, v, pt, ints (rest.take L)), k)) :
    x.map f = (toOpt (parseOne T vl (cid :: rest))).map oneUp := by
  rw [hx, gen_var cid L rest len _ _ hL hb, parseOne_var hlk rfl]
  by_cases hr : rest = []
  · simp only [hr, true_or, if_true, Option.map_some, toOpt, oneUp, herr]
  · rw [if_neg hr, hv hr]
    by_cases hl : rest.length < L <;>
      simp only [parsed, hr, hl, false_or, if_true, if_false, Option.map_some, toOpt, oneUp, cmdUp, herr, hok, Outcome.bind] <;> rfl
/-- … for the TS009 payloads that run to the end of the frame: `len()` = `max(min_len(), self.0.len())` with `min_len() = 1` -/
theorem toEnd_arm_tie {R : Type} {T : Table} {vl : VarLen} {f : R → POne} {x : Option R} {cid : Nat} {v pt : String}
    {rest : List Nat} {ok : List Int → Int → R} (err : Int → R) (hlen : (cid :: rest).length < 2 ^ 64)
    (hlk : T.lookup cid = some ⟨cid, none, v, pt⟩)
    (hx : x = varArm (ints (cid :: rest)) (fun r => some (max 1 (Int.ofNat r.length))) (err cid) ok)
    (hv : ∀ r, vl pt r = .ok (max 1 r.length))
    (herr : f (err cid) = .error (.truncated cid))
    (hok : ∀ k, f (ok (ints (rest.take rest.length)) k) = .ok ((cid, v, pt, ints (rest.take rest.length)), k)) :
    x.map f = (toOpt (parseOne T vl (cid :: rest))).map oneUp := by
  refine var_arm_tie err rest.length hlen hlk hx (fun h => ?_) (fun h => ?_) herr hok <;>
    have := List.length_pos_iff.mpr h
  · simp only [ints_length, Int.ofNat_eq_natCast, Option.some.injEq]; omega
  · rw [hv]; congr 1; omega

end TieA.FrameGen
