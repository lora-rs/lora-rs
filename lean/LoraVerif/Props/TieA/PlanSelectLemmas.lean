import LoraVerif.Gen.PlanSelectFn
import LoraVerif.Props.TieA.ChannelMask
/-!
# Tie A for the channel selection: the bridges between the generated plan types and the model's

How a generated plan, channel, frame and generator is read as the model's, the mask test on natural indices, the draw
of the abstract generator and its masks — these in both operand orders and with `%` for `&`, so that the ties survive
such re-spellings of the source.  Apart from `PlanSelect.lean` because that file waits for `Props/C09.lean` and this one
does not.
-/
namespace TieA.Select
open Model TieA.CMask Rt.OfNat

def chanOf (c : Gen.PlanSelectFn.Channel) : Channel :=
  { freq := c.frequency.toNat, drRange := c._datarates._0.toNat, dlFreq := c.dl_frequency.map Int.toNat }

/-- the model plan a generated `DynamicChannelPlan` stands for -/
def planOf (p : Gen.PlanSelectFn.DynamicChannelPlan) : DynPlan :=
  { channels := p.channels.map (Option.map chanOf), mask := natsOf p.channel_mask._0 }

/-- the region parameters of the generated code, from the model's tables (tied to the source by `Props/TieA/C09.lean`) -/
def regOf (r : RegionId) : Gen.PlanSelectFn.DynRegion := ⟨numJoinChannels r, datarates r⟩

/-- the generator of the generated code: the model's `draw` on the same stream -/
@[reducible] def rngOf {σ} (g : Rng σ) : Gen.PlanSelectFn.RngCore σ := ⟨fun s => (((draw g s).1 : Nat), (draw g s).2)⟩

theorem next_rngOf {σ} (g : Rng σ) (s : σ) :
    @Gen.PlanSelectFn.RngCore.next_u32 σ (rngOf g) s = ((((draw g s).1 : Nat) : Int), (draw g s).2) := rfl

@[reducible] def fuelOf (n : Nat) : Gen.PlanSelectFn.LoopFuel := ⟨n⟩

def txOf (t : Gen.PlanSelectFn.TxChannel) : TxChannel :=
  { dr := t.dr, datarate := t.datarate, frequency := t.frequency.toNat, rx1Frequency := t.rx1_frequency.toNat }

def frameOf : Gen.PlanSelectFn.Frame → FrameKind
  | .Join => .join
  | .Data => .data

/-- 16 slots, 9 mask bytes, each an octet, frequencies not negative: what the Rust types `[Option<Channel>; 16]`,
`ChannelMask<9>`, `u32` guarantee -/
def PlanWF (p : Gen.PlanSelectFn.DynamicChannelPlan) : Prop :=
  p.channels.length = 16 ∧ p.channel_mask._0.length = 9 ∧ Octets p.channel_mask._0 ∧
  ∀ c, some c ∈ p.channels → 0 ≤ c.frequency ∧ ∀ f, c.dl_frequency = some f → 0 ≤ f

theorem toOption_ok {α} (a : α) : (Except.ok a : M α).toOption = some a := rfl
theorem toOption_pure {α} (a : α) : (pure a : M α).toOption = some a := rfl
theorem toOption_error {α} (e : Fault) : (Except.error e : M α).toOption = none := rfl
theorem toOption_panic {α} (s : String) : (panic s : M α).toOption = none := rfl
theorem toOption_hang {α} (s : String) : (hang s : M α).toOption = none := rfl

theorem natsOf_length (l : List Int) : (natsOf l).length = l.length := by simp [natsOf]

theorem is_enabled_nat9 (m : Gen.ChannelMaskFn.ChannelMask) (hm : Octets m._0) (hl : m._0.length = 9) (i : Nat) :
    (Gen.ChannelMaskFn.ChannelMask.is_enabled m (i : Int)).bind id = (Mask.isEnabled (natsOf m._0) i).toOption := by
  by_cases hi : i ≤ 18446744073709551615
  · have := (is_enabled_tie m hm (by omega) (by unfold LenOk; omega) (i : Int) (by omega) (by omega)).1
    simpa using this
  · -- past `usize`: never produced by the code (an index is a `usize`); both sides answer "invalid index"
    have h1 : Mask.isEnabled (natsOf m._0) i = panic "ChannelMask::is_enabled unwrap" := by
      unfold Mask.isEnabled; rw [if_pos (by rw [natsOf_length]; omega)]
    rw [h1]
    unfold Gen.ChannelMaskFn.ChannelMask.is_enabled
    have e1 : Rt.ck .usize ((Int.ofNat m._0.length) * 8) = some 72 := by rw [hl]; decide
    have e2 : Rt.ck .usize ((72 : Int) - 1) = some 71 := by decide
    simp only [e1, e2, Option.bind_eq_bind, Option.bind_some]
    rw [if_pos (by simp; omega)]; rfl

theorem fuel_fuelOf (n : Nat) : @Gen.PlanSelectFn.LoopFuel.fuel (fuelOf n) = n := rfl

theorem loopM_zero {σ β} (step : σ → Option (σ ⊕ β)) (s : σ) : Rt.loopM 0 step s = none := rfl

theorem bind_bind_id {α β} (x : Option (Option α)) (f : α → Option β) :
    (x.bind fun a => a.bind f) = (x.bind id).bind f :=
  (Option.bind_assoc x id f).symm

theorem draw_lt {σ} (g : Rng σ) (s : σ) : (draw g s).1 < 4294967296 := by
  unfold draw; exact Nat.mod_lt _ (by decide)

theorem andI_3' (e : Nat) : Rt.andI 3 (e : Int) = ((e % 4 : Nat) : Int) := by rw [andI_comm]; exact andI_3 e
theorem andI_7' (e : Nat) : Rt.andI 7 (e : Int) = ((e % 8 : Nat) : Int) := by rw [andI_comm]; exact andI_7 e
theorem andI_15' (e : Nat) : Rt.andI 15 (e : Int) = ((e % 16 : Nat) : Int) := by rw [andI_comm]; exact andI_15 e
theorem andI_31' (e : Nat) : Rt.andI 31 (e : Int) = ((e % 32 : Nat) : Int) := by rw [andI_comm]; exact andI_31 e
theorem andI_63' (e : Nat) : Rt.andI 63 (e : Int) = ((e % 64 : Nat) : Int) := by rw [andI_comm]; exact andI_63 e

theorem remC_u32_4 {σ} (g : Rng σ) (s : σ) : Rt.remC .u32 (((draw g s).1 : Nat) : Int) 4 = some (((draw g s).1 % 4 : Nat) : Int) :=
  remC_u32_nat _ (draw_lt g s) 4 (by decide)

end TieA.Select
