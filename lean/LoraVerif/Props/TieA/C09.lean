import LoraVerif.Props.TieA.Basic
import LoraVerif.Lemmas.RegionTables
/-!
# C09, tie A: the static regional parameters of the hand model equal the REGENERATED ones

`Model/Region.lean` carries band limits, join-channel counts, uplink data-rate limits, the 500 kHz
join data rate, the default channels and the default channel mask as hand-copied constants.  Here
each of them is proved equal, for all arguments, to the item `tools/translate` regenerates from the
current source (`Gen/RegionStatic.lean`: found by following `State::new` → plan type → region type
→ trait impls), so that a changed constant in the Rust source breaks a named theorem.
-/
namespace C09
open Model TieA Gen.Region

/-- the hand model knows exactly the regions of `pub enum Region`, under the same names -/
theorem tieA_regions :
    RegionId.all.map toGen = Gen.RegionStatic.Region.all ∧ ∀ r : RegionId, (toGen r).name = r.name := by
  refine ⟨by decide, fun r => ?_⟩
  cases r <;> rfl

/-- which regions have a fixed channel plan: the kind of the plan type in `State::new`, and what
`RegionHandler::has_fixed_channel_plan` answers -/
theorem tieA_isFixed (r : RegionId) :
    r.isFixed = Gen.RegionStatic.plan_is_fixed (toGen r) ∧
    r.isFixed = Gen.RegionStatic.has_fixed_channel_plan (toGen r) := by
  cases r <;> exact ⟨rfl, rfl⟩

/-- `DynamicChannelRegion::NUM_JOIN_CHANNELS` (dynamic plans only) -/
theorem tieA_numJoinChannels (r : RegionId) :
    Gen.RegionStatic.NUM_JOIN_CHANNELS (toGen r) = if r.isFixed then none else some (numJoinChannels r : Int) := by
  cases r <;> rfl

/-- `FixedChannelRegion::MAX_UPLINK_DR` (fixed plans only; the model never reads it elsewhere) -/
theorem tieA_maxUplinkDr (r : RegionId) :
    Gen.RegionStatic.MAX_UPLINK_DR (toGen r) = if r.isFixed then some (maxUplinkDr r : Int) else none := by
  cases r <;> rfl

/-- `FixedChannelRegion::JOIN_DR_500KHZ` (fixed plans only) -/
theorem tieA_join500kDr (r : RegionId) :
    Gen.RegionStatic.JOIN_DR_500KHZ (toGen r) = if r.isFixed then some (join500kDr r) else none := by
  cases r <;> rfl

/-- `DataRateRange::new_range(min, max)` is the byte `max·16 + min` (the model's `mkChan`) -/
theorem tieA_dataRateRange (lo hi : DR) :
    Gen.RegionStatic.DataRateRange.new_range lo hi = some (hi.toInt * 16 + lo.toInt) :=
  (by decide +kernel : ∀ lo ∈ DR.all, ∀ hi ∈ DR.all,
    Gen.RegionStatic.DataRateRange.new_range lo hi = some (hi.toInt * 16 + lo.toInt)) lo (dr_mem_all lo) hi (dr_mem_all hi)

/-- default channels: the table `DynamicChannelPlan::new` builds (`[None; NUM_CHANNELS_DYNAMIC]`, then
`init_channels`, through `Channel::new` / `DataRateRange::new_range`) is the model's `DynPlan.init` -/
theorem tieA_initChannels (r : RegionId) (h : r.isFixed = false) :
    genInitChannels (toGen r) = some (DynPlan.init r).channels := by
  cases r <;> first | (exact absurd h (by decide)) | decide

/-- CFList channels (`process_join_accept`): `Channel::new(value, DR0, DR5)` is the model's `mkChan f 0 5`
(`setChannelSlots`), for every frequency -/
theorem tieA_cflistChannel (f : Nat) :
    (Gen.RegionStatic.Channel.new f Gen.RegionStatic.DynamicChannelPlan.process_join_accept.cflist_dr_min
        Gen.RegionStatic.DynamicChannelPlan.process_join_accept.cflist_dr_max).map ofGenChannel = mkChan f 0 5 := by
  simp only [Gen.RegionStatic.Channel.new, tieA_dataRateRange, Option.bind_eq_bind, Option.bind_some, Option.pure_def,
    Option.map_some, Gen.RegionStatic.Channel.new_with_dr, ofGenChannel, mkChan]
  rfl

/-- a fixed plan has no dynamic channel table -/
theorem tieA_initChannels_fixed (r : RegionId) (h : r.isFixed = true) :
    Gen.RegionStatic.init_channels (toGen r) = none := by
  cases r <;> first | (exact absurd h (by decide)) | rfl

/-- default channel mask: `ChannelMask::<9>::default()` of both plan structs -/
theorem tieA_maskDefault :
    Mask.default = (Gen.RegionStatic.ChannelMask.default Gen.RegionStatic.DynamicChannelPlan.CHANNEL_MASK_N).map Int.toNat ∧
    Mask.default = (Gen.RegionStatic.ChannelMask.default Gen.RegionStatic.FixedChannelPlan.CHANNEL_MASK_N).map Int.toNat := by
  decide

/-- `Channel::rx1_frequency` / `ul_frequency` -/
theorem tieA_channelFrequencies (c : Gen.RegionStatic.Channel) :
    (ofGenChannel c).rx1Frequency = (Gen.RegionStatic.Channel.rx1_frequency c).toNat ∧
    (ofGenChannel c).freq = (Gen.RegionStatic.Channel.ul_frequency c).toNat := by
  refine ⟨?_, rfl⟩
  cases c with
  | mk f d dl => cases dl <;> rfl

#print axioms tieA_regions
#print axioms tieA_initChannels

/-- band limits: `frequency_valid` of every region (the function handed to the plan constructor in
`State::new`: `(lo..=hi).contains(&f)`) -/
theorem tieA_frequencyValid (r : RegionId) (f : Nat) :
    frequencyValid r f = Gen.RegionStatic.frequency_valid (toGen r) (f : Int) := by
  cases r <;>
    simp only [frequencyValid, toGen, Gen.RegionStatic.frequency_valid, Gen.RegionStatic.AS923_1.frequency_valid,
      Gen.RegionStatic.AS923_2.frequency_valid, Gen.RegionStatic.AS923_3.frequency_valid, Gen.RegionStatic.AS923_4.frequency_valid,
      Gen.RegionStatic.AU915.frequency_valid, Gen.RegionStatic.EU868.frequency_valid, Gen.RegionStatic.EU433.frequency_valid,
      Gen.RegionStatic.IN865.frequency_valid, Gen.RegionStatic.US915.frequency_valid] <;>
    rw [Bool.eq_iff_iff] <;> simp only [Bool.and_eq_true, decide_eq_true_eq] <;> omega

example : frequencyValid .EU868 870000000 = true ∧ frequencyValid .EU868 870000001 = false := by decide

#print axioms tieA_frequencyValid

end C09
