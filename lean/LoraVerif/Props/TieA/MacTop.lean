import LoraVerif.Props.TieA.StateBridge
import LoraVerif.Gen.MacTopFn
import LoraVerif.Lemmas.Cycle
/-!
# Tie A for the MAC's top-level state machine (C04 / C07 / C11)

`Gen/MacTopFn.lean` holds the translation of `Mac::{join_otaa, join_abp, send, get_rx_delay,
handle_rx, handle_rxc, rx2_complete, is_joined, get_fcnt_up}` (lorawan-device/src/mac/mod.rs): the dispatch over
`State::{Joined, Otaa, Unjoined}` — which state accepts which call, `Err(NotJoined)` otherwise, how the state changes —
with the `Session` / `Otaa` methods it calls as a record `ops` over abstract carrier types (`Carriers`).

This file is the vocabulary: the carriers instantiated with the MODEL's types (`K`: `Model.Session`, `OtaaState`,
`RegionState`, the decoded view `RxView` as the radio buffer), the maps to the model's state (`cfgM`, `macM`), and `Sim`, the
record of equations saying that `ops` behaves like the model's session / join functions (the operations themselves are
regenerated and tied in their own units: `C05/C06/C07.tieA_handle_rx_accept`, `C06/C12.tieA_rx2_complete`,
`C11.tieA_otaa_handle_rx`).  Two lemmas under what the dispatch needs of `ops` in one state: `joined_tie` (the session arm
of `handle_rx` / `handle_rxc`) and `mac_rx2_complete_of`.  The equalities with `macHandleRx`, `macRx2Complete`, `macJoinAbp`
are in `MacTopC`, those of the transmit side (`macSend`, `macJoinOtaa`, `macRxDelay`) in `MacTopTx`.
-/
namespace TieA.MacTop
open Model

/-- the carriers: the model's types.  The radio buffer is the decoded view of what was received; a delivered downlink
is (port, data); keys, addresses and the generator state are numbers.  A global instance, so that `Gen.MacTopFn.Mac.*` can
be written without `@`; `MacTopRx` / `MacTopOtaa`, whose carriers hold generated types, put theirs above it locally. -/
instance K : Gen.MacTopFn.Carriers :=
  { Session := Model.Session, Otaa := OtaaState, RegionCfg := RegionState, RadioBuffer := RxView,
    Downlink := Nat × List Nat, RNG := Nat, NetworkCredentials := Unit, NwkSKey := Nat, AppSKey := Nat, DevAddr := Nat,
    TxConfig := Int × Model.RfConfig, TxChannel := Model.TxChannel, RxWindows := Model.RfConfig × Model.RfConfig,
    SendData := List Nat × Nat × Bool, fcnt_up := fun s => (s.fcntUp : Int) }

abbrev GMac := @Gen.MacTopFn.Mac K
abbrev GOps := @Gen.MacTopFn.Ops K

/-- total map from the generated configuration to the model's -/
def cfgM (c : Gen.MacTopFn.Configuration) : Config :=
  { dataRate := c.data_rate.toInt.toNat, rx1Delay := c.rx1_delay.toNat, txPower := c.tx_power.map Int.toNat,
    rx1DrOffset := c.rx1_dr_offset.toNat, rx2DataRate := c.rx2_data_rate.map fun d => d.toInt.toNat,
    rx2Frequency := c.rx2_frequency.map Int.toNat, adrEnabled := c.adr_enabled }

/-- the model's join state of a generated `State` -/
def stateM : @Gen.MacTopFn.State K → JoinState
  | .Joined s => .joined s
  | .Otaa o => .otaa o
  | .Unjoined => .unjoined

/-- total map from the generated `Mac` to the model's state -/
def macM (g : GMac) : MacState :=
  { cfg := cfgM g.configuration, region := g.region, maxPower := g.board_eirp.max_power.toNat,
    antennaGain := g.board_eirp.antenna_gain, st := stateM g.state }

/-- the model's responses among the generated ones -/
def respG : Model.Response → Gen.MacTopFn.Response
  | .noAck => .NoAck
  | .sessionExpired => .SessionExpired
  | .downlinkReceived f => .DownlinkReceived f
  | .noJoinAccept => .NoJoinAccept
  | .joinSuccess => .JoinSuccess
  | .noUpdate => .NoUpdate
  | .rxComplete => .RxComplete

/-- the model's `Mac` a join step works on: only configuration and region matter to `otaaAccept` -/
def joining (o : OtaaState) (reg : RegionState) (cfg : Config) : MacState :=
  { cfg := cfg, region := reg, maxPower := 0, antennaGain := 0, st := .otaa o }

/-- `ops` behaves like the model's session / join functions.  Each operation is compared with the model function
it is tied to in its own unit, through `cfgM` on the configuration it returns; what the model does not carry (the
buffer after the call) is left free.  This is a hypothesis no theorem discharges: `session_handle_rx` asks for the queue
`dl ++ o.downlink.toList` for EVERY `dl`, while `Session::handle_rx` pushes to a `heapless::Vec` of fixed capacity and drops
the downlink when it is full, so the record built from the regenerated method does not meet it (`Props/TieA/MacTopRx.lean`
states the session arm with the capacity instead); `cfgM` is moreover not onto (the data rate is the enum `DR` on the
generated side, a number in the model).  Whether it is inhabited at all is not shown: the model's own functions over an
unbounded queue would be the witness, as `txOps` is for `SimTx`, but none is given, so the four `_partial` theorems stand
under an unproved hypothesis. -/
structure Sim (ops : GOps) : Prop where
  /-- `Session::new` -/
  session_new : ∀ nwk app addr, ops.session_new nwk app addr = Session.new addr nwk app
  /-- `Session::handle_rx`: a data frame goes through `sessionHandleRx`; anything else changes nothing -/
  session_handle_rx : ∀ s reg cfg (buf : RxView) dl mp snr cc,
    (ops.session_handle_rx s reg cfg buf dl mp snr cc).map (fun (r, s', reg', cfg', _, dl') => (r, s', reg', cfgM cfg', dl'))
      = match buf with
        | .data d => (sessionHandleRx s (cfgM cfg) reg d mp.toNat snr cc).toOption.map
            (fun (o, s', c', reg') => (respG o.resp, s', reg', c', dl ++ o.downlink.toList))
        | _ => some (.NoUpdate, s, reg, cfgM cfg, dl)
  /-- `Session::rx2_complete` -/
  session_rx2_complete : ∀ s cfg (reg : RegionState),
    (ops.session_rx2_complete s cfg reg).map (fun (r, s', cfg') => (r, s', cfgM cfg'))
      = some (let (r, s', c') := rx2Complete s (cfgM cfg) reg.id; (respG r, s', c'))
  /-- `Otaa::handle_rx`: an authentic JoinAccept goes through `otaaAccept`; anything else changes nothing -/
  otaa_handle_rx : ∀ o reg cfg (buf : RxView),
    (ops.otaa_handle_rx o reg cfg buf).map (fun (r, o', reg', cfg', _) => (r, o', reg', cfgM cfg'))
      = match buf with
        | .joinAccept j =>
          if j.micOk then (otaaAccept (joining o reg (cfgM cfg)) j).toOption.map
            (fun m => ((match m.st with | .joined s => some s | _ => none), o, m.region, m.cfg))
          else some (none, o, reg, cfgM cfg)
        | _ => some (none, o, reg, cfgM cfg)
  /-- `Otaa::rx2_complete` -/
  otaa_rx2_complete : ∀ o, ops.otaa_rx2_complete o = (.NoJoinAccept, o)

/-- `otaaAccept` reads configuration and region only -/
theorem otaaAccept_joining (m : MacState) (o : OtaaState) (j : RxJoinAccept) :
    otaaAccept m j = (otaaAccept (joining o m.region m.cfg) j).map
      fun m' => { m' with maxPower := m.maxPower, antennaGain := m.antennaGain } := by
  unfold otaaAccept joining
  cases processJoinAccept m.region j.cfList with
  | error e => rfl
  | ok r =>
    cases delToDelayMs (j.rxDelay % 16) with
    | error e => rfl
    | ok d => rfl

/-- the session arm of `handle_rx` (`cc = false`) and `handle_rxc` (`cc = true`): the image of `Sim.session_handle_rx`
under the write-back of session, region and configuration into `Mac` -/
theorem joined_tie (ops : GOps) (h : Sim ops) (cfg : Gen.MacTopFn.Configuration) (reg : RegionState)
    (eirp : Gen.MacTopFn.BoardEirp) (s : Session) (buf : RxView) (dl : List (Nat × List Nat)) (mp snr : Int) (cc : Bool) :
    (ops.session_handle_rx s reg cfg buf dl mp snr cc).map
        (fun x => (x.1, macM ⟨x.2.2.2.1, x.2.2.1, eirp, .Joined x.2.1⟩, x.2.2.2.2.2))
      = (macHandleRx (macM ⟨cfg, reg, eirp, .Joined s⟩) buf mp.toNat snr cc).toOption.bind
          (fun (o, m') => o.map (fun o => (respG o.resp, m', dl ++ o.downlink.toList))) := by
  have hf := congrArg (Option.map fun x : Gen.MacTopFn.Response × Session × RegionState × Config × List (Nat × List Nat) =>
      (x.1, (⟨x.2.2.2.1, x.2.2.1, eirp.max_power.toNat, eirp.antenna_gain, .joined x.2.1⟩ : MacState), x.2.2.2.2))
    (h.session_handle_rx s reg cfg buf dl mp snr cc)
  refine Eq.trans ?_ (hf.trans ?_)
  · cases ops.session_handle_rx s reg cfg buf dl mp snr cc <;> rfl
  · simp only [macHandleRx, macM, stateM]
    cases buf with
    | data d =>
      dsimp only
      cases sessionHandleRx s (cfgM cfg) reg d mp.toNat snr cc <;> rfl
    | garbage => simp [respG, Except.toOption, pure, Except.pure]
    | joinAccept j => simp [respG, Except.toOption, pure, Except.pure]

/-- `Mac::rx2_complete` needs of the operations only what the device's present state calls: the session's equation for
the session it holds, the join state's for any.  Both `Sim` and the regenerated methods (under the bounds of THAT
session, `Props/TieA/MacTopGen.lean`) provide it. -/
theorem mac_rx2_complete_of (ops : GOps) (g : GMac)
    (hs : ∀ s, g.state = .Joined s →
      (ops.session_rx2_complete s g.configuration g.region).map (fun (r, s', cfg') => (r, s', cfgM cfg'))
        = some (let (r, s', c') := rx2Complete s (cfgM g.configuration) g.region.id; (respG r, s', c')))
    (ho : ∀ o, ops.otaa_rx2_complete o = (.NoJoinAccept, o)) :
    (Gen.MacTopFn.Mac.rx2_complete ops g).map (fun (r, g') => (r, macM g'))
      = some (let (r, m') := macRx2Complete (macM g); (respG r, m')) := by
  obtain ⟨cfg, reg, eirp, st⟩ := g
  cases st with
  | Unjoined => simp [Gen.MacTopFn.Mac.rx2_complete, macRx2Complete, macM, stateM, respG]
  | Otaa o => simp [Gen.MacTopFn.Mac.rx2_complete, macRx2Complete, macM, stateM, respG, ho]
  | Joined s =>
    obtain ⟨⟨r, s', cfg'⟩, hx, hs⟩ := Option.map_eq_some_iff.1 (hs s rfl)
    simp only [Prod.mk.injEq] at hs
    obtain ⟨h1, h2, h3⟩ := hs
    simp [Gen.MacTopFn.Mac.rx2_complete, macRx2Complete, macM, stateM, hx, h1, h2, h3]

end TieA.MacTop
