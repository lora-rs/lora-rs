import LoraVerif.Props.TieA.MacCmdFrameGen
import LoraVerif.Gen.MacCmdFnDownlinkRemoteSetup
/-!
# Tie A for the framing step of `DownlinkRemoteSetup` (C03)

`Gen/MacCmdFnDownlinkRemoteSetup.lean` holds what `#[derive(CommandHandler)]` generates for `DownlinkRemoteSetup` (payload structs,
`new_from_raw` / `max_len`, `MacCommandSet::parse_one`, expanded from the `quote!` templates with the `#[cmd]` attributes of
the current source; every payload of this set has a fixed length) and the source's
`MacCommands::next` for `T = DownlinkRemoteSetup`.  Here: the regenerated framing IS the hand model `Model/MacCmd.lean` over the
regenerated table `Gen.CmdTables.downlinkRemoteSetup`, for every octet stream.  The set-independent part of the argument is
`Props/TieA/MacCmdFrameGen.lean`; this file supplies the reading of the set's own types (`infoOf` …), instantiates the arm
lemmas of that file at the CIDs of the table, and shows that the unit's `next` is `gNext` of the unit's `parse_one` (`next_bridge`).
-/
namespace TieA.FrameDownlinkRemoteSetup
open MacCmd TieA.FrameGen

def TS : Table := C03.T Gen.CmdTables.downlinkRemoteSetup

def infoOf : Gen.MacCmdFnDownlinkRemoteSetup.DownlinkRemoteSetup → Info
  | .PackageVersionReq _ => (0, "PackageVersionReq", "PackageVersionReqPayload", [])
  | .McGroupStatusReq p => (1, "McGroupStatusReq", "McGroupStatusReqPayload", p._0)
  | .McGroupSetupReq p => (2, "McGroupSetupReq", "McGroupSetupReqPayload", p._0)
  | .McGroupDeleteReq p => (3, "McGroupDeleteReq", "McGroupDeleteReqPayload", p._0)
  | .McClassCSessionReq p => (4, "McClassCSessionReq", "McClassCSessionReqPayload", p._0)
  | .McClassBSessionReq p => (5, "McClassBSessionReq", "McClassBSessionReqPayload", p._0)

def errOf : Gen.MacCmdFnDownlinkRemoteSetup.ParseError → MacCmd.ParseError
  | .UnknownCid c => .unknownCid c.toNat
  | .Truncated c => .truncated c.toNat

def oneOf : Gen.MacCmdFnDownlinkRemoteSetup.ParseOne → POne
  | .Ok c n => .ok (infoOf c, n)
  | .Err e => .error (errOf e)

def itemOf : Gen.MacCmdFnDownlinkRemoteSetup.NextItem → GItem
  | .Ok c => .ok (infoOf c)
  | .Err e => .error (errOf e)

def stOf (g : Gen.MacCmdFnDownlinkRemoteSetup.MacCommands) : GSt := (g.data, g.errored)

def P (d : List Int) : Option POne := (Gen.MacCmdFnDownlinkRemoteSetup.DownlinkRemoteSetup.parse_one d).map oneOf

theorem next_bridge (s : Gen.MacCmdFnDownlinkRemoteSetup.MacCommands) :
    (Gen.MacCmdFnDownlinkRemoteSetup.MacCommands.next s).map (fun r => (r.1.map itemOf, stOf r.2)) = gNext P (stOf s) :=
  gNext_of (fun _ => by rfl) (fun s r => by
    cases r with
    | Err x => rfl
    | Ok c n => exact Option.map_bind) s

def runOf (r : List Gen.MacCmdFnDownlinkRemoteSetup.NextItem × Gen.MacCmdFnDownlinkRemoteSetup.MacCommands × Bool) := (r.1.map itemOf, stOf r.2.1, r.2.2)

end TieA.FrameDownlinkRemoteSetup

namespace C03
open MacCmd TieA.MacCmdFrame TieA.FrameGen TieA.FrameDownlinkRemoteSetup

/-- the derive-generated `parse_one` of `DownlinkRemoteSetup` (expanded from the `quote!` templates of the `CommandHandler`
derive with the `#[cmd(cid, len)]` attributes of the current source) IS the
model's `parseOne` over the regenerated table, for EVERY octet string: same variant, payload type, payload octets and
consumed count, `UnknownCid` / `Truncated` with the same CID on the same inputs, a panic exactly on the empty slice. -/
theorem tieA_parse_one_DownlinkRemoteSetup (data : List Nat) :
    (Gen.MacCmdFnDownlinkRemoteSetup.DownlinkRemoteSetup.parse_one (ints data)).map TieA.FrameDownlinkRemoteSetup.oneOf = (toOpt (parseOne TieA.FrameDownlinkRemoteSetup.TS varLen data)).map oneUp := by
  cases data with
  | nil => rfl
  | cons cid rest =>
    by_cases h : cid ∈ [0, 1, 2, 3, 4, 5]
    · simp only [List.mem_cons, List.not_mem_nil, or_false] at h
      rcases h with rfl | rfl | rfl | rfl | rfl | rfl <;>
        exact fixed_arm_tie (fun c => .Err (.Truncated c)) (by decide) rfl rfl rfl fun _ => rfl
    · refine unknown_arm_tie (e := .Err (.UnknownCid cid)) (Table.lookup_none_of TS cid h) ?_ rfl
      have hI := not_mem_cast h
      simp only [List.map, List.mem_cons, List.not_mem_nil, or_false, not_or, Int.cast_ofNat_Int] at hI
      simp only [Gen.MacCmdFnDownlinkRemoteSetup.DownlinkRemoteSetup.parse_one, idx0, Option.bind_eq_bind, Option.bind_some, decide_eq_true_eq, hI, if_false]
      rfl

/-- the source's `MacCommands::next` for `T = DownlinkRemoteSetup` IS the model's `next` in every state. -/
theorem tieA_next_DownlinkRemoteSetup (data : List Nat) (err : Bool) :
    (Gen.MacCmdFnDownlinkRemoteSetup.MacCommands.next ⟨ints data, err⟩).map (fun r => (r.1.map TieA.FrameDownlinkRemoteSetup.itemOf, TieA.FrameDownlinkRemoteSetup.stOf r.2))
      = (toOpt (MacCmd.next TieA.FrameDownlinkRemoteSetup.TS varLen ⟨data, err⟩)).map (fun r => (r.1.map itemUp, stUp r.2)) := by
  rw [TieA.FrameDownlinkRemoteSetup.next_bridge]
  exact gNext_tie _ _ _ (fun _ => True) (fun d _ => tieA_parse_one_DownlinkRemoteSetup d) data err trivial

/-- the `DownlinkRemoteSetup` iterator over `data`, drained through the REGENERATED `next` (`MacCommands::new(data)`, then
`next` until `None`, budget `data.len() + 2`), is the model's run, for every octet stream: the same items in the same order,
the same final state, within the same budget. -/
theorem tieA_iterator_DownlinkRemoteSetup (data : List Nat) :
    (runFuelOf Gen.MacCmdFnDownlinkRemoteSetup.MacCommands.next (data.length + 2) ⟨ints data, false⟩).map TieA.FrameDownlinkRemoteSetup.runOf
      = (toOpt (run TieA.FrameDownlinkRemoteSetup.TS varLen data)).map runUp :=
  (runFuelOf_sim _ _ TieA.FrameDownlinkRemoteSetup.itemOf TieA.FrameDownlinkRemoteSetup.stOf TieA.FrameDownlinkRemoteSetup.next_bridge _ _).trans
    (gRun_tie _ _ _ (fun _ => True) (fun _ _ _ _ => trivial) (fun d _ => tieA_parse_one_DownlinkRemoteSetup d) _ data false trivial)

/-! non-vacuity: a concrete stream through the regenerated iterator (CID and payload octets of every item, `none` = the
error item; the unread rest and the `errored` flag; budget not exhausted) -/
example : (runFuelOf Gen.MacCmdFnDownlinkRemoteSetup.MacCommands.next (3 + 2) ⟨[1, 15, 3], false⟩).map
    (fun r => (r.1.map (fun i => (TieA.FrameDownlinkRemoteSetup.itemOf i).toOption.map (fun c => (c.1, c.2.2.2))), TieA.FrameDownlinkRemoteSetup.stOf r.2.1, r.2.2))
    = some ([some (1, [0x0F]), none], ([3], true), false) := by decide


#print axioms tieA_parse_one_DownlinkRemoteSetup
#print axioms tieA_next_DownlinkRemoteSetup
#print axioms tieA_iterator_DownlinkRemoteSetup
end C03
