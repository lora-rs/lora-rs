import LoraVerif.Props.TieA.PlanSelectFixed
import LoraVerif.Gen.JoinWalkFn
/-!
# Tie A for the bank walk of the fixed plans (C09 / C04): `JoinChannels::get_next_channel` and
`AvailableChannels::{is_exhausted, reset, get_next_channel_inner, get_next}` regenerated in `Gen/JoinWalkFn.lean`
(the entropy loop on `Rt.loopM`) EQUAL the model's walk (`Model/Region.lean`: `getNextChannel`, `availGetNext`,
`availGetNextInner`, `entropyLoop`); this discharges `JcOk` of `PlanSelectFixed.lean`.

Each method is tied in the form `Tie R gen model` (Calc.lean), `R` saying how the model's result is read off the
generated one and what the next caller needs of it; the callers compose these by `Tie.bind`.
-/
set_option linter.unusedSimpArgs false
namespace C09
open Model Gen.Region TieA TieA.Select TieA.CMask Rt.OfNat

/-- what the Rust types and the walk's own invariant guarantee of an `AvailableChannels`: 9 mask octets, the previous
channel (a `u8`) one of the 72 channels -/
def AvWF (a : Gen.PlanSelectFn.AvailableChannels) : Prop :=
  a.data._0.length = 9 ∧ Octets a.data._0 ∧ ∀ p, a.previous = some p → 0 ≤ p ∧ p ≤ 71

theorem any_ne_zero (l : List Int) (h : Octets l) :
    l.any (fun b => decide (b ≠ 0)) = !((natsOf l).all (· == 0)) := by
  induction l with
  | nil => rfl
  | cons a t ih =>
    have ha := h a (by simp)
    have := ih (fun x hx => h x (by simp [hx]))
    simp only [natsOf, List.map_cons, List.any_cons, List.all_cons, Bool.not_and] at this ⊢
    rw [this]
    congr 1
    by_cases h0 : a = 0
    · subst h0; rfl
    · have : a.toNat ≠ 0 := by omega
      simp [h0, this]

theorem tieA_is_exhausted (a : Gen.PlanSelectFn.AvailableChannels) (h : Octets a.data._0) :
    Gen.JoinWalkFn.AvailableChannels.is_exhausted a = availIsExhausted (natsOf a.data._0) := by
  unfold Gen.JoinWalkFn.AvailableChannels.is_exhausted availIsExhausted Gen.JoinWalkFn.ChannelMask.as_ref
  rw [any_ne_zero _ h]
  cases (natsOf a.data._0).all (· == 0) <;> rfl

/-- the redraw of the entropy loop: a fresh draw after ten uses -/
def entNext {σ} (g : Rng σ) (e used : Nat) (s : σ) : Nat × Nat × σ :=
  if used == 10 then ((draw g s).1, 0, (draw g s).2) else (e, used, s)

theorem entNext_bound {σ} (g : Rng σ) (e used : Nat) (s : σ) (he : e < 4294967296) (hu : used ≤ 10) :
    (entNext g e used s).1 / 8 < 4294967296 ∧ (entNext g e used s).2.1 + 1 ≤ 10 := by
  unfold entNext
  by_cases h : used = 10
  · subst h
    have := draw_lt g s
    simp only [beq_self_eq_true, if_true]
    omega
  · have : (used == 10) = false := by simp [h]
    simp only [this]
    simp only [Bool.false_eq_true, if_false]
    omega

theorem ok_bind {α β} (a : α) (f : α → M β) : ((Except.ok a : M α) >>= f) = f a := Model.ok_bind a f

theorem entropyLoop_succ {σ} (g : Rng σ) (avail : Mask) (bank k e used : Nat) (s : σ) :
    entropyLoop g avail bank (k + 1) e used s = (do
      if (← avail.isEnabled (e % 8 + bank * 8)) then pure (e % 8 + bank * 8, s)
      else entropyLoop g avail bank k ((entNext g e used s).1 / 8) ((entNext g e used s).2.1 + 1) (entNext g e used s).2.2) := by
  rw [entropyLoop]; unfold entNext
  by_cases h : (used == 10) = true <;> simp only [h] <;> rfl

/-- `AvailableChannels::get_next_channel_inner`: it leaves `self` as it was -/
theorem tieA_get_next_channel_inner {σ} (g : Rng σ) (a : Gen.PlanSelectFn.AvailableChannels) (ha : AvWF a) (s : σ) :
    Tie (fun o b => o = ((b.1 : Int), a, b.2))
      (@Gen.JoinWalkFn.AvailableChannels.get_next_channel_inner σ (rngOf g) (fuelOf loopFuel) a s)
      (availGetNextInner g (natsOf a.data._0) (a.previous.map Int.toNat) s) := by
  obtain ⟨hl, ho, hp⟩ := ha
  unfold Gen.JoinWalkFn.AvailableChannels.get_next_channel_inner availGetNextInner
  generalize loopFuel = fuel
  cases hprev : a.previous with
  | none =>
    simp only [Option.map_none, next_rngOf, Option.pure_def, wrap_u8_mod, andI_63]
    exact rfl
  | some p =>
    obtain ⟨hp0, hp1⟩ := hp p hprev
    obtain ⟨pn, rfl⟩ : ∃ pn : Nat, p = (pn : Int) := ⟨p.toNat, by omega⟩
    have e1 : Rt.ck .u8 ((pn : Int) + 8) = some (((pn + 8 : Nat)) : Int) := by
      rw [Rt.ck_u8 (by omega) (by omega)]; rfl
    have e2 := remC_u8_nat (pn + 8) 72 (by omega) (by decide)
    simp only [Option.map_some, Int.toNat_natCast, Option.bind_eq_bind, Option.pure_def, e1, Option.bind_some, bind_bind_id]
    rw [show (72 : Int) = ((72 : Nat) : Int) from rfl, e2]
    simp only [Option.bind_some, is_enabled_nat9 a.data ho hl]
    generalize hnx : (pn + 8) % 72 = nx
    have hnx71 : nx ≤ 71 := by omega
    refine Tie.bind (Tie.toOption _) fun t5 _ ht => ?_
    subst ht
    refine Tie.ite Iff.rfl (fun _ => Tie.pure rfl) fun _ => ?_
    have eb : Rt.ck .u8 (((nx / 8 : Nat) : Int) * 8) = some (((nx / 8 * 8 : Nat)) : Int) := by
      rw [Rt.ck_u8 (by omega) (by omega)]; congr 1
    have ec := ck_chan (draw g s).1 (nx / 8) (by omega)
    simp only [Option.bind_some, next_rngOf,
      div8_u8 _ (Int.natCast_nonneg nx) (by omega : (nx : Int) ≤ 255), Int.toNat_natCast, eb, andI_7,
      wrap_u8_nat _ (by omega : (draw g s).1 % 8 ≤ 255), ec, fuel_fuelOf]
    refine Tie.bind_left (R := fun o b => o = ((b.1 : Int), a, b.2)) ?_ fun o b h => by subst h; exact rfl
    -- the loop-carried variables are (self, rng, entropy, channel, entropy_used) with `channel = entropy % 8 + bank * 8`
    refine Tie.loopM
      (fun (i : Nat × Nat × σ) x => i.1 < 4294967296 ∧ i.2.1 ≤ 10 ∧
        x = (a, i.2.2, (i.1 : Int), ((i.1 % 8 + nx / 8 * 8 : Nat) : Int), (i.2.1 : Int)))
      (fun k i => entropyLoop g (natsOf a.data._0) (nx / 8) k i.1 i.2.1 i.2.2)
      (fun _ => ⟨_, rfl⟩) ?_ fuel ((draw g s).1, 1, (draw g s).2) _ ⟨draw_lt g s, (by decide : (1 : Nat) ≤ 10), rfl⟩
    rintro k ⟨e, used, s'⟩ _ ⟨he, hu, rfl⟩
    simp only [is_enabled_nat9 a.data ho hl]
    have hY := entropyLoop_succ g (natsOf a.data._0) (nx / 8) k e used s'
    cases hen : Mask.isEnabled (natsOf a.data._0) (e % 8 + nx / 8 * 8) with
    | error err => exact Tie.Turn.fail (hY.trans (by rw [hen]; rfl))
    | ok b =>
      cases b with
      | true => exact Tie.Turn.exit (hY.trans (by rw [hen]; rfl)) rfl
      | false =>
        obtain ⟨hb1, hb2⟩ := entNext_bound g e used s' he hu
        unfold entNext at hb1 hb2 hY
        by_cases h10 : used = 10
        · subst h10
          have hd : decide ((((10 : Nat)) : Int) = 10) = true := by decide
          have hd2 : decide ((10 : Int) = (((10 : Nat)) : Int)) = true := by decide
          have h01 : Rt.ck .i32 (0 + 1) = some (((0 + 1 : Nat)) : Int) := by decide
          simp only [beq_self_eq_true, if_true] at hb1 hb2 hY
          simp only [Except.toOption, Option.bind_some, Bool.false_eq_true, if_false, beq_self_eq_true, if_true,
            hd, hd2, shr3_u32, wrap_and7, ck_chan _ _ (by omega : nx / 8 ≤ 8), h01]
          exact Tie.Turn.next (i' := (_, _, _)) ⟨hb1, hb2, rfl⟩ (hY.trans (by rw [hen]; rfl))
        · have h10' : ¬ ((used : Int) = 10) := by omega
          have h10'' : (used == 10) = false := by simp [h10]
          have h10r : ¬ ((10 : Int) = (used : Int)) := by omega
          simp only [h10'', Bool.false_eq_true, if_false] at hb1 hb2 hY
          simp only [Except.toOption, Option.bind_some, Bool.false_eq_true, if_false, h10', h10r, h10'', decide_false,
            shr3_u32, wrap_and7, ck_chan _ _ (by omega : nx / 8 ≤ 8), ck_i32_succ used hu]
          exact Tie.Turn.next (i' := (_, _, _)) ⟨hb1, hb2, rfl⟩ (hY.trans (by rw [hen]; rfl))

theorem reset_wf (a : Gen.PlanSelectFn.AvailableChannels) : AvWF (Gen.JoinWalkFn.AvailableChannels.reset a) := by
  exact ⟨rfl, TieA.octets_replicate 9, fun p h => by cases h⟩

/-- `AvailableChannels::get_next`, for the `AvailableChannels` of any `JoinChannels` -/
theorem tieA_avail_get_next {σ} (g : Rng σ) (J : Gen.PlanSelectFn.JoinChannels) (ha : AvWF J.available_channels) (s : σ) :
    Tie (fun o b => b = (o.1.toNat, jcOf { J with available_channels := o.2.1 }, o.2.2) ∧ 0 ≤ o.1 ∧ o.1 ≤ 71 ∧ AvWF o.2.1)
      (@Gen.JoinWalkFn.AvailableChannels.get_next σ (rngOf g) (fuelOf loopFuel) J.available_channels s)
      (availGetNext g (jcOf J) s) := by
  unfold Gen.JoinWalkFn.AvailableChannels.get_next availGetNext
  rw [tieA_is_exhausted _ ha.2.1]
  -- both sides choose between the reset state and the present one: one state `a0` for what follows
  generalize ha0 : (if availIsExhausted (natsOf J.available_channels.data._0) = true then
      Gen.JoinWalkFn.AvailableChannels.reset J.available_channels else J.available_channels) = a0
  have hw0 : AvWF a0 := by subst ha0; split; exact reset_wf _; exact ha
  have hm : (if availIsExhausted (jcOf J).avail = true then (Mask.default, none) else ((jcOf J).avail, (jcOf J).availPrev))
      = (natsOf a0.data._0, a0.previous.map Int.toNat) := by subst ha0; unfold jcOf; split <;> rfl
  rw [hm]
  have hsafe := (Model.availGetNextInner_safe g (natsOf a0.data._0) (a0.previous.map Int.toNat) s (by rw [natsOf_length]; exact hw0.1)).post
  refine Tie.bind ((tieA_get_next_channel_inner g a0 hw0 s).and_post hsafe) fun o b ⟨ho, hb, _⟩ => ?_
  subst ho
  refine Tie.bind (set_channel_tie a0.data hw0.2.1 b.1 (by omega) (by omega) false) fun m' n ⟨hn, hoct, hlen⟩ => ?_
  subst hn
  exact Tie.pure ⟨by simp [jcOf], by simp, by simp; omega, hlen.trans hw0.1, hoct, fun p hp => by cases hp; omega⟩

/-- the instance of the abstract walk of `Gen.PlanSelectFn` that the regenerated walk provides -/
@[reducible] def walkOps {σ} (g : Rng σ) : Gen.PlanSelectFn.JcOps σ :=
  ⟨fun j s => @Gen.JoinWalkFn.JoinChannels.get_next_channel σ (rngOf g) (fuelOf loopFuel) j s⟩

/-- what the walk needs beyond `JcWF`: the attempt counter below `usize::MAX` (one more attempt does not overflow; the
model counts in `Nat`), and the walk's own invariant `AvWF` -/
def WalkWF (j : Gen.PlanSelectFn.JoinChannels) : Prop :=
  JcWF j ∧ j.num_retries < 18446744073709551615 ∧ AvWF j.available_channels

/-- what a caller learns of `JoinChannels::get_next_channel`'s result -/
def WalkR {σ} (o : Int × Gen.PlanSelectFn.JoinChannels × σ) (b : Nat × JoinChannels × σ) : Prop :=
  b = (o.1.toNat, jcOf o.2.1, o.2.2) ∧ 0 ≤ o.1 ∧ o.1 ≤ 255 ∧ JcWF o.2.1 ∧ AvWF o.2.1.available_channels

/-- `JoinChannels::get_next_channel` is the model's `getNextChannel`; the channel it answers is a `u8`, and it keeps
`JcWF` and the walk's own invariant `AvWF` -/
theorem walk_tie {σ} (g : Rng σ) (j : Gen.PlanSelectFn.JoinChannels) (hw : WalkWF j) (s : σ) :
    Tie WalkR (@Gen.JoinWalkFn.JoinChannels.get_next_channel σ (rngOf g) (fuelOf loopFuel) j s) ((jcOf j).getNextChannel g s) := by
  obtain ⟨⟨h1, h2, h3, h4⟩, hn, ha⟩ := hw
  have eck : Rt.ck .usize (j.num_retries + 1) = some (j.num_retries + 1) := Rt.ck_usize (by omega) (by omega)
  have hnn : (j.num_retries + 1).toNat = j.num_retries.toNat + 1 := by omega
  -- outside the biased phase: one more attempt, then `AvailableChannels::get_next`
  have hjc : jcOf ({ j with num_retries := j.num_retries + 1 } : Gen.PlanSelectFn.JoinChannels)
      = { jcOf j with numRetries := (jcOf j).numRetries + 1 } := by simp [jcOf, hnn]
  have nobias := (tieA_avail_get_next g ({ j with num_retries := j.num_retries + 1 } : Gen.PlanSelectFn.JoinChannels) ha s).bind_left
      (S := WalkR) (k := fun x => some (x.1, { j with num_retries := j.num_retries + 1, available_channels := x.2.1 }, x.2.2))
      fun o b h => ⟨h.1, h.2.1, by have := h.2.2.1; simp only; omega, ⟨h1, by simp only; omega, h3, h4⟩, h.2.2.2⟩
  rw [hjc] at nobias
  unfold Gen.JoinWalkFn.JoinChannels.get_next_channel JoinChannels.getNextChannel
  cases hps : j.preferred_subband with
  | none =>
    have hps' : (jcOf j).preferredSubband = none := by simp [jcOf, hps]
    simp only [hps, hps', eck, Option.bind_eq_bind, Option.bind_some, Option.pure_def] at nobias ⊢
    exact nobias
  | some sb =>
    have hps' : (jcOf j).preferredSubband = some sb.toInt.toNat := by simp [jcOf, hps]
    simp only [hps']
    -- split on the model's test; the source's is decided from it, whichever way round it has the arms
    refine Tie.ite_right (fun hlt => ?_) fun hlt => ?_
    · have t1 : j.num_retries < j.max_retries := by simp only [jcOf] at hlt; omega
      have t2 : ¬ j.num_retries ≥ j.max_retries := by omega
      simp only [t1, t2, decide_true, decide_false, if_true, if_false, Bool.false_eq_true]
      have er : Rt.remC .u32 (((draw g s).1 : Nat) : Int) 8 = some ((((draw g s).1 % 8 : Nat)) : Int) :=
        remC_u32_nat _ (draw_lt g s) 8 (by decide)
      have l1 : Rt.ck .usize (Rt.wrap .usize sb.toInt - 1) = some (((sb.toInt.toNat - 1) % 256 : Nat) : Int) := by
        cases sb <;> decide
      have l2 : Rt.ck .u8 (Rt.wrap .u8 ((((sb.toInt.toNat - 1) % 256 : Nat)) : Int) * 8)
          = some ((((sb.toInt.toNat - 1) % 256 * 8 : Nat)) : Int) := by
        cases sb <;> decide
      have l3 : (sb.toInt.toNat - 1) % 256 * 8 ≤ 56 := by cases sb <;> decide
      have l4 := ck_chan (draw g s).1 ((sb.toInt.toNat - 1) % 256) (by omega)
      have l5 : ¬ ((draw g s).1 % 8 + (sb.toInt.toNat - 1) % 256 * 8 > 255) := by omega
      simp only [eck, Option.bind_eq_bind, Option.bind_some,
        Option.pure_def, next_rngOf, er, l1, l2, wrap_u8_nat _ (by omega : (draw g s).1 % 8 ≤ 255), l4, l5, if_false]
      have hch63 : (draw g s).1 % 8 + (sb.toInt.toNat - 1) % 256 * 8 ≤ 63 := by omega
      generalize (draw g s).1 % 8 + (sb.toInt.toNat - 1) % 256 * 8 = ch at hch63 ⊢
      -- what both answers of the last-attempt test return, for the `AvailableChannels` they leave
      have hfin : ∀ a : Gen.PlanSelectFn.AvailableChannels, AvWF a →
          WalkR ((ch : Int), ({ j with num_retries := j.num_retries + 1, preferred_subband := some sb, available_channels := a,
                                         previous_channel := (ch : Int) } : Gen.PlanSelectFn.JoinChannels), (draw g s).2)
            (ch, { jcOf j with numRetries := (jcOf j).numRetries + 1, preferredSubband := some sb.toInt.toNat,
                                 avail := natsOf a.data._0, availPrev := a.previous.map Int.toNat, previousChannel := ch }, (draw g s).2) :=
        fun a haw => ⟨by simp [jcOf, hnn], by simp only; omega, by simp only; omega,
          ⟨h1, by simp only; omega, by simp only; omega, by simp only; omega⟩, haw⟩
      by_cases heq : j.num_retries + 1 = j.max_retries
      · have hd : decide (j.num_retries + 1 = j.max_retries) = true := decide_eq_true heq
        have hd' : ((jcOf j).numRetries + 1 == (jcOf j).maxRetries) = true := by simp [jcOf]; omega
        simp only [hd, hd', if_true, Option.bind_eq_bind, Option.bind_assoc, Option.bind_some, bind_assoc, pure_bind]
        refine Tie.bind (set_channel_tie j.available_channels.data ha.2.1 ch (by omega) (by omega) false) fun m' n ⟨hn', hoct, hlen⟩ => ?_
        subst hn'
        exact hfin ⟨m', some (ch : Int)⟩ ⟨hlen.trans ha.1, hoct, fun p hp => by cases hp; omega⟩
      · have hd : decide (j.num_retries + 1 = j.max_retries) = false := decide_eq_false heq
        have hd' : ((jcOf j).numRetries + 1 == (jcOf j).maxRetries) = false := by simp [jcOf]; omega
        simp only [hd, hd', Bool.false_eq_true, if_false, Option.bind_some, pure_bind]
        exact hfin _ ha
    · have t1 : ¬ j.num_retries < j.max_retries := by simp only [jcOf] at hlt; omega
      have t2 : j.num_retries ≥ j.max_retries := by omega
      simp only [t1, t2, decide_true, decide_false, if_true, if_false, Bool.false_eq_true, eck, Option.bind_eq_bind,
        Option.bind_some, Option.pure_def, hps, hps'] at nobias ⊢
      exact nobias

/-- `JoinChannels::get_next_channel` discharges the hypothesis `JcOk` of the selects in `PlanSelectFixed.lean` -/
theorem tieA_join_channels_walk {σ} (g : Rng σ) (j : Gen.PlanSelectFn.JoinChannels) (hw : WalkWF j) (s : σ) :
    JcOk g (walkOps g) j s :=
  have h := Tie.iff_map_post.mp (walk_tie g j hw s)
  ⟨h.1, fun o ho => let ⟨h0, h1, h2, _⟩ := h.2 o ho; ⟨h0, h1, h2⟩⟩

/-- the walk keeps its own invariant `AvWF` (so that `WalkWF` can be re-established for the next call; the counter
bound `num_retries < usize::MAX` is the caller's) -/
theorem tieA_walk_keeps_avwf {σ} (g : Rng σ) (j : Gen.PlanSelectFn.JoinChannels) (hw : WalkWF j) (s : σ) :
    ∀ o, @Gen.JoinWalkFn.JoinChannels.get_next_channel σ (rngOf g) (fuelOf loopFuel) j s = some o →
      AvWF o.2.1.available_channels :=
  fun o h => ((Tie.iff_map_post.mp (walk_tie g j hw s)).2 o h).2.2.2

/-- **the join request of a fixed plan, walk included**: `FixedChannelPlan::select_tx_channel(.., Frame::Join)` with the
regenerated `JoinChannels::get_next_channel` plugged in EQUALS the model's `selectTxChannel` — every plan, bias, used-set,
data rate, generator and stream (panic and fuel exhaustion agree up to `Except.toOption`) -/
theorem tieA_fixed_select_join {σ} (g : Rng σ) (rs : RegionState) (p : Gen.PlanSelectFn.FixedChannelPlan)
    (hplan : rs.plan = .fix (fixOf p)) (hw : WalkWF p.join_channels) (dr : DR) (s : σ) :
    (@Gen.PlanSelectFn.FixedChannelPlan.select_tx_channel σ (rngOf g) (fuelOf loopFuel) (fregOf rs.id) (walkOps g) p s dr .Join).map
        (fun o => (txOf o.1, { rs with plan := .fix (fixOf o.2.1) }, o.2.2))
      = (selectTxChannel g rs dr .join s).toOption :=
  tieA_fixed_select_join_partial g (walkOps g) rs p hplan hw.1 dr s (tieA_join_channels_walk g _ hw s)

/-- the data frame while the join bias is in force, walk included (the mask does not disable the biased channel) -/
theorem tieA_fixed_select_data_biased {σ} (g : Rng σ) (rs : RegionState) (p : Gen.PlanSelectFn.FixedChannelPlan)
    (hplan : rs.plan = .fix (fixOf p)) (hw : WalkWF p.join_channels) (hm : MaskWF p) (dr : DR) (s : σ)
    (hb : (jcOf p.join_channels).hasBiasAndNotExhausted = true)
    (hen : ∀ ch jc' s1, (jcOf p.join_channels).getNextChannel g s = .ok (ch, jc', s1) →
      Mask.isEnabled (natsOf p.channel_mask._0) ch ≠ .ok false) :
    (@Gen.PlanSelectFn.FixedChannelPlan.select_tx_channel σ (rngOf g) (fuelOf loopFuel) (fregOf rs.id) (walkOps g) p s dr .Data).map
        (fun o => (txOf o.1, { rs with plan := .fix (fixOf o.2.1) }, o.2.2))
      = (selectTxChannel g rs dr .data s).toOption :=
  tieA_fixed_select_data_biased_partial g (walkOps g) rs p hplan hw.1 hm dr s (tieA_join_channels_walk g _ hw s) hb hen

/-- **`C09.selectTxChannel_legal` carried over to the regenerated fixed-plan method, join requests**: whatever the
current source returns carries the region's data-rate entry for `tx.dr` and a legal channel of the plan it leaves -/
theorem tieA_fixed_select_join_legal {σ} (g : Rng σ) (rs : RegionState) (p p' : Gen.PlanSelectFn.FixedChannelPlan)
    (hplan : rs.plan = .fix (fixOf p)) (hw : WalkWF p.join_channels) (hwf : regionWF rs = true) (dr : DR)
    (s s' : σ) (tx : Gen.PlanSelectFn.TxChannel)
    (hsel : @Gen.PlanSelectFn.FixedChannelPlan.select_tx_channel σ (rngOf g) (fuelOf loopFuel) (fregOf rs.id) (walkOps g) p s dr .Join
      = some (tx, p', s')) :
    getDatarate rs.id tx.dr.toInt.toNat = some tx.datarate ∧
    ChannelLegal { rs with plan := .fix (fixOf p') } .join (txOf tx) ∧
    (isUplinkDatarate rs.id dr.toInt.toNat = true → isUplinkDatarate rs.id tx.dr.toInt.toNat = true) :=
  legal_of_tie (fun q => .fix (fixOf q)) g rs dr .join s s' tx p' _ (tieA_fixed_select_join g rs p hplan hw dr s) hwf hsel

/-- **never spins, on the regenerated code (C04), join requests of a fixed plan**: in every well-formed state there is a
draw value under which the current source — walk and entropy loop included — returns: no panic, fuel not used up -/
theorem tieA_fixed_join_accept_nonempty (rs : RegionState) (p : Gen.PlanSelectFn.FixedChannelPlan)
    (hplan : rs.plan = .fix (fixOf p)) (hw : WalkWF p.join_channels) (hwf : regionWF rs = true) (dr : DR)
    (hdr : isUplinkDatarate rs.id dr.toInt.toNat = true) :
    ∃ v, v < 64 ∧ ∀ {σ : Type} (s : σ),
      (@Gen.PlanSelectFn.FixedChannelPlan.select_tx_channel σ (rngOf (constGen v)) (fuelOf loopFuel) (fregOf rs.id) (walkOps (constGen v)) p s dr .Join).isSome = true := by
  obtain ⟨v, hv, h⟩ := select_accept_nonempty rs dr .join hwf hdr
  refine ⟨v, hv, fun {σ} s => ?_⟩
  obtain ⟨a, ha, _⟩ := h (σ := σ) s
  exact TieA.isSome_of_tie (tieA_fixed_select_join (constGen v) rs p hplan hw dr s) ha

/-- `WalkWF` holds of the example plan (bias on sub-band 2) and of a plan in the middle of an unbiased walk; the
regenerated walk, run on the counting generator, yields channel 13; with previous channel 11 and channel 19 used, the
entropy loop redraws in bank 2 (19 again, then 16) -/
example :
    WalkWF exPlanFix.join_channels ∧
    (@Gen.JoinWalkFn.JoinChannels.get_next_channel Nat (rngOf exGen) (fuelOf loopFuel) exPlanFix.join_channels 5).map
      (fun o => (o.1, o.2.1.num_retries, o.2.2)) = some (13, 1, 6) ∧
    (@Gen.JoinWalkFn.AvailableChannels.get_next Nat (rngOf exGen) (fuelOf 16)
        ⟨⟨[255, 255, 0xF7, 255, 255, 255, 255, 255, 255]⟩, some 11⟩ 3).map (fun o => (o.1, o.2.2)) = some (16, 4) := by
  refine ⟨⟨⟨by decide, by decide, by decide, by decide⟩, by decide, rfl, ?_, ?_⟩, ?_, ?_⟩
  · exact TieA.octets_replicate 9
  · intro p h; cases h
  all_goals decide +kernel

#print axioms tieA_is_exhausted
#print axioms tieA_get_next_channel_inner
#print axioms tieA_avail_get_next
#print axioms tieA_join_channels_walk
#print axioms tieA_walk_keeps_avwf
#print axioms tieA_fixed_select_join
#print axioms tieA_fixed_select_data_biased
#print axioms tieA_fixed_select_join_legal
#print axioms tieA_fixed_join_accept_nonempty

end C09
