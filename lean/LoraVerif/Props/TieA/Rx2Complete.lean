import LoraVerif.Props.TieA.StateBridge
/-!
# Tie A for a whole stateful method: `Session::rx2_complete`

`Gen/SessionFn.lean` holds the state-passing translation of
`Session::rx2_complete(&mut self, configuration: &mut Configuration, region)`: struct values in,
`(Response, Session, Configuration)` out, in the checked arithmetic of `Rt` (`none` = a Rust panic).
`tieA_rx2_complete` proves it equal to the hand model's `rx2Complete` for every well-formed state
(no panic, same response, same session, same configuration).  The proof names neither locals nor
helper methods of the source: the generated definition and whatever helpers the translator emitted are unfolded
(`gen_unfold_helpers_SessionFn`) and both sides are evaluated under a case split on the model's own tests, each
test decided on either side by a fact stated beforehand (`tie_leaf`; `tie_eval`'s `omega` is slow on terms of this size).
-/
set_option linter.unusedSimpArgs false
namespace TieA
open Model

theorem wrap_96 : Rt.wrap .u32 96 = 96 := by decide

theorem sat_bridge {cnt : Int} (h3 : 0 ≤ cnt) (h4 : cnt ≤ 4294967295) :
    ∃ c' : Int, min 4294967295 (cnt + 1) = c' ∧ min (cnt.toNat + 1) 4294967295 = c'.toNat ∧ 1 ≤ c' ∧ c' ≤ 4294967295 := by
  rw [Int.min_def, Nat.min_def]
  split <;> split <;> (refine ⟨_, rfl, ?_, ?_, ?_⟩ <;> omega)

/-- `Session::rx2_complete` (state-passing translation, checked
arithmetic) never panics on a well-formed session and is the model's `rx2Complete`: same response,
same session (counter, ADR count, confirmed flag; the fields the method cannot reach untouched), same
configuration (data rate stepped down exactly when the model steps it down) -/
theorem tieA_rx2_complete (s0 : Session) (gs : Gen.SessionFn.Session) (g : Gen.SessionFn.Configuration) (r : RegionId)
    (hw : SessWF gs) :
    (Gen.SessionFn.Session.rx2_complete gs g (regionOf r)).bind
        (fun o => (respOf o.1).map (fun resp => (resp, sessOf s0 o.2.1, cfgOf o.2.2)))
      = some (rx2Complete (sessOf s0 gs) (cfgOf g) r) := by
  obtain ⟨conf, fu, fd, cnt⟩ := gs
  obtain ⟨dr, d1, j1, j2, tp, off, r2d, r2f, adr⟩ := g
  obtain ⟨h1, h2, h3, h4⟩ := hw
  simp only at h1 h2 h3 h4
  have e2 : Rt.ck .usize (Gen.SessionFn.ADR_ACK_LIMIT + Gen.SessionFn.ADR_ACK_DELAY) = some 96 := by decide
  have e4 : Rt.wrap .u32 Gen.SessionFn.ADR_ACK_LIMIT = 64 := by decide
  have e5 : Rt.wrap .u32 Gen.SessionFn.ADR_ACK_DELAY = 32 := by decide
  obtain ⟨c', hc', hcn, hc1, hc2⟩ := sat_bridge h3 h4
  unfold Gen.SessionFn.Session.rx2_complete
  gen_unfold_helpers_SessionFn
  simp only [Gen.SessionFn.next_lower_datarate, rx2Complete, sessOf, cfgOf, regionOf,
    e2, wrap_96, e4, e5, adr_limit, adr_delay, Rt.satAdd_u32 (Int.add_nonneg h3 Int.one_nonneg),
    Rt.isMultipleOf_pos (show (0 : Int) < 32 by decide), hc', hcn, Option.bind_eq_bind, Option.bind_some, Option.pure_def]
  clear e2 e4 e5 hc' hcn
  -- from here on every fact in the context decides a test of one of the two sides
  by_cases hx : fu = 4294967295
  · subst hx
    rfl
  · have hx' : (fu.toNat == 4294967295) = false := by simp; omega
    have hfu : (fu + 1).toNat = fu.toNat + 1 := by omega
    have e1 := Rt.ck_u32 (x := fu + 1) (by omega) (by omega)
    have r1 : respOf .NoAck = some .noAck := rfl
    have r2 : respOf .RxComplete = some .rxComplete := rfl
    cases adr
    · cases conf <;> tie_leaf
    · by_cases hb : c' ≥ 96
      · have hbn : c'.toNat ≥ 64 + 32 := by omega
        have e3 := Rt.ck_u32 (x := c' - 64) (by omega) (by omega)
        by_cases hm : (c' - 64) % 32 = 0
        · have hmn : (c'.toNat - 64) % 32 = 0 := by omega
          cases hn : nextLowerDatarate r dr.toInt.toNat with
          | none => cases conf <;> tie_leaf
          | some c =>
            have hc := nextLower_toInt hn
            cases conf <;> tie_leaf
        · have hmn : ((c'.toNat - 64) % 32 == 0) = false := by simp; omega
          cases conf <;> tie_leaf
      · have hbn : ¬ c'.toNat ≥ 64 + 32 := by omega
        cases conf <;> tie_leaf

/-- non-vacuity: a session at count 95 with ADR on steps from DR5 to DR4 in EU868 and reports `RxComplete` -/
example :
    (Gen.SessionFn.Session.rx2_complete ⟨false, 7, none, 95⟩ ⟨._5, 1000, 5000, 6000, none, 0, none, none, true⟩ (regionOf .EU868)).map
        (fun o => (o.1, o.2.1.fcnt_up, o.2.1.adr_ack_cnt, o.2.2.data_rate))
      = some (.RxComplete, 8, 96, ._4) := by decide

/-- non-vacuity: counter exhaustion -/
example :
    (Gen.SessionFn.Session.rx2_complete ⟨true, 4294967295, none, 0⟩ ⟨._5, 1000, 5000, 6000, none, 0, none, none, true⟩ (regionOf .EU868)).map
        (fun o => (o.1, o.2.1.fcnt_up))
      = some (.SessionExpired, 4294967295) := by decide

#print axioms tieA_rx2_complete
end TieA
