import LoraVerif.Lemmas.Safe
/-!
# The tie relation and its rules

`Tie R x y`: the generated computation `x : Option α` (`none` = a panic) and the model's `y : M β` fail together or
return results related by `R`.  It is the two-sided sibling of `Model.Tot` / `Safe` / `Post` (Lemmas/Safe.lean) and has
their rules: `pure`, `bind`, `ite`, and one rule per loop combinator of `Rt`, so that the tie of a method is composed
from the ties of what it calls, and a conditional is met once and not once per path through what follows it.  Where the
two sides do not run in step there is `bind_left` / `bind_right` (a step only one side takes), `swap` (a step the model
takes earlier) and `ite_right` (a test split on the model's side only).
`R` is a relation, not a map: besides the reading `b = f a` of the result it carries what the caller needs of the
GENERATED result (`0 ≤ a.1`, `AvWF a.2`), so a tie and its postcondition are one statement about one term.
`iff_map` / `iff_map_post` say what it is in the vocabulary of the whole-method statements (`x.map f = y.toOption`,
`∀ o, x = some o → P o`).

The rules mention `Rt`'s combinators and the two monads only; bodies and steps are variables.  Checked arithmetic needs
no rule: under its bounds `Rt.ck t v` rewrites to `some v`.
-/
namespace TieA
open Model

/-- The model's side is matched first.  Elaborating an application `h a ..` whose type is `Tie R x y`, Lean normalises that
type, and `Tie` unfolds only when its `match` reduces, so the first discriminant is evaluated.  The model's `y` is stuck on
a variable at once.  A generated `x` on a literal argument (`while_step .. (decCmd (3, [b0, ..]))`) is not: it reduces arm
by arm until `Rt.ck .i32 (↑nA + 1)` must be decided for a variable `nA`, and that unfolds the bound 2147483647 in unary
(maximum recursion depth). -/
def Tie {α β} (R : α → β → Prop) (x : Option α) (y : M β) : Prop :=
  match y, x with
  | .error _, none => True
  | .ok b, some a => R a b
  | _, _ => False

namespace Tie
variable {α β γ δ : Type} {R : α → β → Prop} {S : γ → δ → Prop}

theorem pure {a : α} {b : β} (h : R a b) : Tie R (Pure.pure a) (Pure.pure b) := h

/-- how a tie is used where no rule applies: both sides fail, or both return -/
theorem cases {x : Option α} {y : M β} (h : Tie R x y) :
    (x = none ∧ ∃ e, y = .error e) ∨ ∃ a b, x = some a ∧ y = .ok b ∧ R a b := by
  cases x <;> cases y <;> first | exact h.elim | exact .inl ⟨rfl, _, rfl⟩ | exact .inr ⟨_, _, rfl, rfl, h⟩

theorem bind {x : Option α} {y : M β} {k : α → Option γ} {k' : β → M δ}
    (h : Tie R x y) (hk : ∀ a b, R a b → Tie S (k a) (k' b)) : Tie S (x >>= k) (y >>= k') := by
  cases x <;> cases y <;> first | exact h.elim | exact h | exact hk _ _ h

/-- a sub-method already rewritten to the model's -/
theorem toOption (y : M β) : Tie (fun a b => b = a) y.toOption y := by
  cases y <;> first | trivial | rfl

/-- the generated side takes a step more than the model -/
theorem bind_left {x : Option α} {y : M β} {k : α → Option γ} {S : γ → β → Prop}
    (h : Tie R x y) (hk : ∀ a b, R a b → Tie S (k a) (.ok b)) : Tie S (x >>= k) y := by
  cases x <;> cases y <;> first | exact h.elim | exact h | exact hk _ _ h

/-- the model takes a step more than the generated side -/
theorem bind_right {x : Option α} {y : M β} {k' : β → M δ} {S : α → δ → Prop}
    (h : Tie R x y) (hk : ∀ a b, R a b → Tie S (some a) (k' b)) : Tie S x (y >>= k') := by
  cases x <;> cases y <;> first | exact h.elim | exact h | exact hk _ _ h

/-- the model takes a step `z` before `y` that the source takes after it: `Tie` does not see which of two failures came
first -/
theorem swap {x : Option α} {z : M γ} {y : M δ} {k : γ → δ → M β}
    (h : Tie R x (y >>= fun b => z >>= fun c => k c b)) : Tie R x (z >>= fun c => y >>= fun b => k c b) := by
  cases z <;> cases y <;> cases x <;> first | exact h | trivial

theorem ite {p q : Prop} [Decidable p] [Decidable q] {x x' : Option α} {y y' : M β} (hpq : p ↔ q)
    (ht : p → Tie R x y) (hf : ¬ p → Tie R x' y') : Tie R (if p then x else x') (if q then y else y') := by
  by_cases hp : p
  · rw [if_pos hp, if_pos (hpq.mp hp)]; exact ht hp
  · rw [if_neg hp, if_neg (mt hpq.mpr hp)]; exact hf hp

/-- `ite` for the translator's `if decide p` (a Rust `bool` test) -/
theorem ite_decide {p q : Prop} [Decidable p] [Decidable q] {x x' : Option α} {y y' : M β} (hpq : p ↔ q)
    (ht : p → Tie R x y) (hf : ¬ p → Tie R x' y') : Tie R (if decide p = true then x else x') (if q then y else y') :=
  ite (decide_eq_true_iff.trans hpq) (fun h => ht (of_decide_eq_true h)) (fun h => hf (fun hp => h (decide_eq_true hp)))

/-- a test of the model alone: the generated side's test, however it is spelt or nested, is then decided from `q` by
evaluation (`simp (disch := omega) only [if_pos, if_neg, ..]`) -/
theorem ite_right {q : Prop} [Decidable q] {x : Option α} {y y' : M β}
    (ht : q → Tie R x y) (hf : ¬ q → Tie R x y') : Tie R x (if q then y else y') :=
  iteInduction ht hf

/-- the model's own postcondition joins the relation -/
theorem and_post {x : Option α} {y : M β} {P : β → Prop} (h : Tie R x y) (hp : Post y P) :
    Tie (fun a b => R a b ∧ P b) x y := by
  cases x <;> cases y <;> first | exact h | exact ⟨h, hp _ rfl⟩

theorem iff_map {f : α → β} {x : Option α} {y : M β} : Tie (fun a b => b = f a) x y ↔ x.map f = y.toOption := by
  cases x <;> cases y <;> simp [Tie, Except.toOption, eq_comm]

theorem iff_map_post {f : α → β} {P : α → Prop} {x : Option α} {y : M β} :
    Tie (fun a b => b = f a ∧ P a) x y ↔ x.map f = y.toOption ∧ ∀ a, x = some a → P a := by
  cases x <;> cases y <;> simp [Tie, Except.toOption, eq_comm]

/-- one turn of a generated loop (`r` is what its step answers) against a family `y k i` of model computations: a panic on
both sides, another turn with one unit of fuel less on both sides, or an exit with related results -/
def Turn {σ ι : Type} (I : ι → σ → Prop) (R : α → β → Prop) (y : Nat → ι → M β) (k : Nat) (i : ι) : Option (σ ⊕ α) → Prop
  | none => ∃ e, y (k + 1) i = .error e
  | some (.inl s') => ∃ i', I i' s' ∧ y (k + 1) i = y k i'
  | some (.inr a) => ∃ b, y (k + 1) i = .ok b ∧ R a b

section
variable {σ ι : Type} {I : ι → σ → Prop} {y : Nat → ι → M β} {k : Nat} {i : ι}

theorem Turn.fail {e : Fault} (he : y (k + 1) i = .error e) : Turn I R y k i none := ⟨e, he⟩

theorem Turn.next {s' : σ} {i' : ι} (hi : I i' s') (he : y (k + 1) i = y k i') : Turn I R y k i (some (.inl s')) := ⟨i', hi, he⟩

theorem Turn.exit {a : α} {b : β} (he : y (k + 1) i = .ok b) (hr : R a b) : Turn I R y k i (some (.inr a)) := ⟨b, he, hr⟩

end

/-- `loop { .. }` on a fuel against ANY family `y k i` of model computations: the model's loops are recursive functions of
their own, often rotated against the source (the draw at the top, where the source draws before the loop and at the
bottom), so `y` and what `I i s` says of a generated loop state `s` are chosen per loop (`i` is typically the model's
arguments, or the generator state a value in `s` was drawn from). -/
theorem loopM {σ ι : Type} {step : σ → Option (σ ⊕ α)} (I : ι → σ → Prop) (y : Nat → ι → M β)
    (h0 : ∀ i, ∃ e, y 0 i = .error e) (hs : ∀ k i s, I i s → Turn I R y k i (step s)) :
    ∀ k i s, I i s → Tie R (Rt.loopM k step s) (y k i) := by
  intro k
  induction k with
  | zero => intro i s _; obtain ⟨e, he⟩ := h0 i; rw [he]; trivial
  | succ k ih =>
    intro i s h
    have := hs k i s h
    unfold Rt.loopM
    split <;> rename_i hst <;> rw [hst] at this
    · obtain ⟨e, he⟩ := this; rw [he]; trivial
    · obtain ⟨i', hi', he⟩ := this; rw [he]; exact ih _ _ hi'
    · obtain ⟨b, hb, hr⟩ := this; rw [hb]; exact hr

/-- The `_go` lemmas start at any index `i`, which is what their inductions need; nothing else uses them.  The body's tie
is asked below the end of the range where a user needs that bound (`forRange`, `rangeAny`) and outright where the one
user needs none (`rangeAll`). -/
theorem forRange_go {σ τ : Type} {I : σ → τ → Prop} {f : Int → σ → Option σ} {f' : τ → Nat → M τ} (n : Nat)
    (hf : ∀ j s t, j < n → I s t → Tie I (f (j : Int) s) (f' t j)) :
    ∀ (k i : Nat) s t, i + k = n → I s t → Tie I (Rt.forRangeM.go f k (i : Int) s) ((List.range' i k).foldlM f' t) := by
  intro k
  induction k with
  | zero => intro i s t _ h; exact h
  | succ k ih =>
    intro i s t hi h
    rw [List.range'_succ, List.foldlM_cons, Rt.forRangeM.go]
    have := hf i s t (by omega) h
    rcases this.cases with ⟨hx, e, hy⟩ | ⟨s1, t1, hx, hy, h1⟩ <;> rw [hx, hy]
    · trivial
    · rw [show ((i : Int) + 1) = ((i + 1 : Nat) : Int) by omega]
      exact ih (i + 1) s1 t1 (by omega) h1

/-- `for i in 0..n { body }` against `foldlM` over `List.range n`: the loop-carried states stay related -/
theorem forRange {σ τ : Type} {I : σ → τ → Prop} {f : Int → σ → Option σ} {f' : τ → Nat → M τ} (n : Nat) {s : σ} {t : τ}
    (h : I s t) (hf : ∀ j s t, j < n → I s t → Tie I (f (j : Int) s) (f' t j)) :
    Tie I (Rt.forRangeM 0 (n : Int) f s) ((List.range n).foldlM f' t) := by
  have := forRange_go n hf n 0 s t (by omega) h
  rw [List.range_eq_range']
  simpa [Rt.forRangeM] using this

theorem rangeAny_go {f : Int → Option Bool} {f' : Nat → M Bool} (n : Nat)
    (hf : ∀ j, j < n → Tie (fun a b => b = a) (f (j : Int)) (f' j)) :
    ∀ (k i : Nat), i + k = n → Tie (fun a b => b = a) (Rt.rangeAnyM.go f k (i : Int)) (anyM f' (List.range' i k)) := by
  intro k
  induction k with
  | zero => intro i _; rfl
  | succ k ih =>
    intro i hi
    rw [List.range'_succ, Rt.rangeAnyM.go, anyM]
    rcases (hf i (by omega)).cases with ⟨hx, e, hy⟩ | ⟨a, b, hx, hy, rfl⟩ <;> rw [hx, hy]
    · trivial
    · cases b
      · rw [show ((i : Int) + 1) = ((i + 1 : Nat) : Int) by omega]
        exact ih (i + 1) (by omega)
      · rfl

/-- `(0..n).any(f)` against `anyM` over `List.range n` -/
theorem rangeAny {f : Int → Option Bool} {f' : Nat → M Bool} (n : Nat)
    (hf : ∀ j, j < n → Tie (fun a b => b = a) (f (j : Int)) (f' j)) :
    Tie (fun a b => b = a) (Rt.rangeAnyM 0 (n : Int) f) (anyM f' (List.range n)) := by
  have := rangeAny_go n hf n 0 (by omega)
  rw [List.range_eq_range']
  simpa [Rt.rangeAnyM] using this

theorem rangeAll_go {f : Int → Option Bool} {f' : Nat → M Bool} (hf : ∀ j : Nat, Tie (fun a b => b = a) (f (j : Int)) (f' j))
    (n : Nat) : ∀ i : Nat, Tie (fun a b => b = a) (Rt.rangeAllM.go f n (i : Int)) (allM f' (List.range' i n)) := by
  induction n with
  | zero => intro i; rfl
  | succ n ih =>
    intro i
    rw [List.range'_succ, Rt.rangeAllM.go, allM]
    rcases (hf i).cases with ⟨hx, e, hy⟩ | ⟨a, b, hx, hy, rfl⟩ <;> rw [hx, hy]
    · trivial
    · cases b
      · rfl
      · rw [show ((i : Int) + 1) = ((i + 1 : Nat) : Int) by omega]
        exact ih (i + 1)

/-- `(lo..=hi).all(f)` against `allM` over `lo, lo + 1, .., hi` -/
theorem rangeAll {f : Int → Option Bool} {f' : Nat → M Bool} (hf : ∀ j : Nat, Tie (fun a b => b = a) (f (j : Int)) (f' j))
    (lo hi : Nat) : Tie (fun a b => b = a) (Rt.rangeAllM (lo : Int) (hi : Int) f) (allM f' (List.range' lo (hi + 1 - lo))) := by
  have := rangeAll_go hf (hi + 1 - lo) lo
  unfold Rt.rangeAllM
  rwa [show ((hi : Int) + 1 - (lo : Int)).toNat = hi + 1 - lo by omega]

/-! ## For the session and MAC ties

Their fixed statements spell the relation out, result by result (`match y with | .error _ => x = none | .ok b => ∃ .., x = some .. ∧ ..`:
after `split` on that `match`, `error_iff` and `ok_iff`; a lemma stated with a `match` of its own does not unify with theirs),
or as an equation through readings of both results (`x.map f = y.toOption.map g`, `x.bind post = y.toOption.map ex`). -/

theorem ok_iff {x : Option α} {b : β} : Tie R x (.ok b) ↔ ∃ a, x = some a ∧ R a b := by
  cases x with
  | none => exact ⟨False.elim, fun ⟨_, h, _⟩ => nomatch h⟩
  | some a => exact ⟨fun h => ⟨a, rfl, h⟩, fun ⟨_, h, r⟩ => by cases h; exact r⟩

theorem error_iff {x : Option α} {e : Fault} : Tie R x (.error e : M β) ↔ x = none := by
  cases x with
  | none => exact ⟨fun _ => rfl, fun _ => trivial⟩
  | some a => exact ⟨False.elim, fun h => nomatch h⟩

theorem mono {x : Option α} {y : M β} {R' : α → β → Prop} (h : Tie R x y) (hr : ∀ a b, R a b → R' a b) : Tie R' x y := by
  cases x <;> cases y <;> first | exact h | exact hr _ _ h

/-- the lifted generated operation inside the model against the operation itself -/
theorem ofGen (s : String) (x : Option α) : Tie (fun a b => b = a) x (Model.ofGen s x) := by
  cases x <;> first | trivial | rfl

/-- the first step by its tie, the rest by an equation for related results -/
theorem bind_eq_of {ζ : Type} {x : Option α} {y : M β} {k : α → Option γ} {post : γ → Option ζ} {l : β → M δ} {ex : δ → ζ}
    (h1 : Tie R x y) (h2 : ∀ a b, R a b → (k a).bind post = (l b).toOption.map ex) :
    (x.bind k).bind post = (y >>= l).toOption.map ex := by
  rcases h1.cases with ⟨rfl, e, rfl⟩ | ⟨a, b, rfl, rfl, hr⟩
  · rfl
  · exact h2 a b hr

theorem iff_map_map {ζ : Type} {f : α → ζ} {g : β → ζ} {x : Option α} {y : M β} :
    Tie (fun a b => g b = f a) x y ↔ x.map f = y.toOption.map g := by
  cases x <;> cases y <;> simp [Tie, Except.toOption, eq_comm]

end Tie

theorem isSome_of_tie {α β : Type} {x : Option α} {y : M β} {f : α → β} {b : β} (h : x.map f = y.toOption) (hy : y = .ok b) :
    x.isSome = true := by
  obtain ⟨a, rfl, _⟩ := Tie.ok_iff.1 (hy ▸ Tie.iff_map.2 h); rfl

end TieA
