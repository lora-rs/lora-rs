import LoraVerif.Gen.PlanMaskFn
import LoraVerif.Props.TieA.ChannelMask
/-!
# Tie A for `channel_mask_update` of the channel plans (C11 / C08)

`Gen/PlanMaskFn.lean` holds the translation of the CURRENT source of
`FixedChannelPlan::channel_mask_update` (lorawan-device/src/region/fixed_channel_plans/mod.rs, with its helper
`set_125k_channels`) and of `DynamicChannelPlan::channel_mask_update`
(lorawan-device/src/region/dynamic_channel_plans/mod.rs) as state-passing functions over the working copy of the
mask (`&mut ChannelMask<9>`), built from the regenerated bit operations of `Gen.ChannelMaskFn` (`set_bank`,
`get_index`): the range pattern `0..=3`, `ch_mask_ctl as usize * 2`, the `for i in 0..8` loops (`Rt.forRangeM`),
`blocks & (1 << i) != 0`, the early `return None`.

Each is proved EQUAL to the model's `channelMaskUpdate` (`Model/Region.lean`) on a region of that kind of plan,
for every mask of octets (any length), every ChMaskCntl (every `u8`, so 0..7 and beyond) and every ChMask
(every pair of octets = all 2^16 values): the same mask afterwards, `None` (RFU: the mask untouched) on exactly
the same ChMaskCntl values, a panic on one side iff on the other.  The right-hand sides are spelt exactly as the
`MacRegionOps` instance of the model (`Props/TieA/HandleMacs.lean`), under which
`C08.tieA_handle_downlink_macs` is proved.

The lockstep below runs on masks written from the model's side (`G l`, a model mask as a generated one) and concludes
EQUALITY of generated masks, which the caller's `post` needs; `ChannelMask.lean` reads the other way (`natsOf` of a
generated mask of octets), which loses the mask itself.  Hence `set_bank` is tied once in each direction (`set_bank_G`
here, `CMask.set_bank_tie` there); `G_natsOf` is the bridge used at the end.
-/
-- the `u8` bounds `hc1` and the upper halves of `hb0`, `hb1` are part of the statements below; the proofs do not need them
set_option linter.unusedVariables false
-- `shl_usize_1` serves the spelling `ctl << 1` of `ctl * 2` only
set_option linter.unusedSimpArgs false
namespace TieA.PlanMask
open Model TieA.CMask Rt.OfNat
open Gen.ChannelMaskFn Gen.PlanMaskFn

/-- a model mask as a generated one -/
def G (l : List Nat) : ChannelMask := ⟨l.map Int.ofNat⟩

/-- a model result as a generated one (`none` = a panic) -/
def lift (r : M Mask) : Option ChannelMask := r.toOption.map G

theorem G_natsOf (m : ChannelMask) (hm : Octets m._0) : G (natsOf m._0) = m := by
  cases m with
  | mk l => simp only [G]; congr 1; exact ofNat_natsOf l hm

theorem set_bank_G (l : List Nat) (n w : Nat) :
    ChannelMask.set_bank (G l) (n : Int) (w : Int) = lift (Mask.setBank l n w) := by
  unfold ChannelMask.set_bank Mask.setBank lift G
  rw [show Rt.setIdx (l.map Int.ofNat) (n : Int) (w : Int) = _ from Rt.setIdx_map Int.ofNat l n w]
  by_cases h : n < l.length <;> simp [h, Except.toOption, Model.panic]

/-- one bank write on either side, then continuations that agree on every mask; the bank number of the generated side is
whatever expression the source computes it by (`hn`) -/
theorem step {α β} (l : List Nat) {i : Int} (n w : Nat) (hn : i = n) {f : ChannelMask → Option β} {g : Mask → M α}
    {r : α → β} (h : ∀ l', f (G l') = (g l').toOption.map r) :
    (ChannelMask.set_bank (G l) i (w : Int)).bind f = (Mask.setBank l n w >>= g).toOption.map r := by
  rw [hn, set_bank_G]
  cases Mask.setBank l n w with
  | error e => rfl
  | ok l' => exact h l'

/-- a list of bank writes in order, on the generated side -/
def gsetBanks : ChannelMask → List (Nat × Nat) → Option ChannelMask
  | m, [] => some m
  | m, (i, v) :: rest => (ChannelMask.set_bank m (i : Int) (v : Int)).bind fun m' => gsetBanks m' rest

theorem steps {α β} {f : ChannelMask → Option β} {g : Mask → M α} {r : α → β}
    (h : ∀ l, f (G l) = (g l).toOption.map r) (ps : List (Nat × Nat)) :
    ∀ l : List Nat, (gsetBanks (G l) ps).bind f = (setBanks l ps >>= g).toOption.map r := by
  induction ps with
  | nil => exact h
  | cons p rest ih =>
    intro l
    obtain ⟨i, v⟩ := p
    rw [gsetBanks, setBanks, Option.bind_assoc, bind_assoc]
    exact step l i v rfl ih

theorem gsetBanks_append (a b : List (Nat × Nat)) : ∀ m, gsetBanks m (a ++ b) = (gsetBanks m a).bind fun m' => gsetBanks m' b := by
  induction a with
  | nil => intro m; simp [gsetBanks]
  | cons p rest ih =>
    intro m
    obtain ⟨i, v⟩ := p
    simp only [List.cons_append, gsetBanks]
    cases ChannelMask.set_bank m (i : Int) (v : Int) with
    | none => rfl
    | some m' => simp [ih m']

/-- a `for i in lo..hi { channel_mask.set_bank(i, w(i)) }` loop = the writes in order -/
theorem for_banks (f : Int → ChannelMask → Option ChannelMask) (w : Nat → Nat) (k : Nat) :
    ∀ (i : Nat) (m : ChannelMask),
      (∀ (j : Nat) m', i ≤ j → j < i + k → f (j : Int) m' = ChannelMask.set_bank m' (j : Int) (w j : Int)) →
      Rt.forRangeM.go f k (i : Int) m = gsetBanks m ((List.range' i k).map fun j => (j, w j)) := by
  induction k with
  | zero => intro i m _; simp [Rt.forRangeM.go, gsetBanks]
  | succ k ih =>
    intro i m hf
    simp only [Rt.forRangeM.go, List.range'_succ, List.map_cons, gsetBanks]
    rw [hf i m (by omega) (by omega)]
    cases h : ChannelMask.set_bank m (i : Int) (w i : Int) with
    | none => rfl
    | some m' =>
      have := ih (i + 1) m' (fun j m'' h1 h2 => hf j m'' (by omega) (by omega))
      simp only [Option.bind_some]
      rw [← this]; congr 1

theorem for_banks_0_8 (f : Int → ChannelMask → Option ChannelMask) (w : Nat → Nat) (m : ChannelMask)
    (hf : ∀ (j : Nat) m', j < 8 → f (j : Int) m' = ChannelMask.set_bank m' (j : Int) (w j : Int)) :
    Rt.forRangeM 0 8 f m = gsetBanks m ((List.range 8).map fun j => (j, w j)) := by
  have := for_banks f w 8 0 m (fun j m' _ h => hf j m' (by omega))
  rw [List.range_eq_range']
  exact this


/-- what the caller sees: `Some(())` and the updated mask, or `None` (RFU) and the mask untouched — spelt as in the
model's `MacRegionOps` instance -/
def post (m : ChannelMask) (r : Option Mask) : Option Unit × ChannelMask :=
  match r with
  | some m' => (some (), G m')
  | none => (none, m)

theorem ok_eq_pure {α} (a : α) : (Except.ok a : M α) = pure a := rfl

theorem get0 (a b : Int) : ChannelMask.get_index ⟨[a, b]⟩ 0 = some a := rfl
theorem get1 (a b : Int) : ChannelMask.get_index ⟨[a, b]⟩ 1 = some b := rfl

theorem range8 (w : Nat → Nat) : (List.range 8).map (fun j => (j, w j))
    = [(0, w 0), (1, w 1), (2, w 2), (3, w 3), (4, w 4), (5, w 5), (6, w 6), (7, w 7)] := rfl

/-- `x << 1` in `usize` (a re-spelling of `x * 2`) -/
theorem shl_usize_1 {x : Int} (h1 : 0 ≤ x) (h2 : x ≤ 4294967295) : Rt.shlC .usize x 1 = some (x * 2) :=
  Rt.shlC_eq (t := .usize) (k := 1) (by decide) (by decide) (show (0 : Int) ≤ x * 2 by omega)
    (show x * 2 ≤ 18446744073709551615 by omega)

theorem go_zero {σ} (f : Int → σ → Option σ) (i : Int) (s : σ) : Rt.forRangeM.go f 0 i s = some s := rfl
theorem for_eq_go {σ} (lo hi : Int) (f : Int → σ → Option σ) (s : σ) : Rt.forRangeM lo hi f s = Rt.forRangeM.go f (hi - lo).toNat lo s := rfl

/-- a `for i in 0..8` loop of bank writes on the generated side, the same writes as a list on the model's -/
theorem for_steps {α β} {f : ChannelMask → Option β} {g : Mask → M α} {r : α → β}
    (F : Int → ChannelMask → Option ChannelMask) (w : Nat → Nat) (l : List Nat)
    (hF : ∀ (j : Nat) m', j < 8 → F (j : Int) m' = ChannelMask.set_bank m' (j : Int) (w j : Int))
    (h : ∀ l', f (G l') = (g l').toOption.map r) :
    (Rt.forRangeM 0 8 F (G l)).bind f = (setBanks l ((List.range 8).map fun j => (j, w j)) >>= g).toOption.map r := by
  rw [for_banks_0_8 F w (G l) hF]
  exact steps h _ l

theorem dynamic_nat (rs : RegionState) (p : DynPlan) (hrs : rs.plan = .dyn p) (self : DynamicChannelPlan)
    (l : List Nat) (k n0 n1 : Nat) :
    DynamicChannelPlan.channel_mask_update self (G l) (k : Int) ⟨[(n0 : Int), (n1 : Int)]⟩
      = (channelMaskUpdate rs l k n0 n1).toOption.map (post (G l)) := by
  simp only [channelMaskUpdate, hrs, DynamicChannelPlan.channel_mask_update, decide_eq_true_eq, beq_iff_eq,
    get0, get1, Option.bind_eq_bind, Option.bind_some]
  rcases (by omega : k = 0 ∨ k = 6 ∨ (k ≠ 0 ∧ k ≠ 6)) with rfl | rfl | h
  · exact step l 0 n0 rfl fun l => step l 1 n1 rfl fun _ => rfl
  · exact for_steps _ (fun _ => 255) l (fun _ _ _ => rfl) fun _ => rfl
  · rw [if_neg (by omega), if_neg (by omega), if_neg h.1, if_neg h.2]; rfl

/-- `set_125k_channels(enabled, extra)`: banks 0..7 all ones or all zeros, bank 8 from the first octet of `extra` -/
theorem set_125k_steps {α β} {f : ChannelMask → Option β} {g : Mask → M α} {r : α → β}
    (self : FixedChannelPlan) (l : List Nat) (en : Bool) (n0 n1 : Nat) (h : ∀ l', f (G l') = (g l').toOption.map r) :
    (FixedChannelPlan.set_125k_channels self (G l) en ⟨[(n0 : Int), (n1 : Int)]⟩).bind f
      = (setBanks l ((List.range 8).map fun i => (i, if en then 255 else 0)) >>= fun m => m.setBank 8 n0 >>= g).toOption.map r := by
  rw [← steps (f := fun cm => (ChannelMask.set_bank cm 8 n0).bind f) (fun l => step l 8 n0 rfl h)]
  cases en <;>
    simp only [FixedChannelPlan.set_125k_channels, get0, range8, gsetBanks, Option.bind_eq_bind, Option.bind_assoc,
      Option.bind_some, if_true, Bool.false_eq_true, if_false] <;> rfl

theorem fixed_nat (rs : RegionState) (p : FixPlan) (hrs : rs.plan = .fix p) (self : FixedChannelPlan)
    (l : List Nat) (k n0 n1 : Nat) :
    FixedChannelPlan.channel_mask_update self (G l) (k : Int) ⟨[(n0 : Int), (n1 : Int)]⟩
      = (channelMaskUpdate rs l k n0 n1).toOption.map (post (G l)) := by
  simp only [channelMaskUpdate, hrs, FixedChannelPlan.channel_mask_update, decide_eq_true_eq, beq_iff_eq,
    get0, get1, Option.bind_eq_bind, Option.bind_some]
  rcases (by omega : k ≤ 3 ∨ k = 4 ∨ k = 5 ∨ k = 6 ∨ k = 7 ∨ 8 ≤ k) with h | rfl | rfl | rfl | rfl | h
  · rw [if_pos (by omega), if_pos h]
    simp (disch := omega) only [Rt.ck_usize, shl_usize_1, Option.bind_some]
    exact step l (k * 2) n0 (by omega) fun l => step l (k * 2 + 1) n1 (by omega) fun _ => rfl
  · exact step l 8 n0 rfl fun _ => rfl
  · -- bank `j` is `if blocks & (1 << j) != 0 { 0xFF } else { 0x00 }`
    refine for_steps _ (fun j => if n0.testBit j then 255 else 0) l (fun j m' hj => ?_) fun l => step l 8 n0 rfl fun _ => rfl
    simp only [(flag_u8 ⟨j, hj⟩).1, ne_eq, ite_not, testBit_flag, Option.bind_some]
    cases n0.testBit j <;> rfl
  · exact set_125k_steps self l true n0 n1 fun _ => rfl
  · exact set_125k_steps self l false n0 n1 fun _ => rfl
  · simp (disch := omega) only [if_neg]; rfl

end TieA.PlanMask

namespace C11
open Model TieA.CMask TieA.PlanMask
open Gen.ChannelMaskFn Gen.PlanMaskFn

/-- **Tie A, fixed plans (US915 / AU915).**  `FixedChannelPlan::channel_mask_update` as the current source has it
(with `set_125k_channels` and the regenerated `ChannelMask::{set_bank, get_index}`) is the model's
`channelMaskUpdate` on a region with a fixed plan: for EVERY working mask of octets (any length), EVERY
ChMaskCntl (every `u8`) and EVERY ChMask (octets `b0`, `b1`: all 2^16 values) — ChMaskCntl 0..3 write the two
octets to banks `2c`, `2c+1`; 4 writes `b0` to bank 8 (`b1` ignored); 5 sets bank `i` to 0xFF / 0x00 by bit `i` of
`b0` and bank 8 to `b0`; 6 / 7 set banks 0..7 to 0xFF / 0x00 and bank 8 to `b0`; every other value answers `None`
with the mask untouched; a panic (`none`) on one side iff on the other. -/
theorem tieA_fixed_channel_mask_update (rs : RegionState) (p : FixPlan) (hrs : rs.plan = .fix p)
    (self : FixedChannelPlan) (m : ChannelMask) (hm : Octets m._0)
    (cntl : Int) (hc0 : 0 ≤ cntl) (hc1 : cntl ≤ 255)
    (b0 b1 : Int) (hb0 : 0 ≤ b0 ∧ b0 ≤ 255) (hb1 : 0 ≤ b1 ∧ b1 ≤ 255) :
    FixedChannelPlan.channel_mask_update self m cntl ⟨[b0, b1]⟩
      = (channelMaskUpdate rs (natsOf m._0) cntl.toNat b0.toNat b1.toNat).toOption.map fun r =>
          match r with
          | some m' => (some (), ⟨m'.map Int.ofNat⟩)
          | none => (none, m) := by
  have := fixed_nat rs p hrs self (natsOf m._0) cntl.toNat b0.toNat b1.toNat
  rw [G_natsOf m hm, Int.toNat_of_nonneg hc0, Int.toNat_of_nonneg hb0.1, Int.toNat_of_nonneg hb1.1] at this
  exact this

/-- **Tie A, dynamic plans (EU868, EU433, IN865, AS923-x).**  `DynamicChannelPlan::channel_mask_update` as the
current source has it is the model's `channelMaskUpdate` on a region with a dynamic plan, for EVERY working mask
of octets, EVERY ChMaskCntl (every `u8`) and EVERY ChMask: ChMaskCntl 0 writes the two octets to banks 0 and 1,
6 sets banks 0..7 to 0xFF, every other value (1..5, 7 and beyond) answers `None` with the mask untouched. -/
theorem tieA_dynamic_channel_mask_update (rs : RegionState) (p : DynPlan) (hrs : rs.plan = .dyn p)
    (self : DynamicChannelPlan) (m : ChannelMask) (hm : Octets m._0)
    (cntl : Int) (hc0 : 0 ≤ cntl) (hc1 : cntl ≤ 255)
    (b0 b1 : Int) (hb0 : 0 ≤ b0 ∧ b0 ≤ 255) (hb1 : 0 ≤ b1 ∧ b1 ≤ 255) :
    DynamicChannelPlan.channel_mask_update self m cntl ⟨[b0, b1]⟩
      = (channelMaskUpdate rs (natsOf m._0) cntl.toNat b0.toNat b1.toNat).toOption.map fun r =>
          match r with
          | some m' => (some (), ⟨m'.map Int.ofNat⟩)
          | none => (none, m) := by
  have := dynamic_nat rs p hrs self (natsOf m._0) cntl.toNat b0.toNat b1.toNat
  rw [G_natsOf m hm, Int.toNat_of_nonneg hc0, Int.toNat_of_nonneg hb0.1, Int.toNat_of_nonneg hb1.1] at this
  exact this

/-- US915, all 72 channels on; ChMaskCntl 5 with ChMask 0x0002 (sub-band 2): banks 0..7 = 00 FF 00 .. 00, bank 8 = 0x02;
ChMaskCntl 7 with ChMask 0x00FF: the 125 kHz channels off, the eight 500 kHz channels on; ChMaskCntl 8 is RFU;
EU868: ChMaskCntl 0 writes the 16 channels, 6 switches all on, 5 is RFU -/
example :
    FixedChannelPlan.channel_mask_update ⟨⟩ ⟨List.replicate 9 255⟩ 5 ⟨[2, 0]⟩ = some (some (), ⟨[0, 255, 0, 0, 0, 0, 0, 0, 2]⟩) ∧
    FixedChannelPlan.channel_mask_update ⟨⟩ ⟨List.replicate 9 255⟩ 7 ⟨[255, 0]⟩ = some (some (), ⟨[0, 0, 0, 0, 0, 0, 0, 0, 255]⟩) ∧
    FixedChannelPlan.channel_mask_update ⟨⟩ ⟨List.replicate 9 255⟩ 2 ⟨[0x34, 0x12]⟩
      = some (some (), ⟨[255, 255, 255, 255, 0x34, 0x12, 255, 255, 255]⟩) ∧
    FixedChannelPlan.channel_mask_update ⟨⟩ ⟨List.replicate 9 255⟩ 8 ⟨[255, 0]⟩ = some (none, ⟨List.replicate 9 255⟩) ∧
    DynamicChannelPlan.channel_mask_update ⟨⟩ ⟨List.replicate 9 0⟩ 0 ⟨[7, 0]⟩ = some (some (), ⟨[7, 0, 0, 0, 0, 0, 0, 0, 0]⟩) ∧
    DynamicChannelPlan.channel_mask_update ⟨⟩ ⟨List.replicate 9 0⟩ 6 ⟨[0, 0]⟩ = some (some (), ⟨[255, 255, 255, 255, 255, 255, 255, 255, 0]⟩) ∧
    DynamicChannelPlan.channel_mask_update ⟨⟩ ⟨List.replicate 9 0⟩ 5 ⟨[1, 0]⟩ = some (none, ⟨List.replicate 9 0⟩) ∧
    -- a mask shorter than the banks written: the out-of-bounds panic of `set_bank`
    FixedChannelPlan.channel_mask_update ⟨⟩ ⟨[255, 255]⟩ 4 ⟨[1, 0]⟩ = none := by
  decide

/-- the hypotheses of the two theorems are satisfiable: the initial states of US915 and EU868 -/
example : (∃ p, (RegionState.init .US915).plan = .fix p) ∧ (∃ p, (RegionState.init .EU868).plan = .dyn p) ∧
    Octets (List.replicate 9 255) :=
  ⟨⟨_, rfl⟩, ⟨_, rfl⟩, TieA.octets_replicate 9⟩

/-- the model side of the same instance, through the theorem: ChMaskCntl 5 / ChMask 0x0002 on US915 -/
example : (channelMaskUpdate (RegionState.init .US915) (List.replicate 9 255) 5 2 0).toOption
    = some (some [0, 255, 0, 0, 0, 0, 0, 0, 2]) := by decide

#print axioms tieA_fixed_channel_mask_update
#print axioms tieA_dynamic_channel_mask_update
end C11

namespace C08
open Model TieA.CMask
open Gen.ChannelMaskFn Gen.PlanMaskFn

/-- C08 (what a LinkADRReq block does to the mask): the region method `handle_downlink_macs` calls per LinkADRReq,
regenerated, is the model's — see `C11.tieA_fixed_channel_mask_update` -/
theorem tieA_fixed_channel_mask_update (rs : RegionState) (p : FixPlan) (hrs : rs.plan = .fix p)
    (self : FixedChannelPlan) (m : ChannelMask) (hm : Octets m._0)
    (cntl : Int) (hc0 : 0 ≤ cntl) (hc1 : cntl ≤ 255)
    (b0 b1 : Int) (hb0 : 0 ≤ b0 ∧ b0 ≤ 255) (hb1 : 0 ≤ b1 ∧ b1 ≤ 255) :
    FixedChannelPlan.channel_mask_update self m cntl ⟨[b0, b1]⟩
      = (channelMaskUpdate rs (natsOf m._0) cntl.toNat b0.toNat b1.toNat).toOption.map fun r =>
          match r with
          | some m' => (some (), ⟨m'.map Int.ofNat⟩)
          | none => (none, m) :=
  C11.tieA_fixed_channel_mask_update rs p hrs self m hm cntl hc0 hc1 b0 b1 hb0 hb1

theorem tieA_dynamic_channel_mask_update (rs : RegionState) (p : DynPlan) (hrs : rs.plan = .dyn p)
    (self : DynamicChannelPlan) (m : ChannelMask) (hm : Octets m._0)
    (cntl : Int) (hc0 : 0 ≤ cntl) (hc1 : cntl ≤ 255)
    (b0 b1 : Int) (hb0 : 0 ≤ b0 ∧ b0 ≤ 255) (hb1 : 0 ≤ b1 ∧ b1 ≤ 255) :
    DynamicChannelPlan.channel_mask_update self m cntl ⟨[b0, b1]⟩
      = (channelMaskUpdate rs (natsOf m._0) cntl.toNat b0.toNat b1.toNat).toOption.map fun r =>
          match r with
          | some m' => (some (), ⟨m'.map Int.ofNat⟩)
          | none => (none, m) :=
  C11.tieA_dynamic_channel_mask_update rs p hrs self m hm cntl hc0 hc1 b0 b1 hb0 hb1

#print axioms tieA_fixed_channel_mask_update
#print axioms tieA_dynamic_channel_mask_update
end C08
