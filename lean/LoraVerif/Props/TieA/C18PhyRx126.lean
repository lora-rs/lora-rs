import LoraVerif.Model.PhyRx
import LoraVerif.Gen.PhyRxFn126
import LoraVerif.Props.TieA.C18RadioBuffer
import LoraVerif.Lemmas.PhyTieA
import LoraVerif.Props.C18
/-!
# Tie A for `get_rx_payload` of the SX126x driver (lora-phy/src/sx126x/mod.rs) — property C18

`Gen/PhyRxFn126.lean` holds the translation (I/O mode, `Rt.Phy.IoM`) of the CURRENT source of
`Sx126x::get_rx_payload` with its helpers (`reg_r_8`, `OpStatusErrorMask::is_error`).  In the I/O
mode the caller's `&mut [u8]` receive buffer is passed by value and handed back next to the `Ok` value; a
read INTO `receiving_buffer[..n]` is `Rt.slice` (the slice expression, which may panic) → the transaction →
`Rt.copyFromSlice` (write-back).

`tieA_get_rx_payload_sx126x` runs the regenerated method on the wire-level chip `chipDev c` (for EVERY
chip content `c : Chip126`: status byte, PayloadLengthRx, RxStartBufferPointer, register 0x0702, 256-byte
data buffer with its wrapping read pointer), every caller buffer, both header modes and every request
prefix, and proves it agrees with the hand model `getRxPayload126` (fault-free run): same
Ok(n) / Err(OpError status) / Err(PayloadSizeMismatch) / panic, same bytes in the caller's buffer, and the
same requests in the same order, on Ok (GetRxBufferStatus, [ReadRegister 0x0702], ReadBuffer at the
reported offset for exactly n bytes, each followed by the busy wait) and on Err (no ReadBuffer; no register
read after an error status).
-/
namespace C18
open Model.PhyRx Rt.Phy Gen.PhyRxFn126 Gen.PhyErr
open TieA.Phy (pure_bind_app ofOpt_some_bind_app bind_assoc_app)

/-- a byte on the wire as the generated code sees it -/
def wireOf (b : UInt8) : Int := (b.toNat : Int)

/-- the wire-level SX126x answering the three reads of the packet fetch (datasheet 13.5.2 GetRxBufferStatus =
0x13: status, PayloadLengthRx, RxStartBufferPointer; 13.2.2 ReadRegister = 0x1D at 0x0702; 13.2.4 ReadBuffer =
0x1E offset NOP: the data buffer from `offset`, wrapping at 256); it has no state of its own here -/
def chipDev (c : Chip126) : Dev Unit := fun _ w n =>
  (match w with
   | [19] => ([c.status, c.rxLen, c.rxStart].map wireOf).take n
   | [29, 7, 2, 0] => ([c.regPayloadLen].map wireOf).take n
   | [30, off, 0] => (chipRead c.buffer off.toNat n).map wireOf
   | _ => List.replicate n 0, ())

/-- the model's error for a generated `RadioError` -/
def errOf : RadioError → RadioErr
  | .OpError s => .opError (byteOf s)
  | .PayloadSizeMismatch a b => .payloadSizeMismatch a.toNat b.toNat
  | .Busy => .busy
  | _ => .spi

/-- what it means for a run of the generated method (from request prefix `log`, caller buffer `gbuf`) to be
the model's answer `m`, with `reqs` the requests expected on `Ok` and `ereqs` those expected on `Err` -/
def Agrees (g : Option (Except RadioError (Int × List Int) × Unit × List Ev)) (gbuf : List Int) (log reqs ereqs : List Ev) (m : Res) : Prop :=
  match g with
  | none => ∃ s, m.out = .panic s
  | some (.error e, _, log') => m.out = .err (errOf e) ∧ m.buf = bytesOf gbuf ∧ log' = log ++ ereqs
  | some (.ok (n, b), _, log') => m.out = .ok n.toNat ∧ m.buf = bytesOf b ∧ b.length = gbuf.length ∧ log' = log ++ reqs

/- `byteOf` / `bytesOf` / `wireOf`-map are `Model.Phy.byte` / `TieA.Phy.toBytes` / `TieA.Phy.toInts` under this property's names -/
theorem byteOf_wireOf (b : UInt8) : byteOf (wireOf b) = b := TieA.Phy.byte_toNat b

theorem bytesOf_map_wireOf (l : List UInt8) : bytesOf (l.map wireOf) = l := TieA.Phy.toBytes_toInts l

/-- `OpStatusErrorMask::is_error` of the current source is the model's `isError`, for all 256 status bytes -/
theorem tieA_is_error (s : UInt8) : OpStatusErrorMask.is_error (wireOf s) = isError s := by
  revert s; apply Lora.uint8_forall; decide +kernel

/-- the requests of a fetch of `n` bytes at the reported offset -/
def reqs126 (c : Chip126) (implicit : Bool) (n : Nat) : List Ev :=
  [.spi [19] 3, .busy] ++ (if implicit then [.spi [29, 7, 2, 0] 1, .busy] else []) ++ [.spi [30, wireOf c.rxStart, 0] n, .busy]

theorem wireOf_toNat (b : UInt8) : (wireOf b).toNat = b.toNat := by simp [wireOf]

theorem slice_wire (l : List Int) (n : Nat) (h : ¬ l.length < n) : Rt.slice l 0 (n : Int) = some (l.take n) := by
  have h' : (0 : Int) ≤ 0 ∧ (0 : Int) ≤ (n : Int) ∧ (n : Int) ≤ (l.length : Int) := by omega
  simp only [Rt.slice]; rw [if_pos h']; simp

theorem copy_wire (l src : List Int) (n : Nat) (hs : src.length = n) (h : ¬ l.length < n) :
    Rt.copyFromSlice l 0 (n : Int) src = some (src ++ l.drop n) := by
  have h' : (0 : Int) ≤ 0 ∧ (0 : Int) ≤ (n : Int) ∧ (n : Int) ≤ (l.length : Int) ∧ (src.length : Int) = (n : Int) - 0 := by omega
  simp only [Rt.copyFromSlice]; rw [if_pos h']; simp

theorem take_chip (mem : Nat → UInt8) (off n : Nat) :
    List.take n (List.map wireOf (chipRead mem off n)) = List.map wireOf (chipRead mem off n) :=
  List.take_of_length_le (by simp [chipRead_length])

theorem readWithStatus_bind_app {ε σ β : Type} (w buf : List Int) (f : Int × List Int → IoM ε σ β) (dev : Dev σ) (s : σ) (log : List Ev) :
    ((readWithStatus w buf : IoM ε σ (Int × List Int)) >>= f) dev s log =
      f ((fill [0] (dev s w (1 + buf.length)).1).headD 0, fill buf ((dev s w (1 + buf.length)).1.drop 1)) dev
        (dev s w (1 + buf.length)).2 (log ++ [Ev.spi w (1 + buf.length), Ev.busy]) := by
  simp [readWithStatus, xfer, waitOnBusy, TieA.Phy.bind_def, TieA.Phy.pure_def, IoM.bind, IoM.pure]

theorem chip_status (c : Chip126) : chipDev c () [19] 3 = ([wireOf c.status, wireOf c.rxLen, wireOf c.rxStart], ()) := rfl

/-- `let payload_length = if implicit { reg_r_8(PayloadLength)? } else { rx_len }`, followed by any continuation:
the continuation runs on `len126`, after the register read in implicit-header mode -/
theorem len_step {β : Type} (self : Sx126x) (c : Chip126) (imp : Bool) (K : Int → IoM RadioError Unit β) (log : List Ev) :
    ((if imp = true then Sx126x.reg_r_8 self Gen.PhyCodes126.Register.PayloadLength else pure (wireOf c.rxLen)) >>= K)
        (chipDev c) () log =
      K ((len126 c imp : Nat) : Int) (chipDev c) () (log ++ if imp then [.spi [29, 7, 2, 0] 1, .busy] else []) := by
  have o2 : Gen.PhyCodes126.OpCode.value .ReadRegister = 29 := by decide
  have r1 : Gen.PhyCodes126.Register.addr1 .PayloadLength = some 7 := by decide
  have r2 : Gen.PhyCodes126.Register.addr2 .PayloadLength = 2 := by decide
  cases imp
  · simp [len126, wireOf]
  · gen_unfold_helpers_PhyRxFn126
    simp [len126, wireOf, o2, r1, r2, chipDev, fill, Rt.idx]

/-- the requests of a refused fetch: the status read alone (`OpError`), or with the length read-back before the
`PayloadSizeMismatch` -/
def ereqs126 (c : Chip126) (implicit : Bool) : List Ev :=
  [.spi [19] 3, .busy] ++ (if implicit && !isError c.status then [.spi [29, 7, 2, 0] 1, .busy] else [])

theorem tieA_get_rx_payload_sx126x (self : Sx126x) (p : PacketParams) (c : Chip126) (gbuf : List Int) (log : List Ev) :
    Agrees (Sx126x.get_rx_payload self p gbuf (chipDev c) () log) gbuf log
      (reqs126 c p.implicit_header (if p.implicit_header then c.regPayloadLen.toNat else c.rxLen.toNat))
      (ereqs126 c p.implicit_header)
      (getRxPayload126 c p.implicit_header none (bytesOf gbuf)) := by
  obtain ⟨pre, imp, pl, crc, iq⟩ := p
  have hie := tieA_is_error c.status
  have o1 : Gen.PhyCodes126.OpCode.value .GetRxBufferStatus = 19 := by decide
  have o3 : Gen.PhyCodes126.OpCode.value .ReadBuffer = 30 := by decide
  have e3 : 1 + (List.replicate (Int.toNat 2) (0 : Int)).length = 3 := rfl
  unfold Sx126x.get_rx_payload
  simp only [getRxPayload126_none, o1, o3, readWithStatus_bind_app, e3, chip_status]
  simp only [fill, List.length_cons, List.length_nil, List.take, List.drop, List.headD, List.replicate, Int.toNat,
    List.append_nil, hie]
  have i0 : ∀ a b : Int, Rt.idx [a, b] 0 = some a := fun a b => rfl
  have i1 : ∀ a b : Int, Rt.idx [a, b] 1 = some b := fun a b => rfl
  by_cases he : isError c.status = true
  · simp [he, Agrees, errOf, ereqs126, byteOf_wireOf]
  · simp only [he, Bool.false_eq_true, if_false, pure_bind_app, i0, i1, ofOpt_some_bind_app, len_step]
    rw [show (if imp = true then c.regPayloadLen.toNat else c.rxLen.toNat) = len126 c imp from rfl]
    generalize len126 c imp = n
    by_cases hl : gbuf.length < n
    · simp [hl, he, Agrees, errOf, ereqs126]
    · have e1 := slice_wire gbuf n hl
      have e2 : (gbuf.take n).length = n := by simp; omega
      have e3 := copy_wire gbuf ((chipRead c.buffer c.rxStart.toNat n).map wireOf) n (by simp [chipRead_length]) hl
      have e4 : sliceTo (bytesOf gbuf) n = some ((bytesOf gbuf).take n, (bytesOf gbuf).drop n) := by
        simp only [sliceTo, bytesOf_length]; rw [if_pos (by omega)]
      simp [hl, e1, e2, e3, e4, chipDev, fill, take_chip, wireOf_toNat, chipRead_length, readInto, failsAt, Agrees, reqs126,
        bytesOf_append, bytesOf_map_wireOf, bytesOf_drop]
      omega

/-- non-vacuity: a chip reporting 3 bytes at offset 254 (the read pointer wraps: 254, 255, 0) into a 5-byte buffer,
explicit header: `Ok(3)`, three bytes delivered, the rest untouched, two transactions with their busy waits -/
example :
    Sx126x.get_rx_payload ⟨⟨⟨⟩, none, false, false⟩⟩ ⟨8, false, 0, true, false⟩ [9, 9, 9, 9, 9]
        (chipDev ⟨4, 3, 254, 7, fun i => UInt8.ofNat i⟩) () []
      = some (.ok (3, [254, 255, 0, 9, 9]), (), [.spi [19] 3, .busy, .spi [30, 254, 0] 3, .busy]) := by rfl
/-- … a 2-byte buffer is refused before any read of the data buffer … -/
example :
    Sx126x.get_rx_payload ⟨⟨⟨⟩, none, false, false⟩⟩ ⟨8, false, 0, true, false⟩ [9, 9]
        (chipDev ⟨4, 3, 254, 7, fun i => UInt8.ofNat i⟩) () []
      = some (.error (.PayloadSizeMismatch 3 2), (), [.spi [19] 3, .busy]) := by rfl
/-- … and a status byte with command status 5 (execution failure) is `OpError` -/
example :
    Sx126x.get_rx_payload ⟨⟨⟨⟩, none, false, false⟩⟩ ⟨8, true, 0, true, false⟩ [9, 9]
        (chipDev ⟨0x2a, 3, 254, 7, fun i => UInt8.ofNat i⟩) () []
      = some (.error (.OpError 42), (), [.spi [19] 3, .busy]) := by rfl

end C18
