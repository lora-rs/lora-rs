import LoraVerif.Props.TieA.HandleMacs
import LoraVerif.Props.TieA.MatchTactics
/-!
# Tie A for `Session::handle_downlink_macs` — the RXParamSetupReq arm

One iteration of the regenerated dispatch loop (`Gen/SessionMacs.lean`) on an RXParamSetupReq is the model's
`rxParamSetup` (`Model/Mac.lean`); what that says of the three fields and the status bits is at
`C08.tieA_rx_param_setup` (`HandleMacsLoop.lean`).  The two `DLSettings` accessors are swept over the 256 octets; the RX2
data rate the generated code selects is named by `gen_match` and compared under a case split on the region's answer.
-/
set_option linter.unusedSimpArgs false
namespace TieA.Macs
open Model Gen.Region

/-- `DLSettings::rx1_dr_offset` on an octet: bits 6..4 -/
theorem dl_rx1_dr_offset : ∀ d : Nat, d < 256 →
    Gen.SessionMacs.DLSettings.rx1_dr_offset ⟨(d : Int)⟩ = some (((d / 16) % 8 : Nat) : Int) := by
  decide +kernel

/-- `DLSettings::rx2_data_rate` on an octet: the low nibble as a `DR` -/
theorem dl_rx2_data_rate : ∀ d : Nat, d < 256 →
    Gen.SessionMacs.DLSettings.rx2_data_rate ⟨(d : Int)⟩ = some (drOfNatT (d % 16)) := by
  decide +kernel

/-- RXParamSetupReq: the three fields validated, stored all together or not at all, the three status bits -/
theorem tieA_step_rx_param (snr : Int) (d f0 f1 f2 : Nat) (hd : d < 256) : StepSim snr (0x05, [d, f0, f1, f2]) := by
  refine ⟨fun gs g full c cm n rfu peek hrel hq => ?_⟩
  simp only [stepModel, byteAt, freq24, bind, Except.bind, pure, Except.pure, List.getElem?_cons_zero, List.getElem?_cons_succ]
  unfold Gen.SessionMacs.Session.handle_downlink_macs.while_step
  simp only [decCmd, freqOf, dl_rx1_dr_offset d hd, dl_rx2_data_rate d hd, Option.bind_eq_bind, Option.bind_some]
  simp only [Gen.SessionMacs.RXParamSetupAnsCreator.new, Gen.SessionMacs.RXParamSetupAnsCreator.set_rx1_data_rate_offset_ack,
    Gen.SessionMacs.RXParamSetupAnsCreator.set_rx2_data_rate_ack, Gen.SessionMacs.RXParamSetupAnsCreator.set_channel_ack]
  generalize (f2 * 65536 + f1 * 256 + f0) * 100 = F
  have hk16 : d % 16 < 16 := by omega
  have hkk := drOfNatT_toInt (d % 16) hk16
  have hfv : ∀ F : Nat, Gen.SessionMacs.MacRegionOps.frequency_valid c.region (F : Int) = frequencyValid c.region.id F :=
    fun F => by simp [Gen.SessionMacs.MacRegionOps.frequency_valid]
  have hov : ∀ o : Nat, Gen.SessionMacs.MacRegionOps.rx1_dr_offset_validate c.region (o : Int)
      = (rx1DrOffsetValidate c.region.id o).map Int.ofNat := fun o => by simp [Gen.SessionMacs.MacRegionOps.rx1_dr_offset_validate]
  have hgd : ∀ x : DR, Gen.SessionMacs.MacRegionOps.get_datarate c.region (Rt.wrap .u8 x.toInt) = getDatarate c.region.id x.toInt.toNat :=
    fun x => by simp [Gen.SessionMacs.MacRegionOps.get_datarate, wrap_dr]
  simp only [hfv, hov, hgd, hkk]
  gen_match (drOfNatT (d % 16)) as R2 hR2
  -- the RX2 data rate the generated code selected is the model's
  have hR2m : R2.map (fun o => o.map fun x => x.toInt.toNat)
      = (if (d % 16 == 15) = true then some c.cfg.rx2DataRate
         else if (getDatarate c.region.id (d % 16)).isSome = true then some (some (d % 16)) else none) := by
    generalize drOfNatT (d % 16) = x at hR2 hkk
    rw [← hR2, ← hkk]
    -- by cases on the region's answer, so that it does not matter how the source turns it into an `Option`
    cases hg : getDatarate c.region.id x.toInt.toNat <;> cases x <;> simp only [hg] <;> first | rfl | (rw [hrel.cfg]; rfl)
  refine push_close (c := { c with cfg := (rxParamSetup c.cfg c.region.id d F).2 }) ⟨?_, hrel.pending, hrel.full⟩ hq
    ⟨5, [_], 1⟩ rfl (by simp) (cidN := 5) (ans := [_]) rfl (congrArg (· :: []) ?_) cm n rfu
  · show (rxParamSetup c.cfg c.region.id d F).2 = _
    simp only [rxParamSetup, ← hR2m]
    rw [hrel.cfg]
    cases frequencyValid c.region.id F <;> cases R2 <;> cases rx1DrOffsetValidate c.region.id (d / 16 % 8) <;> rfl
  · show Int.toNat _ = _
    simp only [rxParamSetup, ← hR2m]
    cases frequencyValid c.region.id F <;> cases R2 <;> cases rx1DrOffsetValidate c.region.id (d / 16 % 8) <;> rfl

#print axioms tieA_step_rx_param
end TieA.Macs
