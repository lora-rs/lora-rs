import LoraVerif.Props.TieA.C09
import LoraVerif.Props.TieA.StateBridge
import LoraVerif.Gen.RegionPayload
import LoraVerif.Gen.NextLowerDr
/-!
# Tie A for the region wiring

`Gen.RegionDispatch` is `region_dispatch!` of `lorawan-device/src/region/mod.rs`, expanded by the translator with
the macro's own rules for every dispatched `Configuration` method and followed arm by arm:
`State::V(state) => state.m(..)` / `state.0.m(..)` → the payload type of `State::V` (the plan type `State::new`
constructs for the `Region`) → the plan's `RegionHandler` impl → the region type's function / constant / table.
`Gen.NextLowerDr` is the loop of `next_lower_datarate` (mac/session.rs) over the dispatched `get_datarate`.

The hand model's region → table mappings (`Model/Region.lean`: `rxDatarate`, `rx2Frequency`, `getDatarate`,
`datarates`, `txPowerAdjust`, `rx1DrOffsetValidate`, `RegionId.isFixed`; `Model/Mac.lean`: `nextLowerDatarate`) are
proved EQUAL to these regenerated functions for all nine regions and every argument — as `model = ofGen (dispatch)`
where the method can panic, as `model = dispatch` where it cannot, and as `dispatch = static` where `C09.lean` /
`C10.lean` already tie the per-region item and only the macro's arm is new.  Last, `get_max_payload_length`
(`Gen.RegionPayload`, through `region_static_dispatch!`), which has no model function: its content is stated here.
-/
open Model TieA

namespace C10

/-- `Configuration::get_rx_datarate` through `region_dispatch!`: the model's `rxDatarate`, for every region, TX data
rate, RX1DROffset (every `u8` and beyond) and window -/
theorem tieA_region_get_rx_datarate (r : RegionId) (txDr : Gen.Region.DR) (off : Nat) (w : Gen.Region.Window) :
    rxDatarate r txDr off w =
      ofGen "get_rx_datarate" (Gen.RegionDispatch.Configuration.get_rx_datarate (toGen r) txDr (off : Int) w) := by
  cases r <;> rfl

/-- `Configuration::get_rx2_frequency` through `region_dispatch!`: the model's `rx2Frequency` -/
theorem tieA_region_get_rx2_frequency (r : RegionId) :
    (rx2Frequency r : Int) = Gen.RegionDispatch.Configuration.get_rx2_frequency (toGen r) := by
  cases r <;> rfl

/-- `Configuration::rx1_dr_offset_validate` through `region_dispatch!`: the macro reaches the same per-region method
the `State::new` wiring of `Gen.RegionStatic` reaches (which `C10.tieA_rx1DrOffsetValidate` ties to the model) -/
theorem tieA_region_rx1_dr_offset_validate (g : Gen.RegionStatic.Region) (v : Int) :
    Gen.RegionDispatch.Configuration.rx1_dr_offset_validate g v = Gen.RegionStatic.rx1_dr_offset_validate g v := by
  cases g <;> rfl

/-- `Configuration::get_default_datarate` through `region_dispatch!` = the `State::new` wiring's -/
theorem tieA_region_get_default_datarate (g : Gen.RegionStatic.Region) :
    Gen.RegionDispatch.Configuration.get_default_datarate g = Gen.RegionStatic.get_default_datarate g := by
  cases g <;> rfl

example : rxDatarate .US915 Gen.Region.DR._4 1 Gen.Region.Window._1 = .ok Gen.Region.DR._13 := by rfl
example : Gen.RegionDispatch.Configuration.get_rx2_frequency (toGen .EU868) = 869525000 := by decide

#print axioms tieA_region_get_rx_datarate
#print axioms tieA_region_get_rx2_frequency
#print axioms tieA_region_rx1_dr_offset_validate
#print axioms tieA_region_get_default_datarate
end C10

namespace C09

/-- `Configuration::get_datarate` through `region_dispatch!` (`R::datarates().get(dr as usize)?.as_ref()` with the
table `R::datarates()` returns resolved from the region type's impl): the model's `getDatarate`, hence the model's
region → table mapping `datarates`, for every region and every data rate index (every `u8` and beyond) -/
theorem tieA_region_get_datarate (r : RegionId) (dr : Nat) :
    getDatarate r dr = Gen.RegionDispatch.Configuration.get_datarate (toGen r) (dr : Int) := by
  cases r <;> simp only [getDatarate, datarates, toGen, Gen.RegionDispatch.Configuration.get_datarate, Int.toNat_natCast] <;> rfl

/-- `Configuration::has_fixed_channel_plan` through `region_dispatch!`: the model's `RegionId.isFixed` -/
theorem tieA_region_has_fixed_channel_plan (r : RegionId) :
    r.isFixed = Gen.RegionDispatch.Configuration.has_fixed_channel_plan (toGen r) := by
  cases r <;> rfl

private theorem check_tx_power_aux (t : Option (Option Int)) :
    (do let v ← ofGen "tx_power_adjust" t; pure (v.map Int.toNat) : M (Option Nat)) =
      (ofGen "tx_power_adjust" (t.map (fun x => x.map some))).map (fun o => (o.bind id).map Int.toNat) := by
  cases t with
  | none => rfl
  | some x => cases x <;> rfl

/-- `Configuration::check_tx_power` = `region_dispatch!(self, check_tx_power, p).map(Some)`: the model's
`txPowerAdjust` (`Some(Some(v))` ↦ `some v`, `None` ↦ `none`, a panic in the region's `tx_power_adjust` ↦ the fault) -/
theorem tieA_region_check_tx_power (r : RegionId) (p : Nat) :
    txPowerAdjust r p =
      (ofGen "tx_power_adjust" (Gen.RegionDispatch.Configuration.check_tx_power (toGen r) (p : Int))).map
        (fun o => (o.bind id).map Int.toNat) := by
  cases r <;> exact check_tx_power_aux _

/-- `Configuration::is_uplink_datarate` through `region_dispatch!` (fixed plans: `dr <= F::MAX_UPLINK_DR &&
self.get_datarate(dr).is_some()`, dynamic plans: the trait's default body): the model's `isUplinkDatarate`, for every
region and every data rate index -/
theorem tieA_region_is_uplink_datarate (r : RegionId) (dr : Nat) :
    isUplinkDatarate r dr = Gen.RegionDispatch.Configuration.is_uplink_datarate (toGen r) (dr : Int) := by
  cases r <;>
    simp only [isUplinkDatarate, RegionId.isFixed, getDatarate, datarates, toGen,
      Gen.RegionDispatch.Configuration.is_uplink_datarate, Int.toNat_natCast, Bool.true_and, if_true, if_false,
      Bool.false_eq_true, Gen.RegionStatic.AU915Region.MAX_UPLINK_DR, Gen.RegionStatic.US915Region.MAX_UPLINK_DR] <;>
    first
      | rfl
      | (congr 1; rw [Bool.eq_iff_iff]; simp only [maxUplinkDr]; constructor <;> intro h <;> (have h2 := of_decide_eq_true h; apply decide_eq_true; omega))

example : isUplinkDatarate .US915 4 = true ∧ isUplinkDatarate .US915 8 = false ∧ isUplinkDatarate .AU915 6 = true := by decide

/-- the region type → table wiring: the constant `<R as ChannelRegion>::datarates()` returns, and
for the fixed plans `<F as FixedChannelRegion>::uplink_channels()` / `downlink_channels()`, resolved from the impl of the
region type `State::new` wires to each `Region`, are the tables the hand model maps the region to -/
theorem tieA_region_tables (r : RegionId) :
    datarates r = Gen.RegionDispatch.datarates (toGen r) ∧
    (r.isFixed = true → Gen.RegionDispatch.uplink_channels (toGen r) = some (uplinkChannels r) ∧
      Gen.RegionDispatch.downlink_channels (toGen r) = some (downlinkChannels r)) ∧
    (r.isFixed = false → Gen.RegionDispatch.uplink_channels (toGen r) = none ∧
      Gen.RegionDispatch.downlink_channels (toGen r) = none) := by
  cases r <;> refine ⟨rfl, ?_, ?_⟩ <;> intro h <;> first | exact ⟨rfl, rfl⟩ | exact absurd h (by decide)

example : RegionId.isFixed .AU915 = true ∧ (uplinkChannels .AU915)[64]? = some 915900000 := by decide

example : getDatarate .US915 8 = Gen.RegionDispatch.Configuration.get_datarate .US915 8 ∧ (getDatarate .US915 8).isSome ∧
    (getDatarate .US915 5).isNone ∧ (getDatarate .US915 200).isNone := by decide
example : txPowerAdjust .EU868 3 = .ok (some 10) := by rfl

#print axioms tieA_region_get_datarate
#print axioms tieA_region_has_fixed_channel_plan
#print axioms tieA_region_check_tx_power
#print axioms tieA_region_is_uplink_datarate
#print axioms tieA_region_tables

/- `Configuration::frequency_valid` through `region_dispatch!`. The plan's `RegionHandler::frequency_valid` is
`(self.frequency_valid)(freq)`: a call of the function pointer the plan's `new(f)` stores in that field (checked by
the translator: one struct literal in `new`, storing its only argument; no other write of a field of that name),
which is the band-limit function the constructor named in `State::new` passes
(`Gen.RegionStatic.<Region>.frequency_valid`, tied to the model by `tieA_frequencyValid`). -/
/-- the band test a `Configuration` answers with is the model's `frequencyValid`, for every region and frequency -/
theorem tieA_region_frequency_valid (r : RegionId) (f : Nat) :
    frequencyValid r f = Gen.RegionDispatch.Configuration.frequency_valid (toGen r) (f : Int) := by
  rw [tieA_frequencyValid]
  cases r <;> rfl

example : frequencyValid .EU868 868100000 = true ∧ frequencyValid .EU868 870000001 = false := by decide

#print axioms tieA_region_frequency_valid
end C09

namespace C12

/-- `next_lower_datarate(region, current)` regenerated (the reversed-range loop over the dispatched
`Configuration::get_datarate`, `DR::from`): it never panics and its result is the model's `nextLowerDatarate`, for
every region and every current data rate (a finite table: 9 regions × 16 data rates, both sides evaluated, so that the
proof does not depend on how the source writes the loop) -/
theorem tieA_next_lower_datarate (r : RegionId) (cur : Gen.Region.DR) :
    Gen.NextLowerDr.next_lower_datarate (toGen r) cur =
      some ((nextLowerDatarate r cur.toInt.toNat).bind (fun n => Gen.Region.u8.into_DR (n : Int))) ∧
    ((Gen.NextLowerDr.next_lower_datarate (toGen r) cur).map (fun o => o.map (fun d => d.toInt.toNat))) =
      some (nextLowerDatarate r cur.toInt.toNat) := by
  revert r cur
  exact forall_region_dr (by decide +kernel)

example : Gen.NextLowerDr.next_lower_datarate .US915 Gen.Region.DR._8 = some (some Gen.Region.DR._4) ∧
    nextLowerDatarate .US915 8 = some 4 ∧ nextLowerDatarate .EU868 0 = none := by decide

#print axioms tieA_next_lower_datarate

/- The abstract `next_lower` of the whole-method translations is the regenerated loop. `Gen.SessionFn` /
`Gen.SessionTx` / `Gen.SessionRx` keep `next_lower_datarate(region, dr)` abstract (`RegionCfg.next_lower`,
`MacOps.next_lower`) and the theorems about them (`C12.tieA_rx2_complete`, `C12.tieA_prepare_buffer_header`,
`TieA.Rx.NextLowerOk` …) instantiate it with `(nextLowerDatarate r dr).map drOfNatT`. That instance IS the function
regenerated from the current source of `next_lower_datarate` (`Gen.NextLowerDr`), for every region and data rate. -/
/-- the instance the whole-method ties use for the abstract `next_lower` = the regenerated `next_lower_datarate`
(which never panics), for every region and every current data rate -/
theorem tieA_next_lower_ops (r : RegionId) (cur : Gen.Region.DR) :
    Gen.NextLowerDr.next_lower_datarate (toGen r) cur =
      some ((nextLowerDatarate r cur.toInt.toNat).map TieA.drOfNatT) := by
  rw [(tieA_next_lower_datarate r cur).1]
  congr 1
  cases h : nextLowerDatarate r cur.toInt.toNat with
  | none => rfl
  | some m =>
    -- a lower rate is below 16, where `DR::from(u8)` is `drOfNatT`
    have hm := nextLower_lt h
    have hc := DR.toInt_lt cur
    exact TieA.into_dr m (by omega)

example : (nextLowerDatarate .AU915 Gen.Region.DR._8.toInt.toNat).map TieA.drOfNatT = some Gen.Region.DR._6 := by decide

#print axioms tieA_next_lower_ops
end C12

/-! ## `Configuration::get_max_payload_length` through `region_static_dispatch!`

The hand model has no function for the application-visible payload limit; its content is stated here in terms of
the model's `getDatarate` (the region → table mapping of `Model/Region.lean`): the entry's size (with or without
dwell time), capped at 230 for repeater compatibility, 0 for an undefined data rate.  The regenerated function is
`region_static_dispatch!` expanded with its own rules, each arm followed through the plan type's inherent function
to the region type and the default body of `ChannelRegion::get_max_payload_length` over that type's `datarates()`.
-/
namespace C05

/-- what `get_max_payload_length` must answer, over the model's data-rate tables -/
def maxPayloadLength (r : RegionId) (dr : Nat) (repeater dwell : Bool) : Int :=
  match getDatarate r dr with
  | none => 0
  | some d =>
    let m := if dwell then d.max_mac_payload_size_with_dwell_time else d.max_mac_payload_size
    if repeater && decide (m > 230) then 230 else m

/-- `Configuration::get_max_payload_length` (regenerated through the macro) = `maxPayloadLength`, for every region,
data rate, repeater flag and dwell-time flag -/
theorem tieA_region_max_payload_length (r : RegionId) (dr : Gen.Region.DR) (repeater dwell : Bool) :
    Gen.RegionPayload.Configuration.get_max_payload_length (toGen r) dr repeater dwell =
      maxPayloadLength r dr.toInt.toNat repeater dwell := by
  revert r dr repeater dwell
  exact forall_region_dr (by decide +kernel)

example : Gen.RegionPayload.Configuration.get_max_payload_length .EU868 ._5 true false = 230 ∧
    Gen.RegionPayload.Configuration.get_max_payload_length .EU868 ._5 false false = 250 ∧
    Gen.RegionPayload.Configuration.get_max_payload_length .AU915 ._2 false true = 19 ∧
    Gen.RegionPayload.Configuration.get_max_payload_length .US915 ._7 false false = 0 := by decide

#print axioms tieA_region_max_payload_length
end C05
