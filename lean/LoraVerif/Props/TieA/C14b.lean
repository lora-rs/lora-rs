import LoraVerif.Props.TieA.C14
/-!
# Tie A for `LoRa<RK, DLY>`: the prepare methods, `init`, `tx` with its loop, `cad`

Relation, step lemmas and tactics are those of `Props/TieA/C14.lean`; the methods here reuse the ties of
`prepare_modem` and `do_cold_start` proved there, and the loop is tied by recursion on its fuel.
-/
open Model.Phy

namespace C14
open LoRaTie
variable {σ μ BW : Type}

theorem tieA_lora_prepare_for_cad (rk : RadioKindOps σ μ) (cmp : BW → Int → Except RadioError μ) (m : μ)
    (d : DriverState σ) (w : World) :
    Gen.LoRaApiFn.prepare_for_cad (opsOf rk cmp) m (toG d, w)
      = lift id (Model.Phy.prepareForCad rk m (d, w)) := by
  unfold Gen.LoRaApiFn.prepare_for_cad Model.Phy.prepareForCad
  lora_eval
  lora_sub (tieA_lora_prepare_modem rk cmp _)
  intro _ _ _
  lora_tie

theorem tieA_lora_prepare_for_rx (rk : RadioKindOps σ μ) (cmp : BW → Int → Except RadioError μ)
    (mode : RxMode) (m : μ) (pkt : PacketParams) (d : DriverState σ) (w : World) :
    Gen.LoRaApiFn.prepare_for_rx (opsOf rk cmp) mode m pkt (toG d, w)
      = lift id (Model.Phy.prepareForRx rk mode m pkt (d, w)) := by
  unfold Gen.LoRaApiFn.prepare_for_rx Model.Phy.prepareForRx
  lora_eval
  lora_sub (tieA_lora_prepare_modem rk cmp _)
  intro _ _ _
  lora_tie

theorem tieA_lora_tx_loop (rk : RadioKindOps σ μ) (cmp : BW → Int → Except RadioError μ) :
    ∀ (fuel : Nat) (d : DriverState σ) (w : World),
      Gen.LoRaApiFn.tx_loop (opsOf rk cmp) fuel (toG d, w) = lift id (Model.Phy.txLoop rk fuel (d, w))
  | 0, d, w => by
    unfold Gen.LoRaApiFn.tx_loop Model.Phy.txLoop
    lora_tie
  | fuel + 1, d, w => by
    unfold Gen.LoRaApiFn.tx_loop Model.Phy.txLoop Model.Phy.failToStandby
    lora_eval
    lora_step
    lora_eval
    lora_fold
    refine TieAt.attempt (fun a w' => ?_) (fun e w' => ?_) _
    · rcases a with ⟨(_ | (_ | _)), o⟩
      · lora_eval
        lora_fold
        exact tieA_lora_tx_loop rk cmp fuel _ w'
      · lora_tie
      · lora_tie
    · lora_tie

/-- `LoRa::tx` (the fuel of the loop is a parameter on both sides) -/
theorem tieA_lora_tx (rk : RadioKindOps σ μ) (cmp : BW → Int → Except RadioError μ) (fuel : Nat)
    (d : DriverState σ) (w : World) :
    Gen.LoRaApiFn.tx (opsOf rk cmp) fuel (toG d, w) = lift id (Model.Phy.tx rk fuel (d, w)) := by
  obtain ⟨rk0, mode, sw, cs, ci⟩ := d
  unfold Gen.LoRaApiFn.tx Model.Phy.tx
  lora_eval
  cases mode <;> lora_tie
  lora_fold
  exact tieA_lora_tx_loop rk cmp fuel _ _

/-- `LoRa::prepare_for_tx`; the regenerated method also returns the `&mut PacketParams` it updated -/
theorem tieA_lora_prepare_for_tx (rk : RadioKindOps σ μ) (cmp : BW → Int → Except RadioError μ)
    (m : μ) (pkt : PacketParams) (power : Int) (payload : Bytes) (d : DriverState σ) (w : World) :
    Gen.LoRaApiFn.prepare_for_tx (opsOf rk cmp) m pkt power payload (toG d, w)
      = lift (fun u => (u, { pkt with payloadLength := payload.length }))
          (Model.Phy.prepareForTx rk m pkt power payload (d, w)) := by
  unfold Gen.LoRaApiFn.prepare_for_tx Model.Phy.prepareForTx
  lora_eval
  lora_sub (tieA_lora_prepare_modem rk cmp _)
  intro _ _ _
  lora_eval; lora_step; lora_eval; lora_step; lora_eval
  lora_fold
  refine TieAt.toStandby (fun _ _ => ?_) _
  -- `set_payload_length` compares the length as an `Int`
  have hl : ((payload.length : Int) > 255) = (payload.length > 255) := by simp only [gt_iff_lt, eq_iff_iff]; omega
  by_cases h : payload.length > 255 <;> simp only [hl, h] <;> lora_tie

theorem tieA_lora_init (rk : RadioKindOps σ μ) (cmp : BW → Int → Except RadioError μ)
    (d : DriverState σ) (w : World) :
    Gen.LoRaApiFn.init (opsOf rk cmp) (toG d, w) = lift id (Model.Phy.init rk (d, w)) := by
  unfold Gen.LoRaApiFn.init Model.Phy.init
  -- `reset`, `ensure_ready`, `set_standby`; not `lora_tie`: where no step applies to the call of `do_cold_start`
  -- the unifier would unfold the sub-method on both sides instead
  iterate 3 (lora_eval; lora_step)
  lora_eval
  lora_fold
  exact tieA_lora_do_cold_start rk cmp _ _

theorem tieA_lora_cad (rk : RadioKindOps σ μ) (cmp : BW → Int → Except RadioError μ) (m : μ)
    (d : DriverState σ) (w : World) :
    Gen.LoRaApiFn.cad (opsOf rk cmp) m (toG d, w)
      = lift id (Model.Phy.cad rk m (d, w)) := by
  obtain ⟨rk0, mode, sw, cs, ci⟩ := d
  unfold Gen.LoRaApiFn.cad Model.Phy.cad Model.Phy.failToStandby
  lora_eval
  by_cases hm : mode = .cad
  · subst hm
    -- `do_cad`, `await_irq`, then the matched `process_irq_event`
    iterate 2 (lora_eval; lora_step)
    lora_eval; lora_fold
    refine TieAt.attempt (fun a _ => ?_) (fun _ _ => ?_) _
    · rcases a with ⟨(_ | (_ | _)), o⟩ <;> lora_tie
      -- `Done`: the flag the handler may have set, against the model's comparison
      cases o with | none => rfl | some b => cases b <;> rfl
    · lora_tie
  · simp only [hm]; lora_tie

end C14
