import LoraVerif.Props.TieA.HandleRxFull
import LoraVerif.Gen.SessionStatic
/-!
# C05, tie A: the acceptance test of `Session::handle_rx` and the freshness window constant

The regenerated `Session::handle_rx` is the model's `sessionHandleRx` on every frame the model sees (the oversize test
`payload_len > max_payload_len as usize + MHDR_LEN + MIC_LEN`, the counter reconstruction and the MIC included), and
`NoUpdate` with nothing changed on the buffers the model views as garbage; the two generated units read the same
`MAX_FCNT_GAP`.  The proofs are in `Props/TieA/HandleRx.lean` and `HandleRxFull.lean`.
-/
namespace C05
open Model

/-- the freshness window is the one constant of the source both generated units read -/
theorem tieA_maxFcntGap : Gen.SessionStatic.MAX_FCNT_GAP = Gen.Session.MAX_FCNT_GAP := rfl

#print axioms tieA_maxFcntGap

/-- The whole acceptance test.  On a buffer the data-frame parser accepts as a DOWNLINK-typed frame (`hparse`, `hup`) that
carries the session's own DevAddr if it passes the size test (`haddr`), the state-passing translation of
`Session::handle_rx` (`Gen/SessionRx.lean`, with `Session::rx2_complete`, `next_fcnt_down` and the `Uplink` helpers
translated as well) is the model's `sessionHandleRx`:
  * a frame longer than `max_payload_len + MHDR_LEN + MIC_LEN` ends the receive procedure in a Class A window
    (`rx2_complete`) and is ignored on RXC, whatever its address;
  * the 32-bit counter is `next_fcnt_down(fcnt_down, wire)`, and the frame is accepted iff the MIC verifies under the
    session's NwkSKey and THAT counter;
  * then, in this order: the answer queue is cleared (Class A only), `fcnt_down` stored, `adr_ack_cnt = 0`, the MAC
    commands of FOpts and of a port-0 payload handled (Class A only), an ACK owed for a confirmed frame,
    `SessionExpired` at `fcnt_up = 0xFFFF_FFFF`, otherwise `fcnt_up + 1`, `DownlinkReceived(fcnt)`, and the application
    payload queued iff FPort > 0.
The other buffers are the early exits beside this theorem, each `NoUpdate` with nothing changed: the parser rejects
(`tieA_handle_rx_unparsed`), the MType is an uplink type (`tieA_handle_rx_uplink_typed`; the model views such a buffer as
`RxView.garbage`), a fitting frame is addressed to another device (`tieA_handle_rx_other_devaddr`).
`handle_downlink_macs` inside is the REGENERATED method (`Gen/SessionMacs.lean`, `TieA.Rx.Full.genOps`) on every command
stream of octets (`Stream`): the simulation hypothesis `MacsOk` of `TieA.Rx.tieA_handle_rx_accept` is the theorem
`TieA.Rx.Full.genOps_ok`, from `C08.tieA_handle_downlink_macs`.  Abstract (inputs of the statement): parsing, MIC and
decryption of the frame, the MAC-command iterator (the decoded commands of the well-formed prefix), `next_lower_datarate`
and the region's methods (the model's; that instance of `next_lower_datarate` is the regenerated loop:
`C12.tieA_next_lower_ops`).  The examples in `Props/TieA/HandleRxFull.lean` instantiate every hypothesis on a
frame carrying a LinkADRReq and a DevStatusReq. -/
theorem tieA_handle_rx_accept
    (D : Int) (gs : Gen.SessionRx.Session) (rs : RegionState) (g : Gen.SessionRx.Configuration)
    (rx : Gen.SessionRx.RadioBuffer) (dl : List Gen.SessionRx.Downlink) (maxp snr : Int) (ign : Bool)
    (e : Gen.SessionRx.EncryptedDataPayload)
    (hparse : rx.as_mut_for_read.parse = some e) (hup : e.is_uplink = false)
    (haddr : ¬ (e.as_bytes.length : Int) > maxp + 5 → e.fhdr.dev_addr = gs.devaddr)
    (hw : TieA.Rx.SessWF gs) (hmax : 0 ≤ maxp ∧ maxp ≤ 255) (hwire : 0 ≤ e.fhdr.fcnt)
    (hdec : ∀ f, Gen.SessionRx.next_fcnt_down gs.fcnt_down e.fhdr.fcnt = some f → e.validate_mic (TieA.Rx.nwkOf gs) f = true →
      ∃ d, rx.as_mut_for_read.decrypt_in_place (some (TieA.Rx.nwkOf gs)) (some (TieA.Rx.appOf gs)) f = some d ∧ TieA.Rx.DecWF TieA.Rx.Full.Stream d) :
    (@Gen.SessionRx.Session.handle_rx RegionState TieA.Rx.Full.genOps D gs rs g rx dl maxp snr ign).bind
        (fun out => (TieA.Rx.respOf out.1).map (fun r => (r, TieA.Rx.sessOf out.2.1, out.2.2.1, TieA.Rx.cfgOf out.2.2.2.1, out.2.2.2.2.2.map TieA.Rx.dlOf)))
      = (sessionHandleRx (TieA.Rx.sessOf gs) (TieA.Rx.cfgOf g) rs (TieA.Rx.dataOf gs e (TieA.Rx.decOf gs rx e)) maxp.toNat snr ign).toOption.map (TieA.Rx.expect dl D) :=
  TieA.Rx.Full.handle_rx_full D gs rs g rx dl maxp snr ign e hparse hup haddr hw hmax hwire hdec

/-- a buffer the data-frame parser rejects: `NoUpdate`, every output is the input -/
theorem tieA_handle_rx_unparsed [Gen.SessionRx.MacOps RegionState]
    (D : Int) (gs : Gen.SessionRx.Session) (rs : RegionState) (g : Gen.SessionRx.Configuration)
    (rx : Gen.SessionRx.RadioBuffer) (dl : List Gen.SessionRx.Downlink) (maxp snr : Int) (ign : Bool)
    (hparse : rx.as_mut_for_read.parse = none) :
    Gen.SessionRx.Session.handle_rx D gs rs g rx dl maxp snr ign = some (.NoUpdate, gs, rs, g, rx, dl) :=
  TieA.Rx.handle_rx_unparsed D gs rs g rx dl maxp snr ign hparse

/-- a buffer the parser accepts whose MType is an UPLINK type (`is_uplink()`; the device's own uplink
echoed back, another device's uplink, any frame MIC'd with Dir = 0 under the session key): `NoUpdate`, every output is
the input — whatever its length, wire counter and MIC, in a Class A window (no `rx2_complete`) and outside.  For the
model such a buffer is NOT a data-frame view (`RxView.garbage`, the reference codec's `g`), exactly like a buffer the
parser rejects: `sessionHandleRx` is only ever applied to downlink-typed frames (`hup` of `tieA_handle_rx_accept`).  This is what makes "acted upon iff an authentic fresh DOWNLINK" true of the code: MIC and keystream direction are
taken from the received MHDR, so this exit is what keeps an uplink-typed frame that verifies with Dir = 0 from being
accepted. -/
theorem tieA_handle_rx_uplink_typed [Gen.SessionRx.MacOps RegionState]
    (D : Int) (gs : Gen.SessionRx.Session) (rs : RegionState) (g : Gen.SessionRx.Configuration)
    (rx : Gen.SessionRx.RadioBuffer) (dl : List Gen.SessionRx.Downlink) (maxp snr : Int) (ign : Bool)
    (e : Gen.SessionRx.EncryptedDataPayload)
    (hparse : rx.as_mut_for_read.parse = some e) (hup : e.is_uplink = true) :
    Gen.SessionRx.Session.handle_rx D gs rs g rx dl maxp snr ign = some (.NoUpdate, gs, rs, g, rx, dl) :=
  TieA.Rx.handle_rx_uplink_typed D gs rs g rx dl maxp snr ign e hparse hup

/-- a buffer the parser accepts as a downlink-typed frame that fits the window's data rate but whose FHDR
DevAddr differs from the session's (a frame ADDRESSED TO SOMEONE ELSE): `NoUpdate`, every output is the input — whatever
its wire counter and MIC (also a MIC that verifies under this session's NwkSKey at a fresh counter: two devices
provisioned with the same keys), for every `ignore_mac` and every `MacOps` instance.  For the model such a buffer is NOT a
data-frame view (`RxView.garbage`, the reference codec's `g`): `sessionHandleRx` is only ever applied to frames carrying
the session's own DevAddr (`haddr` of `tieA_handle_rx_accept`).  This exit is the method's only
comparison of the address: without it such a frame is accepted, its payload delivered and FCntDown advanced. -/
theorem tieA_handle_rx_other_devaddr [Gen.SessionRx.MacOps RegionState]
    (D : Int) (gs : Gen.SessionRx.Session) (rs : RegionState) (g : Gen.SessionRx.Configuration)
    (rx : Gen.SessionRx.RadioBuffer) (dl : List Gen.SessionRx.Downlink) (maxp snr : Int) (ign : Bool)
    (e : Gen.SessionRx.EncryptedDataPayload)
    (hparse : rx.as_mut_for_read.parse = some e) (hup : e.is_uplink = false)
    (hmax : 0 ≤ maxp ∧ maxp ≤ 255) (hfits : ¬ (e.as_bytes.length : Int) > maxp + 5)
    (haddr : e.fhdr.dev_addr ≠ gs.devaddr) :
    Gen.SessionRx.Session.handle_rx D gs rs g rx dl maxp snr ign = some (.NoUpdate, gs, rs, g, rx, dl) :=
  TieA.Rx.handle_rx_other_devaddr D gs rs g rx dl maxp snr ign e hparse hup hmax hfits haddr

/-- the simulation hypotheses `NextLowerOk`, `MacsOk` of `TieA.Rx.tieA_handle_rx_accept` hold of the regenerated
`handle_downlink_macs` -/
example : @TieA.Rx.NextLowerOk TieA.Rx.Full.genOps ∧ @TieA.Rx.MacsOk TieA.Rx.Full.genOps TieA.Rx.Full.Stream := TieA.Rx.Full.genOps_ok

#print axioms tieA_handle_rx_accept
#print axioms tieA_handle_rx_unparsed
#print axioms tieA_handle_rx_uplink_typed
#print axioms tieA_handle_rx_other_devaddr
end C05
