import LoraVerif.Props.TieA.MacCmdFrameGen
import LoraVerif.Gen.MacCmdFnUplinkRemoteSetup
/-!
# Tie A for the framing step of `UplinkRemoteSetup` (C03)

`Gen/MacCmdFnUplinkRemoteSetup.lean` holds what `#[derive(CommandHandler)]` generates for `UplinkRemoteSetup` (payload structs,
`new_from_raw` / `max_len`, `MacCommandSet::parse_one`, expanded from the `quote!` templates with the `#[cmd]` attributes of
the current source), the hand-written `len()` helpers of its variable-length payloads, and the source's
`MacCommands::next` for `T = UplinkRemoteSetup`.  Here: the regenerated framing IS the hand model `Model/MacCmd.lean` over the
regenerated table `Gen.CmdTables.uplinkRemoteSetup`, for every octet stream.  The set-independent part of the argument is
`Props/TieA/MacCmdFrameGen.lean`; this file supplies the reading of the set's own types (`infoOf` …), instantiates the arm
lemmas of that file at the CIDs of the table, and shows that the unit's `next` is `gNext` of the unit's `parse_one` (`next_bridge`).
-/
namespace TieA.FrameUplinkRemoteSetup
open MacCmd TieA.MacCmdFrame TieA.FrameGen

def TS : Table := C03.T Gen.CmdTables.uplinkRemoteSetup

def infoOf : Gen.MacCmdFnUplinkRemoteSetup.UplinkRemoteSetup → Info
  | .PackageVersionAns p => (0, "PackageVersionAns", "PackageVersionAnsPayload", p._0)
  | .McGroupStatusAns p => (1, "McGroupStatusAns", "McGroupStatusAnsPayload", p._0)
  | .McGroupSetupAns p => (2, "McGroupSetupAns", "McGroupSetupAnsPayload", p._0)
  | .McGroupDeleteAns p => (3, "McGroupDeleteAns", "McGroupDeleteAnsPayload", p._0)
  | .McClassCSessionAns p => (4, "McClassCSessionAns", "McClassCSessionAnsPayload", p._0)
  | .McClassBSessionAns p => (5, "McClassBSessionAns", "McClassBSessionAnsPayload", p._0)

def errOf : Gen.MacCmdFnUplinkRemoteSetup.ParseError → MacCmd.ParseError
  | .UnknownCid c => .unknownCid c.toNat
  | .Truncated c => .truncated c.toNat

def oneOf : Gen.MacCmdFnUplinkRemoteSetup.ParseOne → POne
  | .Ok c n => .ok (infoOf c, n)
  | .Err e => .error (errOf e)

def itemOf : Gen.MacCmdFnUplinkRemoteSetup.NextItem → GItem
  | .Ok c => .ok (infoOf c)
  | .Err e => .error (errOf e)

def stOf (g : Gen.MacCmdFnUplinkRemoteSetup.MacCommands) : GSt := (g.data, g.errored)

def P (d : List Int) : Option POne := (Gen.MacCmdFnUplinkRemoteSetup.UplinkRemoteSetup.parse_one d).map oneOf

theorem countOnes16 : ∀ m < 16, Rt.countOnesNat 128 m = popcount4 m := by decide

/-- `(status & 0b1111).count_ones()` as generated is the model's `popcount4` of the low nibble -/
theorem countOnes_and15 (b : Nat) : Rt.countOnes (Rt.andI (b : Int) 15) = ((popcount4 (b &&& 0b1111) : Nat) : Int) := by
  have hm : b &&& 15 < 16 := Nat.lt_of_le_of_lt Nat.and_le_right (by decide)
  have hp : (0 : Int) ≤ (b : Int) ∧ (0 : Int) ≤ 15 := by omega
  unfold Rt.countOnes Rt.andI
  rw [if_pos hp]
  have := countOnes16 (b &&& 15) hm
  simp [this]

/-- TS005 `McGroupStatusAnsPayload::len()` = `1 + required_len(self.0[0])` as regenerated is the model's, for every status octet -/
theorem status_len (b : Nat) (t : List Nat) :
    Gen.MacCmdFnUplinkRemoteSetup.McGroupStatusAnsPayload.len ⟨ints (b :: t)⟩ = some ((1 + mcGroupStatusRequiredLen b : Nat) : Int) := by
  have hk := popcount4_le (b &&& 0b1111)
  have c1 := Rt.ck_usize (x := ((popcount4 (b &&& 0b1111) : Nat) : Int) * 5) (by omega) (by omega)
  have c2 := Rt.ck_usize (x := 1 + ((popcount4 (b &&& 0b1111) : Nat) : Int) * 5) (by omega) (by omega)
  simp only [Gen.MacCmdFnUplinkRemoteSetup.McGroupStatusAnsPayload.len, Gen.MacCmdFnUplinkRemoteSetup.McGroupStatusAnsPayload.required_len,
    Gen.MacCmdFnUplinkRemoteSetup.McGroupStatusItem.len, idx0, countOnes_and15, c1, c2, Option.bind_eq_bind, Option.bind_some,
    mcGroupStatusRequiredLen, Option.some.injEq]
  omega

theorem next_bridge (s : Gen.MacCmdFnUplinkRemoteSetup.MacCommands) :
    (Gen.MacCmdFnUplinkRemoteSetup.MacCommands.next s).map (fun r => (r.1.map itemOf, stOf r.2)) = gNext P (stOf s) :=
  gNext_of (fun _ => by rfl) (fun s r => by
    cases r with
    | Err x => rfl
    | Ok c n => exact Option.map_bind) s

def runOf (r : List Gen.MacCmdFnUplinkRemoteSetup.NextItem × Gen.MacCmdFnUplinkRemoteSetup.MacCommands × Bool) := (r.1.map itemOf, stOf r.2.1, r.2.2)

end TieA.FrameUplinkRemoteSetup

namespace C03
open MacCmd TieA.MacCmdFrame TieA.FrameGen TieA.FrameUplinkRemoteSetup

/-- the derive-generated `parse_one` of `UplinkRemoteSetup` (expanded from the `quote!` templates of the `CommandHandler`
derive with the `#[cmd(cid, len)]` attributes of the current source, with the hand-written `len()` helpers of the variable-length payloads) IS the
model's `parseOne` over the regenerated table, for EVERY octet string (of a length a Rust slice can have): same variant, payload type, payload octets and
consumed count, `UnknownCid` / `Truncated` with the same CID on the same inputs, a panic exactly on the empty slice. -/
theorem tieA_parse_one_UplinkRemoteSetup (data : List Nat) (hlen : data.length < 2 ^ 64) :
    (Gen.MacCmdFnUplinkRemoteSetup.UplinkRemoteSetup.parse_one (ints data)).map TieA.FrameUplinkRemoteSetup.oneOf = (toOpt (parseOne TieA.FrameUplinkRemoteSetup.TS varLen data)).map oneUp := by
  cases data with
  | nil => rfl
  | cons cid rest =>
    by_cases h : cid ∈ [0, 1, 2, 3, 4, 5]
    · simp only [List.mem_cons, List.not_mem_nil, or_false] at h
      rcases h with rfl | rfl | rfl | rfl | rfl | rfl
      -- the variable-length arm (CID 1) first
      rotate_left 1
      · have hk := popcount4_le (rest.headD 0 &&& 0b1111)
        refine var_arm_tie (len := fun r => Gen.MacCmdFnUplinkRemoteSetup.McGroupStatusAnsPayload.len ⟨r⟩) (fun c => .Err (.Truncated c))
          (1 + mcGroupStatusRequiredLen (rest.headD 0)) (by unfold mcGroupStatusRequiredLen; omega) rfl rfl ?_ ?_ rfl fun _ => rfl <;>
          intro h <;> obtain ⟨b, t, rfl⟩ := List.exists_cons_of_ne_nil h
        · exact status_len b t
        · rfl
      all_goals exact fixed_arm_tie (fun c => .Err (.Truncated c)) (by decide) rfl rfl rfl fun _ => rfl
    · refine unknown_arm_tie (e := .Err (.UnknownCid cid)) (Table.lookup_none_of TS cid h) ?_ rfl
      have hI := not_mem_cast h
      simp only [List.map, List.mem_cons, List.not_mem_nil, or_false, not_or, Int.cast_ofNat_Int] at hI
      simp only [Gen.MacCmdFnUplinkRemoteSetup.UplinkRemoteSetup.parse_one, idx0, Option.bind_eq_bind, Option.bind_some, decide_eq_true_eq, hI, if_false]
      rfl

/-- the source's `MacCommands::next` for `T = UplinkRemoteSetup` IS the model's `next` in every state. -/
theorem tieA_next_UplinkRemoteSetup (data : List Nat) (err : Bool) (hlen : data.length < 2 ^ 64) :
    (Gen.MacCmdFnUplinkRemoteSetup.MacCommands.next ⟨ints data, err⟩).map (fun r => (r.1.map TieA.FrameUplinkRemoteSetup.itemOf, TieA.FrameUplinkRemoteSetup.stOf r.2))
      = (toOpt (MacCmd.next TieA.FrameUplinkRemoteSetup.TS varLen ⟨data, err⟩)).map (fun r => (r.1.map itemUp, stUp r.2)) := by
  rw [TieA.FrameUplinkRemoteSetup.next_bridge]
  exact gNext_tie _ _ _ (fun n => n < 2 ^ 64) tieA_parse_one_UplinkRemoteSetup data err hlen

/-- the `UplinkRemoteSetup` iterator over `data`, drained through the REGENERATED `next` (`MacCommands::new(data)`, then
`next` until `None`, budget `data.len() + 2`), is the model's run, for every octet stream: the same items in the same order,
the same final state, within the same budget. -/
theorem tieA_iterator_UplinkRemoteSetup (data : List Nat) (hlen : data.length < 2 ^ 64) :
    (runFuelOf Gen.MacCmdFnUplinkRemoteSetup.MacCommands.next (data.length + 2) ⟨ints data, false⟩).map TieA.FrameUplinkRemoteSetup.runOf
      = (toOpt (run TieA.FrameUplinkRemoteSetup.TS varLen data)).map runUp :=
  (runFuelOf_sim _ _ TieA.FrameUplinkRemoteSetup.itemOf TieA.FrameUplinkRemoteSetup.stOf TieA.FrameUplinkRemoteSetup.next_bridge _ _).trans
    (gRun_tie _ _ _ (fun n => n < 2 ^ 64) (fun _ _ h hb => Nat.lt_of_le_of_lt h hb) tieA_parse_one_UplinkRemoteSetup _ data false hlen)

/-! non-vacuity: a concrete stream through the regenerated iterator (CID and payload octets of every item, `none` = the
error item; the unread rest and the `errored` flag; budget not exhausted); the length hypothesis holds of it -/
example : (runFuelOf Gen.MacCmdFnUplinkRemoteSetup.MacCommands.next (12 + 2) ⟨[1, 17, 0, 1, 2, 3, 4, 2, 9, 1, 19, 7], false⟩).map
    (fun r => (r.1.map (fun i => (TieA.FrameUplinkRemoteSetup.itemOf i).toOption.map (fun c => (c.1, c.2.2.2))), TieA.FrameUplinkRemoteSetup.stOf r.2.1, r.2.2))
    = some ([some (1, [0x11, 0, 1, 2, 3, 4]), some (2, [9]), none], ([1, 0x13, 7], true), false) := by decide
example : ([1, 17, 0, 1, 2, 3, 4, 2, 9, 1, 19, 7] : List Nat).length < 2 ^ 64 := by decide

#print axioms tieA_parse_one_UplinkRemoteSetup
#print axioms tieA_next_UplinkRemoteSetup
#print axioms tieA_iterator_UplinkRemoteSetup
end C03
