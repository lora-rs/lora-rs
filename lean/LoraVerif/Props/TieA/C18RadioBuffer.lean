import LoraVerif.Model.PhyRx
import LoraVerif.Gen.RadioBufferFn
import LoraVerif.Lemmas.RtLemmas
/-!
# Tie A for `RadioBuffer<N>` (lorawan-device/src/radio.rs) — property C18

`Gen/RadioBufferFn.lean` holds the state-passing translation of the CURRENT source of every method of
`RadioBuffer` (`clear`, `set_pos`, `extend_from_slice`, `as_mut_for_read`, `as_ref_for_read`, `as_mut`,
`as_ref`): the struct value goes in, the result and the new struct value come out, `[u8; N]` is a list,
machine integers are `Int` in `Rt`'s checked arithmetic, `none` = a Rust panic (slice expression out
of range, `copy_from_slice` length mismatch, `usize` overflow).

The theorems prove each generated method EQUAL to the method of the hand model `Model.PhyRx.RadioBuffer`
that the C18 property theorems are stated about, for every state and argument, panics included,
through the total map `bufOf` from generated to model state (`bufOf_surj`: every model buffer is an
image).  Proofs unfold the generated definition and evaluate both sides; they name no local of the source.
-/
namespace C18
open Model.PhyRx

/-- the byte a generated `u8` (an `Int`) stands for -/
def byteOf (i : Int) : UInt8 := UInt8.ofNat i.toNat
/-- the byte list a generated `[u8]` stands for -/
def bytesOf (l : List Int) : Bytes := l.map byteOf

@[simp] theorem bytesOf_length (l : List Int) : (bytesOf l).length = l.length := by simp [bytesOf]
theorem bytesOf_take (l : List Int) (n : Nat) : bytesOf (l.take n) = (bytesOf l).take n := by simp [bytesOf, List.map_take]
theorem bytesOf_drop (l : List Int) (n : Nat) : bytesOf (l.drop n) = (bytesOf l).drop n := by simp [bytesOf, List.map_drop]
theorem bytesOf_append (a b : List Int) : bytesOf (a ++ b) = bytesOf a ++ bytesOf b := by simp [bytesOf]

/-- the model buffer a generated `RadioBuffer` stands for (total) -/
def bufOf (g : Gen.RadioBufferFn.RadioBuffer) : RadioBuffer := ⟨bytesOf g.packet, g.pos.toNat⟩

/-- every model buffer is the image of a generated one whose `pos` is a natural number -/
theorem bufOf_surj (b : RadioBuffer) : ∃ g : Gen.RadioBufferFn.RadioBuffer, bufOf g = b ∧ 0 ≤ g.pos := by
  refine ⟨⟨b.packet.map (fun x => (x.toNat : Int)), (b.pos : Int)⟩, ?_, by simp⟩
  obtain ⟨p, n⟩ := b
  simp [bufOf, bytesOf, byteOf, Function.comp_def]

/-- `RadioBuffer::clear` of the current source is the model's `clear` -/
theorem tieA_radio_buffer_clear (g : Gen.RadioBufferFn.RadioBuffer) :
    bufOf (Gen.RadioBufferFn.RadioBuffer.clear g) = (bufOf g).clear := by
  obtain ⟨p, n⟩ := g
  simp [Gen.RadioBufferFn.RadioBuffer.clear, bufOf, RadioBuffer.clear]

/-- `RadioBuffer::set_pos` of the current source is the model's `setPos` -/
theorem tieA_radio_buffer_set_pos (g : Gen.RadioBufferFn.RadioBuffer) (pos : Int) :
    bufOf (Gen.RadioBufferFn.RadioBuffer.set_pos g pos) = (bufOf g).setPos pos.toNat := by
  obtain ⟨p, n⟩ := g
  simp [Gen.RadioBufferFn.RadioBuffer.set_pos, bufOf, RadioBuffer.setPos]

/-- `as_mut()` hands out the whole array and leaves the buffer as it was -/
theorem tieA_radio_buffer_as_mut (g : Gen.RadioBufferFn.RadioBuffer) :
    bytesOf (Gen.RadioBufferFn.RadioBuffer.as_mut g).1 = (bufOf g).asMut ∧ (Gen.RadioBufferFn.RadioBuffer.as_mut g).2 = g := by
  obtain ⟨p, n⟩ := g
  simp [Gen.RadioBufferFn.RadioBuffer.as_mut, bufOf, RadioBuffer.asMut]

/-- `as_ref()` hands out the whole array -/
theorem tieA_radio_buffer_as_ref (g : Gen.RadioBufferFn.RadioBuffer) :
    bytesOf (Gen.RadioBufferFn.RadioBuffer.as_ref g) = (bufOf g).asMut := by
  obtain ⟨p, n⟩ := g
  simp [Gen.RadioBufferFn.RadioBuffer.as_ref, bufOf, RadioBuffer.asMut]

theorem slice0_bridge (l : List Int) (n : Int) (hn : 0 ≤ n) :
    (Rt.slice l 0 n).map bytesOf = (sliceTo (bytesOf l) n.toNat).map (·.1) := by
  simp only [Rt.slice, sliceTo, bytesOf_length]
  by_cases h : n.toNat ≤ l.length
  · have h' : (0 : Int) ≤ 0 ∧ 0 ≤ n ∧ n ≤ (l.length : Int) := by omega
    simp [h, h', bytesOf_take]
  · have h' : ¬ ((0 : Int) ≤ 0 ∧ 0 ≤ n ∧ n ≤ (l.length : Int)) := by omega
    rw [if_neg h', if_neg h]; rfl

/-- `as_mut_for_read` of the current source: the slice `packet[..pos]` — the model's `asMutForRead`,
the slice panic (`pos > N`) included — and the buffer is left as it was -/
theorem tieA_radio_buffer_as_mut_for_read (g : Gen.RadioBufferFn.RadioBuffer) (hpos : 0 ≤ g.pos) :
    (Gen.RadioBufferFn.RadioBuffer.as_mut_for_read g).map (fun o => (bytesOf o.1, o.2))
      = (bufOf g).asMutForRead.map (fun b => (b, g)) := by
  obtain ⟨p, n⟩ := g
  have hb := slice0_bridge p n hpos
  unfold Gen.RadioBufferFn.RadioBuffer.as_mut_for_read
  simp only [bufOf, RadioBuffer.asMutForRead, ← hb]
  cases Rt.slice p 0 n <;> simp

/-- `as_ref_for_read` of the current source is the model's `asRefForRead`, the slice panic included -/
theorem tieA_radio_buffer_as_ref_for_read (g : Gen.RadioBufferFn.RadioBuffer) (hpos : 0 ≤ g.pos) :
    (Gen.RadioBufferFn.RadioBuffer.as_ref_for_read g).map bytesOf = (bufOf g).asRefForRead := by
  obtain ⟨p, n⟩ := g
  have hb := slice0_bridge p n hpos
  unfold Gen.RadioBufferFn.RadioBuffer.as_ref_for_read
  simp only [bufOf, RadioBuffer.asRefForRead, ← hb]

/-- what the generated `extend_from_slice` answers for a model outcome on buffer `g`: `Ok(())` with the
new buffer, `Err(())` with the buffer as it was, or a panic -/
def extOf (g : Gen.RadioBufferFn.RadioBuffer) : Outcome (Option RadioBuffer) → Option (Bool × RadioBuffer)
  | .ok (some b) => some (true, b)
  | .ok none => some (false, bufOf g)
  | .err _ => none
  | .panic _ => none

/-- `extend_from_slice` of the current source is the model's `extendFromSlice` for every buffer and
every slice whose end `pos + len` is a `usize`: same `Ok`/`Err`, same bytes, same position, the copy's
slice panic included (unreachable on both sides) -/
theorem tieA_radio_buffer_extend_from_slice (g : Gen.RadioBufferFn.RadioBuffer) (src : List Int)
    (hpos : 0 ≤ g.pos) (hfit : g.pos + (src.length : Int) ≤ 18446744073709551615) :
    (Gen.RadioBufferFn.RadioBuffer.extend_from_slice g src).map (fun o => (o.1.isSome, bufOf o.2))
      = extOf g ((bufOf g).extendFromSlice (bytesOf src)) := by
  obtain ⟨p, n⟩ := g
  simp only at hpos hfit
  have e1 : Rt.ck .usize (n + (src.length : Int)) = some (n + (src.length : Int)) := Rt.ck_usize (by omega) hfit
  have e2 : (n + (src.length : Int)).toNat = n.toNat + src.length := by omega
  unfold Gen.RadioBufferFn.RadioBuffer.extend_from_slice
  -- `Int.add_comm` is for a source that writes `len + pos`; on `pos + len` it does nothing
  set_option linter.unusedSimpArgs false in
  simp only [Int.add_comm (src.length : Int) n, RadioBuffer.extendFromSlice, bufOf, bytesOf_length, e1, Option.bind_eq_bind,
    Option.bind_some, Option.pure_def, Int.ofNat_eq_natCast]
  by_cases h : n.toNat + src.length < p.length
  · have h1 : n + (src.length : Int) < (p.length : Int) := by omega
    have hc : Rt.copyFromSlice p n (n + (src.length : Int)) src = some (p.take n.toNat ++ src ++ p.drop (n.toNat + src.length)) := by
      simp only [Rt.copyFromSlice, e2]
      rw [if_pos (by omega)]
    simp [h, h1, Nat.le_of_lt h, hc, e2, extOf, bytesOf_append, bytesOf_take, bytesOf_drop]
  · have h1 : ¬ n + (src.length : Int) < (p.length : Int) := by omega
    simp [h, h1, extOf, bufOf]

/-- the remaining case: when `pos + len` does not fit a `usize` the current source panics on the
addition (debug arithmetic).  The hand model answers `Err(())` there (`Nat` addition does not overflow): the
one case where model and code differ; `pos` only ever comes from a `u8` length, so it is not reachable
through the device. -/
theorem tieA_radio_buffer_extend_from_slice_overflow (g : Gen.RadioBufferFn.RadioBuffer) (src : List Int)
    (hov : 18446744073709551615 < g.pos + (src.length : Int)) :
    Gen.RadioBufferFn.RadioBuffer.extend_from_slice g src = none := by
  obtain ⟨p, n⟩ := g
  simp only at hov
  have e1 : Rt.ck .usize (n + (src.length : Int)) = none := by
    apply Rt.ck_eq_none; simp [Rt.ITy.lo, Rt.ITy.hi, Rt.ITy.signed, Rt.ITy.bits]; omega
  unfold Gen.RadioBufferFn.RadioBuffer.extend_from_slice
  set_option linter.unusedSimpArgs false in
  simp [Int.add_comm (src.length : Int) n, e1]

/-- non-vacuity: a 6-byte buffer at position 2 takes 3 bytes (2 + 3 < 6) … -/
example :
    Gen.RadioBufferFn.RadioBuffer.extend_from_slice ⟨[9, 8, 7, 6, 5, 4], 2⟩ [1, 2, 3]
      = some (some (), ⟨[9, 8, 1, 2, 3, 4], 5⟩) := by decide
/-- … refuses 4 bytes (2 + 4 < 6 fails: the strict comparison keeps the last byte free) … -/
example :
    Gen.RadioBufferFn.RadioBuffer.extend_from_slice ⟨[9, 8, 7, 6, 5, 4], 2⟩ [1, 2, 3, 4]
      = some (none, ⟨[9, 8, 7, 6, 5, 4], 2⟩) := by decide
/-- … `as_mut_for_read` hands out `packet[..pos]`, and panics when `pos` exceeds the array -/
example : Gen.RadioBufferFn.RadioBuffer.as_mut_for_read ⟨[9, 8, 7], 2⟩ = some ([9, 8], ⟨[9, 8, 7], 2⟩) := by decide
example : Gen.RadioBufferFn.RadioBuffer.as_mut_for_read ⟨[9, 8, 7], 4⟩ = none := by decide
example : (0 : Int) ≤ (⟨[9, 8, 7], 2⟩ : Gen.RadioBufferFn.RadioBuffer).pos
    ∧ (⟨[9, 8, 7], 2⟩ : Gen.RadioBufferFn.RadioBuffer).pos + (([1] : List Int).length : Int) ≤ 18446744073709551615 := by decide

/-- what `adapterDeliver` answers, as the generated side sees it (`none` = a panic) -/
def deliveredOf : Outcome Bytes → Option Bytes
  | .ok b => some b
  | _ => none

/-- the hand-over of the receive path composed from the REGENERATED `RadioBuffer` methods — the driver has filled the
array handed out by `as_mut()` (content `filled`) and answered `Ok(n)`, the device calls `set_pos(n)`, the MAC reads
`as_mut_for_read()` — is the model's `adapterDeliver` on the model's `Res`, the slice panic for `n > N` included.
(The glue in `lorawan_radio.rs` / `async_device` that makes these three calls is not translated: tied by the
correspondence.) -/
theorem tieA_adapter_handover (g : Gen.RadioBufferFn.RadioBuffer) (filled : List Int) (n : Int) (hn : 0 ≤ n) :
    (Gen.RadioBufferFn.RadioBuffer.as_mut_for_read
        (Gen.RadioBufferFn.RadioBuffer.set_pos { (Gen.RadioBufferFn.RadioBuffer.as_mut g).2 with packet := filled } n)).map
        (fun o => bytesOf o.1)
      = deliveredOf (adapterDeliver (bufOf g) ⟨.ok n.toNat, bytesOf filled⟩) := by
  have h1 := (tieA_radio_buffer_as_mut g).2
  have h2 := tieA_radio_buffer_set_pos { g with packet := filled } n
  have hp : 0 ≤ (Gen.RadioBufferFn.RadioBuffer.set_pos { g with packet := filled } n).pos := by
    have := congrArg RadioBuffer.pos h2
    obtain ⟨p, q⟩ := g
    simp [Gen.RadioBufferFn.RadioBuffer.set_pos]; exact hn
  have h3 := tieA_radio_buffer_as_mut_for_read _ hp
  rw [h1]
  have h4 := congrArg (Option.map Prod.fst) h3
  simp only [Option.map_map, Function.comp_def] at h4
  rw [h4, h2]
  simp only [adapterDeliver, bufOf, RadioBuffer.setPos]
  cases RadioBuffer.asMutForRead { packet := bytesOf filled, pos := n.toNat } <;> simp [deliveredOf]

/-- non-vacuity: 3 bytes delivered into a 4-byte array are handed to the MAC; `Ok(5)` would panic -/
example : (Gen.RadioBufferFn.RadioBuffer.as_mut_for_read (Gen.RadioBufferFn.RadioBuffer.set_pos
    { (Gen.RadioBufferFn.RadioBuffer.as_mut ⟨[0, 0, 0, 0], 0⟩).2 with packet := [7, 8, 9, 0] } 3)).map (·.1) = some [7, 8, 9] := by decide
example : Gen.RadioBufferFn.RadioBuffer.as_mut_for_read (Gen.RadioBufferFn.RadioBuffer.set_pos
    { (Gen.RadioBufferFn.RadioBuffer.as_mut ⟨[0, 0, 0, 0], 0⟩).2 with packet := [7, 8, 9, 0] } 5) = none := by decide

end C18
