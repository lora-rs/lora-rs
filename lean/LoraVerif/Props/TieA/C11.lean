import LoraVerif.Gen.MacStatic
import LoraVerif.Props.TieA.OtaaHandleRx
/-!
# C11, tie A: the join-accept delays

The hand model's `macRxDelay` reads `JOIN_ACCEPT_DELAY1/2` of `Gen.Session` for the two windows after a
JoinRequest.  In the code the delays travel through `Configuration.join_accept_delay1/2`, initialised
by the `Configuration { .. }` literal of `Mac::new` and read by `Mac::get_rx_delay`; both are
regenerated from the current source (`Gen/MacStatic.lean`) and proved here to yield the model's values.  Then
`Otaa::handle_rx` (`OtaaHandleRx.lean`) stated for this property, with the delays a JoinAccept can carry.
-/
namespace C11
open Model Gen.Region

/-- after a JoinRequest the windows open after the delays `Mac::new` stored (`JOIN_ACCEPT_DELAY1/2`),
whatever else the configuration holds — the model's `macRxDelay m true _` -/
theorem tieA_joinAcceptDelays (g : Gen.MacStatic.Configuration) (d : DR) (m : MacState)
    (hj1 : g.join_accept_delay1 = (Gen.MacStatic.Mac.new.configuration d).join_accept_delay1)
    (hj2 : g.join_accept_delay2 = (Gen.MacStatic.Mac.new.configuration d).join_accept_delay2) :
    Gen.MacStatic.Mac.get_rx_delay ⟨g⟩ .Join ._1 = some (macRxDelay m true false : Int) ∧
    Gen.MacStatic.Mac.get_rx_delay ⟨g⟩ .Join ._2 = some (macRxDelay m true true : Int) := by
  have e1 : (Gen.MacStatic.Mac.new.configuration d).join_accept_delay1 = (Gen.Session.JOIN_ACCEPT_DELAY1.toNat : Int) := rfl
  have e2 : (Gen.MacStatic.Mac.new.configuration d).join_accept_delay2 = (Gen.Session.JOIN_ACCEPT_DELAY2.toNat : Int) := rfl
  constructor
  · simp only [Gen.MacStatic.Mac.get_rx_delay, macRxDelay, hj1, e1]; rfl
  · simp only [Gen.MacStatic.Mac.get_rx_delay, macRxDelay, hj2, e2]; rfl

/-- LoRaWAN 1.0.x: JOIN_ACCEPT_DELAY1 = 5 s, JOIN_ACCEPT_DELAY2 = 6 s, in the configuration `Mac::new` builds -/
theorem tieA_joinAcceptDelays_values (d : DR) :
    Gen.MacStatic.Mac.get_rx_delay ⟨Gen.MacStatic.Mac.new.configuration d⟩ .Join ._1 = some 5000 ∧
    Gen.MacStatic.Mac.get_rx_delay ⟨Gen.MacStatic.Mac.new.configuration d⟩ .Join ._2 = some 6000 := by
  cases d <;> exact ⟨rfl, rfl⟩

example : macRxDelay (MacState.init (RegionState.init .US915) 20 0) true true = 6000 := by decide

#print axioms tieA_joinAcceptDelays
#print axioms tieA_joinAcceptDelays_values

/-- the WHOLE join step: the state-passing translation of
`Otaa::handle_rx` (`Gen/OtaaFn.lean`, with `Session::derive_new`, `Session::new`,
`DLSettings::{rx1_dr_offset, rx2_data_rate}`, `del_to_delay_ms` translated as well) is the model's
`macHandleRx` on a joining device, for every decrypted view whose octets are octets: a session is
returned exactly when the buffer verifies under the device's AppKey (the model's `JoinSuccess`); the
new session has the keys derived from the view under the DevNonce of the pending request and that
AppKey, the view's DevAddr, counters 0, no FCntDown, nothing pending, no ACK owed; RxDelay 0 and 1 both
give 1000 ms; RX1DROffset and the RX2 data rate are stored iff the region accepts them; the CFList goes
to the region first; `Otaa` and the buffer are not changed; a panic of the region's CFList handling is
a panic of the model.  Abstract: AES/CMAC (the view and the derivations are inputs) and the region's
three methods (instantiated with the model's). -/
theorem tieA_otaa_handle_rx (m : MacState) (st : OtaaState) (o : Gen.OtaaFn.Otaa) (g : Gen.OtaaFn.Configuration)
    (rx : Gen.OtaaFn.RadioBuffer) (maxPayload : Nat) (snr : Int)
    (hst : m.st = .otaa st) (hcfg : m.cfg = TieA.OtaaRx.cfgOf g) (hwf : TieA.OtaaRx.ViewWF o rx) :
    (Gen.OtaaFn.Otaa.handle_rx o m.region g rx).map
        (fun out => ((if out.1.isSome then Response.joinSuccess else Response.noUpdate), TieA.OtaaRx.macAfter m out, out.2.1, out.2.2.2.2))
      = (macHandleRx m (TieA.OtaaRx.viewOf o rx) maxPayload snr false).toOption.bind
          (fun r => r.1.map (fun ro => (ro.resp, r.2, o, rx))) :=
  TieA.OtaaRx.tieA_otaa_handle_rx m st o g rx maxPayload snr hst hcfg hwf

/-- non-vacuity: the hypotheses hold for a joining EU868 device and the example buffer of
`Props/TieA/OtaaHandleRx.lean`; the join succeeds and the model state is `Joined` -/
example :
    let m : MacState := { MacState.init (RegionState.init .EU868) 20 0 with st := .otaa ⟨100⟩ }
    ((macHandleRx m (TieA.OtaaRx.viewOf ⟨⟨100⟩, ⟨⟨⟨7⟩⟩⟩⟩ TieA.OtaaRx.exRx) 250 0 false).toOption.map
      (fun r => (r.1.map (·.resp), r.2.cfg.rx1Delay, r.2.cfg.rx1DrOffset, r.2.cfg.rx2DataRate)))
      = some (some .joinSuccess, 1000, 2, some 3) := by
  rfl

/-- the RxDelay the join step stores: 0 and 1 → 1000 ms, d = 2..15 → d·1000 ms -/
theorem tieA_otaa_rx_delay_values : ∀ k : Fin 16,
    Gen.OtaaFn.del_to_delay_ms (k.val : Int) = some ((max 1 k.val * 1000 : Nat) : Int) :=
  by decide +kernel

example : Gen.OtaaFn.del_to_delay_ms 0 = some 1000 ∧ Gen.OtaaFn.del_to_delay_ms 15 = some 15000 := by decide

#print axioms tieA_otaa_handle_rx
#print axioms tieA_otaa_rx_delay_values
end C11
