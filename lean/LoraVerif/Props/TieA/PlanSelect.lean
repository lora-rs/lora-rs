import LoraVerif.Props.TieA.PlanSelectLemmas
import LoraVerif.Props.C09
/-!
# Tie A for the channel selection (C09): `DynamicChannelPlan::select_tx_channel`

`Gen/PlanSelectFn.lean` is the state-passing translation of the CURRENT source of
`DynamicChannelPlan::select_tx_channel` with `get_random_in_range` and the "never spin" fallback.  The random
generator is abstract (`RngCore RNG`), the redraw loops run on a fuel (`Rt.loopM LoopFuel.fuel`).

`C09.tieA_dynamic_select_tx_channel`: for every plan (16 slots, 9 mask octets), data rate, frame kind, generator
and stream the regenerated method — instantiated with the model's `draw` and fuel `loopFuel` — is the model's
`selectTxChannel`: same TxChannel, same plan afterwards, same stream state; it fails (panic or fuel used up) iff
the model does (`Except.toOption` forgets which of the two).

The proofs follow the method statement by statement with the rules of `Calc.lean`; the model looks the data rate up
before anything else and the source last, which `Tie.swap` absorbs.
-/
set_option linter.unusedSimpArgs false
namespace C09
open Model Gen.Region TieA TieA.Select TieA.CMask Rt.OfNat

/-- `rposition(is_some).unwrap() + 1` -/
theorem range_tie (p : Gen.PlanSelectFn.DynamicChannelPlan) (hw : p.channels.length = 16) :
    ((Rt.rposition (fun x => x.isSome) p.channels).bind fun t1 => Rt.ck .usize (t1 + 1))
      = ((planOf p).range.toOption).map Int.ofNat := by
  rw [rposition_eq _ _ (fun i => (p.channels[i]?).any (fun x => x.isSome)) (fun _ => rfl)]
  unfold DynPlan.range
  simp only [planOf, List.length_map]
  split
  · rename_i i heq
    rw [List.filter_congr (q := fun i => (p.channels[i]?).any (fun x => x.isSome))
      (by intro i _; rw [List.getElem?_map]; cases p.channels[i]? with | none => rfl | some a => cases a <;> rfl)] at heq
    rw [heq]
    have hm := List.mem_of_getLast? heq
    have hi : i < 16 := by
      have := (List.mem_filter.mp hm).1
      rw [List.mem_range] at this; omega
    rw [Option.map_some, Option.bind_some, show Int.ofNat i = (i : Int) from rfl, ck_succ i hi]
    rfl
  · rename_i heq
    rw [List.filter_congr (q := fun i => (p.channels[i]?).any (fun x => x.isSome))
      (by intro i _; rw [List.getElem?_map]; cases p.channels[i]? with | none => rfl | some a => cases a <;> rfl)] at heq
    rw [heq]
    simp [Except.toOption, Model.panic]

theorem range_le (p : Gen.PlanSelectFn.DynamicChannelPlan) (hw : p.channels.length = 16) (r : Nat)
    (h : (planOf p).range = .ok r) : r ≤ 16 := by
  unfold DynPlan.range planOf at h
  simp only [List.length_map] at h
  split at h
  · rename_i i hl
    have hm := List.mem_of_getLast? hl
    have := (List.mem_filter.mp hm).1
    rw [List.mem_range] at this
    cases h; omega
  · cases h

/-- `get_random_in_range` -/
theorem random_tie {σ} (g : Rng σ) (p : Gen.PlanSelectFn.DynamicChannelPlan) (hw : p.channels.length = 16) (s : σ) :
    @Gen.PlanSelectFn.DynamicChannelPlan.get_random_in_range σ (rngOf g) p s
      = (((planOf p).randomInRange g s).toOption).map (fun o => ((o.1 : Int), o.2)) := by
  unfold Gen.PlanSelectFn.DynamicChannelPlan.get_random_in_range DynPlan.randomInRange
  have hr := range_tie p hw
  simp only [Option.bind_eq_bind] at hr ⊢
  rw [← Option.bind_assoc, hr]
  cases hrg : (planOf p).range with
  | error e => rfl
  | ok r =>
    have hle := range_le p hw r hrg
    simp only [Except.toOption, Option.map_some, Option.bind_some, bind, Except.bind, pure, Except.pure, Int.ofNat_eq_natCast]
    have hnot16 : ¬ r > 16 := by omega
    have hnot16' : ¬ (r : Int) > 16 := by omega
    have hle16 : (r : Int) ≤ 16 := by omega
    have h8' : ((r : Int) > 8) = (r > 8) := by apply propext; omega
    have h8'' : ((r : Int) ≤ 8) = ¬ r > 8 := by apply propext; omega
    by_cases h8 : r > 8 <;>
      simp [hnot16, hnot16', hle16, h8, h8', h8'', andI_15, andI_15', andI_7, andI_7', next_rngOf]

theorem idx_datarates (r : RegionId) (dr : DR) :
    Rt.idx (datarates r) (Rt.wrap .usize (DR.toInt dr)) = (datarates r)[dr.toInt.toNat]? := by
  have h : Rt.wrap .usize (DR.toInt dr) = ((dr.toInt.toNat : Nat) : Int) := by cases dr <;> rfl
  rw [h, idx_nat]

theorem unwrap_opt (site : String) (o : Option Datarate) : (unwrapDatarate site o).toOption = o := by
  cases o <;> rfl

/-- `R::datarates()[datarate as usize].unwrap()` -/
theorem datarate_tie (r : RegionId) (dr : DR) :
    Tie (fun d d' => d' = d) ((Rt.idx (datarates r) (Rt.wrap .usize (DR.toInt dr))).bind id)
      (indexDatarate r dr.toInt.toNat >>= unwrapDatarate "datarates()[dr].unwrap") := by
  rw [idx_datarates]
  unfold indexDatarate
  rcases (datarates r)[dr.toInt.toNat]? with _ | _ | d <;> first | trivial | exact rfl

set_option linter.unusedVariables false in -- `hw` is part of the statement; only the data frame needs it
/-- the join request of a dynamic plan -/
theorem dyn_join_tie {σ} (g : Rng σ) (rs : RegionState) (p : Gen.PlanSelectFn.DynamicChannelPlan)
    (hplan : rs.plan = .dyn (planOf p)) (hw : PlanWF p) (dr : DR) (s : σ) :
    (@Gen.PlanSelectFn.DynamicChannelPlan.select_tx_channel (regOf rs.id) σ (rngOf g) (fuelOf loopFuel) p s dr .Join).map
        (fun o => (txOf o.1, { rs with plan := .dyn (planOf o.2.1) }, o.2.2))
      = (selectTxChannel g rs dr .join s).toOption := by
  refine Tie.iff_map.mp ?_
  unfold Gen.PlanSelectFn.DynamicChannelPlan.select_tx_channel selectTxChannel
  simp only [hplan, next_rngOf, fuel_fuelOf, andI_3, andI_3', remC_u32_4, Option.bind_eq_bind, Option.pure_def, Option.bind_some]
  rw [wrap_u8_nat _ (by omega)]
  -- the model looks the data rate up first, the source last
  refine Tie.swap (Tie.bind (R := fun o b => o = (b.2, (b.1 : Int))) ?_ fun o b ho => ?_)
  · -- `index = draw & 3; while index >= n { index = draw & 3 }`: the state is what was drawn last
    refine Tie.loopM (fun s x => x = ((draw g s).2, (((draw g s).1 % 4 : Nat) : Int)))
      (fun k s => dynJoinLoop g (numJoinChannels rs.id) k s) (fun _ => ⟨_, rfl⟩) ?_ loopFuel s _ rfl
    rintro k s _ rfl
    have hw8 := wrap_u8_nat ((draw g (draw g s).2).1 % 4) (by omega)
    -- the loop test, whichever way and in whichever type it is spelt
    have h2 : (((numJoinChannels rs.id : Nat) : Int) ≤ (((draw g s).1 % 4 : Nat) : Int))
        = (numJoinChannels rs.id ≤ (draw g s).1 % 4) := by apply propext; omega
    have h3 : ((((draw g s).1 % 4 : Nat) : Int) < ((numJoinChannels rs.id : Nat) : Int))
        = ¬ numJoinChannels rs.id ≤ (draw g s).1 % 4 := by apply propext; omega
    by_cases h : numJoinChannels rs.id ≤ (draw g s).1 % 4 <;>
      simp only [regOf, ge_iff_le, h2, h3, h, not_true_eq_false, not_false_eq_true, decide_true, decide_false, if_true, if_false,
        Bool.false_eq_true, hw8]
    · exact Tie.Turn.next (i' := (draw g s).2) rfl (by rw [dynJoinLoop]; simp only [ge_iff_le, h, if_true])
    · exact Tie.Turn.exit (by rw [dynJoinLoop]; simp only [ge_iff_le, h, if_false]; rfl) rfl
  · subst ho
    obtain ⟨i, s1⟩ := b
    rw [show (planOf p).channels[i]? = (p.channels[i]?).map (Option.map chanOf) from List.getElem?_map ..]
    simp only [idx_nat]
    rcases hc : p.channels[i]? with _ | _ | c
    · cases indexDatarate rs.id dr.toInt.toNat <;> trivial
    · cases indexDatarate rs.id dr.toInt.toNat <;> trivial
    · simp only [Option.map_some, Option.bind_some, ← bind_assoc, bind_bind_id]
      refine Tie.bind (datarate_tie rs.id dr) fun d _ hd => ?_
      subst hd
      refine Tie.pure ?_
      simp only [txOf, chanOf, Gen.PlanSelectFn.Channel.ul_frequency, Gen.PlanSelectFn.Channel.rx1_frequency, Channel.rx1Frequency,
        TieA.plan_eta hplan]
      cases c.dl_frequency <;> rfl

/-- the usable test `channel_mask.is_enabled(i)? && channels[i].is_some()`, whatever is done with the slot (`K`; a disabled
channel is treated as an empty slot) and whatever is to be shown of the outcome (`J`): it fails with the model's
`usable`, or goes on with the slot the model's `usable` answers -/
theorem usable_cases {β : Type} (q : Gen.PlanSelectFn.DynamicChannelPlan) (hqo : Octets q.channel_mask._0)
    (hqm : q.channel_mask._0.length = 9) (i : Nat) (K : Option Gen.PlanSelectFn.Channel → Option β) (J : Option β → Prop)
    (herr : ∀ e, (planOf q).usable i = .error e → J none)
    (hok : ∀ o, (planOf q).usable i = .ok (o.map chanOf) → J (K o)) :
    J ((q.channel_mask.is_enabled (i : Int)).bind fun t => t.bind fun t' =>
        if t' = true then (Rt.idx q.channels (i : Int)).bind K else K none) := by
  rw [bind_bind_id, is_enabled_nat9 _ hqo hqm]
  unfold DynPlan.usable at herr hok
  simp only [planOf, List.getElem?_map] at herr hok
  cases hen : Mask.isEnabled (natsOf q.channel_mask._0) i with
  | error e => exact herr e (by rw [hen]; rfl)
  | ok t =>
    cases t with
    | false => exact hok none (by rw [hen]; rfl)
    | true =>
      simp only [Except.toOption, Option.bind_some, if_true, idx_nat]
      cases hch : q.channels[i]? with
      | none => exact herr _ (by rw [hen, hch]; rfl)
      | some o => exact hok o (by rw [hen, hch]; rfl)

/-- a data frame on a dynamic plan -/
theorem dyn_data_tie {σ} (g : Rng σ) (rs : RegionState) (p : Gen.PlanSelectFn.DynamicChannelPlan)
    (hplan : rs.plan = .dyn (planOf p)) (hw : PlanWF p) (dr : DR) (s : σ) :
    (@Gen.PlanSelectFn.DynamicChannelPlan.select_tx_channel (regOf rs.id) σ (rngOf g) (fuelOf loopFuel) p s dr .Data).map
        (fun o => (txOf o.1, { rs with plan := .dyn (planOf o.2.1) }, o.2.2))
      = (selectTxChannel g rs dr .data s).toOption := by
  obtain ⟨hc, hml, hoct, hfr⟩ := hw
  refine Tie.iff_map.mp ?_
  unfold Gen.PlanSelectFn.DynamicChannelPlan.select_tx_channel selectTxChannel
  simp only [hplan, fuel_fuelOf, Option.bind_eq_bind, Option.pure_def]
  rw [show Gen.Region.NUM_CHANNELS_DYNAMIC = ((16 : Nat) : Int) from rfl]
  -- the model looks the data rate up first, the source when the loop has found its channel
  refine Tie.swap (Tie.bind (R := fun a b => b = a) (Tie.rangeAny 16 fun j _ => ?_) fun t11 b hb => ?_)
  · exact usable_cases p hoct hml j (fun t9 => some t9.isSome) (Tie _ · _) (fun e he => by rw [he]; trivial)
      fun o ho => by rw [ho]; cases o <;> exact rfl
  · subst hb
    -- the plan the fallback leaves
    have hj3 := numJoinChannels_le rs.id
    refine Tie.swap (Tie.bind (R := fun q pm => pm = planOf q ∧ PlanWF q) ?_ fun q pm hq => ?_)
    · cases b with
      | true => exact Tie.pure ⟨rfl, hc, hml, hoct, hfr⟩
      | false =>
        simp only [Bool.not_false, if_true, Bool.false_eq_true, if_false]
        rw [show (regOf rs.id).NUM_JOIN_CHANNELS = ((numJoinChannels rs.id : Nat) : Int) from rfl]
        refine Tie.bind_right (Tie.forRange (I := fun q m => m = natsOf q.channel_mask._0 ∧ PlanWF q ∧ q.channels = p.channels)
          _ ⟨rfl, ⟨hc, hml, hoct, hfr⟩, rfl⟩ fun j q m hj ⟨hm, ⟨hqc, hqm, hqo, hqf⟩, hqe⟩ => ?_) fun q m ⟨hm, hq, hqe⟩ => ?_
        · subst hm
          refine Tie.bind_left (set_channel_tie q.channel_mask hqo j (by omega) (by omega) true) fun m' n ⟨hn, ho, hl⟩ => ?_
          exact ⟨hn, ⟨hqc, hl.trans hqm, ho, hqf⟩, hqe⟩
        · subst hm
          exact ⟨by simp only [planOf, hqe], hq⟩
    · obtain ⟨rfl, hqc, hqm, hqo, hqf⟩ := hq
      refine Tie.swap ?_
      generalize loopFuel = F
      rw [random_tie g q hqc]
      cases hr : (planOf q).randomInRange g s with
      | error e => obtain ⟨e', he'⟩ := dynDataLoop_draw_error g (planOf q) F s hr; rw [he']; trivial
      | ok x0 =>
        simp only [Except.toOption, Option.map_some, Option.bind_some]
        refine Tie.bind_left (R := fun (a : Gen.PlanSelectFn.TxChannel × Gen.PlanSelectFn.DynamicChannelPlan × σ) b =>
          b = (txOf a.1, { rs with plan := .dyn (planOf a.2.1) }, a.2.2)) ?_ fun o b h => by exact h
        -- `channel = random(); loop { if usable(channel) { return .. } channel = random() }`: the state is the plan, and
        -- the channel and generator that the draw from `s0` gave; after the loop the model looks the data rate up
        refine Tie.loopM
          (fun s0 x => ∃ i s', (planOf q).randomInRange g s0 = .ok (i, s') ∧ x = (q, s', (i : Int)))
          (fun k s0 => do
            let b ← dynDataLoop g (planOf q) k s0
            let c ← indexDatarate rs.id dr.toInt.toNat
            let d ← unwrapDatarate "datarates()[dr].unwrap" c
            pure (({ dr := dr, datarate := d, frequency := b.1.freq, rx1Frequency := b.1.rx1Frequency } : TxChannel),
              { rs with plan := .dyn (planOf q) }, b.2))
          (fun _ => ⟨_, rfl⟩) ?_ F s _ ⟨x0.1, x0.2, hr, rfl⟩
        rintro k s0 _ ⟨i, s', hr', rfl⟩
        have hY : ∀ {γ} (T : Channel × σ → M γ), dynDataLoop g (planOf q) (k + 1) s0 >>= T = (planOf q).usable i >>= fun o =>
            match o with
            | some c => T (c, s')
            | none => dynDataLoop g (planOf q) k s' >>= T := fun T => by
          rw [dynDataLoop, hr']
          show ((planOf q).usable i >>= _) >>= T = _
          rw [bind_assoc]
          congr 1; funext o; cases o <;> rfl
        refine usable_cases q hqo hqm i _ _ (fun e he => ?_) fun o ho => ?_
        · exact Tie.Turn.fail ((hY _).trans (by rw [he]; rfl))
        · cases o with
          | none =>
            simp only [random_tie g q hqc]
            cases hr2 : (planOf q).randomInRange g s' with
            | error e =>
              obtain ⟨e', he'⟩ := dynDataLoop_draw_error g (planOf q) k s' hr2
              exact Tie.Turn.fail ((hY _).trans (by
                rw [ho, Option.map_none]; show dynDataLoop g _ k s' >>= _ = _; rw [he']; rfl))
            | ok x1 => exact Tie.Turn.next (i' := s') ⟨x1.1, x1.2, hr2, rfl⟩ ((hY _).trans (by rw [ho]; rfl))
          | some ch =>
            simp only [bind_bind_id, show (regOf rs.id).datarates = datarates rs.id from rfl]
            rcases (datarate_tie rs.id dr).cases with ⟨hx, e, hy⟩ | ⟨d, _, hx, hy, rfl⟩ <;> rw [hx]
            · exact Tie.Turn.fail ((hY _).trans (by
                rw [ho]; show (indexDatarate _ _ >>= fun c => unwrapDatarate _ c >>= _) = _; rw [← bind_assoc, hy]; rfl))
            · refine Tie.Turn.exit ((hY _).trans (by
                rw [ho]; show (indexDatarate _ _ >>= fun c => unwrapDatarate _ c >>= _) = _; rw [← bind_assoc, hy]; rfl)) ?_
              simp only [txOf, chanOf, Gen.PlanSelectFn.Channel.ul_frequency, Gen.PlanSelectFn.Channel.rx1_frequency, Channel.rx1Frequency]
              cases hdl : ch.dl_frequency <;> rfl

/-- **`DynamicChannelPlan::select_tx_channel` as the current source has it is the model's `selectTxChannel`** on a
dynamic plan: for every plan (16 slots, 9 mask octets), data rate, frame kind, generator and stream — the same
TxChannel, the same plan afterwards (the "never spin" fallback included), the same stream state; a failure
(panic, or the redraw loops using up `loopFuel` draws) on one side iff on the other -/
theorem tieA_dynamic_select_tx_channel {σ} (g : Rng σ) (rs : RegionState) (p : Gen.PlanSelectFn.DynamicChannelPlan)
    (hplan : rs.plan = .dyn (planOf p)) (hw : PlanWF p) (dr : DR) (frame : Gen.PlanSelectFn.Frame) (s : σ) :
    (@Gen.PlanSelectFn.DynamicChannelPlan.select_tx_channel (regOf rs.id) σ (rngOf g) (fuelOf loopFuel) p s dr frame).map
        (fun o => (txOf o.1, { rs with plan := .dyn (planOf o.2.1) }, o.2.2))
      = (selectTxChannel g rs dr (frameOf frame) s).toOption := by
  cases frame
  · exact dyn_join_tie g rs p hplan hw dr s
  · exact dyn_data_tie g rs p hplan hw dr s

#print axioms tieA_dynamic_select_tx_channel

/-- legality of whatever a regenerated selection returns, from its tie to the model (`C09.selectTxChannel_legal`); `ψ` reads
the plan the generated code leaves as the model's -/
theorem legal_of_tie {σ P} (ψ : P → Plan) (g : Rng σ) (rs : RegionState) (dr : DR) (fk : FrameKind) (s s' : σ)
    (tx : Gen.PlanSelectFn.TxChannel) (p' : P) (x : Option (Gen.PlanSelectFn.TxChannel × P × σ))
    (h : x.map (fun o => (txOf o.1, { rs with plan := ψ o.2.1 }, o.2.2)) = (selectTxChannel g rs dr fk s).toOption)
    (hwf : regionWF rs = true) (hsel : x = some (tx, p', s')) :
    getDatarate rs.id tx.dr.toInt.toNat = some tx.datarate ∧
    ChannelLegal { rs with plan := ψ p' } fk (txOf tx) ∧
    (isUplinkDatarate rs.id dr.toInt.toNat = true → isUplinkDatarate rs.id tx.dr.toInt.toNat = true) := by
  rw [hsel, Option.map_some] at h
  obtain ⟨_, h2, h3, h4⟩ := selectTxChannel_legal g rs _ dr fk s s' (txOf tx) hwf (toOption_eq_some h.symm)
  exact ⟨h2, h3, h4⟩

/-- **`C09.selectTxChannel_legal` carried over to the regenerated method**: whatever the current source of
`DynamicChannelPlan::select_tx_channel` returns — for every well-formed plan, data rate, frame kind, generator and
stream — carries the region's data-rate entry for `tx.dr` and the frequency of a DEFINED channel of the plan it
leaves: a join channel for a join request, an ENABLED channel for a data frame; an uplink data rate stays one -/
theorem tieA_select_tx_channel_legal {σ} (g : Rng σ) (rs : RegionState) (p p' : Gen.PlanSelectFn.DynamicChannelPlan)
    (hplan : rs.plan = .dyn (planOf p)) (hw : PlanWF p) (hwf : regionWF rs = true) (dr : DR)
    (frame : Gen.PlanSelectFn.Frame) (s s' : σ) (tx : Gen.PlanSelectFn.TxChannel)
    (hsel : @Gen.PlanSelectFn.DynamicChannelPlan.select_tx_channel (regOf rs.id) σ (rngOf g) (fuelOf loopFuel) p s dr frame
      = some (tx, p', s')) :
    getDatarate rs.id tx.dr.toInt.toNat = some tx.datarate ∧
    ChannelLegal { rs with plan := .dyn (planOf p') } (frameOf frame) (txOf tx) ∧
    (isUplinkDatarate rs.id dr.toInt.toNat = true → isUplinkDatarate rs.id tx.dr.toInt.toNat = true) :=
  legal_of_tie (fun q => .dyn (planOf q)) g rs dr (frameOf frame) s s' tx p' _
    (tieA_dynamic_select_tx_channel g rs p hplan hw dr frame s) hwf hsel

/-- a generator that counts: the k-th draw is k -/
def exGen : Rng Nat := fun n => (n, n + 1)

def exChan (f : Int) : Option Gen.PlanSelectFn.Channel := some { frequency := f, _datarates := ⟨0x50⟩, dl_frequency := none }

def exPlan : Gen.PlanSelectFn.DynamicChannelPlan :=
  { channels := [exChan 868100000, exChan 868300000, exChan 868500000] ++ List.replicate 13 none,
    channel_mask := ⟨List.replicate 9 255⟩ }

/-- the same plan with every channel masked off: the fallback re-enables the three default channels -/
def exPlanOff : Gen.PlanSelectFn.DynamicChannelPlan := { exPlan with channel_mask := ⟨List.replicate 9 0⟩ }

theorem exPlan_wf : PlanWF exPlan ∧ PlanWF exPlanOff := by
  refine ⟨⟨rfl, rfl, ?_, ?_⟩, ⟨rfl, rfl, ?_, ?_⟩⟩
  · exact TieA.octets_replicate 9
  · intro c hc
    simp [exPlan, exChan] at hc
    rcases hc with h | h | h <;> subst h <;> exact ⟨by decide, by intro f hf; cases hf⟩
  · intro x hx; have := (List.mem_replicate.mp hx).2; omega
  · intro c hc
    simp [exPlanOff, exPlan, exChan] at hc
    rcases hc with h | h | h <;> subst h <;> exact ⟨by decide, by intro f hf; cases hf⟩

/-- join: draws 0,1,2,.. → index 0 → 868.1 MHz; data from draw 5: 5 & 7 = 5 undefined, 6, 7 undefined, 8 & 7 = 0 → 868.1 MHz
after four draws; all channels masked off: the mask afterwards has the three default channels (byte 0 = 7) -/
example :
    (@Gen.PlanSelectFn.DynamicChannelPlan.select_tx_channel (regOf .EU868) Nat (rngOf exGen) (fuelOf loopFuel) exPlan 0 DR._0 .Join).map
        (fun o => (o.1.frequency, o.2.2)) = some (868100000, 1) ∧
    (@Gen.PlanSelectFn.DynamicChannelPlan.select_tx_channel (regOf .EU868) Nat (rngOf exGen) (fuelOf loopFuel) exPlan 5 DR._3 .Data).map
        (fun o => (o.1.frequency, o.2.2)) = some (868100000, 9) ∧
    (@Gen.PlanSelectFn.DynamicChannelPlan.select_tx_channel (regOf .EU868) Nat (rngOf exGen) (fuelOf loopFuel) exPlanOff 1 DR._3 .Data).map
        (fun o => (o.1.frequency, o.2.1.channel_mask._0, o.2.2)) = some (868300000, [7, 0, 0, 0, 0, 0, 0, 0, 0], 2) ∧
    -- data rate 15 is not defined: the table lookup panics
    (@Gen.PlanSelectFn.DynamicChannelPlan.select_tx_channel (regOf .EU868) Nat (rngOf exGen) (fuelOf loopFuel) exPlan 0 DR._15 .Data) = none ∧
    -- a fuel of 3 steps is used up before the fourth draw (8 & 7 = 0) is looked at
    (@Gen.PlanSelectFn.DynamicChannelPlan.select_tx_channel (regOf .EU868) Nat (rngOf exGen) (fuelOf 3) exPlan 5 DR._3 .Data) = none := by
  decide +kernel

/-- the hypotheses of `tieA_select_tx_channel_legal` hold of the EU868 plan as `State::new` builds it -/
example : (RegionState.init .EU868).plan = .dyn (planOf exPlan) ∧ regionWF (RegionState.init .EU868) = true := by
  decide +kernel

#print axioms tieA_select_tx_channel_legal

/-- **never spins, on the regenerated code**: in every well-formed state and for every uplink data rate there is a
draw value (below 64) under which the CURRENT source of `DynamicChannelPlan::select_tx_channel` — both frame kinds,
the fallback to the default channels included — returns: no panic, and the redraw loops do not use up their fuel
(`C09.select_accept_nonempty` carried over) -/
theorem tieA_select_accept_nonempty (rs : RegionState) (p : Gen.PlanSelectFn.DynamicChannelPlan)
    (hplan : rs.plan = .dyn (planOf p)) (hw : PlanWF p) (hwf : regionWF rs = true) (dr : DR)
    (hdr : isUplinkDatarate rs.id dr.toInt.toNat = true) (frame : Gen.PlanSelectFn.Frame) :
    ∃ v, v < 64 ∧ ∀ {σ : Type} (s : σ),
      (@Gen.PlanSelectFn.DynamicChannelPlan.select_tx_channel (regOf rs.id) σ (rngOf (constGen v)) (fuelOf loopFuel) p s dr frame).isSome = true := by
  obtain ⟨v, hv, h⟩ := select_accept_nonempty rs dr (frameOf frame) hwf hdr
  refine ⟨v, hv, fun {σ} s => ?_⟩
  obtain ⟨a, ha, _⟩ := h (σ := σ) s
  exact TieA.isSome_of_tie (tieA_dynamic_select_tx_channel (constGen v) rs p hplan hw dr frame s) ha

#print axioms tieA_select_accept_nonempty

end C09
