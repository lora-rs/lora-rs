import LoraVerif.Props.C12
import LoraVerif.Props.TieA.RegionDispatch
import LoraVerif.Props.TieA.C12
/-!
# C12 — the module `./check C12` builds: the property theorems (`Props/C12.lean`) together with the
tie-A equalities between the hand model's constants and the items regenerated from the current
source (`Props/TieA/C12.lean`).  Kept separate from `Props/C12.lean` so that properties which only
import C12's lemmas do not inherit its generated units.
-/
