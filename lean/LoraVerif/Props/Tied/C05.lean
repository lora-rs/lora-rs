import LoraVerif.Props.C05
import LoraVerif.Props.TieA.RegionDispatch
import LoraVerif.Props.TieA.C05
import LoraVerif.Props.C05Size
import LoraVerif.Props.TieA.MacRfC05
/-!
# C05 — the module `./check C05` builds: the property theorems (`Props/C05.lean`) together with the
tie-A equalities between the hand model's constants and the items regenerated from the current
source (`Props/TieA/C05.lean`).  Kept separate from `Props/C05.lean` so that properties which only
import C05's lemmas do not inherit its generated units.
-/
