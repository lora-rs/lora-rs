import LoraVerif.Props.C09
import LoraVerif.Props.TieA.RegionDispatch
import LoraVerif.Props.TieA.C09
import LoraVerif.Props.C05Size
import LoraVerif.Props.TieA.PlanSelect
import LoraVerif.Props.TieA.PlanSelectFixed
import LoraVerif.Props.TieA.MacTopTx
import LoraVerif.Props.TieA.JoinWalk
import LoraVerif.Props.TieA.JoinWalkData
/-!
# C09 — the module `./check C09` builds: the property theorems (`Props/C09.lean`) together with the
tie-A equalities between the hand model's constants and the items regenerated from the current
source (`Props/TieA/C09.lean`).  Kept separate from `Props/C09.lean` so that properties which only
import C09's lemmas do not inherit its generated units.
-/
