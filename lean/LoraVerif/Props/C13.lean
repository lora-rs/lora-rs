import LoraVerif.Lemmas.PhyLemmas
import LoraVerif.Lemmas.PhyEffect127
import LoraVerif.Lemmas.PhyEffectMod127
import LoraVerif.Lemmas.PhyEffectPkt127
import LoraVerif.Lemmas.PhyEffectTx127
import LoraVerif.Lemmas.PhyEffectFifo127
/-!
# C13 — the SX126x / SX127x drivers emit the same SPI bytes as Semtech's reference driver

`Model.Phy.Sx126x.*` (transliteration of lora-phy, tied by the C13 correspondence, codes regenerated
from `radio_kind_params.rs`) against `Spec.Semtech.S126.Ref.*` (a transcription of SWL2001
`sx126x.c`, validated against the compiled C on every run).  `spiTrace p c` is the list of MOSI byte
streams the program `p` clocks out on chip `c` (whose register file answers the reads), so an
equation `spiTrace model c = spiTrace ref c` for all `c` says: byte-identical SPI transactions
given the same register state.

The SX127x is register based, and the reference burst-writes and read-modify-writes where lora-phy issues single
register accesses; there equality is on the chip-visible effect, the value every register holds afterwards
(`(trace p c).2.1.regs`), on the bits `eff_mask` of the harness compares.  Everything is also compared three-way,
with the compiled C, by the correspondence suite (`props/C13.json`).  The imports of the `PhyEffect*127` files are what
puts them into the build: `PhyEffectFifo127` has no other importer.
-/
open Model.Phy Spec.Semtech Spec.Semtech.S126
open Gen.PhyCodes126

namespace C13

theorem sync_word_bytes (y z : Nat) (hy : y < 16) (hz : z < 16) :
    ((y * 16 + 4) * 256 + (z * 16 + 4)) / 256 % 256 = y * 16 + 4 ∧ ((y * 16 + 4) * 256 + (z * 16 + 4)) % 256 = z * 16 + 4 := by
  omega

section sx126x
/- the definitions both SX126x drivers are unfolded through: given to `simp` once for the whole section (naming them
at every call costs more than the simplification itself) -/
attribute [local simp] spiTrace intfWrite intfRead halWrite halRead Prog.req Prog.xfer ofOpt byte u8 b2u hi8 lo8 Model.Phy.Sx126x.op Model.Phy.Sx126x.addr2 Model.Phy.Sx126x.regR8 Model.Phy.Sx126x.regW8 Model.Phy.Sx126x.timeout1 Model.Phy.Sx126x.timeout2 Model.Phy.Sx126x.timeout3 OpCode.value OpCode.toInt Register.toInt Register.addr2 Rt.wrap Rt.andI Rt.ITy.bits readRegister writeRegister WRITE_REGISTER READ_REGISTER SET_MODULATION_PARAMS SET_PKT_PARAMS SET_LORA_SYMB_NUM_TIMEOUT NOP REG_LR_SYNCWORD REG_IQ_POLARITY REG_TX_MODULATION REG_TX_CLAMP_CFG REG_TX_CLAMP_CFG_MASK REG_RTC_CTRL REG_EVT_CLR REG_EVT_CLR_TIMEOUT_MASK REG_LR_SYNCH_TIMEOUT

/-- `simp +decide` over the section's `local simp` set above (that set is the substance; the macro exists outside this
section neither by name nor by meaning); a caller names the two programs compared.  How the proofs below use it: flags
and code-table values stay variables (`sf_code`, `cr_code`, `bw_code` give the codes once), and a case split is made
only where one of the programs branches (the IQ and 500 kHz workarounds, the RX mode, the PA). -/
local syntax "phy_simp" ("[" Lean.Parser.Tactic.simpLemma,* "]")? : tactic
local macro_rules
  | `(tactic| phy_simp) => `(tactic| simp +decide)
  | `(tactic| phy_simp [$ls,*]) => `(tactic| simp +decide [$ls,*])

private theorem shl2 : ((1 : UInt8) <<< 2) = 4 := by decide
private theorem nshl2 : ~~~((1 : UInt8) <<< 2) = 0xfb := by decide
private theorem n4 : ~~~(4 : UInt8) = 251 := by decide
private theorem shl1 : ((1 : UInt8) <<< 1) = 2 := by decide
private theorem fshl1 : ((0x0F : UInt8) <<< 1) = 0x1e := by decide

theorem sleep_eq (warm : Bool) (c : Chip) :
    spiTrace (Sx126x.setSleep warm) c = spiTrace (Ref.sleep warm) c := by
  cases warm <;> phy_simp [Sx126x.setSleep, Ref.sleep, S126.setSleep, SleepParams.value, Rt.shlC, Rt.b2i, Rt.orI]

theorem standby_eq (c : Chip) : spiTrace Sx126x.setStandby c = spiTrace Ref.standby c := by
  phy_simp [Sx126x.setStandby, Ref.standby, S126.setStandby]

theorem start_tx_eq (c : Chip) : spiTrace Sx126x.doTx c = spiTrace Ref.startTx c := by
  phy_simp [Sx126x.doTx, Ref.startTx, setTxWithTimeoutInRtcStep]

theorem tx_cw_eq (c : Chip) : spiTrace Sx126x.setTxContinuousWaveMode c = spiTrace Ref.txContinuousWave c := by
  phy_simp [Sx126x.setTxContinuousWaveMode, Ref.txContinuousWave, setTxCw]

theorem clear_irq_eq (c : Chip) : spiTrace Sx126x.clearIrqStatus c = spiTrace Ref.clearIrq c := by
  phy_simp [Sx126x.clearIrqStatus, Ref.clearIrq, S126.clearIrqStatus]

/-- waking the chip (`ensure_ready` in `Sleep` and in RX duty cycle) is the reference's GetStatus -/
theorem wake_eq (c : Chip) :
    spiTrace (Sx126x.ensureReady .sleep) c = spiTrace Ref.wake c ∧
    ∀ a b, spiTrace (Sx126x.ensureReady (.receive (.dutyCycle a b))) c = spiTrace Ref.wake c := by
  constructor
  · phy_simp [Sx126x.ensureReady, Ref.wake, getStatus]
  · intro a b; phy_simp [Sx126x.ensureReady, Ref.wake, getStatus]

/-- in every other mode `ensure_ready` only polls BUSY: no SPI traffic -/
theorem ensure_ready_silent (m : RadioMode) (c : Chip) (h1 : m ≠ .sleep) (h2 : ∀ a b, m ≠ .receive (.dutyCycle a b)) :
    spiTrace (Sx126x.ensureReady m) c = [] := by
  cases m with
  | receive r => cases r <;> simp_all [Sx126x.ensureReady, spiTrace, Prog.req]
  | _ => simp_all [Sx126x.ensureReady, spiTrace, Prog.req]

/-- where the driver's checked `u32` arithmetic does not overflow it computes the reference's PLL word -/
theorem pll_eq (f p : Nat) (h : Sx126x.pllStep f = some p) : p = convertFreqInHzToPllStep f := by
  unfold Sx126x.pllStep at h
  unfold convertFreqInHzToPllStep
  simp only at h ⊢
  split at h
  · rename_i hlt
    simp only [Option.some.injEq] at h
    subst h
    exact (Nat.mod_eq_of_lt hlt).symm
  · simp at h

/-- no overflow up to 2³⁰ Hz (the chips reach 1.02 GHz) -/
theorem pll_defined (f : Nat) (h : f < 1073741824) : (Sx126x.pllStep f).isSome := by
  rw [Sx126x.pllStep_closed f h]; rfl

theorem channel_eq (f : Nat) (c : Chip) (h : (Sx126x.pllStep f).isSome) :
    spiTrace (Sx126x.setChannel f) c = spiTrace (Ref.rfFrequency f) c := by
  obtain ⟨p, hp⟩ := Option.isSome_iff_exists.mp h
  have := pll_eq f p hp
  subst this
  -- `hp` first: with `Sx126x.pllStep f` still in place the kernel would evaluate it to reduce the `match` of `ofOpt`
  simp only [Sx126x.setChannel, hp]
  phy_simp [Ref.rfFrequency, setRfFreq]

example : (Sx126x.pllStep 868100000).isSome := by decide

def sfNum : SpreadingFactor → Nat
  | ._5 => 5 | ._6 => 6 | ._7 => 7 | ._8 => 8 | ._9 => 9 | ._10 => 10 | ._11 => 11 | ._12 => 12
def crDenom : CodingRate → Nat
  | ._4_5 => 5 | ._4_6 => 6 | ._4_7 => 7 | ._4_8 => 8

/-- tie A: the generated SF / BW / CR code tables are the reference's enums -/
theorem sf_code (sf : SpreadingFactor) :
    spreading_factor_value sf = some (sfNum sf : Int) ∧ Ref.sfCode (sfNum sf) = some (sfNum sf) := by
  cases sf <;> decide
theorem cr_code (cr : CodingRate) :
    ∃ k : Nat, coding_rate_value cr = some (k : Int) ∧ Ref.crCode (crDenom cr) = some k ∧ k < 256 := by
  refine ⟨((coding_rate_value cr).getD 0).toNat, ?_⟩
  cases cr <;> decide
theorem sfNum_lt (sf : SpreadingFactor) : sfNum sf < 256 := by cases sf <;> decide
/-- the same for the bandwidth; 500 kHz is the one the TX-modulation workaround singles out -/
theorem bw_code (bw : Bandwidth) :
    ∃ k : Nat, bandwidth_value bw = some (k : Int) ∧ loraBwCode (Bandwidth.hz bw).toNat = some k ∧ k < 256 ∧
      (bw = ._500KHz ↔ k = LORA_BW_500) := by
  refine ⟨((bandwidth_value bw).getD 0).toNat, ?_⟩
  cases bw <;> decide

theorem modulation_eq (sf : SpreadingFactor) (bw : Bandwidth) (cr : CodingRate) (ldro : UInt8) (f : Nat) (c : Chip)
    (hl : ldro = 0 ∨ ldro = 1) :
    ∃ p, Ref.modulation (sfNum sf) (Bandwidth.hz bw).toNat (crDenom cr) ldro = some p ∧
      spiTrace (Sx126x.setModulationParams { sf := sf, bw := bw, cr := cr, ldro := ldro, freq := f }) c = spiTrace p c := by
  obtain ⟨hs1, hs2⟩ := sf_code sf
  obtain ⟨kc, hc1, hc2, hc3⟩ := cr_code cr
  obtain ⟨kb, hb1, hb2, hb3, hb5⟩ := bw_code bw
  have hl' : ldro &&& 1 = ldro := by rcases hl with rfl | rfl <;> decide
  have hsm := Nat.mod_eq_of_lt (sfNum_lt sf)
  have hcm := Nat.mod_eq_of_lt hc3
  have hbm := Nat.mod_eq_of_lt hb3
  -- the three codes are variables; only the workaround looks at one of them
  refine ⟨setLoraModParams (sfNum sf) kb kc ldro, by simp only [Ref.modulation, hs2, hb2, hc2], ?_⟩
  by_cases h5 : bw = ._500KHz
  · have := hb5.1 h5
    phy_simp [Sx126x.setModulationParams, setLoraModParams, txModulationWorkaroundLora, hs1, hc1, hb1, hl',
      Sx126x.errUnavailable, if_pos h5, this, shl2, nshl2, n4, hsm, hcm, hbm]
  · have : ¬ kb = LORA_BW_500 := fun e => h5 (hb5.2 e)
    phy_simp [Sx126x.setModulationParams, setLoraModParams, txModulationWorkaroundLora, hs1, hc1, hb1, hl',
      Sx126x.errUnavailable, if_neg h5, this, shl2, nshl2, n4, hsm, hcm, hbm]

example : ∃ p, Ref.modulation 12 125000 5 1 = some p := ⟨_, rfl⟩

theorem packet_eq (p : PacketParams) (c : Chip) :
    spiTrace (Sx126x.setPacketParams p) c
      = spiTrace (Ref.packet p.preambleLength p.implicitHeader p.payloadLength p.crcOn p.iqInverted) c := by
  obtain ⟨pre, imp, len, crc, iq⟩ := p
  -- header and CRC flags are bytes of the command on both sides; only the IQ flag decides a branch (the polarity workaround)
  cases iq <;> phy_simp [Sx126x.setPacketParams, Ref.packet, setLoraPktParams, shl2, nshl2, n4]

theorem buffer_base_eq (tx rx : Nat) (c : Chip) (ht : tx ≤ 255) (hr : rx ≤ 255) :
    spiTrace (Sx126x.setTxRxBufferBaseAddress tx rx) c = spiTrace (Ref.bufferBase (UInt8.ofNat tx) (UInt8.ofNat rx)) c := by
  have : ¬ (tx > 255 ∨ rx > 255) := by omega
  phy_simp [Sx126x.setTxRxBufferBaseAddress, Ref.bufferBase, setBufferBaseAddress, this]

theorem fifo_write_eq (payload : Bytes) (c : Chip) :
    spiTrace (Sx126x.setPayload payload) c = spiTrace (Ref.fifoWrite payload) c := by
  phy_simp [Sx126x.setPayload, Ref.fifoWrite, writeBuffer]

theorem tx_power_eq (cfg : Sx126x.Config) (power : Int) (freq : Option Nat) (prep : Bool) (c : Chip)
    (e : Sx126x.PaEntry) (txp : UInt8) (hl : cfg.chip.paTable.lookup power = some (e, txp))
    (hok : cfg.chip.highPower = false → ∀ f, freq = some f → ¬ (power ≥ 15 ∧ f < 400000000)) :
    spiTrace (Sx126x.setTxPowerAndRampTime cfg power freq prep) c
      = spiTrace (Ref.txPower cfg.chip.highPower e.duty e.hpMax txp prep) c := by
  -- the guard first (`setTxPowerAndRampTime_seq`): on a low-power output it passes by `hok`; then both programs are run
  -- once per output with the ramp choice open; what is left is that the ramp byte is the same function of `prep`
  rw [Sx126x.setTxPowerAndRampTime_seq]
  cases hp : cfg.chip.highPower
  · have hds : cfg.chip.deviceSel = 1 := by simp [Sx126x.Variant.deviceSel, hp]
    have hg : Sx126x.txGuard false power freq = .ret () := by
      rcases freq with _ | f
      · rfl
      · simp only [Sx126x.txGuard, Bool.false_eq_true, if_false, if_neg (hok hp f rfl)]; rfl
    phy_simp [hg, Ref.txPower, hl, hds, Sx126x.setPaConfig, setPaCfg, setTxParams]
    cases prep <;> rfl
  · have hds : cfg.chip.deviceSel = 0 := by simp [Sx126x.Variant.deviceSel, hp]
    phy_simp [Sx126x.txGuard, Ref.txPower, hl, hds, Sx126x.setPaConfig, setPaCfg, setTxParams, cfgTxClamp, fshl1]
    cases prep <;> rfl

/-- the lookup never fails (no variant has an empty table), so the hypothesis of `tx_power_eq` is satisfiable for every power -/
theorem pa_lookup_total (v : Sx126x.Variant) (power : Int) : (v.paTable.lookup power).isSome := by
  rcases v with _ | _ | ⟨_ | _⟩ <;> simp [Sx126x.Variant.paTable, Sx126x.PaTable.lookup, Sx126x.sx1261Table,
    Sx126x.sx1262Table, Sx126x.stm32wlHpTable]

theorem irq_masks_eq (mode : Option RadioMode) (c : Chip) :
    spiTrace (Sx126x.setIrqParams mode) c
      = spiTrace (Ref.irqMasks (Sx126x.irqMasks mode).1 (Sx126x.irqMasks mode).2) c := by
  phy_simp [Sx126x.setIrqParams, Ref.irqMasks, setDioIrqParams]

/-- the mask policy: TX = TxDone|Timeout, CAD = CadDone|CadDetected, RX and standby = all sixteen
bits (the reference's `SX126X_IRQ_ALL` is 0x43FF: the driver additionally sets reserved bits), else none -/
theorem irq_mask_policy :
    Sx126x.irqMasks (some .transmit) = (0x0201, 0x0201) ∧ Sx126x.irqMasks (some .cad) = (0x0180, 0x0180) ∧
    Sx126x.irqMasks (some .standby) = (0xFFFF, 0xFFFF) ∧ (∀ m, Sx126x.irqMasks (some (.receive m)) = (0xFFFF, 0xFFFF)) ∧
    Sx126x.irqMasks none = (0, 0) ∧ Sx126x.irqMasks (some .sleep) = (0, 0) ∧ Sx126x.irqMasks (some .listen) = (0, 0) := by
  refine ⟨by decide, by decide, by decide, fun m => rfl, by decide, by decide, by decide⟩

theorem mantExp_same (m e fuel : Nat) : Sx126x.mantExp m e fuel = S126.mantExp m e fuel := by
  induction fuel generalizing m e with
  | zero => rfl
  | succ k ih => simp [Sx126x.mantExp, S126.mantExp, ih]

/-- the mantissa/exponent loop on a clamped count ends after at most one round, with a 5-bit mantissa -/
theorem mantExp_bounds (m0 : Nat) (h : m0 ≤ 124) :
    (S126.mantExp m0 0 8).1 ≤ 31 ∧ (S126.mantExp m0 0 8).2 ≤ 1 := by
  rw [← mantExp_same, Sx126x.mantExp_closed m0 h]
  split <;> (simp only []; omega)

/-- the symbol-count timeout in front of equal continuations (the `u8` additions of the driver cannot overflow) -/
theorem symbol_timeout_then_eq (n : Nat) (k1 k2 : Prog Unit) (c : Chip) (hk : ∀ c', spiTrace k1 c' = spiTrace k2 c') :
    spiTrace (do Sx126x.setLoraSymbolNumTimeout n; k1) c = spiTrace (do S126.setLoraSymbNbTimeout n; k2) c := by
  have hc : (if n > MAX_LORA_SYMB_NUM_TIMEOUT then MAX_LORA_SYMB_NUM_TIMEOUT else n) = min n 248 := by
    simp only [MAX_LORA_SYMB_NUM_TIMEOUT]; by_cases h : n > 248 <;> simp [h] <;> omega
  have hb := mantExp_bounds ((min n 248 + 1) / 2) (by omega)
  unfold Sx126x.setLoraSymbolNumTimeout S126.setLoraSymbNbTimeout
  simp only [hc, Sx126x.SX126X_MAX_LORA_SYMB_NUM_TIMEOUT, mantExp_same]
  generalize S126.mantExp ((min n 248 + 1) / 2) 0 8 = me at hb
  obtain ⟨m, e⟩ := me
  simp only at hb
  have hov : ¬ (e + m * 8 > 255) := by omega
  simp only [spiTrace] at hk
  by_cases hn : n > 0 <;> phy_simp [hn, hov, hk]

/-- `set_lora_symbol_num_timeout` = `sx126x_set_lora_symb_nb_timeout` for every symbol count -/
theorem symbol_timeout_eq (n : Nat) (c : Chip) :
    spiTrace (Sx126x.setLoraSymbolNumTimeout n) c = spiTrace (S126.setLoraSymbNbTimeout n) c := by
  rw [← Prog.bind_ret_right (Sx126x.setLoraSymbolNumTimeout n), ← Prog.bind_ret_right (S126.setLoraSymbNbTimeout n)]
  exact symbol_timeout_then_eq n (.ret ()) (.ret ()) c (fun _ => rfl)

theorem start_rx_eq (cfg : Sx126x.Config) (m : RxMode) (c : Chip) :
    spiTrace (Sx126x.doRx cfg m) c
      = spiTrace (Ref.startRx cfg.rxBoost (match m with
          | .single n => .single n | .continuous => .continuous | .dutyCycle a b => .dutyCycle a b)) c := by
  -- the RX gain byte is the same expression in `rxBoost` on both sides
  cases m <;>
  · simp only [Sx126x.doRx, Ref.startRx]
    phy_simp [stopTimerOnPreamble]
    refine symbol_timeout_then_eq _ _ _ _ (fun c' => ?_)
    phy_simp [cfgRxBoosted, setRxWithTimeoutInRtcStep, setRxDutyCycleWithTimingsInRtcStep, Sx126x.RX_CONTINUOUS_TIMEOUT]

theorem start_cad_eq (cfg : Sx126x.Config) (sf : SpreadingFactor) (bw : Bandwidth) (cr : CodingRate) (ldro : UInt8) (f : Nat)
    (c : Chip) :
    spiTrace (Sx126x.doCad cfg { sf := sf, bw := bw, cr := cr, ldro := ldro, freq := f }) c
      = spiTrace (Ref.startCad cfg.rxBoost (sfNum sf)) c := by
  obtain ⟨hs1, _⟩ := sf_code sf
  have h13 : ¬ ((sfNum sf : Int) + 13 > 255) := by have := sfNum_lt sf; cases sf <;> decide
  phy_simp [Sx126x.doCad, Ref.startCad, hs1, Sx126x.errUnavailable, h13, cfgRxBoosted, setCadParams, setCad]
  all_goals (cases sf <;> decide)

theorem image_calibration_eq (f : Nat) (c : Chip) :
    spiTrace (Sx126x.calibrateImage f) c = spiTrace (Ref.imageCalibration f) c := by
  have : Sx126x.calFreq f = Ref.calTable f := rfl
  phy_simp [Sx126x.calibrateImage, Ref.imageCalibration, calImg, this]

/-- the RxDone workaround of datasheet §15.3 (implicit-header timeout) -/
theorem rx_done_workaround_eq (c : Chip) :
    spiTrace Sx126x.handleImplicitHeaderMode c = spiTrace Ref.rxDoneWorkaround c := by
  phy_simp [Sx126x.handleImplicitHeaderMode, Ref.rxDoneWorkaround, stopRtc, shl1]

/-! ### sync word

The reference API takes the legacy byte `0xYZ` and read-modify-writes the two high nibbles of
registers 0x0740/0x0741; lora-phy takes the 16-bit register word and writes both bytes without
reading.  For the words that have a legacy form (`0xY4Z4`) on a chip whose two registers hold their
documented low nibbles (`0x_4`, reset value 0x1424), the *write* is byte-identical. -/

private theorem nib_hi : ∀ y, y < 16 → ∀ z, z < 16 → ∀ r : UInt8, r &&& 0x0F = 4 →
    (r &&& ~~~(240 : UInt8)) + (UInt8.ofNat y * 16 + UInt8.ofNat z &&& 240) = UInt8.ofNat y * 16 + 4 := by
  intro y hy z hz r hr
  have h1 : r &&& ~~~(240 : UInt8) = 4 := by rw [show ~~~(240 : UInt8) = 0x0F by decide]; exact hr
  rw [h1]
  have : ∀ y, y < 16 → ∀ z, z < 16 → (4 : UInt8) + (UInt8.ofNat y * 16 + UInt8.ofNat z &&& 240) = UInt8.ofNat y * 16 + 4 := by decide +kernel
  exact this y hy z hz

private theorem nib_lo : ∀ y, y < 16 → ∀ z, z < 16 → ∀ r : UInt8, r &&& 0x0F = 4 →
    (r &&& ~~~(240 : UInt8)) + (UInt8.ofNat y * 16 + UInt8.ofNat z &&& 15) <<< 4 = UInt8.ofNat z * 16 + 4 := by
  intro y hy z hz r hr
  have h1 : r &&& ~~~(240 : UInt8) = 4 := by rw [show ~~~(240 : UInt8) = 0x0F by decide]; exact hr
  rw [h1]
  have : ∀ y, y < 16 → ∀ z, z < 16 → (4 : UInt8) + (UInt8.ofNat y * 16 + UInt8.ofNat z &&& 15) <<< 4 = UInt8.ofNat z * 16 + 4 := by decide +kernel
  exact this y hy z hz

theorem sync_word_eq (y z : Nat) (hy : y < 16) (hz : z < 16) (c : Chip) (hk : c.kind = .sx126x)
    (h0 : c.regs 0x740 &&& 0x0F = 4) (h1 : c.regs 0x741 &&& 0x0F = 4) :
    spiTrace (Sx126x.setLoraSyncWord ((y * 16 + 4) * 256 + (z * 16 + 4))) c
      = (spiTrace (Ref.syncWord (UInt8.ofNat (y * 16 + z))) c).filter (fun t => t.take 3 != [0x1D, 0x07, 0x40]) := by
  obtain ⟨e1, e2⟩ := sync_word_bytes y z hy hz
  phy_simp [Sx126x.setLoraSyncWord, Ref.syncWord, S126.setLoraSyncWord, e1, e2, Chip.transact, hk, Chip.miso126,
    byteAt, List.range, List.range.loop]
  simp [List.filter, nib_hi y hy z hz _ h0, nib_lo y hy z hz _ h1]
  rfl

example : (0x34 * 256 + 0x44 : Nat) = (3 * 16 + 4) * 256 + (4 * 16 + 4) := by decide

end sx126x

/-! ## SX127x: RF frequency and sync word (the other operations are in `Lemmas/PhyEffect*127.lean`, same namespace) -/

/-- the driver's frequency word (rounded to nearest) is the reference's, for every `u32` frequency -/
theorem sx127x_pll_eq (f : Nat) (h : f < 4294967296) :
    Sx127x.freqToPllStep f = S127.convertFreqInHzToPllStep f := by
  unfold Sx127x.freqToPllStep S127.convertFreqInHzToPllStep
  simp only
  have e1 : (f / 15625 * 256) % 4294967296 = f / 15625 * 256 := Nat.mod_eq_of_lt (by omega)
  have e2 : ((f - f / 15625 * 15625) * 256) % 4294967296 = (f - f / 15625 * 15625) * 256 := Nat.mod_eq_of_lt (by omega)
  rw [e1, e2]
  have e3 : (f * 524288 + 16000000) / 32000000 = f / 15625 * 256 + ((f - f / 15625 * 15625) * 256 + 15625 / 2) / 15625 := by
    omega
  rw [e3]

example : Sx127x.freqToPllStep 867700000 = 0xD8ECCD := by decide

theorem sx127x_channel_effect_eq (f : Nat) (hf : f < 4294967296) (c : Chip) (hk : c.kind = .sx127x) :
    (trace (Sx127x.setChannel f) c).2.1.regs = (trace (S127.setRfFreq f) c).2.1.regs := by
  funext a
  eff127 [setAt, Sx127x.setChannel, S127.setRfFreq, sx127x_pll_eq f hf, hk]

theorem sx127x_sync_word_effect_eq (y z : Nat) (hy : y < 16) (hz : z < 16) (c : Chip) (hk : c.kind = .sx127x) :
    (trace (Sx127x.setLoraSyncWord ((y * 16 + 4) * 256 + (z * 16 + 4))) c).2.1.regs
      = (trace (S127.setLoraSyncWord (UInt8.ofNat (y * 16 + z))) c).2.1.regs := by
  have hl : Sx127x.syncWordToLegacy ((y * 16 + 4) * 256 + (z * 16 + 4)) = some (UInt8.ofNat (y * 16 + z)) := by
    unfold Sx127x.syncWordToLegacy
    obtain ⟨e1, e2⟩ := sync_word_bytes y z hy hz
    simp only [e1, e2]
    rw [if_pos (by omega)]
    congr 2; omega
  funext a
  eff127 [setAt, Sx127x.setLoraSyncWord, hl, Sx127x.errOr, S127.setLoraSyncWord, hk]

/-! ### the hypotheses of the SX127x effect theorems are satisfiable -/

example : ((0x81 : UInt8) &&& 7 ≠ 0) ∧ ((0x85 : UInt8) &&& 7 ≠ 0) := by decide
example : Gen.PhyCodes127.SpreadingFactor._12 ≠ ._5 ∧ Sx127x.hzOf ._125KHz ≥ 125000 := by decide
example : ∃ p, S127.modulation false (sfNum127 ._12) (Sx127x.hzOf ._125KHz) (crDenom127 ._4_5) 1 = some p := ⟨_, rfl⟩
example : ∃ p, S127.modulation true (sfNum127 ._7) (Sx127x.hzOf ._500KHz) (crDenom127 ._4_8) 0 = some p := ⟨_, rfl⟩
/-- spot check of the compared bits against `eff_mask("modparams", ·)` of harness/src/c13b.rs, at seven addresses -/
example : (modMask 0x1d, modMask 0x1e, modMask 0x37, modMask 0x26, modMask 0x31, modMask 0x2f, modMask 0x36)
    = (0xff, 0xff, 0xff, 0xfb, 0x07, 0, 0) := by decide

/-- the same spot check for the masks of the packet-parameter and TX-power theorems -/
example : (pktMask true 0x1d, pktMask true 0x22, pktMask false 0x22, pktMask true 0x33) = (0xff, 0xff, 0, 0) := by decide
example : (txMask ⟨.sx1276, false, false, false⟩ 0x09, txMask ⟨.sx1276, false, true, false⟩ 0x09, txMask ⟨.sx1272, false, false, false⟩ 0x5a,
    txMask ⟨.sx1272, false, false, false⟩ 0x4d, txMask ⟨.sx1276, false, true, false⟩ 0x0a) = (0xff, 0x8f, 0x07, 0, 0x0f) := by decide
example : (refIrqOf (some .transmit), refIrqOf (some (.receive .continuous)), refIrqOf (some .cad), refIrqOf none) = (1, 0x252, 0x180, 0) := by
  decide

/-- equal traces mean: run by the interpreter with nothing scheduled to fail, both programs leave
the same SPI bytes (MOSI streams) in the transcript -/
theorem bytes_identical_of_trace_eq {α β : Type} (p : Prog α) (q : Prog β) (w : World)
    (hf : w.fault = none) (hp : w.pendAt = none) (h : spiTrace p w.chip = spiTrace q w.chip) :
    mosi (run p w).2.log = mosi (run q w).2.log := by
  rw [(run_eq_trace p w hf hp).2.2.1, (run_eq_trace q w hf hp).2.2.1]
  simp only [spiTrace] at h
  rw [h]

end C13
