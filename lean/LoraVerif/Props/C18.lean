import LoraVerif.Model.PhyRx
import LoraVerif.Spec.RxFetch
import LoraVerif.Lemmas.Basics
/-!
# C18 — reading a received packet never overruns the caller's buffer

Theorems about `Model.PhyRx` (the hand model of `get_rx_payload` of both drivers, of `RadioBuffer`
and of the adapter's hand-over), tied to the code by the C18 correspondence suite.
All statements quantify over every chip report (status, length, offset, memory content), every
caller buffer (any size, any content), both header modes and an I/O fault at any step.
-/
open Model.PhyRx

namespace C18

theorem chipRead_length (mem : Nat → UInt8) (off n : Nat) : (chipRead mem off n).length = n := by
  simp [chipRead]

theorem chipRead_getElem? (mem : Nat → UInt8) (off n i : Nat) :
    (chipRead mem off n)[i]? = if i < n then some (mem ((off + i) % 256)) else none := by
  simp only [chipRead, List.getElem?_map]
  by_cases h : i < n <;> simp [h]

/-- the post-condition the property demands of a fetch into `buf` of the `n` bytes at `off` of `mem` -/
structure Fetched (mem : Nat → UInt8) (off n : Nat) (buf : Bytes) (r : Res) : Prop where
  /-- the function returns, it does not panic -/
  no_panic : ∀ s, r.out ≠ .panic s
  /-- `Ok(m)`: `m` is the reported length, it fits, the first `m` bytes are the chip's, the rest is untouched -/
  ok : ∀ m, r.out = .ok m →
    m = n ∧ m ≤ buf.length ∧ r.buf.take m = chipRead mem off m ∧ r.buf.drop m = buf.drop m
  /-- in every case (also `Err`) the caller's slice is either untouched or holds exactly the fetched image -/
  image : r.buf = buf ∨ (n ≤ buf.length ∧ r.buf = chipRead mem off n ++ buf.drop n)

theorem Fetched.same_length {mem off n buf r} (h : Fetched mem off n buf r) : r.buf.length = buf.length := by
  rcases h.image with h | ⟨hle, h⟩
  · rw [h]
  · rw [h]; simp [chipRead_length]; omega

theorem Fetched.result {mem off n buf r} (h : Fetched mem off n buf r) :
    (∃ e, r.out = .err e) ∨
    (∃ m, r.out = .ok m ∧ m = n ∧ m ≤ buf.length ∧ r.buf.take m = chipRead mem off m ∧ r.buf.drop m = buf.drop m) := by
  cases ho : r.out with
  | ok m => exact .inr ⟨m, rfl, h.ok m ho⟩
  | err e => exact .inl ⟨e, rfl⟩
  | panic s => exact absurd ho (h.no_panic s)

private theorem fetched_early (mem : Nat → UInt8) (off n : Nat) (buf : Bytes) (e : RadioErr) :
    Fetched mem off n buf ⟨.err e, buf⟩ := ⟨by simp, by simp, .inl rfl⟩

private theorem take_read (mem : Nat → UInt8) (off n : Nat) (rest : Bytes) :
    (chipRead mem off n ++ rest).take n = chipRead mem off n :=
  List.take_left' (chipRead_length mem off n)

private theorem drop_read (mem : Nat → UInt8) (off n : Nat) (rest : Bytes) :
    (chipRead mem off n ++ rest).drop n = rest :=
  List.drop_left' (chipRead_length mem off n)

/-- the guarded burst read: when the length check passed, the slice expression cannot panic and the
bytes land in the first `n` positions only -/
theorem readInto_fetched (mem : Nat → UInt8) (off n : Nat) (fault : Option Nat) (s : Nat) (site : String)
    (buf : Bytes) (h : n ≤ buf.length) : Fetched mem off n buf (readInto mem off n fault s site buf) := by
  unfold readInto
  simp only [sliceTo, h, if_true]
  split
  · exact fetched_early ..
  · split
    · exact ⟨by simp, by simp, .inr ⟨h, rfl⟩⟩
    · exact ⟨by simp, by intro m hm; simp at hm; subst hm; simp [take_read, drop_read, h], .inr ⟨h, rfl⟩⟩

/-- without the length check the same read panics: the check is what the property rests on -/
theorem readInto_unguarded_panics (mem : Nat → UInt8) (off n : Nat) (fault : Option Nat) (s : Nat) (site : String)
    (buf : Bytes) (h : buf.length < n) : (readInto mem off n fault s site buf).out = .panic site := by
  simp [readInto, sliceTo, Nat.not_le.mpr h]

/-- the length the SX126x driver uses: the chip's payload-length register in implicit-header mode -/
def len126 (c : Chip126) (implicit : Bool) : Nat := if implicit then c.regPayloadLen.toNat else c.rxLen.toNat

/-- **C18, SX126x.**  Whatever status, length, offset and memory content the chip reports, whatever
the caller's buffer, header mode and I/O fault: no panic; `Ok(n)` ⇒ `n` = reported (implicit header:
configured) length ≤ buffer size, the first `n` bytes are the chip's bytes at the reported position
(wrapping at 256) and the rest of the buffer is untouched. -/
theorem get_rx_payload_safe_sx126x (c : Chip126) (implicit : Bool) (fault : Option Nat) (buf : Bytes) :
    Fetched c.buffer c.rxStart.toNat (len126 c implicit) buf (getRxPayload126 c implicit fault buf) := by
  unfold getRxPayload126
  generalize hL : (if implicit = true then (ioRead fault 2, c.regPayloadLen.toNat, 4) else (none, c.rxLen.toNat, 2)
    : Option RadioErr × Nat × Nat) = L
  have hn : len126 c implicit = L.2.1 := by subst hL; cases implicit <;> rfl
  rw [hn]
  obtain ⟨o, n, s⟩ := L
  simp only []
  split
  · exact fetched_early ..
  · split
    · exact fetched_early ..
    · split
      · exact fetched_early ..
      · split
        · exact fetched_early ..
        · exact readInto_fetched _ _ _ _ _ _ _ (Nat.le_of_not_gt ‹_›)

/-- a chip whose memory holds its own addresses; packet of 3 bytes at 254 (wraps), register 0x0702 = 9 -/
def exChip126 (len : UInt8) : Chip126 :=
  { status := 0x04, rxLen := len, rxStart := 254, regPayloadLen := 9, buffer := fun i => UInt8.ofNat i }

example : (getRxPayload126 (exChip126 3) false none [7, 7, 7, 7, 7]).out = .ok 3 := by decide
example : (getRxPayload126 (exChip126 3) false none [7, 7, 7, 7, 7]).buf = [254, 255, 0, 7, 7] := by decide
example : (getRxPayload126 (exChip126 6) false none [7, 7, 7, 7, 7]).out = .err (.payloadSizeMismatch 6 5) := by decide
example : (getRxPayload126 (exChip126 6) true none [7, 7, 7, 7, 7]).out = .err (.payloadSizeMismatch 9 5) := by decide

def len127 (c : Chip127) (implicit : Bool) (cfgLen : UInt8) : Nat :=
  if implicit then cfgLen.toNat else c.regRxNbBytes.toNat

/-- **C18, SX127x.**  Same statement; the position is `RegFifoRxCurrentAddr`, the length
`RegRxNbBytes` (implicit header: the configured `payload_length`). -/
theorem get_rx_payload_safe_sx127x (c : Chip127) (implicit : Bool) (cfgLen : UInt8) (fault : Option Nat) (buf : Bytes) :
    Fetched c.fifo c.regFifoRxCurrentAddr.toNat (len127 c implicit cfgLen) buf
      (getRxPayload127 c implicit cfgLen fault buf).res := by
  unfold getRxPayload127
  -- either header mode: some length `n`, read (or not) at some step, the fetch from step `s` on
  generalize hL : (if implicit = true then (none, cfgLen.toNat, 0) else (ioRead fault 0, c.regRxNbBytes.toNat, 2)
    : Option RadioErr × Nat × Nat) = L
  have hn : len127 c implicit cfgLen = L.2.1 := by subst hL; cases implicit <;> rfl
  rw [hn]
  obtain ⟨o, n, s⟩ := L
  simp only []
  split
  · exact fetched_early ..
  · split
    · exact fetched_early ..
    · have hr := readInto_fetched c.fifo c.regFifoRxCurrentAddr.toNat n fault (s + 4)
        "sx127x get_rx_payload: receiving_buffer[0..payload_length]" buf (Nat.le_of_not_gt ‹_›)
      split
      · exact fetched_early ..
      · split
        · exact fetched_early ..
        · split
          · exact fetched_early ..
          · split
            · split
              · exact ⟨by simp, by simp, hr.image⟩
              · split
                · exact ⟨by simp, by simp, hr.image⟩
                · exact hr
            · exact hr

def exChip127 : Chip127 :=
  { regRxNbBytes := 4, regFifoRxCurrentAddr := 253, fifoPtr := 0, fifo := fun i => UInt8.ofNat i }

example : (getRxPayload127 exChip127 false 0 none [9, 9, 9, 9, 9]).res.buf = [253, 254, 255, 0, 9] := by decide
example : (getRxPayload127 exChip127 true 2 none [9, 9, 9, 9, 9]).res.out = .ok 2 := by decide
example : (getRxPayload127 exChip127 false 0 (some 5) [9, 9, 9, 9, 9]).res.out = .err .busy := by decide

/-- **C18 as one statement** (both chips together): for both chips, a result `Ok(n)`
means `n ≤ buf.size`, `buf'.take n` = the chip's bytes at the reported position, `buf'.drop n =
buf.drop n`; otherwise the result is an `Err`; a panic is impossible. -/
theorem get_rx_payload_safe :
    (∀ (c : Chip126) (implicit : Bool) (fault : Option Nat) (buf : Bytes),
      let r := getRxPayload126 c implicit fault buf
      (∃ e, r.out = .err e) ∨
      (∃ n, r.out = .ok n ∧ n = len126 c implicit ∧ n ≤ buf.length ∧
        r.buf.take n = chipRead c.buffer c.rxStart.toNat n ∧ r.buf.drop n = buf.drop n)) ∧
    (∀ (c : Chip127) (implicit : Bool) (cfgLen : UInt8) (fault : Option Nat) (buf : Bytes),
      let r := (getRxPayload127 c implicit cfgLen fault buf).res
      (∃ e, r.out = .err e) ∨
      (∃ n, r.out = .ok n ∧ n = len127 c implicit cfgLen ∧ n ≤ buf.length ∧
        r.buf.take n = chipRead c.fifo c.regFifoRxCurrentAddr.toNat n ∧ r.buf.drop n = buf.drop n)) := by
  exact ⟨fun c implicit fault buf => (get_rx_payload_safe_sx126x c implicit fault buf).result,
    fun c implicit cfgLen fault buf => (get_rx_payload_safe_sx127x c implicit cfgLen fault buf).result⟩

theorem is_error_eq_spec (s : UInt8) : isError s = Spec.RxFetch.statusIsError s.toNat := by
  revert s; apply Lora.uint8_forall; decide +kernel

theorem image_eq (mem : Nat → UInt8) (off n : Nat) (buf : Bytes) (h : n ≤ buf.length) :
    Spec.RxFetch.image mem off n buf = chipRead mem off n ++ buf.drop n := by
  apply List.ext_getElem?
  intro i
  simp only [Spec.RxFetch.image, List.getElem?_map, List.getElem?_zipIdx, Nat.zero_add]
  by_cases hi : i < n
  · have hib : i < buf.length := by omega
    rw [List.getElem?_append_left (by simpa [chipRead_length] using hi), chipRead_getElem?]
    simp [hi, List.getElem?_eq_getElem hib]
  · rw [List.getElem?_append_right (by simpa [chipRead_length] using Nat.le_of_not_gt hi)]
    simp only [chipRead_length, List.getElem?_drop]
    have : n + (i - n) = i := by omega
    rw [this]
    cases buf[i]? <;> simp [hi]

/-- the caller-visible result in the spec's vocabulary -/
def verdictOf (r : Res) : Option Spec.RxFetch.Verdict :=
  match r.out with
  | .ok n => some (.fetched n r.buf)
  | .err (.opError s) => some (.refusedStatus s.toNat)
  | .err (.payloadSizeMismatch n size) => some (.refusedTooLong n size)
  | _ => none

/-- without a fault the header mode only chooses the length (`len126`) and the number of I/O steps before the fetch -/
theorem getRxPayload126_none (c : Chip126) (imp : Bool) (buf : Bytes) :
    getRxPayload126 c imp none buf =
      if isError c.status then ⟨.err (.opError c.status), buf⟩
      else if len126 c imp > buf.length then ⟨.err (.payloadSizeMismatch (len126 c imp) buf.length), buf⟩
      else readInto c.buffer c.rxStart.toNat (len126 c imp) none (if imp then 4 else 2)
        "sx126x get_rx_payload: receiving_buffer[..payload_length]" buf := by
  cases imp <;> simp [getRxPayload126, ioRead, failsAt, len126]

theorem get_rx_payload_eq_spec_sx126x (c : Chip126) (implicit : Bool) (buf : Bytes) :
    verdictOf (getRxPayload126 c implicit none buf)
      = some (Spec.RxFetch.fetch c.buffer (some c.status.toNat) (len126 c implicit) c.rxStart.toNat buf) := by
  rw [getRxPayload126_none]
  simp only [Spec.RxFetch.fetch, is_error_eq_spec]
  split
  · rfl
  · split
    · rfl
    · rename_i h
      have h := Nat.le_of_not_gt h
      simp [readInto, sliceTo, h, failsAt, verdictOf, image_eq _ _ _ _ h]

theorem get_rx_payload_eq_spec_sx127x (c : Chip127) (implicit : Bool) (cfgLen : UInt8) (buf : Bytes) :
    verdictOf (getRxPayload127 c implicit cfgLen none buf).res
      = some (Spec.RxFetch.fetch c.fifo none (len127 c implicit cfgLen) c.regFifoRxCurrentAddr.toNat buf) := by
  cases implicit <;>
  · simp only [getRxPayload127, len127, ioRead, failsAt, Spec.RxFetch.fetch,
      Bool.false_eq_true, if_false, if_true, reduceCtorEq]
    split
    · rfl
    · rename_i h
      have h := Nat.le_of_not_gt h
      simp [readInto, sliceTo, h, failsAt, verdictOf, image_eq _ _ _ _ h]

/-- `set_pos(p)` then `as_mut_for_read()` / `as_ref_for_read()` is in bounds exactly when `p ≤ N`,
and then yields the first `p` bytes -/
theorem radio_buffer_read_in_bounds (b : RadioBuffer) (p : Nat) :
    (p ≤ b.packet.length → (b.setPos p).asMutForRead = some (b.packet.take p)
        ∧ (b.setPos p).asRefForRead = some (b.packet.take p)) ∧
    (b.packet.length < p → (b.setPos p).asMutForRead = none) := by
  constructor
  · intro h; simp [RadioBuffer.setPos, RadioBuffer.asMutForRead, RadioBuffer.asRefForRead, sliceTo, h]
  · intro h; simp [RadioBuffer.setPos, RadioBuffer.asMutForRead, sliceTo, Nat.not_le.mpr h]

example : ((RadioBuffer.new 4).setPos 5).asMutForRead = none := by decide
example : ((RadioBuffer.new 4).setPos 4).asMutForRead = some [0, 0, 0, 0] := by decide

/-- `extend_from_slice` never panics and never moves `pos` beyond the array -/
theorem radio_buffer_extend_safe (b : RadioBuffer) (src : Bytes) :
    (∀ s, b.extendFromSlice src ≠ .panic s) ∧
    (∀ b', b.extendFromSlice src = .ok (some b') →
        b'.packet.length = b.packet.length ∧ b'.pos = b.pos + src.length ∧ b'.pos < b'.packet.length) := by
  unfold RadioBuffer.extendFromSlice
  constructor
  · intro s; split
    · rw [if_pos (by omega)]; simp
    · simp
  · intro b'; split
    · rename_i h
      rw [if_pos (by omega)]
      intro hb; simp only [Outcome.ok.injEq, Option.some.injEq] at hb; subst hb
      simp; omega
    · simp

/-- **The adapter hands the MAC exactly the received bytes.**  For any `RadioBuffer` (any `N`), if
`get_rx_payload` was given the whole array (`as_mut()`, what `Device` passes to `rx_single` /
`rx_continuous`) and satisfied the C18 post-condition, then `set_pos(n)` + `as_mut_for_read()`
cannot panic and yields exactly the `n` chip bytes. -/
theorem adapter_delivers_exact (b : RadioBuffer) (mem : Nat → UInt8) (off n : Nat) (r : Res)
    (h : Fetched mem off n b.asMut r) :
    (∀ s, adapterDeliver b r ≠ .panic s) ∧
    (∀ bytes, adapterDeliver b r = .ok bytes → bytes = chipRead mem off n ∧ bytes.length = n) := by
  have hl := h.same_length
  unfold adapterDeliver
  cases ho : r.out with
  | panic s => exact absurd ho (h.no_panic s)
  | err e => simp
  | ok m =>
    obtain ⟨rfl, hm, ht, _⟩ := h.ok m ho
    have hm' : m ≤ r.buf.length := by rw [hl]; exact hm
    simp [RadioBuffer.setPos, RadioBuffer.asMutForRead, sliceTo, hm', ht, chipRead_length]

/-- instantiated for both drivers: what `LorawanRadio::rx_single` leaves for the MAC -/
theorem adapter_delivers_exact_sx126x (b : RadioBuffer) (c : Chip126) (fault : Option Nat) :
    let r := getRxPayload126 c false fault b.asMut
    (∀ s, adapterDeliver b r ≠ .panic s) ∧
    (∀ bytes, adapterDeliver b r = .ok bytes → bytes = chipRead c.buffer c.rxStart.toNat c.rxLen.toNat) := by
  intro r
  have h := adapter_delivers_exact b _ _ _ _ (get_rx_payload_safe_sx126x c false fault b.asMut)
  exact ⟨h.1, fun bytes hb => (h.2 bytes hb).1⟩

theorem adapter_delivers_exact_sx127x (b : RadioBuffer) (c : Chip127) (cfgLen : UInt8) (fault : Option Nat) :
    let r := (getRxPayload127 c false cfgLen fault b.asMut).res
    (∀ s, adapterDeliver b r ≠ .panic s) ∧
    (∀ bytes, adapterDeliver b r = .ok bytes →
        bytes = chipRead c.fifo c.regFifoRxCurrentAddr.toNat c.regRxNbBytes.toNat) := by
  intro r
  have h := adapter_delivers_exact b _ _ _ _ (get_rx_payload_safe_sx127x c false cfgLen fault b.asMut)
  exact ⟨h.1, fun bytes hb => (h.2 bytes hb).1⟩

example : adapterDeliver (RadioBuffer.new 6) (getRxPayload126 (exChip126 3) false none (RadioBuffer.new 6).asMut)
    = .ok [254, 255, 0] := by decide

end C18

#print axioms C18.get_rx_payload_safe
#print axioms C18.get_rx_payload_safe_sx126x
#print axioms C18.get_rx_payload_safe_sx127x
#print axioms C18.get_rx_payload_eq_spec_sx126x
#print axioms C18.get_rx_payload_eq_spec_sx127x
#print axioms C18.radio_buffer_read_in_bounds
#print axioms C18.adapter_delivers_exact
