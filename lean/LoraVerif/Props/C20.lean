import LoraVerif.Model.Persist
import LoraVerif.Lemmas.Answers
import LoraVerif.Lemmas.MacWFTx
import LoraVerif.Lemmas.RefineC
/-!
# C20 — a persisted session restores losslessly and never rewinds counters

The round trip `deser (ser s) = some s` holds of every session that satisfies the type invariants
(`SessionWF`: u32 counters, at most 15 pending bytes each < 256), whatever `deser` accepts satisfies them
again, and the model's operations are functions of the session.  The invariants hold in EVERY state EVERY
history reaches (`step_sessInv`; the bytes of the pending answers from C08's `Answers`), so persisting at
any point of any history and restoring yields the very same device state.
-/
open Model

namespace C20

theorem deser_ser (s : Session) (h : SessionWF s) : deser (ser s) = some s := by
  obtain ⟨hlen, hb, hup, hdown, hadr, hda⟩ := h
  unfold deser ser
  have h1 : (s.pending ++ List.replicate (15 - s.pending.length) 0).length = 15 := by
    simp; omega
  have h2 : (s.pending ++ List.replicate (15 - s.pending.length) 0).all (· < 256) = true := by
    simp only [List.all_append, Bool.and_eq_true, List.all_eq_true, decide_eq_true_eq]
    exact ⟨hb, by intro x hx; simp [List.mem_replicate] at hx; omega⟩
  have h3 : optU32 s.fcntDown = true := by
    cases hd : s.fcntDown with
    | none => rfl
    | some n => simp [optU32, u32, hdown n hd]
  simp only [h1, h2, h3, hlen, u32, hup, hadr, hda, decide_true, and_self, if_true, List.take_left']

theorem deser_wf (d : SessionDoc) (s : Session) (h : deser d = some s) : SessionWF s := by
  unfold deser at h
  split at h
  · rename_i hc
    obtain ⟨hl, hlen, hall, hup, hdown, hadr, hda⟩ := hc
    simp only [Option.some.injEq] at h
    subst h
    refine ⟨?_, ?_, ?_, ?_, ?_, ?_⟩
    · simp only [List.length_take]; omega
    · intro b hb
      have := List.mem_of_mem_take hb
      simp only [List.all_eq_true, decide_eq_true_eq] at hall
      exact hall b this
    · simpa [u32] using hup
    · intro n hn
      simp only at hn
      rw [hn] at hdown
      simpa [optU32, u32] using hdown
    · simpa [u32] using hadr
    · simpa [u32] using hda
  · cases h

/-- the restored device builds the same next uplink -/
theorem restored_same_uplink (s : Session) (h : SessionWF s) (cfg : Config) (r : RegionId) (data : List Nat) (port : Nat) (conf : Bool) :
    (deser (ser s)).map (fun s' => prepareBuffer s' cfg r data port conf) = some (prepareBuffer s cfg r data port conf) := by
  rw [deser_ser s h]; rfl

/-- … and gives every received frame the same verdict (in particular it rejects the same replays) -/
theorem restored_same_replay_verdict (s : Session) (h : SessionWF s) (cfg : Config) (region : RegionState) (d : RxData)
    (mp : Nat) (snr : Int) (ig : Bool) :
    (deser (ser s)).map (fun s' => sessionHandleRx s' cfg region d mp snr ig) = some (sessionHandleRx s cfg region d mp snr ig) := by
  rw [deser_ser s h]; rfl

/-- counters are never rewound by a save/restore -/
theorem restored_counters (s : Session) (h : SessionWF s) :
    (deser (ser s)).map (fun s' => (s'.fcntUp, s'.fcntDown)) = some (s.fcntUp, s.fcntDown) := by
  rw [deser_ser s h]; rfl

def s15 : Session := { Session.new 7 1 2 with pending := [3, 7, 3, 7, 3, 7, 3, 7, 3, 7, 3, 7, 5, 7, 8], fcntUp := 0xFFFFFFFF, fcntDown := some 0xFFFF, ackOwed := true }
example : SessionWF s15 := ⟨by decide, by decide, by decide, fun n hn => by cases hn; decide, by decide, by decide⟩
example : deser (ser s15) = some s15 := by decide
example : deser { ser s15 with uplink := { (ser s15).uplink with pendingLen := 16 } } = none := by decide


/-- representation facts of the addresses an event carries: DevAddr is a 32-bit field -/
def addrOk : Ev → Bool
  | .joinAbp da _ _ => decide (da < 4294967296)
  | .joinOtaa _ rx1 rx2 _ _ =>
    (match rx1 with | some (.joinAccept j, _) => decide (j.devAddr < 4294967296) | _ => true) &&
    (match rx2 with | some (.joinAccept j, _) => decide (j.devAddr < 4294967296) | _ => true)
  | _ => true

def SessInv (m : MacState) : Prop := ∀ s, m.st = .joined s → SessionWF s

theorem SessInv.of_joined {m : MacState} {s : Session} (hst : m.st = .joined s) (h : SessionWF s) : SessInv m := by
  intro s' hs'; rw [hst] at hs'; cases hs'; exact h

theorem sentSession_wf (s : Session) (conf : Bool) (h : SessionWF s) : SessionWF (sentSession s conf) := by
  obtain ⟨h1, h2, h3, h4, h5, h6⟩ := h
  have hs := retainSticky_sublist (s.pending.length + 1) s.pending
  exact ⟨Nat.le_trans hs.length_le h1, fun b hb => h2 b (hs.subset hb), h3, h4, h5, h6⟩

theorem rx2Complete_wf (s : Session) (cfg : Config) (r : RegionId) (h : SessionWF s) : SessionWF (rx2Complete s cfg r).2.1 := by
  obtain ⟨h1, h2, h3, h4, h5, h6⟩ := h
  rw [rx2Complete_eq]
  refine ⟨h1, h2, bumpFu_lt h3, h4, ?_, h6⟩
  dsimp only
  split <;> omega

theorem timeoutState_inv (m : MacState) (h : SessInv m) : SessInv (timeoutState m) := by
  by_cases hj : ∃ s, m.st = .joined s
  · obtain ⟨s, hs⟩ := hj
    exact .of_joined (congrArg MacState.st (timeoutState_joined hs)) (rx2Complete_wf s m.cfg m.region.id (h s hs))
  · rw [timeoutState_notJoined m (fun s hs => hj ⟨s, hs⟩)]
    exact h

def AnsBytes (a : C08.Ans) : Prop := a.1 < 256 ∧ ∀ b ∈ a.2, b < 256

theorem wires_bytes {as : List C08.Ans} (h : ∀ a ∈ as, AnsBytes a) : ∀ b ∈ C08.wires as, b < 256 := by
  intro b hb
  simp only [C08.wires, List.mem_flatten, List.mem_map] at hb
  obtain ⟨_, ⟨a, ha, rfl⟩, hb⟩ := hb
  rcases List.mem_cons.mp hb with rfl | hb
  · exact (h a ha).1
  · exact (h a ha).2 b hb

theorem answers_ansBytes {snr : Int} {cmds : List C08.Cmd} {st st' : C08.St} {as : List C08.Ans}
    (h : C08.Answers snr cmds st as st') : ∀ a ∈ as, AnsBytes a := by
  have one : ∀ {ans : Nat}, ans < 256 → ∀ b ∈ [ans], b < 256 := fun ha b hb => by cases List.mem_singleton.mp hb; exact ha
  induction h with
  | nil st => intro a ha; cases ha
  | skip cid p rest st as st' _ _ ih => exact ih
  | devStatus p rest st as st' _ ih =>
    refine List.forall_mem_cons.mpr ⟨⟨by omega, ?_⟩, ih⟩
    intro b hb
    rcases List.mem_cons.mp hb with rfl | hb
    · omega
    · exact one (C08.devStatusMargin_lt snr) b hb
  | rxParam p rest st ans st1 as st' ho _ ih =>
    obtain ⟨dl, f, _, _, _, _, _, _, _, _, hle⟩ := ho
    exact List.forall_mem_cons.mpr ⟨⟨by omega, one (by omega)⟩, ih⟩
  | rxTiming p rest st st1 as st' _ _ ih =>
    exact List.forall_mem_cons.mpr ⟨⟨by omega, fun b hb => by cases hb⟩, ih⟩
  | newChannel p rest st ans st1 as st' _ ho _ ih =>
    obtain ⟨idx, f, r, a, bb, _, _, _, hans, _⟩ := ho
    exact List.forall_mem_cons.mpr ⟨⟨by omega, one (by rw [hans]; cases a <;> cases bb <;> simp)⟩, ih⟩
  | dlChannel p rest st ans st1 as st' _ ho _ ih =>
    obtain ⟨idx, f, a, bb, _, _, hans, _⟩ := ho
    exact List.forall_mem_cons.mpr ⟨⟨by omega, one (by rw [hans]; cases a <;> cases bb <;> simp)⟩, ih⟩
  | linkAdr ps p rest st ans st1 as st' _ ho _ ih =>
    obtain ⟨mask, rfu, b0, _, _, _, _, _, _, _, _, hle⟩ := ho
    intro a ha
    rcases List.mem_append.mp ha with ha | ha
    · cases List.eq_of_mem_replicate ha
      exact ⟨by omega, one (by omega)⟩
    · exact ih a ha

theorem answers_bytes {snr : Int} {cmds : List C08.Cmd} {st st' : C08.St} {as : List C08.Ans} (h : C08.Answers snr cmds st as st') :
    ∀ b ∈ C08.wires as, b < 256 :=
  wires_bytes (answers_ansBytes h)

/-- the queue an accepted Class A frame leaves is a well-formed queue -/
theorem acceptCmds_pending (pending : List Nat) (cfg : Config) (region : RegionState) (d : RxData) (snr : Int) (ctx : MacCtx)
    (h : acceptCmds pending cfg region d snr false = .ok ctx) : ctx.pending.length ≤ 15 ∧ ∀ b ∈ ctx.pending, b < 256 := by
  obtain ⟨as1, as2, cfg1, rg1, m1, ha1, ha2, hp⟩ := C08.accept_answers pending cfg region d snr ctx h
  rw [hp]
  refine ⟨C08.wires_fit_le 15 _, wires_bytes fun a ha => ?_⟩
  rcases List.mem_append.mp ((C08.fit_prefix 15 (as1 ++ as2)).subset ha) with h1 | h2
  · exact answers_ansBytes ha1 a h1
  · by_cases hport : d.fport = some 0
    · rw [if_pos hport] at ha2
      obtain ⟨m2, ha2⟩ := ha2
      exact answers_ansBytes ha2 a h2
    · rw [if_neg hport] at ha2
      rw [ha2.1] at h2
      cases h2

theorem acceptFinish_wf (s : Session) (d : RxData) (N : Nat) (ctx : MacCtx) (h : SessionWF s) (hN : N < 4294967296)
    (hp : ctx.pending.length ≤ 15 ∧ ∀ b ∈ ctx.pending, b < 256) : SessionWF (acceptFinish s d N ctx).2.1 := by
  obtain ⟨h1, h2, h3, h4, h5, h6⟩ := h
  rw [acceptFinish_session_eq]
  exact ⟨hp.1, hp.2, bumpFu_lt h3, fun n hn => by cases hn; exact hN, Nat.zero_lt_succ _, h6⟩

theorem acceptState_inv (m : MacState) (s : Session) (d : RxData) (N : Nat) (ctx : MacCtx) (h : SessionWF s)
    (hN : N < 4294967296) (hp : ctx.pending.length ≤ 15 ∧ ∀ b ∈ ctx.pending, b < 256) : SessInv (acceptState m s d N ctx) :=
  .of_joined (acceptState_st m s d N ctx) (acceptFinish_wf s d N ctx h hN hp)

theorem new_wf (da nwk app : Nat) (h : da < 4294967296) : SessionWF (Session.new da nwk app) := by
  refine ⟨by simp [Session.new], fun b hb => by simp [Session.new] at hb, by simp [Session.new], fun n hn => by simp [Session.new] at hn,
    by simp [Session.new], h⟩

theorem acts_sessInv (acts : List Act) (m m' : MacState) (hi : SessInv m) (h : Acts m acts m') : SessInv m' :=
  Acts.invariant timeoutState_inv
    (fun m s N d hi hs hN => acceptState_inv m s d N (ctxC m s) (hi s hs) hN ⟨(hi s hs).1, (hi s hs).2.1⟩)
    (fun m s N d snr ctx hi hs hN hc => acceptState_inv m s d N ctx (hi s hs) hN (acceptCmds_pending _ _ _ d snr ctx hc)) hi h

theorem step_sessInv {σ} (g : Rng σ) (m m' : MacState) (rs rs' : σ) (ev : Ev) (out : Out) (gh : Gh)
    (hr : GhRel m gh) (hi : SessInv m) (hv : evOk ev = true ∧ addrOk ev = true)
    (h : step g (m, rs) ev = .ok ((m', rs'), out)) : SessInv m' := by
  cases step_cases g hr hv.1 h with
  | joinAbp => exact .of_joined rfl (new_wf _ _ _ (by simpa [addrOk] using hv.2))
  | setDr | rxcIdle | upIdle => exact hi
  | setAdr =>
    intro s' hs'
    obtain ⟨s, hs, rfl⟩ := macSetAdr_joined hs'
    obtain ⟨h1, h2, h3, h4, h5, h6⟩ := hi s hs
    refine ⟨h1, h2, h3, h4, ?_, h6⟩
    show (if _ = true then s.adrAckCnt else 0) < 4294967296
    split <;> omega
  | joined _ _ _ hres hacc =>
    refine .of_joined (otaaAccept_st _ _ _ hacc) (new_wf _ _ _ ?_)
    -- the JoinAccept was heard in RX1 or RX2: its address is a 32-bit field
    have ha := hv.2
    simp only [addrOk, Bool.and_eq_true] at ha
    rcases joinRes_heard hres with ⟨snr, rfl | rfl, _⟩
    · simpa using ha.1
    · simpa using ha.2
  | joinFailed _ hst1 =>
    intro s hs
    rw [hst1] at hs; cases hs
  | rxc _ _ _ ha => exact acts_sessInv _ _ _ hi ha
  | up hst _ hs ha => exact acts_sessInv _ _ _ (.of_joined hs.st (sentSession_wf _ _ (hi _ hst))) ha

/-- what is written to non-volatile memory: the session, if there is one -/
def persist (m : MacState) : Option SessionDoc :=
  match m.st with
  | .joined s => some (ser s)
  | _ => none

/-- a device (same configuration and channel plan) restored from a document -/
def restore (m : MacState) (d : SessionDoc) : Option MacState := (deser d).map (fun s => { m with st := .joined s })

theorem restore_persist (m : MacState) (hi : SessInv m) (d : SessionDoc) (h : persist m = some d) : restore m d = some m := by
  unfold persist at h
  cases hst : m.st with
  | joined s =>
    simp only [hst, Option.some.injEq] at h
    subst h
    unfold restore
    rw [deser_ser s (hi s hst)]
    simp only [Option.map_some, Option.some.injEq]
    cases m; simp only at hst; subst hst; rfl
  | otaa o => simp [hst] at h
  | unjoined => simp [hst] at h

/-- **C20 over every history.**  Run ANY history `evs1` (valid address fields, 16-bit wire counters)
from a state whose session, if any, satisfies the type invariants (e.g. the initial state); persist
the session there; restore it into the device: the restored device IS the original
(`restore … = some m1`), so every continuation `evs2` — next uplinks, verdicts on replayed downlinks,
counters — runs identically. -/
theorem history_persist {σ} (g : Rng σ) (m : MacState) (rs : σ) (gh : Gh) (hr : GhRel m gh) (hi : SessInv m)
    (evs1 : List Ev) (hv : ∀ ev ∈ evs1, evOk ev = true ∧ addrOk ev = true) (m1 : MacState) (rs1 : σ) (outs1 : List Out)
    (h : run g (m, rs) evs1 = .ok ((m1, rs1), outs1)) :
    SessInv m1 ∧ ∀ d, persist m1 = some d → restore m1 d = some m1 ∧
      ∀ evs2, (restore m1 d).map (fun mr => run g (mr, rs1) evs2) = some (run g (m1, rs1) evs2) := by
  have hinv : SessInv m1 :=
    (chain_traceD g (fun gh ev _ => ghStep gh ev) (fun _ _ _ => True) (fun m gh => GhRel m gh ∧ SessInv m)
      (fun ev => evOk ev = true ∧ addrOk ev = true)
      (fun m s ev m' s' out gh hr hv hs =>
        ⟨trivial, step_ghRel g m m' s s' ev out gh hr.1 hv.1 hs, step_sessInv g m m' s s' ev out gh hr.1 hr.2 hv hs⟩)
      (m, rs) (m1, rs1) _ gh ⟨hr, hi⟩ (fun x hx => hv x.1 (List.of_mem_zip hx).1) (run_chain g _ _ evs1 outs1 h)).2.2
  refine ⟨hinv, fun d hd => ?_⟩
  have := restore_persist m1 hinv d hd
  exact ⟨this, fun evs2 => by rw [this]; rfl⟩

theorem sessInv_init (r : RegionState) (p : Nat) (gain : Int) : SessInv (MacState.init r p gain) := by
  intro s hs; cases hs


/-! non-vacuity: a session with pending sticky answers and a stored downlink counter, persisted after
three events and restored -/
def lcg : Rng Nat := fun x => ((x * 1103515245 + 12345) / 65536, x * 1103515245 + 12345)
def demoFrame : RxData :=
  { len := 20, confirmed := true, fcnt16 := 9, micFcnt := some 9, fopts := [0x05, 0x23, 0xD2, 0xAD, 0x84, 0x06],
    fport := some 1, payload := [1] }
def demoHistory : List Ev :=
  [ .joinAbp 7 1 2, .uplink [1] 1 true none (some (.data demoFrame, 5)) none 51 51, .uplink [2] 1 false none none none 51 51 ]

example : ∀ ev ∈ demoHistory, evOk ev = true ∧ addrOk ev = true := by decide
example : (run lcg (MacState.init (RegionState.init .EU868) 14 0, 1) demoHistory).toOption.bind
      (fun r => (persist r.1.1).bind (restore r.1.1)) =
    (run lcg (MacState.init (RegionState.init .EU868) 14 0, 1) demoHistory).toOption.map (fun r => r.1.1) := by decide +kernel
example : (run lcg (MacState.init (RegionState.init .EU868) 14 0, 1) demoHistory).toOption.bind (fun r => persist r.1.1) =
    some { uplink := { confirmed := false, pendingLen := 2, pendingData := [5, 7, 0, 0, 0, 0, 0, 0, 0, 0, 0, 0, 0, 0, 0] },
           confirmed := false, nwkKey := 1, appKey := 2, devAddr := 7, fcntUp := 2, fcntDown := some 9, adrAckCnt := 1 } := by
  decide +kernel

/-! ## extended histories (Class C receptions inside the receive procedure, `Model/HistoryC.lean`)

The type invariants of the session survive the acts of an extended receive procedure too (a Class C
acceptance stores a 32-bit counter and keeps the queue; a Class A acceptance stores the fitting answers;
`rx2_complete` saturates its counters), so a session persisted at ANY point of ANY extended history —
in particular after a procedure in which Class C frames were accepted between the windows — restores to
the identical device, and every extended continuation runs identically. -/

def addrOkC : EvC → Bool
  | .base e => addrOk e
  | .joinC _ fault _ rx1 _ rx2 => addrOk (joinPlain fault rx1 rx2)
  | .uplinkC _ _ _ _ _ _ _ _ _ => true

theorem stepC_sessInv {σ} (g : Rng σ) (m m' : MacState) (rs rs' : σ) (ev : EvC) (out : OutC) (gh : Gh)
    (hr : GhRel m gh) (hi : SessInv m) (hv : evOkC ev = true ∧ addrOkC ev = true)
    (h : stepC g (m, rs) ev = .ok ((m', rs'), out)) : SessInv m' := by
  cases stepC_cases g hr hv.1 h with
  | base he hs | joinC he hs => exact step_sessInv g m m' rs rs' _ _ gh hr hi ⟨he, hv.2⟩ hs
  | upIdle => exact hi
  | upC hst _ hs ha => exact acts_sessInv _ _ m' (.of_joined hs.st (sentSession_wf _ _ (hi _ hst))) ha

/-- **C20 over every extended history** (Class C receptions inside the receive procedure included): as
`history_persist`. -/
theorem historyC_persist {σ} (g : Rng σ) (m : MacState) (rs : σ) (gh : Gh) (hr : GhRel m gh) (hi : SessInv m)
    (evs1 : List EvC) (hv : ∀ ev ∈ evs1, evOkC ev = true ∧ addrOkC ev = true) (m1 : MacState) (rs1 : σ) (outs1 : List OutC)
    (h : runC g (m, rs) evs1 = .ok ((m1, rs1), outs1)) :
    SessInv m1 ∧ ∀ d, persist m1 = some d → restore m1 d = some m1 ∧
      ∀ evs2, (restore m1 d).map (fun mr => runC g (mr, rs1) evs2) = some (runC g (m1, rs1) evs2) := by
  have hinv : SessInv m1 :=
    (chainC_traceD g ghNextC (fun _ _ _ => True) (fun m gh => GhRel m gh ∧ SessInv m)
      (fun ev => evOkC ev = true ∧ addrOkC ev = true)
      (fun m s ev m' s' out gh hr hv hs =>
        ⟨trivial, stepC_ghRel g m m' s s' ev out gh hr.1 hv.1 hs, stepC_sessInv g m m' s s' ev out gh hr.1 hr.2 hv hs⟩)
      (m, rs) (m1, rs1) _ gh ⟨hr, hi⟩ (fun x hx => hv _ (mem_annot_zip g (m, rs) evs1 outs1 x hx)) (runC_chain g _ _ evs1 outs1 h)).2.2
  refine ⟨hinv, fun d hd => ?_⟩
  have := restore_persist m1 hinv d hd
  exact ⟨this, fun evs2 => by rw [this]; rfl⟩

/-- **C20 on the async front-end, for EVERY script, both classes**: the MAC state a session of the
async front-end ends in — whatever was heard inside its receive procedures — has a session that
restores losslessly -/
theorem asyncC_persist {σ} (g : Rng σ) (cfg : DevCfg) (d : DevRun) (rs : σ) (gh : Gh) (hr : GhRel d.m gh) (hi : SessInv d.m)
    (ops : List AsyncOp) (hv : ∀ op ∈ ops, op.allView viewOk = true ∧ addrOkC (abstractOp cfg op) = true)
    (obs : List OpObs) (d' : DevRun) (rs' : σ) (h : asyncOps g cfg d rs ops = .ok (obs, d', rs')) :
    SessInv d'.m ∧ ∀ doc, persist d'.m = some doc → restore d'.m doc = some d'.m := by
  obtain ⟨outs, hrun, _⟩ := asyncOps_runC g cfg d rs ops obs d' rs' h
  have hev : ∀ ev ∈ abstractSessionC cfg ops, evOkC ev = true ∧ addrOkC ev = true :=
    List.forall_mem_map.mpr fun op hop => ⟨abstractOp_evOkC cfg op (hv op hop).1, (hv op hop).2⟩
  obtain ⟨h1, h2⟩ := historyC_persist g d.m rs gh hr hi _ hev d'.m rs' outs hrun
  exact ⟨h1, fun doc hd => (h2 doc hd).1⟩

/-! non-vacuity: persisted right after a procedure in which a confirmed Class C frame was accepted
between TX and RX1 (ACK owed, both counters moved) -/
def demoHistoryC : List EvC :=
  [ .base (.joinAbp 7 1 2),
    .uplinkC true [1] 1 false none [(.data { demoFrame with fcnt16 := 3, micFcnt := some 3 }, 5)] none [] none ]

example : ∀ ev ∈ demoHistoryC, evOkC ev = true ∧ addrOkC ev = true := by decide
example : (runC lcg (MacState.init (RegionState.init .EU868) 14 0, 1) demoHistoryC).toOption.bind
      (fun r => (persist r.1.1).bind (restore r.1.1)) =
    (runC lcg (MacState.init (RegionState.init .EU868) 14 0, 1) demoHistoryC).toOption.map (fun r => r.1.1) := by decide +kernel
example : (runC lcg (MacState.init (RegionState.init .EU868) 14 0, 1) demoHistoryC).toOption.bind (fun r => persist r.1.1) =
    some { uplink := { confirmed := true, pendingLen := 0, pendingData := [0, 0, 0, 0, 0, 0, 0, 0, 0, 0, 0, 0, 0, 0, 0] },
           confirmed := false, nwkKey := 1, appKey := 2, devAddr := 7, fcntUp := 2, fcntDown := some 3, adrAckCnt := 1 } := by
  decide +kernel

end C20

#print axioms C20.deser_ser
#print axioms C20.deser_wf
#print axioms C20.restored_same_uplink
#print axioms C20.restored_same_replay_verdict
#print axioms C20.restored_counters
#print axioms C20.step_sessInv
#print axioms C20.restore_persist
#print axioms C20.history_persist
#print axioms C20.answers_bytes
#print axioms C20.stepC_sessInv
#print axioms C20.historyC_persist
#print axioms C20.asyncC_persist
