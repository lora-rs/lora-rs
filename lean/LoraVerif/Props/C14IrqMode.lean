import LoraVerif.Lemmas.PhyWp
import LoraVerif.Model.ChipIrq
/-!
# C14, the IRQ-mode defect: `radio_mode` was recorded BEFORE the IRQ routing was programmed

`prepare_for_tx` / `prepare_for_rx` / `prepare_for_cad` (and `continuous_wave`) assigned
`self.radio_mode = Transmit / Receive / ChannelActivityDetection` before the final
`set_irq_params(Some(self.radio_mode)).await?`.  One SPI / busy fault at that last write: the call
returns `Err`, the mode is already set, the next `tx()` / `start_rx()` / `cad()` is accepted and starts
the operation with the IRQ routing of ANOTHER operation in place (SX126x after a CAD: only the CAD bits
are routed to DIO1, TxDone never raises the line, `tx()` waits forever).

Here:
* `irq_mode_unfixed_counterexample*` / `irq_mode_fixed*`: the history on the model of the code as it
  was (`prepareForTxUnfixed`) and as it is after `fix-irq-mode` (`Model/PhyState.lean`), judged by the
  mode-specific tracker of `Model/ChipIrq.lean`;
* `prepare_for_*_failure_keeps_mode`: for EVERY radio kind (any `RadioKindOps`, no assumption on the
  chip operations), every driver state, every chip answer, a fault at any I/O step and a drop at any
  `await_irq`: a `prepare_for_tx` (rx, cad) that does not return `Ok` leaves `radio_mode` as it was or
  `Standby` — it never newly records the operation's mode; and when it returns `Ok` the mode is the
  operation's.  (False for the code as it was: `prepare_for_tx_unfixed_breaks_it`.)

Not proved: that over every history the routing programmed last is the one of the operation `radio_mode` names
(so that `startedWrongIrq` and `rxStartedWrongIrq` stay down).  That clause is trusted to the correspondence, which
decides it on the bounded exploration (`C14 inv` lines: the Rust tracker on the real transcript and this tracker on
the model's transcript must both say `ok`).
-/
open Model.Phy Model.Phy.M
namespace Model.Phy

/-! ### the three programs as they were before `fix-irq-mode`: the mode was recorded before the last write.  Only the TX one
is run in a theorem below; the other two record the same reordering of `prepare_for_rx` / `prepare_for_cad`. -/
section
variable {σ μ : Type} (rk : RadioKindOps σ μ)

def prepareForTxUnfixed (m : μ) (pkt : PacketParams) (power : Int) (payload : Bytes) : M σ Unit := do
  prepareModem rk (rk.freqOf m)
  let d ← get
  call (rk.setModulationParams d.rk m)
  call (rk.setTxPowerAndRampTime power (some m) true)
  toStandby rk
  if payload.length > 255 then throw (.PayloadSizeUnexpected payload.length) else
  call (rk.setPacketParams { pkt with payloadLength := payload.length })
  call (rk.setChannel (rk.freqOf m))
  call (rk.setPayload payload)
  setMode .transmit
  call (rk.setIrqParams (some .transmit))

def prepareForRxUnfixed (mode : RxMode) (m : μ) (pkt : PacketParams) : M σ Unit := do
  prepareModem rk (rk.freqOf m)
  let d ← get
  call (rk.setModulationParams d.rk m)
  call (rk.setPacketParams pkt)
  call (rk.setChannel (rk.freqOf m))
  setMode (.receive mode)
  call (rk.setIrqParams (some (.receive mode)))

def prepareForCadUnfixed (m : μ) : M σ Unit := do
  prepareModem rk (rk.freqOf m)
  let d ← get
  call (rk.setModulationParams d.rk m)
  call (rk.setChannel (rk.freqOf m))
  setMode .cad
  call (rk.setIrqParams (some .cad))
end

end Model.Phy

namespace C14
namespace IrqMode

section
variable {kind : Kind} {n : Needs} {σ μ : Type}

/-- a `RadioKind` operation never touches the driver's bookkeeping, whatever it does to the chip: the
rest of the program goes on from the same driver state -/
theorem mwp_call_keep {α β : Type} {p : Prog α} {k : α → M σ β} {Q : β → DriverState σ → ChipTrack → Prop}
    {P : DriverState σ → Prop} {d : DriverState σ} {t : ChipTrack} (he : P d)
    (h : ∀ a t', mwp kind n (k a) Q (fun _ d' _ => P d') d t') :
    mwp kind n (M.call p >>= k) Q (fun _ d' _ => P d') d t :=
  mwp_op (wp_top p t) (fun a t' _ => h a t') (fun _ _ _ => he)

/-- the mode is what it was, or `Standby` -/
def ModeKept (d d' : DriverState σ) : Prop := d'.radioMode = d.radioMode ∨ d'.radioMode = .standby

variable (rk : RadioKindOps σ μ)

theorem toStandby_mode {d : DriverState σ} {t : ChipTrack} :
    mwp kind n (toStandby rk) (fun _ d' _ => d'.radioMode = .standby) (fun _ d' _ => ModeKept d d') d t := by
  unfold toStandby
  refine mwp_get ?_
  refine mwp_call_keep (Or.inl rfl) fun _ _ => ?_
  by_cases hm : d.radioMode = .standby
  · simp only [ne_eq, hm, not_true_eq_false, if_false]
    exact mwp_pure hm
  · simp only [ne_eq, hm, not_false_eq_true, if_true]
    refine mwp_call_keep (Or.inl rfl) fun _ _ => ?_
    exact mwp_setMode rfl

theorem doColdStart_mode {d : DriverState σ} {t : ChipTrack} :
    mwp kind n (doColdStart rk) (fun _ d' _ => d'.radioMode = d.radioMode) (fun _ d' _ => d'.radioMode = d.radioMode) d t := by
  unfold doColdStart
  refine mwp_get ?_
  refine mwp_call_keep rfl fun _ _ => ?_
  refine mwp_bind (mwp_modify ?_)
  refine mwp_call_keep rfl fun _ _ => ?_
  refine mwp_get ?_
  refine mwp_call_keep rfl fun _ _ => ?_
  exact mwp_modify rfl

theorem prepareModem_mode (freq : Nat) {d : DriverState σ} {t : ChipTrack} :
    mwp kind n (prepareModem rk freq) (fun _ d' _ => d'.radioMode = .standby) (fun _ d' _ => ModeKept d d') d t := by
  unfold prepareModem
  refine mwp_seq (toStandby_mode rk) fun _ d1 t1 h1 => ?_
  refine mwp_get ?_
  refine mwp_ite_seq (Q₁ := fun d2 _ => d2.radioMode = .standby)
    (fun _ => mwp_mono (doColdStart_mode rk) (fun _ _ _ h2 => h2.trans h1) fun _ _ _ he => Or.inr (he.trans h1))
    (fun _ => h1) fun d2 t2 m2 => ?_
  refine mwp_get ?_
  by_cases hc : d2.calibrateImage = true
  · simp only [hc, if_true]
    refine mwp_call_keep (Or.inr m2) fun _ _ => ?_
    exact mwp_modify m2
  · simp only [hc, Bool.false_eq_true, if_false]
    exact mwp_pure m2

/-- **`prepare_for_tx`**: `Ok` ⇒ the mode is `Transmit` (and the last step, `set_irq_params(Transmit)`,
succeeded); anything else ⇒ the mode is what it was or `Standby`. -/
theorem prepare_for_tx_failure_keeps_mode (m : μ) (pkt : PacketParams) (power : Int) (payload : Bytes)
    {d : DriverState σ} {t : ChipTrack} :
    mwp kind n (prepareForTx rk m pkt power payload)
      (fun _ d' _ => d'.radioMode = .transmit) (fun _ d' _ => ModeKept d d') d t := by
  unfold prepareForTx
  refine mwp_seq (prepareModem_mode rk _) fun _ d1 t1 h1 => ?_
  refine mwp_get ?_
  refine mwp_call_keep (Or.inr h1) fun _ _ => ?_
  refine mwp_call_keep (Or.inr h1) fun _ _ => ?_
  refine mwp_bind (mwp_mono (toStandby_mode rk) (fun _ d4 t4 h4 => ?_)
    (fun a d' t' he => Or.inr (he.elim (fun e => e.trans h1) id)))
  by_cases hp : payload.length > 255
  · simp only [hp, if_true]
    exact mwp_throw (Or.inr h4)
  · simp only [hp, if_false]
    refine mwp_call_keep (Or.inr h4) fun _ _ => ?_
    refine mwp_call_keep (Or.inr h4) fun _ _ => ?_
    refine mwp_call_keep (Or.inr h4) fun _ _ => ?_
    refine mwp_call_keep (Or.inr h4) fun _ _ => ?_
    exact mwp_setMode rfl

theorem prepare_for_rx_failure_keeps_mode (mode : RxMode) (m : μ) (pkt : PacketParams)
    {d : DriverState σ} {t : ChipTrack} :
    mwp kind n (prepareForRx rk mode m pkt)
      (fun _ d' _ => d'.radioMode = .receive mode) (fun _ d' _ => ModeKept d d') d t := by
  unfold prepareForRx
  refine mwp_seq (prepareModem_mode rk _) fun _ d1 t1 h1 => ?_
  refine mwp_get ?_
  refine mwp_call_keep (Or.inr h1) fun _ _ => ?_
  refine mwp_call_keep (Or.inr h1) fun _ _ => ?_
  refine mwp_call_keep (Or.inr h1) fun _ _ => ?_
  refine mwp_call_keep (Or.inr h1) fun _ _ => ?_
  exact mwp_setMode rfl

theorem prepare_for_cad_failure_keeps_mode (m : μ) {d : DriverState σ} {t : ChipTrack} :
    mwp kind n (prepareForCad rk m)
      (fun _ d' _ => d'.radioMode = .cad) (fun _ d' _ => ModeKept d d') d t := by
  unfold prepareForCad
  refine mwp_seq (prepareModem_mode rk _) fun _ d1 t1 h1 => ?_
  refine mwp_get ?_
  refine mwp_call_keep (Or.inr h1) fun _ _ => ?_
  refine mwp_call_keep (Or.inr h1) fun _ _ => ?_
  refine mwp_call_keep (Or.inr h1) fun _ _ => ?_
  exact mwp_setMode rfl

end

theorem set_tx_checks_the_routing (t : IrqTrack) (args : Bytes) :
    (irqStep126 t (0x83 :: args)).startedWrongIrq = (t.startedWrongIrq || !t.cls.tx) := by
  simp +decide [irqStep126, decode126, IrqTrack.startTx]

theorem set_cad_checks_the_routing (t : IrqTrack) (args : Bytes) :
    (irqStep126 t (0xC5 :: args)).startedWrongIrq = (t.startedWrongIrq || !t.cls.cad) := by
  simp +decide [irqStep126, decode126, IrqTrack.startCad]

theorem cold_sleep_forgets_the_routing (t : IrqTrack) : (irqStep126 t [0x84, 0x00]).cls = {} := by
  simp +decide [irqStep126, decode126]

theorem half_written_routing_is_no_routing127 (t : IrqTrack) (v : UInt8) : (irqStep127 t [0x91, v]).cls = {} := by
  simp +decide [irqStep127]

def cfg126 : Sx126x.Config := { chip := .sx1262, tcxo := none, useDcdc := true, rxBoost := false }
def cfg127 : Sx127x.Config := { chip := .sx1276, tcxoUsed := false, txBoost := false, rxBoost := false }
def mod126 : Sx126x.ModulationParams := { sf := ._7, bw := ._125KHz, cr := ._4_5, ldro := 0, freq := 868100000 }
def mod127 : Sx127x.ModulationParams := { sf := ._7, bw := ._125KHz, cr := ._4_5, ldro := 0, freq := 868100000 }
def txPkt : PacketParams := { preambleLength := 8, implicitHeader := false, payloadLength := 0, crcOn := true, iqInverted := false }
def chip126 : Chip := { kind := .sx126x, regs := fun _ => 0, buffer := fun _ => 0 }
def chip127 : Chip := { kind := .sx127x, regs := fun _ => 0, buffer := fun _ => 0 }
def start126 : DriverState Unit × World := ({ rk := (), syncWord := 0x3444 }, { chip := chip126 })
def start127 : DriverState Sx127x.Data × World := ({ rk := {}, syncWord := 0x3444 }, { chip := chip127 })
def ops126 := sx126xOps cfg126
def ops127 := sx127xOps cfg127

/-- run API programs one after the other (each with a fresh transcript), feed every transcript to the
IRQ-routing tracker -/
def scenario {σ : Type} (kind : Kind) (s : DriverState σ × World) (t : IrqTrack) :
    List (M σ Unit × Env) → (DriverState σ × World) × IrqTrack
  | [] => (s, t)
  | (m, env) :: rest =>
    let w : World := { chip := { s.2.chip with irqScript := env.irq, irqDefault := env.irqDefault },
                       log := [], step := 0, fault := env.fault, pendAt := env.pendAt }
    let r := m (s.1, w)
    scenario kind r.2 (irqTrack kind t r.2.2.log) rest

/-- the position of the last write of `prepare_for_tx` in these histories (found by evaluation; the
theorems below check that it IS the `CfgDIOIrq` / `RegDioMapping1` write by their conclusions) -/
def K126 : Nat := 29
def K127 : Nat := 76

/-- **The defect, SX126x.** `init; prepare_for_cad; prepare_for_tx` with one fault at its last SPI write
(`CfgDIOIrq`), then `tx()`, on the model of the code as it was: the failed `prepare_for_tx` left
`radio_mode = Transmit`, `tx()` was accepted and SetTx executed with the CAD routing in place. -/
theorem irq_mode_unfixed_counterexample126 :
    let r := scenario .sx126x start126 {}
      [(init ops126, {}), (prepareForCad ops126 mod126, {}),
       (prepareForTxUnfixed ops126 mod126 txPkt 14 [1, 2, 3], { fault := some K126 }), (tx ops126 8, { irqDefault := 1 })]
    r.2.startedWrongIrq = true ∧ r.2.cls = { cad := true } := by decide +kernel

/-- the same history on the code as it is: the mode stayed `Standby`, `tx()` is refused, nothing started -/
theorem irq_mode_fixed126 :
    let r := scenario .sx126x start126 {}
      [(init ops126, {}), (prepareForCad ops126 mod126, {}),
       (prepareForTx ops126 mod126 txPkt 14 [1, 2, 3], { fault := some K126 }), (tx ops126 8, { irqDefault := 1 })]
    r.2.startedWrongIrq = false ∧ r.2.cls = { cad := true } ∧ r.1.1.radioMode = .standby ∧ r.1.2.log = [] := by
  decide +kernel

/-- … and without the fault the transmission starts with the TX routing (the hypothesis is not vacuous) -/
theorem irq_mode_fault_free126 :
    let r := scenario .sx126x start126 {}
      [(init ops126, {}), (prepareForCad ops126 mod126, {}),
       (prepareForTx ops126 mod126 txPkt 14 [1, 2, 3], {}), (tx ops126 8, { irqDefault := 1 })]
    r.2.startedWrongIrq = false ∧ r.2.cls = { tx := true } ∧ r.1.2.log ≠ [] := by decide +kernel

/-- **The defect, SX127x**: a fault at the `RegDioMapping1` write (the last of the four transactions of
`set_irq_params`): RegIrqFlagsMask already unmasks TxDone only, but DIO0 is still mapped to CadDone. -/
theorem irq_mode_unfixed_counterexample127 :
    let r := scenario .sx127x start127 {}
      [(init ops127, {}), (prepareForCad ops127 mod127, {}),
       (prepareForTxUnfixed ops127 mod127 txPkt 14 [1, 2, 3], { fault := some K127 }), (tx ops127 8, { irqDefault := 8 })]
    r.2.startedWrongIrq = true := by decide +kernel

theorem irq_mode_fixed127 :
    let r := scenario .sx127x start127 {}
      [(init ops127, {}), (prepareForCad ops127 mod127, {}),
       (prepareForTx ops127 mod127 txPkt 14 [1, 2, 3], { fault := some K127 }), (tx ops127 8, { irqDefault := 8 })]
    r.2.startedWrongIrq = false ∧ r.1.1.radioMode = .standby ∧ r.1.2.log = [] := by decide +kernel

/-- the general theorem is false of the code as it was: a failed `prepare_for_tx` newly recorded `Transmit` -/
theorem prepare_for_tx_unfixed_breaks_it :
    let r := scenario .sx126x start126 {}
      [(init ops126, {}), (prepareForCad ops126 mod126, {}),
       (prepareForTxUnfixed ops126 mod126 txPkt 14 [1, 2, 3], { fault := some K126 })]
    r.1.1.radioMode = .transmit := by decide +kernel

/-- the hypotheses of `prepare_for_tx_failure_keeps_mode` are satisfiable, and both outcomes occur -/
example : (prepareForTx ops126 mod126 txPkt 14 [1, 2, 3] (start126.1, { chip := chip126, fault := some 3 })).2.1.radioMode ≠ .transmit := by
  decide +kernel
example : (prepareForTx ops126 mod126 txPkt 14 [1, 2, 3] (start126.1, { chip := chip126 })).2.1.radioMode = .transmit := by
  decide +kernel

end IrqMode
end C14

#print axioms C14.IrqMode.prepare_for_tx_failure_keeps_mode
#print axioms C14.IrqMode.prepare_for_rx_failure_keeps_mode
#print axioms C14.IrqMode.prepare_for_cad_failure_keeps_mode
#print axioms C14.IrqMode.irq_mode_unfixed_counterexample126
#print axioms C14.IrqMode.irq_mode_fixed126
#print axioms C14.IrqMode.irq_mode_unfixed_counterexample127
#print axioms C14.IrqMode.irq_mode_fixed127
