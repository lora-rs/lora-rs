import LoraVerif.Model.History
import LoraVerif.Lemmas.StepWalk
import LoraVerif.Lemmas.RxFacts
/-!
# What the MAC functions do to a session, seen from the uplink counter and the session identity

No hypothesis on the state or on the frames: the facts hold for frames with any wire counter and
sessions with any stored downlink counter, so they rest on the unconditional equations `sessionHandleRx_eq`,
`acceptFinish_eq`, `rx2Complete_eq` (`Lemmas/RxForm.lean`) and on the model functions above
them, not on the normal forms in terms of the reference (which assume `LastOk` / `rxOk`).  Where a stretch of the
receive procedure matters only through the state it leaves (`Later`), the walks of `Lemmas/StepWalk.lean` carry the
fact (`keptRx_later`); where the RESPONSE is tied to the counter (`Advanced`), the functions are walked here.
-/
open Model

namespace C06

/-- "`m` holds session `s`", as the end results of C06 about one session write it.  It unfolds to the equation
`m.st = .joined s` that `Rel`, `Bounded`, `JoinPost` and the lemmas of `Lemmas/` write, so a proof of either is
taken for the other -/
def joinedWith (m : MacState) (s : Session) : Prop := m.st = .joined s

def sid (s : Session) : Nat × Nat × Nat := (s.devAddr, s.nwkKey, s.appKey)

/-- `s'` is a later state of the session `s`: same address and keys, the uplink counter not below
and, if it fitted 32 bits, still fitting -/
structure Later (s s' : Session) : Prop where
  sid : sid s' = sid s
  le : s.fcntUp ≤ s'.fcntUp
  fits : s.fcntUp ≤ 0xFFFFFFFF → s'.fcntUp ≤ 0xFFFFFFFF

theorem Later.refl (s : Session) : Later s s := ⟨rfl, Nat.le_refl _, id⟩

theorem Later.trans {s s1 s2 : Session} (h1 : Later s s1) (h2 : Later s1 s2) : Later s s2 :=
  ⟨h2.sid.trans h1.sid, Nat.le_trans h1.le h2.le, fun h => h2.fits (h1.fits h)⟩

/-- the session after the receive side answered `r` other than `NoUpdate`: the uplink counter has
advanced by exactly one, or `r` is `SessionExpired` and the counter stands at 2^32 − 1 -/
structure Advanced (s s' : Session) (r : Response) : Prop where
  sid : sid s' = sid s
  resp : r ≠ .noUpdate
  fcnt : (s.fcntUp ≠ 0xFFFFFFFF ∧ s'.fcntUp = s.fcntUp + 1 ∧ r ≠ .sessionExpired) ∨
    (s.fcntUp = 0xFFFFFFFF ∧ s'.fcntUp = s.fcntUp ∧ r = .sessionExpired)

theorem Advanced.later {s s' : Session} {r : Response} (h : Advanced s s' r) : Later s s' := by
  refine ⟨h.sid, ?_, ?_⟩ <;> rcases h.fcnt with ⟨_, e, _⟩ | ⟨_, e, _⟩ <;> omega

theorem Advanced.lt {s s' : Session} {r : Response} (h : Advanced s s' r) (hr : r ≠ .sessionExpired) :
    s.fcntUp < s'.fcntUp := by
  rcases h.fcnt with ⟨_, e, _⟩ | ⟨_, _, e⟩
  · omega
  · exact absurd e hr

/-- both ways the receive side moves the counter (`rx2_complete`, an accepted frame) are `bumpFu` with an answer that is
`SessionExpired` exactly at the last counter -/
theorem advanced_of_bump {s s' : Session} {r : Response} (hid : sid s' = sid s) (hfu : s'.fcntUp = bumpFu s.fcntUp)
    (hr : (r == .noUpdate) = false) (hx : r = .sessionExpired ↔ s.fcntUp = 0xFFFFFFFF) : Advanced s s' r := by
  refine ⟨hid, fun e => (by rw [e] at hr; cases hr), ?_⟩
  unfold bumpFu at hfu
  by_cases h : s.fcntUp = 0xFFFFFFFF
  · rw [if_pos h] at hfu
    exact .inr ⟨h, hfu, hx.2 h⟩
  · rw [if_neg h] at hfu
    exact .inl ⟨h, hfu, fun e => h (hx.1 e)⟩

theorem rx2Complete_advanced (s : Session) (cfg : Config) (r : RegionId) :
    Advanced s (rx2Complete s cfg r).2.1 (rx2Complete s cfg r).1 := by
  rw [rx2Complete_eq]
  exact advanced_of_bump rfl rfl (tmoResp_ne_noUpdate _ _) tmoResp_exp

theorem acceptFinish_advanced (s : Session) (d : RxData) (N : Nat) (ctx : MacCtx) :
    Advanced s (acceptFinish s d N ctx).2.1 (acceptFinish s d N ctx).1.resp := by
  rw [acceptFinish_eq]
  exact advanced_of_bump rfl rfl (accOut_ne_noUpdate _ _ _) accOut_exp

/-- a function of the receive side that answered `r` left the session alone (`NoUpdate`) or `Advanced` it -/
def RxStep (s s' : Session) (r : Response) : Prop := (r = .noUpdate ∧ s' = s) ∨ Advanced s s' r

theorem RxStep.later {s s' : Session} {r : Response} (h : RxStep s s' r) : Later s s' := by
  rcases h with ⟨_, rfl⟩ | h
  · exact .refl _
  · exact h.later

theorem sessionHandleRx_step {s s' : Session} {cfg cfg' : Config} {region region' : RegionState} {d : RxData} {mp : Nat}
    {snr : Int} {ig : Bool} {o : RxOut} (h : sessionHandleRx s cfg region d mp snr ig = .ok (o, s', cfg', region')) :
    RxStep s s' o.resp := by
  rw [sessionHandleRx_eq] at h
  split at h
  · cases ig <;> cases Except.pure_eq_ok h
    · exact Or.inr (rx2Complete_advanced s cfg region.id)
    · exact Or.inl ⟨rfl, rfl⟩
  · split at h
    · rename_i N _
      obtain ⟨ctx, _, h⟩ := Except.bind_eq_ok h
      have ha := acceptFinish_advanced s d N ctx
      rw [Except.pure_eq_ok h] at ha
      exact Or.inr ha
    · cases Except.pure_eq_ok h
      exact Or.inl ⟨rfl, rfl⟩

variable {m m' : MacState} {s : Session}

theorem macHandleRx_session (hm : joinedWith m s) {v : RxView} {mp : Nat} {snr : Int}
    {cc : Bool} {o : Option RxOut} (h : macHandleRx m v mp snr cc = .ok (o, m')) :
    ∃ out s', o = some out ∧ joinedWith m' s' ∧ RxStep s s' out.resp := by
  unfold macHandleRx at h
  rw [hm] at h
  cases v with
  | data d =>
    obtain ⟨⟨out, s1, cfg1, reg1⟩, hs, h⟩ := Except.bind_eq_ok h
    cases Except.pure_eq_ok h
    exact ⟨out, s1, rfl, rfl, sessionHandleRx_step hs⟩
  | garbage => cases Except.pure_eq_ok h; exact ⟨_, s, rfl, hm, Or.inl ⟨rfl, rfl⟩⟩
  | joinAccept j => cases Except.pure_eq_ok h; exact ⟨_, s, rfl, hm, Or.inl ⟨rfl, rfl⟩⟩

theorem macRx2Complete_session (hm : joinedWith m s) :
    ∃ s', joinedWith (macRx2Complete m).2 s' ∧ Advanced s s' (macRx2Complete m).1 := by
  unfold macRx2Complete
  rw [hm]
  exact ⟨_, rfl, rx2Complete_advanced s m.cfg m.region.id⟩

theorem window_session (hm : joinedWith m s) {f : Option (RxView × Int)} {mp : Nat}
    {o : Option RxOut} (h : window m f mp = .ok (o, m')) :
    ∃ s', joinedWith m' s' ∧ ((o = none ∧ s' = s) ∨ ∃ out, o = some out ∧ Advanced s s' out.resp) := by
  unfold window at h
  cases f with
  | none => cases Except.pure_eq_ok h; exact ⟨s, hm, Or.inl ⟨rfl, rfl⟩⟩
  | some f =>
    obtain ⟨⟨ro, m1⟩, hrx, h⟩ := Except.bind_eq_ok h
    obtain ⟨out, s1, rfl, hj1, hc⟩ := macHandleRx_session hm hrx
    dsimp only at h
    refine ⟨s1, ?_⟩
    rcases hc with ⟨hn, rfl⟩ | ha
    · rw [show (out.resp == Response.noUpdate) = true by rw [hn]; rfl] at h
      cases Except.pure_eq_ok h
      exact ⟨hj1, Or.inl ⟨rfl, rfl⟩⟩
    · rw [show (out.resp == Response.noUpdate) = false from beq_false_of_ne ha.resp] at h
      cases Except.pure_eq_ok h
      exact ⟨hj1, Or.inr ⟨out, rfl, ha⟩⟩

theorem classACycle_session (hm : joinedWith m s) {rx1 rx2 : Option (RxView × Int)}
    {mp1 mp2 : Nat} {r : Response} {dl : Option (Nat × List Nat)}
    (h : classACycle m rx1 rx2 mp1 mp2 = .ok (r, dl, m')) : ∃ s', joinedWith m' s' ∧ Advanced s s' r := by
  unfold classACycle at h
  obtain ⟨⟨o1, m1⟩, h1, h⟩ := Except.bind_eq_ok h
  obtain ⟨s1, hj1, ⟨rfl, rfl⟩ | ⟨out, rfl, ha⟩⟩ := window_session hm h1
  · obtain ⟨⟨o2, m2⟩, h2, h⟩ := Except.bind_eq_ok h
    obtain ⟨s2, hj2, ⟨rfl, rfl⟩ | ⟨out, rfl, ha⟩⟩ := window_session hj1 h2
    · cases Except.pure_eq_ok h
      exact macRx2Complete_session hj2
    · cases Except.pure_eq_ok h
      exact ⟨s2, hj2, ha⟩
  · cases Except.pure_eq_ok h
    exact ⟨s1, hj1, ha⟩

/-- whatever the receive side does to a MAC in session `s`, it leaves it in a later state of `s`; with the walks of
`Lemmas/StepWalk.lean` this carries over to every stretch of the receive procedure whose responses do not matter -/
theorem keptRx_later (s : Session) : KeptRx @Post False (fun m => ∃ s', joinedWith m s' ∧ Later s s') where
  rx m v mp snr cc := fun ⟨s1, hj1, hl1⟩ _ r h => by
    obtain ⟨_, s2, _, hj2, hs⟩ := macHandleRx_session hj1 (o := r.1) (m' := r.2) h
    exact ⟨s2, hj2, hl1.trans hs.later⟩
  rx2 m := fun ⟨s1, hj1, hl1⟩ =>
    let ⟨s2, hj2, ha⟩ := macRx2Complete_session hj1
    ⟨s2, hj2, hl1.trans ha.later⟩
  rxcConfig _ _ := fun _ _ => trivial

/-- a radio fault after the frame was handed to the radio: `rx2_complete` runs, and unless the front-end
reports `SessionExpired` the counter has advanced (the `if` is the response `step` and `stepC` give for a faulted uplink) -/
theorem fault_session (hm : joinedWith m s) :
    ∃ s', joinedWith (faultAfterTx m) s' ∧ Later s s' ∧
      ((if faultExpired m then some Response.sessionExpired else none) ≠ some .sessionExpired → s.fcntUp < s'.fcntUp) := by
  obtain ⟨s', hj, ha⟩ := macRx2Complete_session hm
  refine ⟨s', hj, ha.later, fun hr => ha.lt fun e => hr ?_⟩
  unfold faultExpired
  rw [e]
  rfl

theorem winC_session {cc : Bool} (hm : joinedWith m s) {cs : List (RxView × Int)}
    {f : Option (RxView × Int)} {mp : Nat} {eb ea : Bool} {r : Option (Option RxOut)} {hd : List RxOut}
    (h : winC cc m cs f mp eb ea = .ok (r, hd, m')) :
    ∃ s', joinedWith m' s' ∧ Later s s' ∧ ∀ o, r = some (some o) → o.resp ≠ .sessionExpired → s.fcntUp < s'.fcntUp := by
  obtain ⟨os, fin, m1, hb, hk⟩ := winC_ok h
  -- what is heard on the RXC parameters before the window matters only through the state it leaves
  obtain ⟨s1, hj1, hl1⟩ : ∃ s1, joinedWith m1 s1 ∧ Later s s1 := by
    rcases between_ok hb with ⟨_, e⟩ | ⟨_, rf, _, hb⟩
    · cases e
      exact ⟨s, hm, .refl s⟩
    · exact rxcs_wp .post (keptRx_later s) m _ cs ⟨s, hm, .refl s⟩ nofun _ hb
  rcases hk with ⟨_, rfl, _, rfl⟩ | ⟨_, o, hw, rfl, _⟩
  · exact ⟨s1, hj1, hl1, fun o e => nomatch e⟩
  · obtain ⟨s2, hj2, hc⟩ := window_session hj1 hw
    have hl2 : Later s s2 := by
      rcases hc with ⟨_, rfl⟩ | ⟨_, _, ha⟩
      · exact hl1
      · exact hl1.trans ha.later
    refine ⟨s2, hj2, hl2, fun o' e hne => ?_⟩
    cases ea
    · cases e
      rcases hc with ⟨e0, _⟩ | ⟨out, e0, ha⟩
      · cases e0
      · cases e0
        exact Nat.lt_of_le_of_lt hl1.le (ha.lt hne)
    · cases e

theorem cycleC_session {cc : Bool} (hm : joinedWith m s) {fault : Option FaultPos}
    {c1 c2 : List (RxView × Int)} {rx1 rx2 : Option (RxView × Int)} {mp1 mp2 : Nat} {fin : ProcEnd} {heard : List RxOut}
    (h : cycleC cc m fault c1 rx1 c2 rx2 mp1 mp2 = .ok (fin, heard, m')) :
    ∃ s', joinedWith m' s' ∧ Later s s' ∧ ∀ o, fin = .resp o → o.resp ≠ .sessionExpired → s.fcntUp < s'.fcntUp := by
  unfold cycleC at h
  by_cases htx : fault = some .tx
  · rw [if_pos htx] at h
    cases Except.pure_eq_ok h
    exact ⟨s, hm, .refl s, fun o e => nomatch e⟩
  · rw [if_neg htx] at h
    obtain ⟨⟨r1, h1, m1⟩, hw1, hk⟩ := Except.bind_eq_ok h
    obtain ⟨s1, hj1, hl1, hr1⟩ := winC_session hm hw1
    rcases r1 with _ | _ | o
    · cases Except.pure_eq_ok hk
      exact ⟨s1, hj1, hl1, fun o e => nomatch e⟩
    · obtain ⟨⟨r2, h2, m2⟩, hw2, hk2⟩ := Except.bind_eq_ok hk
      obtain ⟨s2, hj2, hl2, hr2⟩ := winC_session hj1 hw2
      rcases r2 with _ | _ | o
      · cases Except.pure_eq_ok hk2
        exact ⟨s2, hj2, hl1.trans hl2, fun o e => nomatch e⟩
      · cases Except.pure_eq_ok hk2
        exact ⟨s2, hj2, hl1.trans hl2, fun o e => nomatch e⟩
      · cases Except.pure_eq_ok hk2
        exact ⟨s2, hj2, hl1.trans hl2, fun o' e hne => by cases e; exact Nat.lt_of_le_of_lt hl1.le (hr2 o rfl hne)⟩
    · cases Except.pure_eq_ok hk
      exact ⟨s1, hj1, hl1, fun o' e => by cases e; exact hr1 o rfl⟩

theorem sentSession_later (s : Session) (conf : Bool) : Later s (sentSession s conf) := ⟨rfl, Nat.le_refl _, id⟩

end C06
