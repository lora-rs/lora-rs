import LoraVerif.Gen.Session
import LoraVerif.Lemmas.ExceptLemmas
import LoraVerif.Lemmas.FcntDown
import LoraVerif.Lemmas.Ghost
import LoraVerif.Lemmas.RefineOps
import LoraVerif.Lemmas.GhostC
import LoraVerif.Lemmas.RefineC
import LoraVerif.Lemmas.RefineListen
/-!
# C05 — a downlink is accepted iff it is authentic and fresh (replay protection)

The counter reconstruction GENERATED from `lorawan-device/src/mac/session.rs::next_fcnt_down` is
characterised in `Lemmas/FcntDown.lean` (`next_spec`, `next_unique`).  Here: what `Session::handle_rx` does
with a frame that meets the acceptance condition and with one that does not; then, over every history
(`Model/History.lean`, `Model/HistoryC.lean`) and for the async front-end under every script, that a frame is
acted upon iff the REFERENCE (tracker `Gh` of `Lemmas/Ghost.lean`, freshness rule of `Spec/Freshness.lean`)
accepts it under the last counter it accepted in this session, and that the accepted counters of a session
strictly increase.
The three theorems about `Session::handle_rx` are the property's statement on that one function, on the model's
own test (`Accept`: `nextFcntDown`, then the MIC); the histories rest on the normal forms of `Lemmas/Cycle.lean`, whose
rule `Model.accepts` (on `Fresh`) is that test for 16-bit wire counters and a `u32` stored counter
(`Model.accepts_eq_filter`, `Model.nextFcntDown_iff`).
-/
open Gen.Session Model

namespace C05

/-- the acceptance condition of the property, on the model's decoded view -/
def Accept (s : Session) (d : RxData) (maxPayload : Nat) (N : Nat) : Prop :=
  d.len ≤ maxPayload + 5 ∧ nextFcntDown s.fcntDown d.fcnt16 = some N ∧ d.micFcnt = some N

/-- a frame that does not meet the condition changes neither the counter nor anything else of the
session state in a Class C context, and in a Class A window only an oversized frame may end the
receive procedure (as a timeout would) -/
theorem rejected_keeps_counter (s : Session) (cfg : Config) (region : RegionState) (d : RxData) (mp : Nat) (snr : Int)
    (ig : Bool) (o : RxOut) (s' : Session) (cfg' : Config) (region' : RegionState)
    (h : sessionHandleRx s cfg region d mp snr ig = .ok (o, s', cfg', region'))
    (hrej : ¬ ∃ N, Accept s d mp N) :
    s'.fcntDown = s.fcntDown ∧ o.downlink = none ∧ region' = region ∧
      (d.len ≤ mp + 5 → o.resp = .noUpdate ∧ s' = s ∧ cfg' = cfg) := by
  rw [sessionHandleRx_eq] at h
  split at h
  · rename_i hlen
    rw [rx2Complete_eq] at h
    cases ig <;> cases Except.pure_eq_ok h <;> exact ⟨rfl, rfl, rfl, fun hh => absurd hh (Nat.not_le.mpr hlen)⟩
  · rename_i hlen
    split at h
    · rename_i N hf
      obtain ⟨hn, hm⟩ := Option.filter_eq_some_iff.mp hf
      exact absurd ⟨N, Nat.not_lt.mp hlen, hn, by simpa using hm⟩ hrej
    · cases Except.pure_eq_ok h
      exact ⟨rfl, rfl, rfl, fun _ => ⟨rfl, rfl, rfl⟩⟩

/-- an accepted frame: the device remembers exactly `N`, answers `DownlinkReceived N` (or reports the
exhausted uplink counter), and delivers the payload decrypted under `N` on its port -/
theorem accepted_advances (s : Session) (cfg : Config) (region : RegionState) (d : RxData) (mp : Nat) (snr : Int)
    (ig : Bool) (o : RxOut) (s' : Session) (cfg' : Config) (region' : RegionState) (N : Nat)
    (h : sessionHandleRx s cfg region d mp snr ig = .ok (o, s', cfg', region'))
    (hacc : Accept s d mp N) :
    s'.fcntDown = some N ∧ s'.adrAckCnt = 0 ∧
      ((o.resp = .downlinkReceived N ∧ s'.fcntUp = s.fcntUp + 1 ∧
          o.downlink = (match d.fport with | some p => if p > 0 then some (p, d.payload) else none | none => none))
        ∨ (o.resp = .sessionExpired ∧ s.fcntUp = 0xFFFFFFFF ∧ s'.fcntUp = s.fcntUp ∧ o.downlink = none)) := by
  obtain ⟨hlen, hn, hm⟩ := hacc
  rw [sessionHandleRx_eq, if_neg (Nat.not_lt.mpr hlen), hn] at h
  simp only [Option.filter, hm, beq_self_eq_true, if_true] at h
  obtain ⟨ctx, _, h⟩ := Except.bind_eq_ok h
  have e := Except.pure_eq_ok h
  rw [acceptFinish_eq] at e
  cases e
  unfold accOut bumpFu
  by_cases hx : s.fcntUp = 0xFFFFFFFF
  · rw [if_pos hx, if_pos hx]
    exact ⟨rfl, rfl, Or.inr ⟨rfl, hx, rfl, rfl⟩⟩
  · rw [if_neg hx, if_neg hx]
    exact ⟨rfl, rfl, Or.inl ⟨rfl, rfl, rfl⟩⟩

/-- **no frame is ever accepted twice**: after accepting `N`, no frame whose MIC verifies for a
counter `≤ N` (in particular the same frame again) meets the acceptance condition -/
theorem no_frame_accepted_twice (s : Session) (d : RxData) (mp : Nat) (N M : Nat)
    (hlast : s.fcntDown = some N) (hN : N < 4294967296) (hw : d.fcnt16 < 65536)
    (hacc : Accept s d mp M) : N < M := by
  obtain ⟨_, hn, _⟩ := hacc
  rw [hlast] at hn
  exact ((nextFcntDown_iff (some N) d.fcnt16 M (fun l e => by cases e; exact hN) hw).mp hn).gt

/-- response of a Class A procedure that ended without an accepted downlink: `Model.tmoResp` at the counter and
message type of the uplink (`rfl`) -/
def timeoutResp (so : SendOut) : Response :=
  if so.frame.fcnt = 0xFFFFFFFF then .sessionExpired else if so.frame.confirmed then .noAck else .rxComplete

/-- **what every event of a history must output**, given the reference tracker `gh` before it:
* an uplink of a joined device whose receive procedure ran to its end reports `DownlinkReceived N`
  and delivers the payload EXACTLY when the reference accepts a frame in RX1, or — RX1 having yielded
  nothing — in RX2, with `N` the unique fresh counter its MIC verifies under (the exhausted uplink
  counter space is reported instead when the uplink carried counter 2^32−1); otherwise it reports the
  time-out response and delivers nothing;
* a Class C reception likewise (an oversized frame is `NoUpdate` there);
* a device without a session refuses to send and ignores Class C receptions. -/
def OutOk (gh : Gh) (ev : Ev) (out : Out) : Prop :=
  match ev, gh with
  | .uplink _ _ _ none rx1 rx2 mp1 mp2, some last =>
    ∃ so resp dl, out = .up so (some resp) dl ∧
      (match specCycle last rx1 rx2 mp1 mp2 with
       | .accepted N d _ =>
         (so.frame.fcnt ≠ 0xFFFFFFFF ∧ resp = .downlinkReceived N ∧ dl = deliver d)
         ∨ (so.frame.fcnt = 0xFFFFFFFF ∧ resp = .sessionExpired ∧ dl = none)
       | _ => resp = timeoutResp so ∧ dl = none)
  | .uplink _ _ _ (some _) _ _ _ _, some _ =>
    ∃ so resp, out = .up so resp none ∧ (resp = none ∨ resp = some .sessionExpired)
  | .uplink _ _ _ _ _ _ _ _, none => out = .notJoined
  | .rxc v _ mp, some last =>
    ∃ rf o, out = .rxc rf (some o) ∧
      (match specRxc last v mp with
       | some (N, d) => o = { resp := .downlinkReceived N, downlink := deliver d } ∨ o = { resp := .sessionExpired, downlink := none }
       | none => o = noUp)
  | .rxc _ _ _, none => ∃ rf, out = .rxc rf none
  | .joinOtaa _ _ _ _ _, _ => ∃ jo resp, out = .join jo resp
  | _, _ => out = .done

theorem step_outOk {σ} (g : Rng σ) (m m' : MacState) (rs rs' : σ) (ev : Ev) (out : Out) (gh : Gh)
    (hr : GhRel m gh) (hv : evOk ev = true) (h : step g (m, rs) ev = .ok ((m', rs'), out)) : OutOk gh ev out := by
  cases step_cases g hr hv h with
  | joinAbp | setDr | setAdr => cases gh <;> rfl
  | joined | joinFailed => cases gh <;> exact ⟨_, _, rfl⟩
  | rxcIdle => exact ⟨_, rfl⟩
  | @upIdle _ _ _ fault => cases fault <;> rfl
  | @rxc s v snr mp =>
    refine ⟨_, _, rfl, ?_⟩
    cases hs : specRxc s.fcntDown v mp <;> simp only [rxcOut, hs]
    exact (accOut_cases _ _ _).imp And.left And.left
  | @up s _ _ conf fault rx1 rx2 mp1 mp2 so _ _ _ _ _ hs =>
    have hfc : so.frame.fcnt = s.fcntUp := congrArg UplinkDesc.fcnt hs.frame
    have hcf : so.frame.confirmed = conf := congrArg UplinkDesc.confirmed hs.frame
    cases fault with
    | some k =>
      have hc : ∀ fu, cutResp fu = none ∨ cutResp fu = some .sessionExpired := fun fu => by
        unfold cutResp; split <;> simp
      cases upRes s.fcntDown (some k) rx1 rx2 mp1 mp2 <;> exact ⟨_, _, rfl, hc _⟩
    | none =>
      simp only [OutOk, upRes]
      cases hsc : specCycle s.fcntDown rx1 rx2 mp1 mp2 with
      | accepted N d snr =>
        refine ⟨_, _, _, rfl, ?_⟩
        rw [hfc]
        rcases accOut_cases s.fcntUp N d with ⟨e, hx⟩ | ⟨e, hx⟩ <;> rw [plainOut, e]
        · exact .inl ⟨hx, rfl, rfl⟩
        · exact .inr ⟨hx, rfl, rfl⟩
      | ended | nothing => exact ⟨_, _, _, rfl, by rw [timeoutResp, hfc, hcf]; rfl, rfl⟩

def AcceptTrace : Gh → List (Ev × Out) → Prop := TraceD (fun gh ev _ => ghStep gh ev) OutOk

/-- **C05 over every history.**  From any state `m` the tracker `gh` describes (the initial state:
`none`), for every random stream and every history whose frames have 16-bit wire counters: at EVERY
event a data frame heard in RX1/RX2/RXC is acted upon — `DownlinkReceived N` reported, payload
delivered, `N` remembered (the tracker, hence the freshness window of every later frame, moves to
`N`) — iff it fits the window's limit and its MIC verifies under the unique fresh counter `N`
(`last < N ≤ last + 16384`, first frame of the session: `N` = the wire value), `last` being the
counter of the last accepted frame of the session; and the final state is again the one the tracker
describes (its stored counter IS the last accepted one). -/
theorem history_accept_iff {σ} (g : Rng σ) (m : MacState) (rs : σ) (gh : Gh) (hr : GhRel m gh) (evs : List Ev)
    (hv : ∀ ev ∈ evs, evOk ev = true) (ms' : MacState × σ) (outs : List Out)
    (h : run g (m, rs) evs = .ok (ms', outs)) :
    AcceptTrace gh (evs.zip outs) ∧ GhRel ms'.1 (ghRun gh evs) := by
  have ht := chain_traceD g (fun gh ev _ => ghStep gh ev) OutOk GhRel (fun ev => evOk ev = true)
    (fun m s ev m' s' out gh hr hv hs => ⟨step_outOk g m m' s s' ev out gh hr hv hs, step_ghRel g m m' s s' ev out gh hr hv hs⟩)
    (m, rs) ms' (evs.zip outs) gh hr (fun x hx => hv x.1 (List.of_mem_zip hx).1) (run_chain g (m, rs) ms' evs outs h)
  rwa [ghostAfter_ghStep, List.map_fst_zip (Nat.le_of_eq (run_outs_length g (m, rs) ms' evs outs h).symm)] at ht

theorem history_accept_iff_init {σ} (g : Rng σ) (r : RegionState) (maxPower : Nat) (gain : Int) (rs : σ) (evs : List Ev)
    (hv : ∀ ev ∈ evs, evOk ev = true) (ms' : MacState × σ) (outs : List Out)
    (h : run g (MacState.init r maxPower gain, rs) evs = .ok (ms', outs)) :
    AcceptTrace none (evs.zip outs) ∧ GhRel ms'.1 (ghRun none evs) :=
  history_accept_iff g _ rs none (ghRel_init r maxPower gain) evs hv ms' outs h


def isJoin : Ev → Bool
  | .joinAbp _ _ _ | .joinOtaa _ _ _ _ _ => true
  | _ => false

/-- the downlink counter an answer reports as accepted -/
def rep (o : RxOut) : Option Nat :=
  match o.resp with
  | .downlinkReceived N => some N
  | _ => none

/-- the downlink counter an output reports as accepted (the `.rxc` arm is `rep` written out) -/
def reported : Out → Option Nat
  | .up _ (some (.downlinkReceived N)) _ => some N
  | .rxc _ (some o) => (match o.resp with | .downlinkReceived N => some N | _ => none)
  | _ => none

/-! non-vacuity of the history theorems: a session in which a frame is accepted in RX1, replayed
(rejected), followed by a Class C frame, an oversized frame, and a frame in RX2 -/
def lcg : Rng Nat := fun x => ((x * 1103515245 + 12345) / 65536, x * 1103515245 + 12345)

def frame (w : Nat) (N : Option Nat) (len : Nat) : RxView :=
  .data { len := len, confirmed := false, fcnt16 := w, micFcnt := N, fopts := [], fport := some 1, payload := [w] }

def demoHistory : List Ev :=
  [ .joinAbp 7 1 2,
    .uplink [1] 1 false none (some (frame 5 (some 5) 14, 0)) none 51 51,
    .uplink [2] 1 false none (some (frame 5 (some 5) 14, 0)) none 51 51,
    .rxc (frame 6 (some 6) 14) 0 51,
    .uplink [3] 1 true none (some (frame 7 (some 7) 200, 0)) (some (frame 8 (some 8) 14, 0)) 51 51,
    .uplink [4] 1 false none (some (frame 9 none 14, 0)) (some (frame 16390 (some 16390) 14, 0)) 51 51,
    .uplink [5] 1 false none (some (frame 16391 (some 81927) 14, 0)) none 51 51 ]

example : ∀ ev ∈ demoHistory, evOk ev = true := by decide
example : GhRel (MacState.init (RegionState.init .EU868) 14 0) none := ghRel_init _ _ _
example : ghRun none demoHistory = some (some 16390) := by decide
example : (run lcg (MacState.init (RegionState.init .EU868) 14 0, 1) demoHistory).toOption.map (fun r => r.2.map reported)
    = some [none, some 5, none, some 6, none, some 16390, none] := by decide +kernel

/-! non-vacuity: concrete frames around an epoch boundary -/
example : next_fcnt_down (some 0xFFFE) 0x0001 = some 0x10001 := by decide
example : next_fcnt_down (some 0x1FFFF) 0xFFFF = none := by decide
example : next_fcnt_down (some 4294967295) 5 = none := by decide
example : next_fcnt_down (some 100) 16484 = some 16484 := by decide
example : next_fcnt_down (some 100) 16485 = none := by decide

/-! ## the async front-end (by refinement: `Lemmas/RefineOps.lean`, `asyncOps_refines_run`) -/

/-- **C05 on the async front-end, for every script** (sessions without frames heard between the
windows: every session in Class A).  The history `abstractSession` of the session satisfies the
acceptance trace predicate of `history_accept_iff` from the tracker `gh` of the start state, its
outputs are the front-end's answers call by call, and the final MAC state is the one the tracker
describes. -/
theorem async_accept_iff {σ} (g : Rng σ) (cfg : DevCfg) (d : DevRun) (rs : σ) (gh : Gh) (hr : GhRel d.m gh)
    (ops : List AsyncOp) (hp : ∀ op ∈ ops, op.plain cfg = true) (hv : ∀ op ∈ ops, op.allView viewOk = true)
    (obs : List OpObs) (d' : DevRun) (rs' : σ) (h : asyncOps g cfg d rs ops = .ok (obs, d', rs')) :
    ∃ outs, AcceptTrace gh ((abstractSession g cfg d.m rs ops).zip outs) ∧
      GhRel d'.m (ghRun gh (abstractSession g cfg d.m rs ops)) ∧
      AllRel (fun ob out => ObsRel ob { out := out }) obs outs := by
  obtain ⟨outs, hrun, hobs⟩ := asyncOps_refines_run g cfg d rs ops hp obs d' rs' h
  have hev : ∀ ev ∈ abstractSession g cfg d.m rs ops, evOk ev = true :=
    plainRun_all g (fun e => evOk e = true) _ (fun ev hev m s => evOk_plainOf g m s ev (abstractOps_evOkC cfg ops hv ev hev)) _
  obtain ⟨ht, hg⟩ := history_accept_iff g d.m rs gh hr _ hev _ outs hrun
  exact ⟨outs, ht, hg, hobs⟩

/-- the hypotheses are satisfiable: a Class A session (frames in RX1 and RX2, a radio error) -/
def demoAsyncOps : List AsyncOp :=
  [ .abp 7 1 2,
    .send [1] 1 true [.ok, .ok, .ok, .frame 3 (.data { len := 14, confirmed := false, fcnt16 := 5, micFcnt := some 5, fopts := [], fport := some 2, payload := [9] })],
    .send [2] 1 false [.ok, .ok, .ok, .frame 0 (.data { len := 14, confirmed := false, fcnt16 := 5, micFcnt := some 5, fopts := [], fport := some 2, payload := [9] }), .ok, .ok, .err] ]

example : ∀ op ∈ demoAsyncOps, op.plain { lead := 15, buffer := 40, classC := false, txMs := 57 } = true ∧ op.allView viewOk = true := by
  decide +kernel

/-! ## extended histories: Class C receptions INSIDE the receive procedure (`Model/HistoryC.lean`)

The async front-end of a Class C device hands every frame it hears on the RXC parameters between TX
and RX1 (`c1`) and between RX1 and RX2 (`c2`) to `handle_rxc` at once.  The reference tracker moves
at those receptions too (`ghNextC`, `Lemmas/GhostC.lean`): the REFERENCE procedure `refUplink`
(`Lemmas/CycleC.lean`) judges the frames of `c1`, RX1, `c2`, RX2 one after the other with the rule
`accepts` (size limit of the window it was heard in — `rxcMp`, the limit of `get_rxc_config`, for the
RXC frames — and `Spec/Freshness.lean`) under the counter it holds AT THAT POINT, and a frame accepted
on the way moves the counter for the frames after it. -/

/-- **what every event of an extended history must output**, given the reference tracker before it:
events of `Model/History.lean` as `OutOk` says; `send` + receive procedure of a device with a session
reports, delivers and lists (`heard`: one entry per frame handled, in order) EXACTLY what the reference
procedure computes from the event, the tracker's counter, the uplink's counter and the payload limits
of the windows; a join procedure is the plain `joinOtaa` it amounts to (`joinPlain`). -/
def OutOkC (gh : Gh) (e : EvL) (out : OutC) : Prop :=
  match e.2 with
  | .base ev => OutOk gh ev out.out ∧ out.heard = []
  | .uplinkC cc _ _ conf fault c1 rx1 c2 rx2 =>
    (match gh with
     | some last => ∃ so, so.frame.confirmed = conf ∧
         out = { out := .up so (upRefC cc last conf e.1 fault c1 rx1 c2 rx2 so).resp (upRefC cc last conf e.1 fault c1 rx1 c2 rx2 so).dl,
                 heard := (upRefC cc last conf e.1 fault c1 rx1 c2 rx2 so).heard }
     | none => out = { out := .notJoined })
  | .joinC cc fault c1 rx1 c2 rx2 =>
    OutOk gh (joinPlain fault rx1 rx2) out.out ∧
      out.heard = (match joinRes (joinFaultC fault rx1) rx1 rx2 with | some _ => [jsOut] | none => [])

theorem stepC_outOkC {σ} (g : Rng σ) (m m' : MacState) (rs rs' : σ) (ev : EvC) (out : OutC) (gh : Gh)
    (hr : GhRel m gh) (hv : evOkC ev = true) (h : stepC g (m, rs) ev = .ok ((m', rs'), out)) :
    OutOkC gh (rxcMp m, ev) out := by
  cases stepC_cases g hr hv h with
  | base he hs | joinC he hs => exact ⟨step_outOk g m m' rs rs' _ _ gh hr he hs, rfl⟩
  | upIdle => rfl
  | upC _ _ hs => exact ⟨_, by rw [hs.frame]; rfl, rfl⟩

def AcceptTraceC : Gh → List (EvL × OutC) → Prop := TraceDG ghNextC OutOkC

/-- **C05 over every extended history** (Class C receptions inside the receive procedure included).
From any state the tracker `gh` describes, for every random stream and every extended history whose
frames carry 16-bit wire counters: at EVERY event, every frame the procedure handles — heard on the
RXC parameters before RX1, in RX1, on the RXC parameters before RX2, in RX2 — is acted upon (reported
in `heard`, delivered, remembered: the counter under which all later frames, of this procedure and of
later events, are judged) iff it fits the limit of the window it was heard in and its MIC verifies
under the unique fresh counter; and the final state is again the one the tracker describes. -/
theorem historyC_accept_iff {σ} (g : Rng σ) (m : MacState) (rs : σ) (gh : Gh) (hr : GhRel m gh) (evs : List EvC)
    (hv : ∀ ev ∈ evs, evOkC ev = true) (ms' : MacState × σ) (outs : List OutC)
    (h : runC g (m, rs) evs = .ok (ms', outs)) :
    AcceptTraceC gh ((annotC g (m, rs) evs).zip outs) ∧ GhRel ms'.1 (ghAfterC gh ((annotC g (m, rs) evs).zip outs)) := by
  have hc := runC_chain g (m, rs) ms' evs outs h
  exact chainC_traceD g ghNextC OutOkC GhRel (fun ev => evOkC ev = true)
    (fun m s ev m' s' out gh hr hv hs => ⟨stepC_outOkC g m m' s s' ev out gh hr hv hs, stepC_ghRel g m m' s s' ev out gh hr hv hs⟩)
    (m, rs) ms' _ gh hr (fun x hx => hv _ (mem_annot_zip g (m, rs) evs outs x hx)) hc

/-! ## the accepted counters of a session strictly increase

Every event that is no (re-)join makes what it reports climb from the tracker before it to the tracker
after it (`Climb` inside a session, `GhClimb` for the tracker of a history), and climbs compose. -/

/-- `ns` are the counters reported while the tracker moved from `lo` to `hi` -/
structure Climb (lo : Option Nat) (ns : List Nat) (hi : Option Nat) : Prop where
  mono : ∀ L, lo = some L → ∃ H, hi = some H ∧ L ≤ H
  bound : ∀ N ∈ ns, (∀ L, lo = some L → L < N) ∧ ∃ H, hi = some H ∧ N ≤ H
  sorted : ns.Pairwise (· < ·)

theorem Climb.refl (lo : Option Nat) : Climb lo [] lo :=
  ⟨fun L h => ⟨L, h, Nat.le_refl _⟩, fun N h => (by cases h), List.Pairwise.nil⟩

theorem Climb.trans {a b c : Option Nat} {n1 n2 : List Nat} (h1 : Climb a n1 b) (h2 : Climb b n2 c) : Climb a (n1 ++ n2) c := by
  refine ⟨?_, ?_, ?_⟩
  · intro L hL
    obtain ⟨M, hM, h⟩ := h1.mono L hL
    obtain ⟨H, hH, h'⟩ := h2.mono M hM
    exact ⟨H, hH, Nat.le_trans h h'⟩
  · intro N hN
    rcases List.mem_append.mp hN with hN | hN
    · obtain ⟨hlo, M, hM, h⟩ := h1.bound N hN
      obtain ⟨H, hH, h'⟩ := h2.mono M hM
      exact ⟨hlo, H, hH, Nat.le_trans h h'⟩
    · obtain ⟨hlo, H, hH, h⟩ := h2.bound N hN
      refine ⟨?_, H, hH, h⟩
      intro L hL
      obtain ⟨M, hM, h'⟩ := h1.mono L hL
      exact Nat.lt_of_le_of_lt h' (hlo M hM)
  · rw [List.pairwise_append]
    refine ⟨h1.sorted, h2.sorted, ?_⟩
    intro x hx y hy
    obtain ⟨_, M, hM, h⟩ := h1.bound x hx
    exact Nat.lt_of_le_of_lt h ((h2.bound y hy).1 M hM)

/-- a frame accepted under `N` when the tracker held `lo`; reported or not (exhausted uplink counter) -/
theorem Climb.acc {lo : Option Nat} {N : Nat} (h : ∀ L, lo = some L → L < N) (ns : List Nat) (hns : ns = [N] ∨ ns = []) :
    Climb lo ns (some N) := by
  refine ⟨fun L hL => ⟨N, rfl, Nat.le_of_lt (h L hL)⟩, ?_, ?_⟩
  · intro M hM
    rcases hns with rfl | rfl
    · simp only [List.mem_singleton] at hM; subst hM; exact ⟨h, M, rfl, Nat.le_refl _⟩
    · cases hM
  · rcases hns with rfl | rfl
    · exact List.pairwise_singleton _ _
    · exact List.Pairwise.nil

theorem accepts_below {last : Option Nat} {d : RxData} {mp N : Nat} (h : accepts last d mp = some N) :
    ∀ L, last = some L → L < N := by
  intro L hL; subst hL; exact (accepts_some.mp h).2.1.gt

/-- the same for the tracker of a history: a device without a session reports nothing and stays without -/
inductive GhClimb : Gh → List Nat → Gh → Prop
  | none : GhClimb none [] none
  | some {lo hi : Option Nat} {ns : List Nat} : Climb lo ns hi → GhClimb (some lo) ns (some hi)

theorem GhClimb.refl (gh : Gh) : GhClimb gh [] gh := by
  cases gh with
  | none => exact .none
  | some last => exact .some (Climb.refl last)

theorem GhClimb.trans {a b c : Gh} {n1 n2 : List Nat} (h1 : GhClimb a n1 b) (h2 : GhClimb b n2 c) : GhClimb a (n1 ++ n2) c := by
  cases h1 with
  | none => exact h2
  | some c1 => cases h2 with | some c2 => exact .some (c1.trans c2)

theorem GhClimb.sorted {a b : Gh} {ns : List Nat} (h : GhClimb a ns b) : ns.Pairwise (· < ·) := by
  cases h with
  | none => exact List.Pairwise.nil
  | some c => exact c.sorted

/-- a time-out reports no counter (`reported_timeout` is the same for the response of a plain uplink) -/
theorem rep_tmo (fu : Nat) (conf : Bool) (dl : Option (Nat × List Nat)) : rep { resp := tmoResp fu conf, downlink := dl } = none := by
  unfold tmoResp
  (repeat' split) <;> rfl

theorem reported_timeout (so : SendOut) (dl : Option (Nat × List Nat)) : reported (.up so (some (timeoutResp so)) dl) = none := by
  unfold timeoutResp
  (repeat' split) <;> rfl

/-- the receive procedure of an uplink: the tracker moves to the counter of the frame the reference
accepts, if any, and only that counter can be reported -/
theorem ghWin_climb {last : Option Nat} {fault : Option Nat} {rx1 rx2 : Option (RxView × Int)} {mp1 mp2 : Nat}
    (hw1 : rxOk rx1 = true) (hw2 : rxOk rx2 = true) {ns : List Nat}
    (hns : ns = [] ∨ ∃ N d snr, upRes last fault rx1 rx2 mp1 mp2 = .accepted N d snr ∧ ns = [N]) :
    Climb last ns (ghWin last (upRes last fault rx1 rx2 mp1 mp2)) := by
  cases hu : upRes last fault rx1 rx2 mp1 mp2 with
  | accepted N d snr =>
    obtain ⟨mp, ha, _⟩ := upRes_accepted hw1 hw2 hu
    refine Climb.acc (accepts_below ha) ns ?_
    rcases hns with rfl | ⟨N', d', snr', hu', rfl⟩
    · exact Or.inr rfl
    · rw [hu] at hu'; cases hu'; exact Or.inl rfl
  | ended | nothing =>
    rcases hns with rfl | ⟨N', d', snr', hu', rfl⟩
    · exact Climb.refl last
    · rw [hu] at hu'; cases hu'

theorem outOk_join {gh : Gh} {ev : Ev} {out : Out} (hj : isJoin ev = true) (h : OutOk gh ev out) : reported out = none := by
  cases ev with
  | joinAbp da nwk app => cases gh <;> (simp only [OutOk] at h; subst h; rfl)
  | joinOtaa fault rx1 rx2 mp1 mp2 => cases gh <;> (simp only [OutOk] at h; obtain ⟨jo, resp, rfl⟩ := h; rfl)
  | setAdr _ | setDr _ | rxc _ _ _ | uplink _ _ _ _ _ _ _ _ => cases hj

theorem outOk_climb {gh : Gh} {ev : Ev} {out : Out} (hv : evOk ev = true) (hj : isJoin ev = false) (h : OutOk gh ev out) :
    GhClimb gh (reported out).toList (ghStep gh ev) := by
  cases ev with
  | joinAbp _ _ _ | joinOtaa _ _ _ _ _ => cases hj
  | setAdr on | setDr dr => cases gh <;> (simp only [OutOk] at h; subst h; exact GhClimb.refl _)
  | rxc v snr mp =>
    cases gh with
    | none => simp only [OutOk] at h; obtain ⟨rf, rfl⟩ := h; exact .none
    | some last =>
      simp only [OutOk] at h
      obtain ⟨rf, o, rfl, h⟩ := h
      simp only [ghStep, Option.map_some]
      cases hs : specRxc last v mp with
      | none => simp only [hs] at h; subst h; exact .some (Climb.refl last)
      | some p =>
        obtain ⟨N, d⟩ := p
        simp only [hs] at h
        have hb := accepts_below (specRxc_some.mp hs).2
        rcases h with rfl | rfl
        · exact .some (Climb.acc hb _ (Or.inl rfl))
        · exact .some (Climb.acc hb _ (Or.inr rfl))
  | uplink data fport conf fault rx1 rx2 mp1 mp2 =>
    simp only [evOk, Bool.and_eq_true] at hv
    cases gh with
    | none => cases fault <;> (simp only [OutOk] at h; subst h; exact .none)
    | some last =>
      refine .some (ghWin_climb hv.1 hv.2 ?_)
      cases fault with
      | some k =>
        simp only [OutOk] at h
        obtain ⟨so, resp, rfl, h⟩ := h
        rcases h with rfl | rfl <;> exact Or.inl rfl
      | none =>
        simp only [OutOk] at h
        obtain ⟨so, resp, dl, rfl, h⟩ := h
        cases hsc : specCycle last rx1 rx2 mp1 mp2 with
        | accepted N d snr =>
          simp only [hsc] at h
          rcases h with ⟨_, rfl, _⟩ | ⟨_, rfl, _⟩
          · exact Or.inr ⟨N, d, snr, hsc, rfl⟩
          · exact Or.inl rfl
        | ended | nothing =>
          simp only [hsc] at h
          rw [h.1, reported_timeout]
          exact Or.inl rfl

/-- two reports of a stretch whose reports are sorted, the first from its first element -/
theorem sorted_at {X} (reps : X → List Nat) (t : List X) {i j : Nat} (hij : i < j) {xi xj : X} (hi : t[i]? = some xi)
    (hj : t[j]? = some xj) {Ni Nj : Nat} (hNi : Ni ∈ reps xi) (hNj : Nj ∈ reps xj)
    (h : (((t.drop i).take (j - i + 1)).flatMap reps).Pairwise (· < ·)) : Ni < Nj := by
  rw [List.drop_of_getElem? hi, List.take_succ_cons, List.flatMap_cons, List.pairwise_append] at h
  refine h.2.2 Ni hNi Nj (List.mem_flatMap.mpr ⟨xj, ?_, hNj⟩)
  refine List.mem_of_getElem? (i := j - i - 1) ?_
  rw [List.getElem?_take_of_lt (by omega), List.getElem?_drop, ← hj]
  congr 1; omega

theorem traceDG_climb {E O} {next : Gh → E → O → Gh} {P : Gh → E → O → Prop} {reps : E × O → List Nat} {ok : E → Prop}
    (hstep : ∀ gh e o, ok e → P gh e o → GhClimb gh (reps (e, o)) (next gh e o)) (t : List (E × O))
    (hok : ∀ x ∈ t, ok x.1) : ∀ gh, TraceDG next P gh t → GhClimb gh (t.flatMap reps) (ghostAfterG next gh t) := by
  induction t with
  | nil => intro gh _; exact GhClimb.refl gh
  | cons x rest ih =>
    intro gh ht
    obtain ⟨e, o⟩ := x
    exact (hstep gh e o (hok _ List.mem_cons_self) ht.1).trans (ih (fun y hy => hok y (List.mem_cons_of_mem _ hy)) _ ht.2)

theorem traceDG_sorted {E O} {next : Gh → E → O → Gh} {P : Gh → E → O → Prop} {reps : E × O → List Nat} {ok : E → Prop}
    (hstep : ∀ gh e o, ok e → P gh e o → GhClimb gh (reps (e, o)) (next gh e o)) {gh : Gh} {t : List (E × O)}
    (ht : TraceDG next P gh t) (i n : Nat) (hok : ∀ x ∈ (t.drop i).take n, ok x.1) :
    (((t.drop i).take n).flatMap reps).Pairwise (· < ·) := by
  have h1 := (traceDG_append.mp (by rwa [List.take_append_drop i t])).2
  have h2 := (traceDG_append.mp (by rwa [List.take_append_drop n (t.drop i)])).1
  exact (traceDG_climb hstep _ hok _ h2).sorted

/-- **the accepted downlink counters of one session are strictly increasing** along every history:
take any two events `i < j` of a history that report an accepted downlink (`DownlinkReceived Nᵢ`,
`DownlinkReceived Nⱼ`, in a Class A window or between uplinks) with no (re-)join strictly between
them: `Nᵢ < Nⱼ`.  Hence no frame is accepted twice in a session: a replayed frame would verify under
the same counter. -/
theorem history_fcnt_down_strict {σ} (g : Rng σ) (m : MacState) (rs : σ) (gh : Gh) (hr : GhRel m gh) (evs : List Ev)
    (hv : ∀ ev ∈ evs, evOk ev = true) (ms' : MacState × σ) (outs : List Out)
    (h : run g (m, rs) evs = .ok (ms', outs)) (i j : Nat) (hij : i < j) (ei ej : Ev) (oi oj : Out) (Ni Nj : Nat)
    (hi : (evs.zip outs)[i]? = some (ei, oi)) (hj : (evs.zip outs)[j]? = some (ej, oj))
    (hri : reported oi = some Ni) (hrj : reported oj = some Nj)
    (hq : ∀ k, i < k → k < j → ∀ e o, (evs.zip outs)[k]? = some (e, o) → isJoin e = false) : Ni < Nj := by
  have ht := (history_accept_iff g m rs gh hr evs hv ms' outs h).1
  have hvz : ∀ x ∈ evs.zip outs, evOk x.1 = true := fun x hx => hv x.1 (List.of_mem_zip hx).1
  generalize evs.zip outs = t at *
  -- an event that reports is no (re-)join, so there is none from `i` to `j`
  have hnj : ∀ (k : Nat) e o N, t[k]? = some (e, o) → reported o = some N → isJoin e = false := by
    intro k e o N hk hrep
    cases hje : isJoin e with
    | false => rfl
    | true => rw [outOk_join hje (traceD_at _ _ gh t k e o ht hk)] at hrep; cases hrep
  have hq' : ∀ x ∈ (t.drop i).take (j - i + 1), evOk x.1 = true ∧ isJoin x.1 = false := by
    intro x hx
    obtain ⟨k, hk⟩ := List.mem_iff_getElem?.mp hx
    rw [List.getElem?_take] at hk
    split at hk
    · rw [List.getElem?_drop] at hk
      refine ⟨hvz x (List.mem_of_getElem? hk), ?_⟩
      rcases Nat.eq_zero_or_pos k with rfl | hk0
      · rw [Nat.add_zero, hi] at hk; cases hk; exact hnj i ei oi Ni hi hri
      · rcases Nat.lt_or_ge (i + k) j with hlt | hge
        · exact hq (i + k) (by omega) hlt x.1 x.2 hk
        · rw [show i + k = j by omega, hj] at hk; cases hk; exact hnj j ej oj Nj hj hrj
    · cases hk
  exact sorted_at (fun x => (reported x.2).toList) t hij hi hj (by simp [hri]) (by simp [hrj])
    (traceDG_sorted (ok := fun e => evOk e = true ∧ isJoin e = false) (fun gh e o hok hP => outOk_climb hok.1 hok.2 hP)
      (Eq.mp (traceD_eq_traceDG _ _ gh t) ht) i (j - i + 1) hq')

/-- … in particular no counter — hence no frame — is accepted twice in a session -/
theorem history_no_replay {σ} (g : Rng σ) (m : MacState) (rs : σ) (gh : Gh) (hr : GhRel m gh) (evs : List Ev)
    (hv : ∀ ev ∈ evs, evOk ev = true) (ms' : MacState × σ) (outs : List Out)
    (h : run g (m, rs) evs = .ok (ms', outs)) (i j : Nat) (hij : i < j) (ei ej : Ev) (oi oj : Out) (Ni Nj : Nat)
    (hi : (evs.zip outs)[i]? = some (ei, oi)) (hj : (evs.zip outs)[j]? = some (ej, oj))
    (hri : reported oi = some Ni) (hrj : reported oj = some Nj)
    (hq : ∀ k, i < k → k < j → ∀ e o, (evs.zip outs)[k]? = some (e, o) → isJoin e = false) : Ni ≠ Nj :=
  Nat.ne_of_lt (history_fcnt_down_strict g m rs gh hr evs hv ms' outs h i j hij ei ej oi oj Ni Nj hi hj hri hrj hq)

/-- the downlink counters an extended event reports as accepted, in order -/
def reportedC (e : EvC) (oc : OutC) : List Nat :=
  match e with
  | .base _ => (reported oc.out).toList
  | _ => oc.heard.filterMap rep

def isJoinC : EvC → Bool
  | .base e => isJoin e
  | .joinC _ _ _ _ _ _ => true
  | .uplinkC _ _ _ _ _ _ _ _ _ => false

theorem reps_accOut (fu N : Nat) (d : RxData) : [accOut fu N d].filterMap rep = [N] ∨ [accOut fu N d].filterMap rep = [] := by
  rcases accOut_cases fu N d with ⟨e, _⟩ | ⟨e, _⟩ <;> rw [e]
  · exact Or.inl rfl
  · exact Or.inr rfl

theorem refRxcs_climb (mpc : Nat) (cs : List (RxView × Int)) :
    ∀ p : PSt, Climb p.last ((refRxcs p mpc cs).heard.filterMap rep) (refRxcs p mpc cs).st.last := by
  induction cs with
  | nil => intro p; exact Climb.refl _
  | cons c rest ih =>
    intro p
    obtain ⟨v, snr⟩ := c
    unfold refRxcs
    cases hs : specRxc p.last v mpc with
    | none => exact ih p  -- the report of a rejected frame (`noUp`) names no counter
    | some q =>
      obtain ⟨N, d⟩ := q
      simp only []
      have ha := (specRxc_some.mp hs).2
      have e : (accOut p.fu N d :: (refRxcs ⟨some N, bumpFu p.fu⟩ mpc rest).heard).filterMap rep =
          [accOut p.fu N d].filterMap rep ++ (refRxcs ⟨some N, bumpFu p.fu⟩ mpc rest).heard.filterMap rep := by
        rw [← List.filterMap_append]; rfl
      rw [e]
      exact (Climb.acc (accepts_below ha) _ (reps_accOut p.fu N d)).trans (ih ⟨some N, bumpFu p.fu⟩)

theorem refWin_climb (cc : Bool) (p : PSt) (conf : Bool) (mpc : Nat) (cs : List (RxView × Int)) (f : Option (RxView × Int))
    (mp : Nat) (eb ea : Bool) (hf : rxOk f = true) :
    Climb p.last ((refWin cc p conf mpc cs f mp eb ea).heard.filterMap rep) (refWin cc p conf mpc cs f mp eb ea).st.last := by
  unfold refWin
  have hb : Climb p.last ((if cc then refRxcs p mpc cs else ⟨[], [], p⟩ : Ref).heard.filterMap rep)
      (if cc then refRxcs p mpc cs else ⟨[], [], p⟩ : Ref).st.last := by
    cases cc
    · exact Climb.refl _
    · exact refRxcs_climb mpc cs p
  generalize (if cc then refRxcs p mpc cs else ⟨[], [], p⟩ : Ref) = b at hb
  simp only []
  cases eb with
  | true => exact hb
  | false =>
    simp only [Bool.false_eq_true, if_false]
    cases hsw : specWindow b.st.last f mp with
    | nothing => exact hb
    | ended =>
      simp only [List.filterMap_append, List.filterMap_cons, rep_tmo, List.filterMap_nil, List.append_nil]
      exact hb
    | accepted N d snr =>
      simp only [List.filterMap_append]
      obtain ⟨_, ha, _⟩ := specWindow_accepted hf hsw
      exact hb.trans (Climb.acc (accepts_below ha) _ (reps_accOut b.st.fu N d))

section
variable {cc : Bool} {p : PSt} {conf : Bool} {mpc : Nat} {fault : Option FaultPos} {c1 c2 : List (RxView × Int)}
  {rx1 rx2 : Option (RxView × Int)} {mp1 mp2 : Nat} (hf1 : rxOk rx1 = true) (hf2 : rxOk rx2 = true)
include hf1 hf2

theorem refCycle_climb :
    Climb p.last ((refCycle cc p conf mpc fault c1 rx1 c2 rx2 mp1 mp2).heard.filterMap rep)
      (refCycle cc p conf mpc fault c1 rx1 c2 rx2 mp1 mp2).st.last := by
  unfold refCycle
  by_cases htx : fault = some .tx
  · simp only [htx, if_true]; exact Climb.refl _
  · simp only [htx, if_false]
    have h1 := refWin_climb cc p conf mpc c1 rx1 mp1 (fault == some .before1) (fault == some .close1) hf1
    generalize refWin cc p conf mpc c1 rx1 mp1 (fault == some .before1) (fault == some .close1) = w1 at h1
    cases hres1 : w1.res with
    | none => exact h1
    | some o1 =>
      cases o1 with
      | some o => exact h1
      | none =>
        simp only []
        have h2 := refWin_climb cc w1.st conf mpc c2 rx2 mp2 (fault == some .before2) (fault == some .close2) hf2
        generalize refWin cc w1.st conf mpc c2 rx2 mp2 (fault == some .before2) (fault == some .close2) = w2 at h2
        cases hres2 : w2.res with
        | none => simp only [List.filterMap_append]; exact h1.trans h2
        | some o2 => cases o2 <;> (simp only [List.filterMap_append]; exact h1.trans h2)

theorem refUplink_climb :
    Climb p.last ((refUplink cc p conf mpc fault c1 rx1 c2 rx2 mp1 mp2).heard.filterMap rep)
      (refUplink cc p conf mpc fault c1 rx1 c2 rx2 mp1 mp2).st.last := by
  have h := refCycle_climb (cc := cc) (p := p) (conf := conf) (mpc := mpc) (fault := fault) (c1 := c1) (c2 := c2)
    (mp1 := mp1) (mp2 := mp2) hf1 hf2
  unfold refUplink
  generalize refCycle cc p conf mpc fault c1 rx1 c2 rx2 mp1 mp2 = c at h
  simp only []
  cases hf : c.fin <;> exact h

end

theorem outOkC_climb {gh : Gh} {e : EvL} {out : OutC} (hv : evOkC e.2 = true) (hj : isJoinC e.2 = false) (h : OutOkC gh e out) :
    GhClimb gh (reportedC e.2 out) (ghNextC gh e out) := by
  obtain ⟨mpc, ev⟩ := e
  cases ev with
  | base ev =>
    simp only [OutOkC] at h
    exact outOk_climb hv hj h.1
  | joinC cc fault c1 rx1 c2 rx2 => cases hj
  | uplinkC cc data fport conf fault c1 rx1 c2 rx2 =>
    simp only [evOkC, Bool.and_eq_true] at hv
    cases gh with
    | none => simp only [OutOkC] at h; subst h; exact .none
    | some last =>
      simp only [OutOkC] at h
      obtain ⟨so, _, rfl⟩ := h
      exact .some (refUplink_climb (p := ⟨last, so.frame.fcnt⟩) hv.1.1.2 hv.2)

/-- **the accepted downlink counters of one session are strictly increasing — inside a receive
procedure and across events.**  Take any stretch (`n` events from position `i`) of any extended
history that contains no (re-)join: the counters it reports as accepted (`DownlinkReceived N`: frames
heard on the RXC parameters inside a procedure, in RX1/RX2, between uplinks), listed in the order the
frames were handled, are strictly increasing.  Hence no frame is accepted twice in a session: a
replayed frame would verify under the same counter. -/
theorem historyC_fcnt_down_strict {σ} (g : Rng σ) (m : MacState) (rs : σ) (gh : Gh) (hr : GhRel m gh) (evs : List EvC)
    (hv : ∀ ev ∈ evs, evOkC ev = true) (ms' : MacState × σ) (outs : List OutC)
    (h : runC g (m, rs) evs = .ok (ms', outs)) (i n : Nat)
    (hq : ∀ x ∈ (((annotC g (m, rs) evs).zip outs).drop i).take n, isJoinC x.1.2 = false) :
    (((((annotC g (m, rs) evs).zip outs).drop i).take n).flatMap (fun x => reportedC x.1.2 x.2)).Pairwise (· < ·) := by
  have ht := (historyC_accept_iff g m rs gh hr evs hv ms' outs h).1
  have hvz : ∀ x ∈ (annotC g (m, rs) evs).zip outs, evOkC x.1.2 = true :=
    fun x hx => hv _ (mem_annot_zip g (m, rs) evs outs x hx)
  exact traceDG_sorted (reps := fun x => reportedC x.1.2 x.2) (ok := fun e => evOkC e.2 = true ∧ isJoinC e.2 = false)
    (fun gh e o hok hP => outOkC_climb hok.1 hok.2 hP) ht i n
    (fun x hx => ⟨hvz x (List.mem_of_mem_drop (List.mem_of_mem_take hx)), hq x hx⟩)

/-- … in particular no counter — hence no frame — is accepted twice in a session -/
theorem historyC_no_replay {σ} (g : Rng σ) (m : MacState) (rs : σ) (gh : Gh) (hr : GhRel m gh) (evs : List EvC)
    (hv : ∀ ev ∈ evs, evOkC ev = true) (ms' : MacState × σ) (outs : List OutC)
    (h : runC g (m, rs) evs = .ok (ms', outs)) (i n : Nat)
    (hq : ∀ x ∈ (((annotC g (m, rs) evs).zip outs).drop i).take n, isJoinC x.1.2 = false) :
    (((((annotC g (m, rs) evs).zip outs).drop i).take n).flatMap (fun x => reportedC x.1.2 x.2)).Nodup := by
  have := historyC_fcnt_down_strict g m rs gh hr evs hv ms' outs h i n hq
  exact this.imp (fun hlt => Nat.ne_of_lt hlt)


/-- **C05 on the async front-end, for EVERY script, both classes.**  A session of the async front-end
model that returns is a run of the extended history `abstractSessionC` of its calls (`asyncOps_runC`):
the acceptance trace predicate holds of it from the tracker of the start state — every frame handled,
inside the receive procedure or in a window, acted upon iff authentic, fresh and fitting —, the outputs
are the front-end's answers call by call, the counters it reports as accepted strictly increase within
every stretch without (re-)join, and the final MAC state is the one the tracker describes. -/
theorem asyncC_accept_iff {σ} (g : Rng σ) (cfg : DevCfg) (d : DevRun) (rs : σ) (gh : Gh) (hr : GhRel d.m gh)
    (ops : List AsyncOp) (hv : ∀ op ∈ ops, op.allView viewOk = true)
    (obs : List OpObs) (d' : DevRun) (rs' : σ) (h : asyncOps g cfg d rs ops = .ok (obs, d', rs')) :
    ∃ outs, AcceptTraceC gh ((annotC g (d.m, rs) (abstractSessionC cfg ops)).zip outs) ∧
      GhRel d'.m (ghAfterC gh ((annotC g (d.m, rs) (abstractSessionC cfg ops)).zip outs)) ∧
      AllRel ObsRel obs outs ∧
      ∀ i n, (∀ x ∈ (((annotC g (d.m, rs) (abstractSessionC cfg ops)).zip outs).drop i).take n, isJoinC x.1.2 = false) →
        (((((annotC g (d.m, rs) (abstractSessionC cfg ops)).zip outs).drop i).take n).flatMap
          (fun x => reportedC x.1.2 x.2)).Pairwise (· < ·) := by
  obtain ⟨outs, hrun, hobs⟩ := asyncOps_runC g cfg d rs ops obs d' rs' h
  have hev := abstractOps_evOkC cfg ops hv
  obtain ⟨ht, hg⟩ := historyC_accept_iff g d.m rs gh hr _ hev _ outs hrun
  exact ⟨outs, ht, hg, hobs, fun i n hq => historyC_fcnt_down_strict g d.m rs gh hr _ hev _ outs hrun i n hq⟩

/-! non-vacuity of the extended theorems: a Class C session — a frame accepted on the RXC parameters
between TX and RX1, its replay right after it (rejected), the next counter in RX1; then a frame
accepted between RX1 and RX2 and its replay in RX2 (rejected: the procedure times out) -/
def demoHistoryC : List EvC :=
  [ .base (.joinAbp 7 1 2),
    .uplinkC true [1] 1 false none [(frame 5 (some 5) 14, 0), (frame 5 (some 5) 14, 0)] (some (frame 6 (some 6) 14, 0)) [] none,
    .uplinkC true [2] 1 true none [] none [(frame 7 (some 7) 14, 0)] (some (frame 7 (some 7) 14, 0)),
    .base (.rxc (frame 7 (some 7) 14) 0 51) ]

example : ∀ ev ∈ demoHistoryC, evOkC ev = true := by decide
example : ∀ ev ∈ demoHistoryC.drop 1, isJoinC ev = false := by decide
example : (runC lcg (MacState.init (RegionState.init .EU868) 14 0, 1) demoHistoryC).toOption.map
      (fun r => (r.2.map (fun o => o.heard.filterMap rep), r.2.map (fun o => reported o.out))) =
    some ([[], [5, 6], [7], []], [none, some 6, none, none]) := by decide +kernel
example : (runC lcg (MacState.init (RegionState.init .EU868) 14 0, 1) demoHistoryC).toOption.map
      (fun r => ghAfterC none ((annotC lcg (MacState.init (RegionState.init .EU868) 14 0, 1) demoHistoryC).zip r.2)) =
    some (some (some 7)) := by decide +kernel

/-- the hypotheses of `asyncC_accept_iff` are satisfiable: a Class C session with a frame heard between TX and RX1 -/
def demoAsyncOpsC : List AsyncOp :=
  [ .abp 7 1 2,
    .send [1] 1 false [.ok, .ok, .frame 3 (.data { len := 14, confirmed := false, fcnt16 := 5, micFcnt := some 5, fopts := [], fport := some 2, payload := [9] }), .ok] ]

example : ∀ op ∈ demoAsyncOpsC, op.allView viewOk = true := by decide
example : (abstractSessionC { lead := 15, buffer := 40, classC := true, txMs := 57 } demoAsyncOpsC).map EvC.plain = [true, false] := by
  decide +kernel

/-! ## `Device::rxc_listen`

One call of `rxc_listen` under a script of radio answers (`Model.asyncListen`), judged by the REFERENCE:
`firstAccepted last mp heard` is the first frame heard that `Spec/Freshness.lean` accepts — a data frame that
fits the RXC size limit `mp` computed at the start of the call (`rxcMp` = `get_rxc_config().max_payload_len`
of the state the call starts in) and whose MIC verifies under the unique counter fresh after `last`.  The
frames before it change nothing, so "the counter held when it is heard" is `last` for every frame up to
and including the first accepted one; nothing after it is heard by this call. -/

/-- **C05 for `rxc_listen`, every script.**  From a state the tracker `gh` describes, for every script whose
frames have 16-bit wire counters, a call that returns:
* device with a session (`gh = some last`): answers `DownlinkReceived N` — or `SessionExpired` at the
  exhausted uplink counter, then without delivering — IFF some frame heard is authentic, fresh and fits;
  it is then the FIRST such frame (`firstAccepted`, `firstAccepted_some`: the `k` frames before it are not
  accepted), `N` is remembered (the tracker of the final state is `some N`), the payload is delivered to
  the downlink queue, the frames after it stay in the script (unheard); otherwise it answers `Listening`
  / `Err(Radio)` (as the radio ended the listening) with MAC state and queue unchanged;
* device without a session (`gh = none`): `Err(Mac)` iff a frame was heard; nothing changes either way. -/
theorem async_listen_accept_iff (r : DevRun) (gh : Gh) (hr : GhRel r.m gh)
    (hv : r.script.all (ScriptItem.allView viewOk) = true) (res : ListenResult) (r' : DevRun)
    (h : asyncListen r = .ok (res, r')) :
    match gh with
    | none =>
      r'.m = r.m ∧ r'.downlinks = r.downlinks ∧
        res = (if (leadFrames r.script).1.isEmpty then (if listenEndsErr r.script then .errRadio else .listening) else .errMac)
    | some last =>
      match firstAccepted last (rxcMp r.m) (leadFrames r.script).1 with
      | none =>
        r'.m = r.m ∧ r'.downlinks = r.downlinks ∧ res = (if listenEndsErr r.script then .errRadio else .listening)
      | some (k, N, d) =>
        GhRel r'.m (some (some N)) ∧ r'.script = r.script.drop (k + 1) ∧
          ((r.m.fcntUp? ≠ some 0xFFFFFFFF ∧ res = .ok (.downlinkReceived N) ∧
              r'.downlinks = queueAfter r.dlCap r.downlinks (deliver d))
           ∨ (r.m.fcntUp? = some 0xFFFFFFFF ∧ res = .ok .sessionExpired ∧ r'.downlinks = r.downlinks)) := by
  unfold asyncListen at h
  obtain ⟨rf, hrf, h⟩ := Except.bind_eq_ok h
  cases gh with
  | none => exact listenLoop_notJoined _ _ r hr res r' h
  | some last =>
    obtain ⟨s, hst, rfl, hl⟩ := hr
    obtain ⟨res0, r0, h0, hnf⟩ := listenLoop_joined rf.maxPayload.toNat (r.script.length + 1) r s hst hl hv (Nat.lt_succ_self _)
    cases h0.symm.trans h
    unfold ListenNF at hnf
    rw [rxcMp_of_ok hrf] at hnf
    simp only []
    cases hfa : firstAccepted s.fcntDown (rxcMp r.m) (leadFrames r.script).1 with
    | none =>
      simp only [hfa] at hnf ⊢
      exact ⟨hnf.1, hnf.2.1, hnf.2.2.1⟩
    | some x =>
      obtain ⟨k, N, d⟩ := x
      simp only [hfa] at hnf ⊢
      obtain ⟨hm, hd, hres, hsc⟩ := hnf
      obtain ⟨⟨snr, hk⟩, hacc, _⟩ := firstAccepted_some hfa
      have hw : d.fcnt16 < 65536 := by
        have hall := leadFrames_cs_all viewOk hv
        have hmem : ((RxView.data d, snr) : RxView × Int) ∈ (leadFrames r.script).1 := List.mem_of_getElem? hk
        have := List.all_eq_true.mp hall _ hmem
        simpa [viewOk] using this
      refine ⟨by rw [hm]; exact ghRel_accept (lastOk_accepts hw hacc), hsc, ?_⟩
      have hfu : r.m.fcntUp? = some s.fcntUp := by simp [MacState.fcntUp?, hst]
      rw [hd, hres, pushDl_eq_queueAfter, acceptOut_eq, hfu]
      rcases accOut_cases s.fcntUp N d with ⟨e, hx⟩ | ⟨e, hx⟩ <;> rw [e]
      · exact Or.inl ⟨by simpa using hx, rfl, rfl⟩
      · exact Or.inr ⟨by rw [hx], rfl, rfl⟩

/-- the "iff" read off `async_listen_accept_iff`: a device with a session answers `Ok(..)` exactly when
some frame heard is accepted by the reference under the counter held at the start of the call -/
theorem async_listen_acts_iff (r : DevRun) (last : Option Nat) (hr : GhRel r.m (some last))
    (hv : r.script.all (ScriptItem.allView viewOk) = true) (res : ListenResult) (r' : DevRun)
    (h : asyncListen r = .ok (res, r')) :
    (∃ resp, res = .ok resp) ↔ ∃ c ∈ (leadFrames r.script).1, (specRxc last c.1 (rxcMp r.m)).isSome = true := by
  have hmain := async_listen_accept_iff r (some last) hr hv res r' h
  simp only [] at hmain
  cases hfa : firstAccepted last (rxcMp r.m) (leadFrames r.script).1 with
  | none =>
    simp only [hfa] at hmain
    have hnone := firstAccepted_none hfa
    constructor
    · rintro ⟨resp, rfl⟩
      have := hmain.2.2
      split at this <;> cases this
    · rintro ⟨c, hc, hs⟩
      rw [hnone c hc] at hs
      cases hs
  | some x =>
    obtain ⟨k, N, d⟩ := x
    simp only [hfa] at hmain
    obtain ⟨⟨snr, hk⟩, hacc, _⟩ := firstAccepted_some hfa
    constructor
    · intro _
      exact ⟨(.data d, snr), List.mem_of_getElem? hk, by simp [specRxc, hacc]⟩
    · intro _
      rcases hmain.2.2 with ⟨_, hres, _⟩ | ⟨_, hres, _⟩ <;> exact ⟨_, hres⟩

/-- **C05 for whole sessions with listen calls, every script, both classes.**  A session of sends, joins,
setters and `rxc_listen` calls that returns is a run of the extended history `abstractCalls` of its
calls (`asyncCalls_runC`; a listen call = its Class C receptions `Ev.rxc`): the acceptance trace predicate
of `historyC_accept_iff` holds of it from the tracker of the start state — every frame handled, in a
window, inside a receive procedure or by `rxc_listen`, acted upon iff authentic, fresh and fitting —, the
outputs are the front-end's answers call by call (`SessObs`), the counters reported as accepted strictly
increase within every stretch without (re-)join, and the final MAC state is the one the tracker describes. -/
theorem asyncCallsC_accept_iff {σ} (g : Rng σ) (cfg : DevCfg) (d : DevRun) (rs : σ) (gh : Gh) (hr : GhRel d.m gh)
    (calls : List AsyncCall) (hv : ∀ c ∈ calls, c.allView viewOk = true)
    (obs : List CallObs) (d' : DevRun) (rs' : σ) (h : asyncCalls g cfg d rs calls = .ok (obs, d', rs')) :
    ∃ outs, AcceptTraceC gh ((annotC g (d.m, rs) (abstractCalls g cfg (d.m, rs) calls)).zip outs) ∧
      GhRel d'.m (ghAfterC gh ((annotC g (d.m, rs) (abstractCalls g cfg (d.m, rs) calls)).zip outs)) ∧
      SessObs calls obs outs ∧
      ∀ i n, (∀ x ∈ (((annotC g (d.m, rs) (abstractCalls g cfg (d.m, rs) calls)).zip outs).drop i).take n, isJoinC x.1.2 = false) →
        (((((annotC g (d.m, rs) (abstractCalls g cfg (d.m, rs) calls)).zip outs).drop i).take n).flatMap
          (fun x => reportedC x.1.2 x.2)).Pairwise (· < ·) := by
  obtain ⟨outs, hrun, hobs⟩ := asyncCalls_runC g cfg d rs calls obs d' rs' h
  have hev := abstractCalls_evOkC g cfg (d.m, rs) calls hv
  obtain ⟨ht, hg⟩ := historyC_accept_iff g d.m rs gh hr _ hev _ outs hrun
  exact ⟨outs, ht, hg, hobs, fun i n hq => historyC_fcnt_down_strict g d.m rs gh hr _ hev _ outs hrun i n hq⟩

/-! non-vacuity: a forged frame, a replay, a frame too far ahead, then the authentic fresh one (acted upon,
the frame after it unheard); and the same device hearing only rejected frames until the radio fails -/

def listenStart : DevRun :=
  { m := { (macJoinAbp (MacState.init (RegionState.init .EU868) 14 0) 7 1 2) with
      st := .joined { Session.new 7 1 2 with fcntDown := some 10, fcntUp := 3 } },
    script := [.frame 0 (frame 11 none 14), .frame 0 (frame 10 (some 10) 14), .frame 0 (frame 20000 (some 20000) 14),
               .frame 1 (frame 12 (some 12) 14), .frame 0 (frame 13 (some 13) 14)],
    calls := [], downlinks := [] }

example : GhRel listenStart.m (some (some 10)) := ⟨_, rfl, rfl, by intro l hl; cases hl; decide⟩
example : listenStart.script.all (ScriptItem.allView viewOk) = true := by decide
example : (firstAccepted (some 10) (rxcMp listenStart.m) (leadFrames listenStart.script).1).map (fun x => (x.1, x.2.1)) = some (3, 12) := by
  decide +kernel
example : (asyncListen listenStart).toOption.map (fun x => (x.1, x.2.m.fcntUp?, x.2.script.length)) =
    some (.ok (.downlinkReceived 12), some 4, 1) := by decide +kernel
example : (asyncListen { listenStart with script := [.frame 0 (frame 11 none 14), .frame 0 (frame 10 (some 10) 14), .err] }).toOption.map
    (fun x => (x.1, x.2.m.fcntUp?)) = some (.errRadio, some 3) := by decide +kernel

end C05

#print axioms C05.async_accept_iff
#print axioms C05.next_eq_spec
#print axioms C05.next_spec
#print axioms C05.next_unique
#print axioms C05.next_none_iff
#print axioms C05.rejected_keeps_counter
#print axioms C05.accepted_advances
#print axioms C05.no_frame_accepted_twice
#print axioms C05.step_outOk
#print axioms C05.history_accept_iff
#print axioms C05.history_accept_iff_init
#print axioms C05.history_fcnt_down_strict
#print axioms C05.history_no_replay
#print axioms C05.stepC_outOkC
#print axioms C05.historyC_accept_iff
#print axioms C05.historyC_fcnt_down_strict
#print axioms C05.historyC_no_replay
#print axioms C05.asyncC_accept_iff
#print axioms C05.async_listen_accept_iff
#print axioms C05.async_listen_acts_iff
#print axioms C05.asyncCallsC_accept_iff
