import LoraVerif.Gen.Modulation
import LoraVerif.Spec.Airtime
import LoraVerif.Lemmas.RtLemmas
import LoraVerif.Lemmas.PhyArithLemmas
/-!
# C16 — time on air equals the Semtech LoRa airtime formula exactly

`Gen.Modulation` is regenerated from `/repo/lora-modulation/src/lib.rs` on every run; the theorems
below are therefore re-checked against what the code says now.  Rust's `u32`/`i32` arithmetic is
modelled with overflow checks (`none` = panic/overflow), so `= some _` includes "never overflows".
-/
open Gen.Modulation Spec.Airtime Rt

namespace C16

/-- Every value of `BaseBandModulationParams` a caller can hold: built by `new`
(the symbol time is a private field), with the public `ldro` flag possibly overridden. -/
def params (sf : SpreadingFactor) (bw : Bandwidth) (cr : CodingRate) (ldro : Bool) : BaseBandModulationParams :=
  { sf := sf, bw := bw, cr := cr, ldro := ldro, t_sym_us := tsym sf.factor bw.hz }

/-- The 80-entry table of (SF, BW) pairs: a decidable fact about every pair from ONE evaluation over the two lists of
values (the kernel's, `decide +kernel`), where a `cases sf <;> cases bw` proof elaborates 80 separate evaluations. -/
theorem forall_sf_bw (P : SpreadingFactor → Bandwidth → Prop) [∀ sf bw, Decidable (P sf bw)]
    (h : (SpreadingFactor.all.all fun sf => Bandwidth.all.all fun bw => decide (P sf bw)) = true) : ∀ sf bw, P sf bw := by
  intro sf bw
  have hs : sf ∈ SpreadingFactor.all := by cases sf <;> decide
  have hb : bw ∈ Bandwidth.all := by cases bw <;> decide
  exact of_decide_eq_true (List.all_eq_true.mp (List.all_eq_true.mp h sf hs) bw hb)

/-- `new` never overflows and stores the documented (truncated) symbol time. -/
theorem new_spec (sf : SpreadingFactor) (bw : Bandwidth) (cr : CodingRate) :
    BaseBandModulationParams.new sf bw cr
      = some (params sf bw cr (decide (tsym sf.factor bw.hz ≥ 16384))) := by
  cases cr <;>
    exact forall_sf_bw (fun sf bw => BaseBandModulationParams.new sf bw _ = some (params sf bw _ (decide (tsym sf.factor bw.hz ≥ 16384))))
      (by decide +kernel) sf bw

theorem tsym_bounds (sf : SpreadingFactor) (bw : Bandwidth) :
    64 ≤ tsym sf.factor bw.hz ∧ tsym sf.factor bw.hz ≤ 524455 := by
  revert sf bw; apply forall_sf_bw; decide +kernel

/-- The ceiling-division helper of `time_on_air_us`, by its SHAPE and not by its name: the
translator emits a tactic `gen_unfold_helpers_<Unit>` that unfolds every helper it translated
in place, and this lemma evaluates the unfolded body.  Moving or renaming the helper in the
source therefore does not touch the proof. -/
theorem div_ceil_eq (num d : Int) (hd : 0 < d) (h1 : -2147483648 ≤ num) (h2 : num ≤ 2147483647) :
    (if decide (num > 0) then
      (do
        let t1 ← Rt.ck .i32 (num - 1)
        let t2 ← Rt.divC .i32 t1 d
        let t3 ← Rt.ck .i32 (t2 + 1)
        pure t3)
    else
      (do
        let t4 ← Rt.divC .i32 num d
        pure t4) : Option Int) = some (ceilDiv num d) := by
  by_cases hn : num > 0
  · have hq0 : 0 ≤ (num - 1) / d := Int.ediv_nonneg (by omega) (by omega)
    have hq1 : (num - 1) / d ≤ num - 1 := Int.ediv_le_self _ (by omega)
    rw [ceilDiv_pos hd]
    simp only [hn, decide_true, if_true]
    rt_simp
  · have hq0 : 0 ≤ (-num) / d := Int.ediv_nonneg (by omega) (by omega)
    have hq1 : (-num) / d ≤ -num := Int.ediv_le_self _ (by omega)
    simp only [hn, decide_false, Bool.false_eq_true, if_false, ceilDiv]
    rt_simp

private theorem div_ceil_shape (num d : Int)
    (hd : d = 12 ∨ d = 16 ∨ d = 20 ∨ d = 24 ∨ d = 28 ∨ d = 32 ∨ d = 36 ∨ d = 40 ∨ d = 44 ∨ d = 48)
    (h1 : -3000 ≤ num) (h2 : num ≤ 3000) :
    (if decide (num > 0) then
      (do
        let t1 ← Rt.ck .i32 (num - 1)
        let t2 ← Rt.divC .i32 t1 d
        let t3 ← Rt.ck .i32 (t2 + 1)
        pure t3)
    else
      (do
        let t4 ← Rt.divC .i32 num d
        pure t4) : Option Int) = some (ceilDiv num d) :=
  div_ceil_eq num d (by omega) (by omega) (by omega)

/-- divisors are `4·(SF − 2·DE) ≥ 12`, numerators at most `8·255 + 44`: at most 174 symbol groups -/
private theorem ceilDiv_le (num d : Int) (hd : 12 ≤ d) (h2 : num ≤ 2084) : ceilDiv num d ≤ 174 := by
  rw [ceilDiv_pos (by omega)]
  have hdm := Int.mul_ediv_add_emod (num - 1) d
  have hr0 := Int.emod_nonneg (num - 1) (by omega : d ≠ 0)
  by_cases hq : 0 ≤ (num - 1) / d
  · have := Int.mul_le_mul_of_nonneg_right hd hq
    omega
  · omega

private theorem mul_bounds {a b A B : Int} (ha0 : 0 ≤ a) (ha : a ≤ A) (hb0 : 0 ≤ b) (hb : b ≤ B) :
    0 ≤ a * b ∧ a * b ≤ A * B := by
  constructor
  · exact Int.mul_nonneg ha0 hb0
  · exact Int.mul_le_mul ha hb hb0 (by omega)

theorem sf_bounds (sf : SpreadingFactor) : 5 ≤ sf.factor ∧ sf.factor ≤ 12 := by cases sf <;> decide
theorem cr_bounds (cr : CodingRate) : 5 ≤ cr.denom ∧ cr.denom ≤ 8 := by cases cr <;> decide

private theorem toa_common (sf : SpreadingFactor) (bw : Bandwidth) (cr : CodingRate) (ldro hdr : Bool)
    (len T : Int) (pre : Option Int) (hT0 : 64 ≤ T) (hT1 : T ≤ 524455) (hl0 : 0 ≤ len) (hl1 : len ≤ 255)
    (hpre : ∀ p, pre = some p → 0 ≤ p ∧ p ≤ 255) :
    ({ sf := sf, bw := bw, cr := cr, ldro := ldro, t_sym_us := T } : BaseBandModulationParams).time_on_air_us pre hdr len
      = some (match pre with
          | none => payloadSymbols sf.factor ldro (!hdr) cr.denom len * T
          | some p => ((4 * p + 17 + 4 * payloadSymbols sf.factor ldro (!hdr) cr.denom len) * T) / 4) := by
  unfold BaseBandModulationParams.time_on_air_us payloadSymbols
  obtain ⟨hs0, hs1⟩ := sf_bounds sf
  obtain ⟨hc0, hc1⟩ := cr_bounds cr
  generalize sf.factor = s at *
  generalize cr.denom = c at *
  have hde : (0 : Int) ≤ (if ldro = true then 1 else 0) ∧ (if ldro = true then (1 : Int) else 0) ≤ 1 := by split <;> omega
  have hih : (0 : Int) ≤ (if hdr = true then 0 else 1) ∧ (if hdr = true then (0 : Int) else 1) ≤ 1 := by split <;> omega
  rw [show (if (!hdr) = true then (1 : Int) else 0) = if hdr = true then 0 else 1 by cases hdr <;> rfl]
  generalize (if ldro = true then (1 : Int) else 0) = de at *
  generalize (if hdr = true then (0 : Int) else 1) = ih at *
  rt_simp
  gen_unfold_helpers_Modulation
  rw [div_ceil_eq _ _ (by omega) (by omega) (by omega)]
  have hq := ceilDiv_le (8 * len - 4 * s + 28 + 16 - 20 * ih) (4 * (s - 2 * de)) (by omega) (by omega)
  generalize ceilDiv _ _ = q at *
  simp only [Option.bind_some, decide_eq_true_eq]
  have hQ : 0 ≤ (if q > 0 then q else 0) ∧ (if q > 0 then q else 0) ≤ 174 := by split <;> omega
  have hmax : max 0 (q * c) = (if q > 0 then q else 0) * c := by
    split
    · have := Int.mul_nonneg (by omega : 0 ≤ q) (by omega : 0 ≤ c); omega
    · have : q * c ≤ 0 := Int.mul_nonpos_of_nonpos_of_nonneg (by omega) (by omega)
      omega
  rw [hmax]
  generalize (if q > 0 then q else 0) = Q at *
  have hm := mul_bounds hQ.1 hQ.2 (by omega : 0 ≤ c) hc1
  generalize Q * c = m at *
  rt_simp
  cases pre with
  | none =>
    have hn := mul_bounds (by omega : 0 ≤ T) hT1 (by omega : 0 ≤ 8 + m) (by omega : 8 + m ≤ 1400)
    simp only []
    rw [ck_u32 (by omega) (by omega), Int.mul_comm]
  | some p =>
    obtain ⟨hp0, hp1⟩ := hpre p rfl
    have hn := mul_bounds (by omega : 0 ≤ 4 * p + 17 + 4 * (8 + m)) (by omega : 4 * p + 17 + 4 * (8 + m) ≤ 6637)
      (by omega : 0 ≤ T) hT1
    simp only []
    rt_simp

/-- **C16 (main).** For every spreading factor, bandwidth, coding rate, LDRO flag, header mode,
payload length 0..255 and preamble (absent or 0..255 symbols), the model of `time_on_air_us`
generated from the current source returns — without overflow anywhere — the value `Spec.Airtime.toa`. -/
theorem toa_eq_spec (sf : SpreadingFactor) (bw : Bandwidth) (cr : CodingRate) (ldro hdr : Bool)
    (len : Int) (pre : Option Int) (hlen : 0 ≤ len ∧ len ≤ 255)
    (hpre : ∀ p, pre = some p → 0 ≤ p ∧ p ≤ 255) :
    (params sf bw cr ldro).time_on_air_us pre hdr len
      = some (toa sf.factor bw.hz ldro (!hdr) cr.denom len pre) := by
  have hT := tsym_bounds sf bw
  unfold params
  rw [toa_common sf bw cr ldro hdr len _ pre hT.1 hT.2 hlen.1 hlen.2 hpre]
  unfold toa
  cases pre <;> rfl

/-- `Spec.Airtime.toa` *is* the Semtech formula: `r = ⌊(preamble + 4.25 + n)·tsym⌋`, resp. `n·tsym`,
characterised by inequalities instead of being computed. -/
theorem toa_is_formula (sf hz : Int) (de ih : Bool) (crDenom len : Int) (pre : Option Int) :
    IsToa sf hz de ih crDenom len pre (toa sf hz de ih crDenom len pre) := by
  unfold IsToa toa
  cases pre with
  | none => simp
  | some p => simp only []; omega

theorem payloadSymbols_mono (sf : Int) (de ih : Bool) (cr len len' : Int) (hsf : 5 ≤ sf) (hcr : 0 ≤ cr)
    (h : len ≤ len') : payloadSymbols sf de ih cr len ≤ payloadSymbols sf de ih cr len' := by
  unfold payloadSymbols
  have hd : 0 < 4 * (sf - 2 * (if de then 1 else 0)) := by split <;> omega
  have := ceilDiv_mono hd (by omega : 8 * len - 4 * sf + 28 + 16 - 20 * (if ih then 1 else 0)
      ≤ 8 * len' - 4 * sf + 28 + 16 - 20 * (if ih then 1 else 0))
  have := Int.mul_le_mul_of_nonneg_right this hcr
  simp only []
  omega

/-- **C16 (monotone).** Time on air does not decrease when the payload grows. -/
theorem toa_monotone (sf : SpreadingFactor) (bw : Bandwidth) (cr : CodingRate) (ldro hdr : Bool)
    (len len' : Int) (pre : Option Int) (h : len ≤ len') (hpre : ∀ p, pre = some p → 0 ≤ p) :
    toa sf.factor bw.hz ldro (!hdr) cr.denom len pre ≤ toa sf.factor bw.hz ldro (!hdr) cr.denom len' pre := by
  have hT := (tsym_bounds sf bw).1
  have hn := payloadSymbols_mono sf.factor ldro (!hdr) cr.denom len len' (sf_bounds sf).1
    (by have := (cr_bounds cr).1; omega) h
  unfold toa
  generalize tsym sf.factor bw.hz = T at *
  generalize payloadSymbols sf.factor ldro (!hdr) cr.denom len = n at *
  generalize payloadSymbols sf.factor ldro (!hdr) cr.denom len' = n' at *
  cases pre with
  | none => exact Int.mul_le_mul_of_nonneg_right hn (by omega)
  | some p =>
    simp only []
    apply Int.ediv_le_ediv (by omega)
    exact Int.mul_le_mul_of_nonneg_right (by omega) (by omega)

/-- Corollary in terms of the code: through the generated function itself. -/
theorem code_monotone (sf : SpreadingFactor) (bw : Bandwidth) (cr : CodingRate) (ldro hdr : Bool)
    (len len' : Int) (pre : Option Int) (h0 : 0 ≤ len) (h : len ≤ len') (h1 : len' ≤ 255)
    (hpre : ∀ p, pre = some p → 0 ≤ p ∧ p ≤ 255) :
    ∃ a b, (params sf bw cr ldro).time_on_air_us pre hdr len = some a ∧
           (params sf bw cr ldro).time_on_air_us pre hdr len' = some b ∧ a ≤ b :=
  ⟨_, _, toa_eq_spec sf bw cr ldro hdr len pre ⟨h0, by omega⟩ hpre,
         toa_eq_spec sf bw cr ldro hdr len' pre ⟨by omega, h1⟩ hpre,
         toa_monotone sf bw cr ldro hdr len len' pre h (fun p hp => (hpre p hp).1)⟩

/-! Non-vacuity: published values (TTN airtime calculator; the repository's own test vectors) and a
case in which the ceiling is not positive (SF11/125 kHz, explicit header, empty payload: 8 payload symbols, not 13). -/
example : toa 7 125000 false false 5 38 (some 8) = 82176 := by decide
example : toa 12 125000 true false 5 38 (some 8) = 1974272 := by decide
example : (params ._11 ._125KHz ._4_5 true).time_on_air_us none true 0 = some (8 * 16384) := by decide
example : (params ._12 ._7KHz ._4_8 false).time_on_air_us (some 255) false 255 = some 316377478 := by decide

end C16

#print axioms C16.new_spec
#print axioms C16.toa_eq_spec
#print axioms C16.toa_is_formula
#print axioms C16.toa_monotone
#print axioms C16.code_monotone
