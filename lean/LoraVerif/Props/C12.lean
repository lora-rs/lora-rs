import LoraVerif.Model.Mac
import LoraVerif.Spec.Adr
import LoraVerif.Lemmas.ExceptLemmas
import LoraVerif.Props.C08
import LoraVerif.Props.C09
import LoraVerif.Lemmas.GhostC
import LoraVerif.Lemmas.RefineC
import LoraVerif.Lemmas.StepWalk
/-!
# C12 — uplink header bits and ADR back-off follow the session history

The reference is the four-field automaton `Spec.Adr.Auto` (ACK owed, ADR on, ADR_ACK_CNT, data rate), read
off the model through `abs`.  First each operation of the model on its own against the automaton's step
(`*_refines`: stated for the property, the histories below use `header_descOf` and `timeout_refines` of
them).  Then histories (`history_header_bits`, the reference session tracker of `Lemmas/Ghost.lean` deciding
which downlinks are accepted): `At` says a state with a session is at an automaton state, it is kept along
the acts of a receive procedure while the automaton moves as `ActsA` says (`acts_adr`), and so the automaton
moves as `AdrStep` says and every data uplink goes out at its data rate (`TxAt`: in regions with a dynamic
plan always; in US915/AU915 when no join bias was configured — `NoBias`, an invariant of every history).
-/
open Model Spec.Adr Gen.Region

namespace C12

def abs (s : Session) (cfg : Config) : Auto :=
  { ackOwed := s.ackOwed, adrOn := cfg.adrEnabled, cnt := s.adrAckCnt, dr := cfg.dataRate }

def lowerExists (r : RegionId) (dr : Nat) : Bool := (nextLowerDatarate r dr).isSome

theorem header_descOf (s : Session) (cfg : Config) (r : RegionId) (data : List Nat) (fport : Nat) (conf : Bool) :
    ((descOf s cfg r data fport conf).ack, (descOf s cfg r data fport conf).adr, (descOf s cfg r data fport conf).adrAckReq)
      = (abs s cfg).header (lowerExists r) ∧ (descOf s cfg r data fport conf).confirmed = conf ∧
      (descOf s cfg r data fport conf).fcnt = s.fcntUp := by
  refine ⟨?_, rfl, rfl⟩
  simp [descOf, abs, Auto.header, lowerExists, adrAckLimit, adr_limit]

/-- every uplink: address of the session, requested message type, and the automaton's header bits;
building it performs the automaton's `afterSend` -/
theorem header_refines (s : Session) (cfg : Config) (r : RegionId) (data : List Nat) (port : Nat) (conf : Bool)
    (desc : UplinkDesc) (s' : Session) (h : prepareBuffer s cfg r data port conf = .ok (desc, s')) :
    (desc.ack, desc.adr, desc.adrAckReq) = (abs s cfg).header (lowerExists r) ∧
    desc.confirmed = conf ∧ desc.devAddr = s.devAddr ∧ abs s' cfg = (abs s cfg).afterSend := by
  obtain ⟨rfl, rfl⟩ := prepareBuffer_ok s cfg r data port conf desc s' h
  exact ⟨(header_descOf s cfg r data port conf).1, rfl, rfl, rfl⟩

/-- an uplink without accepted downlink: the model's `rx2_complete` is the automaton's `timeout` -/
theorem timeout_refines (s : Session) (cfg : Config) (r : RegionId) (hx : s.fcntUp ≠ 0xFFFFFFFF) :
    abs (rx2Complete s cfg r).2.1 (rx2Complete s cfg r).2.2 = (abs s cfg).timeout (nextLowerDatarate r) := by
  have e64 : Gen.Session.ADR_ACK_LIMIT.toNat = adrAckLimit := by decide
  have e32 : Gen.Session.ADR_ACK_DELAY.toNat = adrAckDelay := by decide
  rw [rx2Complete_eq]
  simp only [backoffCfg, e64, e32, abs, Auto.timeout, ne_eq, hx, not_false_eq_true, true_and, if_false]
  by_cases hadr : cfg.adrEnabled = true
  · by_cases hc : min (s.adrAckCnt + 1) 0xFFFFFFFF ≥ adrAckLimit + adrAckDelay ∧
        (min (s.adrAckCnt + 1) 0xFFFFFFFF - adrAckLimit) % adrAckDelay = 0
    · simp only [hadr, hc, and_self, if_true]
      cases nextLowerDatarate r cfg.dataRate <;> simp only [hadr]
    · simp only [hadr, hc, and_false, if_true, if_false]
  · rw [Bool.not_eq_true] at hadr
    simp only [hadr, Bool.false_eq_true, false_and, if_false]

/-- an accepted downlink without MAC commands: the automaton's `accept` -/
theorem accept_refines (s : Session) (cfg : Config) (region : RegionState) (d : RxData) (mp : Nat) (snr : Int) (ig : Bool)
    (o : RxOut) (s' : Session) (cfg' : Config) (region' : RegionState) (N : Nat)
    (h : sessionHandleRx s cfg region d mp snr ig = .ok (o, s', cfg', region'))
    (hlen : d.len ≤ mp + 5) (hn : nextFcntDown s.fcntDown d.fcnt16 = some N) (hm : d.micFcnt = some N)
    (hnocmd : d.fopts = [] ∧ d.fport ≠ some 0) :
    abs s' cfg' = (abs s cfg).accept d.confirmed := by
  rw [sessionHandleRx_eq, if_neg (by omega), hn] at h
  have hf : (some N : Option Nat).filter (d.micFcnt == some ·) = some N := by simp [hm]
  rw [hf] at h
  obtain ⟨ctx, hctx, h⟩ := Except.bind_eq_ok h
  rw [acceptFinish_eq] at h
  cases Except.pure_eq_ok h
  have hcfg : ctx.cfg = cfg := by
    unfold acceptCmds at hctx
    cases ig
    · simp only [Bool.false_eq_true, if_false, hnocmd.1] at hctx
      obtain ⟨c1, hc1, hctx⟩ := Except.bind_eq_ok hctx
      cases hc1
      rw [if_neg (by simpa using hnocmd.2)] at hctx
      cases hctx; rfl
    · cases hctx; rfl
  simp [abs, Auto.accept, hcfg]

theorem setAdr_refines (m : MacState) (s : Session) (hst : m.st = .joined s) (on : Bool) :
    ∃ s', (macSetAdr m on).st = .joined s' ∧
      abs s' (macSetAdr m on).cfg = (abs s m.cfg).setAdr on := by
  rw [macSetAdr_eq]
  simp only [hst]
  exact ⟨_, rfl, by cases on <;> simp [abs, Auto.setAdr]⟩

theorem setDr_refines (m : MacState) (s : Session) (dr : Nat) :
    abs s (macSetDatarate m dr).cfg = (abs s m.cfg).setDr dr := rfl

/-- ADRACKReq exactly when ADR is on, at least 64 uplinks passed without accepted downlink and a lower rate exists -/
theorem adrAckReq_iff (a : Auto) (le : Nat → Bool) :
    (a.header le).2.2 = true ↔ a.adrOn = true ∧ 64 ≤ a.cnt ∧ le a.dr = true := by
  simp [Auto.header, adrAckLimit, and_assoc]

/-- the data rate only ever steps down at 96, 128, … uplinks, and only to the next lower defined rate -/
theorem stepdown_only_at (a : Auto) (nl : Nat → Option Nat) (h : (a.timeout nl).dr ≠ a.dr) :
    a.adrOn = true ∧ 96 ≤ min (a.cnt + 1) 0xFFFFFFFF ∧ (min (a.cnt + 1) 0xFFFFFFFF - 64) % 32 = 0 ∧ nl a.dr = some (a.timeout nl).dr := by
  unfold Auto.timeout at h ⊢
  cases ha : a.adrOn
  · simp [ha] at h
  · simp only [ha, if_true, adrAckLimit, adrAckDelay] at h ⊢
    by_cases hc : min (a.cnt + 1) 0xFFFFFFFF ≥ 64 + 32 ∧ (min (a.cnt + 1) 0xFFFFFFFF - 64) % 32 = 0
    · simp only [hc, and_self, if_true] at h ⊢
      cases hn : nl a.dr with
      | none => simp [hn] at h
      | some d => simp [hn] at h ⊢ <;> omega
    · simp [hc] at h

example : (Auto.timeout { ackOwed := false, adrOn := true, cnt := 95, dr := 3 } (fun d => if d > 0 then some (d - 1) else none)).dr = 2 := by decide
example : (Auto.timeout { ackOwed := false, adrOn := true, cnt := 96, dr := 3 } (fun d => if d > 0 then some (d - 1) else none)).dr = 3 := by decide
example : (Auto.header { ackOwed := true, adrOn := true, cnt := 64, dr := 0 } (fun d => decide (d > 0))) = (true, true, false) := by decide

/-- a timeout of the automaton, unless the uplink counter space is exhausted (`fc` = the counter of
the uplink just sent: at 2^32−1 the device reports `SessionExpired` and nothing moves) -/
def tmo (r : RegionId) (fc : Nat) (a : Auto) : Auto :=
  if fc = 0xFFFFFFFF then a else a.timeout (nextLowerDatarate r)

/-- the uplink counter after a receive procedure: `Model.bumpFu` -/
def bump (fc : Nat) : Nat := if fc = 0xFFFFFFFF then fc else fc + 1

/-- the frame carries a LinkADRReq (in FOpts, or in a port-0 payload) -/
def hasLinkAdr (d : RxData) : Prop :=
  (∃ c ∈ C08.cmdsOf d.fopts, c.1 = 3) ∨ (d.fport = some 0 ∧ ∃ c ∈ C08.cmdsOf d.payload, c.1 = 3)

/-- the automaton after a frame accepted in a Class A window: `accept`, and the data rate is the old
one unless the frame carried a LinkADRReq (then it is whatever the network commanded: C08) -/
def AcceptedA (a : Auto) (d : RxData) (a' : Auto) : Prop :=
  ∃ dr', (¬ hasLinkAdr d → dr' = a.dr) ∧ a' = (a.accept d.confirmed).setDr dr'

abbrev DG := Gh × Auto

/-- the frame goes out at data rate `dr` of region `r` (spreading factor and bandwidth of the TxConfig) -/
def TxAt (r : RegionId) (dr : Nat) (t : TxOut) : Prop :=
  ∃ d, getDatarate r dr = some d ∧ t.rf.sf = d.spreading_factor.factor ∧ t.rf.bwHz = d.bandwidth.hz

/-- **one event, seen from the uplink header.**  Every data uplink carries the automaton's header
bits — ACK iff an accepted confirmed downlink is unacknowledged, ADR iff ADR is enabled, ADRACKReq iff
ADR is on, ≥ 64 uplinks passed without accepted downlink and a lower data rate exists — and the
requested message type; then: no accepted downlink ⇒ `timeout` (count + 1, step down exactly at 96,
128, …); a frame accepted in a Class A window ⇒ `accept` (count restarts, ACK owed if confirmed); a
radio fault after the procedure counts as one more timeout.  Class C acceptances restart the count;
`set_adr`, `set_datarate` are the automaton's; activation clears ACK and count. -/
def AdrStep (r : RegionId) (nb : Bool) (g : DG) (ev : Ev) (out : Out) (g' : DG) : Prop :=
  g'.1 = ghStep g.1 ev ∧
  match ev, g.1 with
  | .uplink _ _ conf fault rx1 rx2 mp1 mp2, some last =>
    ∃ so resp dl, out = .up so resp dl ∧
      (so.frame.ack, so.frame.adr, so.frame.adrAckReq) = g.2.header (lowerExists r) ∧ so.frame.confirmed = conf ∧
      ((r.isFixed = false ∨ nb = true) → TxAt r g.2.dr so.tx) ∧
      (match upRes last fault rx1 rx2 mp1 mp2, fault with
       | .accepted _ d _, none => AcceptedA g.2.afterSend d g'.2
       | .accepted _ d _, some _ => ∃ a1, AcceptedA g.2.afterSend d a1 ∧ g'.2 = tmo r (bump so.frame.fcnt) a1
       | .ended, some _ => g'.2 = tmo r (bump so.frame.fcnt) (tmo r so.frame.fcnt g.2.afterSend)
       | _, _ => g'.2 = tmo r so.frame.fcnt g.2.afterSend)
  | .uplink _ _ _ _ _ _ _ _, none => out = .notJoined ∧ g'.2 = g.2
  | .rxc v _ mp, some last =>
    (match specRxc last v mp with
     | some (_, d) => g'.2 = g.2.accept d.confirmed
     | none => g'.2 = g.2)
  | .rxc _ _ _, none => g'.2 = g.2
  | .setAdr on, _ => g'.2 = g.2.setAdr on
  | .setDr dr, _ => g'.2 = g.2.setDr dr
  | .joinAbp _ _ _, _ => g'.2 = { g.2 with ackOwed := false, cnt := 0 }
  | .joinOtaa _ _ _ _ _, _ => g'.2 = { g.2 with ackOwed := false, cnt := 0 }

def Desc (m : MacState) (a : Auto) : Prop :=
  a.adrOn = m.cfg.adrEnabled ∧ a.dr = m.cfg.dataRate ∧ ∀ s, m.st = .joined s → a.ackOwed = s.ackOwed ∧ a.cnt = s.adrAckCnt

/-- no join bias is configured (`set_join_bias` was never called; US915/AU915 only) -/
def NoBias (rs : RegionState) : Prop := ∀ p, rs.plan = .fix p → p.jc.preferredSubband = none

/-- the tie: tracker, well-formedness and region as in `C08.AnsRel`; then, written out, `Desc m g.2`
(clauses four, five and seven) and, sixth, `nb = true → NoBias m.region` -/
def AdrRel (r : RegionId) (nb : Bool) (m : MacState) (g : DG) : Prop :=
  GhRel m g.1 ∧ MacWF m ∧ m.region.id = r ∧ g.2.adrOn = m.cfg.adrEnabled ∧ g.2.dr = m.cfg.dataRate ∧
    (nb = true → ∀ p, m.region.plan = .fix p → p.jc.preferredSubband = none) ∧
    ∀ s, m.st = .joined s → g.2.ackOwed = s.ackOwed ∧ g.2.cnt = s.adrAckCnt

theorem CfgMove.adr {cfg cfg1 : Config} {adr : Bool} (h : C08.CfgMove cfg adr cfg1) :
    cfg1.adrEnabled = cfg.adrEnabled ∧ (adr = false → cfg1.dataRate = cfg.dataRate) := by
  cases h <;> exact ⟨rfl, fun h => by first | rfl | cases h⟩

/-- MAC commands never touch the ADR switch, and only a LinkADRReq can change the data rate -/
theorem answers_adr {snr : Int} {cmds : List C08.Cmd} {st st' : C08.St} {as : List C08.Ans} (h : C08.Answers snr cmds st as st') :
    st'.1.adrEnabled = st.1.adrEnabled ∧ ((∀ c ∈ cmds, c.1 ≠ 3) → st'.1.dataRate = st.1.dataRate) :=
  h.cfgs (Q := fun cmds cfg cfg' => cfg'.adrEnabled = cfg.adrEnabled ∧ ((∀ c ∈ cmds, c.1 ≠ 3) → cfg'.dataRate = cfg.dataRate))
    (fun _ => ⟨rfl, fun _ => rfl⟩)
    (fun hm ih => ⟨ih.1.trans (CfgMove.adr hm).1, fun hc =>
      (ih.2 fun c h => hc c (List.mem_append_right _ h)).trans
        ((CfgMove.adr hm).2 (C08.startsAdr_false fun c h => hc c (List.mem_append_left _ h)))⟩)

theorem acceptCmds_adr (pending : List Nat) (cfg : Config) (region : RegionState) (d : RxData) (snr : Int) (ctx : MacCtx)
    (h : acceptCmds pending cfg region d snr false = .ok ctx) :
    ctx.cfg.adrEnabled = cfg.adrEnabled ∧ (¬ hasLinkAdr d → ctx.cfg.dataRate = cfg.dataRate) := by
  obtain ⟨as1, as2, cfg1, rg1, m1, ha1, ha2, _⟩ := C08.accept_answers pending cfg region d snr ctx h
  obtain ⟨e1, d1⟩ := answers_adr ha1
  simp only at e1 d1
  by_cases hport : d.fport = some 0
  · rw [if_pos hport] at ha2
    obtain ⟨m2, ha2⟩ := ha2
    obtain ⟨e2, d2⟩ := answers_adr ha2
    simp only at e2 d2
    refine ⟨by rw [e2, e1], fun hno => ?_⟩
    rw [d2 (fun c hc e => hno (Or.inr ⟨hport, c, hc, e⟩)), d1 (fun c hc e => hno (Or.inl ⟨c, hc, e⟩))]
  · rw [if_neg hport] at ha2
    obtain ⟨_, e2, _⟩ := ha2
    refine ⟨by rw [e2, e1], fun hno => ?_⟩
    rw [e2, d1 (fun c hc e => hno (Or.inl ⟨c, hc, e⟩))]

def At (r : RegionId) (m : MacState) (a : Auto) (fc : Nat) : Prop :=
  m.region.id = r ∧ ∃ s, m.st = .joined s ∧ a = abs s m.cfg ∧ fc = s.fcntUp

theorem At.rel {r : RegionId} {m : MacState} {a : Auto} {fc : Nat} (h : At r m a fc) : Desc m a := by
  obtain ⟨_, s, hs, rfl, _⟩ := h
  exact ⟨rfl, rfl, fun s' hs' => by cases hs.symm.trans hs'; exact ⟨rfl, rfl⟩⟩

theorem At.timeout {r : RegionId} {m : MacState} {a : Auto} {fc : Nat} (h : At r m a fc) :
    At r (timeoutState m) (tmo r fc a) (bumpFu fc) := by
  obtain ⟨rfl, s, hs, rfl, rfl⟩ := h
  obtain ⟨s', hs', _, hfu, _, _, _, hreg⟩ := timeoutState_session m s hs
  refine ⟨congrArg _ hreg, s', hs', ?_, hfu.symm⟩
  rw [timeoutState_joined hs] at hs' ⊢
  cases hs'
  unfold tmo
  split
  · rename_i hx; simp [rx2Complete_eq, abs, hx]
  · rename_i hx; exact (timeout_refines s m.cfg m.region.id hx).symm

theorem At.accept {r : RegionId} {m : MacState} {a : Auto} {fc : Nat} {s : Session} (h : At r m a fc) (hs : m.st = .joined s)
    (d : RxData) (N : Nat) {snr : Int} {ctx : MacCtx} (hc : acceptCmds s.pending m.cfg m.region d snr false = .ok ctx) :
    ∃ a1, AcceptedA a d a1 ∧ At r (acceptState m s d N ctx) a1 (bumpFu fc) := by
  obtain ⟨rfl, s0, hs0, rfl, rfl⟩ := h
  cases hs0.symm.trans hs
  obtain ⟨ea, ed⟩ := acceptCmds_adr _ _ _ d snr ctx hc
  obtain ⟨hcfg, hreg⟩ := acceptState_cfg m s d N ctx
  refine ⟨_, ⟨ctx.cfg.dataRate, ed, rfl⟩, by rw [hreg, C08.acceptCmds_region_id _ _ _ d snr ctx hc], _, acceptState_st m s d N ctx, ?_, ?_⟩
  · rw [acceptFinish_session_eq, hcfg]; simp [abs, Auto.accept, Auto.setDr, ea]
  · rw [acceptFinish_session_eq]

theorem At.acceptC {r : RegionId} {m : MacState} {a : Auto} {fc : Nat} {s : Session} (h : At r m a fc) (hs : m.st = .joined s)
    (d : RxData) (N : Nat) : At r (acceptState m s d N (ctxC m s)) (a.accept d.confirmed) (bumpFu fc) := by
  obtain ⟨rfl, s0, hs0, rfl, rfl⟩ := h
  cases hs0.symm.trans hs
  refine ⟨congrArg _ (acceptState_cfg m s d N (ctxC m s)).2, _, acceptState_st m s d N _, ?_, ?_⟩
  · rw [acceptFinish_session_eq, (acceptState_cfg m s d N (ctxC m s)).1]; rfl
  · rw [acceptFinish_session_eq]

theorem noBias_dyn {rs : RegionState} {p : DynPlan} (hp : rs.plan = .dyn p) : NoBias rs := by
  intro q hq; rw [hp] at hq; cases hq

/-- without a join bias a fixed plan sends a data frame at the data rate `send` was given, and no
bias appears -/
theorem selectTxChannel_nobias {σ} (g : Rng σ) (rs rs' : RegionState) (dr : DR) (frame : FrameKind) (s s' : σ)
    (tx : TxChannel) (hn : NoBias rs) (h : selectTxChannel g rs dr frame s = .ok (tx, rs', s')) :
    NoBias rs' ∧ (frame = .data → tx.dr = dr) := by
  cases selectTxChannel_selected g rs rs' dr frame s s' tx h with
  | dynJoin _ _ _ _ => exact ⟨hn, fun _ => rfl⟩
  | dynData _ _ _ _ _ => exact ⟨noBias_dyn rfl, fun _ => rfl⟩
  | fix hp hpick _ _ _ =>
    obtain ⟨h1, h2⟩ := hpick.nobias (hn _ hp)
    exact ⟨fun q hq => by cases hq; exact h1, h2⟩

theorem noBias_init (r : RegionId) : NoBias (RegionState.init r) := by
  intro p hp
  unfold RegionState.init at hp
  simp only at hp
  split at hp
  · cases hp; rfl
  · cases hp

theorem channelMaskSet_nobias (rs : RegionState) (m : Mask) (h : NoBias rs) : NoBias (channelMaskSet rs m) := by
  unfold channelMaskSet
  cases hp : rs.plan with
  | dyn p => exact noBias_dyn (p := { p with mask := m }) rfl
  | fix p =>
    intro q hq
    simp only [Plan.fix.injEq] at hq
    cases hq
    exact h p hp

theorem processJoinAccept_nobias (rs rs' : RegionState) (cf : Option CfList) (h : NoBias rs)
    (hp : processJoinAccept rs cf = .ok rs') : NoBias rs' := by
  unfold processJoinAccept at hp
  split at hp
  · rename_i p freqs hpl
    obtain ⟨chans, _, hp⟩ := Except.bind_eq_ok hp
    cases Except.pure_eq_ok hp
    exact noBias_dyn (p := { p with channels := chans }) rfl
  · rename_i p m hpl
    cases Except.pure_eq_ok hp
    intro q hq
    simp only [Plan.fix.injEq] at hq
    cases hq
    exact h p hpl
  · cases Except.pure_eq_ok hp; exact h

theorem otaaAccept_nobias (m m' : MacState) (j : RxJoinAccept) (h : NoBias m.region) (ha : otaaAccept m j = .ok m') :
    NoBias m'.region := by
  obtain ⟨region, d, hreg, _, rfl⟩ := otaaAccept_ok ha
  exact processJoinAccept_nobias m.region region j.cfList h hreg

theorem PlanMove.nobias {rs rs1 : RegionState} (h : C08.PlanMove rs rs1) (hn : NoBias rs) : NoBias rs1 := by
  cases h with
  | same => exact hn
  | slot => exact noBias_dyn rfl
  | mask m => exact channelMaskSet_nobias rs m hn

theorem acceptCmds_nobias (pending : List Nat) (cfg : Config) (region : RegionState) (d : RxData) (snr : Int) (ctx : MacCtx)
    (hn : NoBias region) (h : acceptCmds pending cfg region d snr false = .ok ctx) : NoBias ctx.region :=
  C08.acceptCmds_plan (R := fun a b => NoBias a → NoBias b) (fun _ h => h) (fun f g h => g (f h)) PlanMove.nobias h hn

theorem NoBias.timeout {m : MacState} (h : NoBias m.region) : NoBias (timeoutState m).region :=
  (timeoutState_region m).symm ▸ h

theorem macSend_nobias {σ} (g : Rng σ) {m m1 : MacState} {s : Session} (hst : m.st = .joined s) (hn : NoBias m.region)
    {data : List Nat} {fport : Nat} {conf : Bool} {rs rs' : σ} {so : Option SendOut}
    (hsend : macSend g m data fport conf rs = .ok (so, m1, rs')) : NoBias m1.region := by
  obtain ⟨dr, tx, region', pw, r1, r2, _, _, hsel, hm1, _, _⟩ := macSend_joined g m s hst data fport conf rs rs' _ m1 hsend
  rw [hm1]
  exact (selectTxChannel_nobias g m.region region' dr .data rs rs' tx hn hsel).1

theorem acts_nobias (acts : List Act) (m m' : MacState) (hn : NoBias m.region) (h : Acts m acts m') : NoBias m'.region :=
  Acts.invariant (I := fun m => NoBias m.region) (fun _ hn => hn.timeout)
    (fun m s N d hn _ _ => (acceptState_cfg m s d N (ctxC m s)).2.symm ▸ hn) (fun m s N d snr ctx hn _ _ hc => (acceptState_cfg m s d N ctx).2.symm ▸ acceptCmds_nobias _ _ _ d snr ctx hn hc) hn h

theorem macJoinOtaa_nobias {σ} (g : Rng σ) {m m1 : MacState} {rs rs' : σ} {jo : JoinOut} (hn : NoBias m.region)
    (hj : macJoinOtaa g m rs = .ok (jo, m1, rs')) : NoBias m1.region := by
  obtain ⟨dr, tx, region', pw, r1, r2, _, hsel, rfl, _, _⟩ := macJoinOtaa_ok g m rs rs' jo m1 hj
  exact (selectTxChannel_nobias g m.region region' dr .join _ rs' tx hn hsel).1

theorem step_nobias {σ} (g : Rng σ) (m m' : MacState) (rs rs' : σ) (ev : Ev) (out : Out) (gh : Gh)
    (hr : GhRel m gh) (hv : evOk ev = true) (hn : NoBias m.region) (h : step g (m, rs) ev = .ok ((m', rs'), out)) :
    NoBias m'.region := by
  cases step_cases g hr hv h with
  | joinAbp | setDr | rxcIdle | upIdle => exact hn
  | setAdr => rw [macSetAdr_eq]; exact hn
  | joined hj _ _ _ hacc => exact otaaAccept_nobias _ _ _ (macJoinOtaa_nobias g hn hj) hacc
  | joinFailed hj => exact macJoinOtaa_nobias g hn hj
  | rxc _ _ _ ha => exact acts_nobias _ _ _ hn ha
  | up hst _ hs ha => exact acts_nobias _ _ _ (macSend_nobias g hst hn hs.send) ha

/-- without a join bias the uplink's TxConfig carries the configured data rate (in every region) -/
theorem macSend_txAt_nobias {σ} (g : Rng σ) (m m1 : MacState) (s : Session) (hst : m.st = .joined s) (hwf : MacWF m)
    (hnb : NoBias m.region) (data : List Nat) (fport : Nat) (conf : Bool) (rs rs' : σ) (so : SendOut)
    (h : macSend g m data fport conf rs = .ok (some so, m1, rs')) : TxAt m.region.id m.cfg.dataRate so.tx := by
  obtain ⟨dr, tx, region', pw, r1, r2, _, hdr, hsel, _, _, ho⟩ := macSend_joined g m s hst data fport conf rs rs' _ m1 h
  simp only [Option.some.injEq] at ho
  subst ho
  have e := (selectTxChannel_nobias g m.region region' dr .data rs rs' tx hnb hsel).2 rfl
  obtain ⟨_, hg, _, _⟩ := C09.selectTxChannel_legal g m.region region' dr .data rs rs' tx hwf.region hsel
  have hup := (cfgWF_iff.mp hwf.cfg).1
  obtain ⟨_, _, hlt⟩ := isUplink_get hup
  have hn := (drOfNat_tot m.cfg.dataRate).elim hdr
  rw [e, hn, Nat.mod_eq_of_lt (by omega)] at hg
  exact ⟨tx.datarate, hg, rfl, rfl⟩

/-- in a region with a dynamic plan the uplink's TxConfig carries the configured data rate -/
theorem macSend_txAt {σ} (g : Rng σ) (m m1 : MacState) (s : Session) (hst : m.st = .joined s) (hwf : MacWF m)
    (hfix : m.region.id.isFixed = false) (data : List Nat) (fport : Nat) (conf : Bool) (rs rs' : σ) (so : SendOut)
    (h : macSend g m data fport conf rs = .ok (some so, m1, rs')) : TxAt m.region.id m.cfg.dataRate so.tx :=
  macSend_txAt_nobias g m m1 s hst hwf (let ⟨_, hp⟩ := (regionWF_isFixed hwf.region).2 hfix; noBias_dyn hp) data fport conf rs rs' so h

theorem auto_eq_abs {a : Auto} {s : Session} {cfg : Config} (h1 : a.adrOn = cfg.adrEnabled) (h2 : a.dr = cfg.dataRate)
    (h3 : a.ackOwed = s.ackOwed) (h4 : a.cnt = s.adrAckCnt) : a = abs s cfg := by
  cases a; simp only [abs] at *; simp [h1, h2, h3, h4]

theorem sent_at {σ} (g : Rng σ) {r : RegionId} {nb : Bool} {m m1 : MacState} {s : Session} {a : Auto} (hwf : MacWF m)
    (hid : m.region.id = r) (hst : m.st = .joined s) (ha : a = abs s m.cfg) (hnb : nb = true → NoBias m.region)
    {data : List Nat} {fport : Nat} {conf : Bool} {rs rs' : σ} {so : SendOut} (hs : Sent g m rs s data fport conf so m1 rs') :
    (so.frame.ack, so.frame.adr, so.frame.adrAckReq) = a.header (lowerExists r) ∧ so.frame.confirmed = conf ∧
      ((r.isFixed = false ∨ nb = true) → TxAt r a.dr so.tx) ∧ At r m1 a.afterSend so.frame.fcnt := by
  obtain ⟨hhead, hconf, hfc⟩ := header_descOf s m.cfg m.region.id data fport conf
  rw [← hs.frame, hid, ← ha] at hhead
  rw [← hs.frame] at hconf hfc
  refine ⟨hhead, hconf, fun hfx => ?_, hs.id.trans hid, _, hs.st, by rw [hs.cfg, ha]; rfl, hfc⟩
  have hno : NoBias m.region := hfx.elim
    (fun hfx => let ⟨_, hp⟩ := (regionWF_isFixed hwf.region).2 (hid ▸ hfx); noBias_dyn hp) hnb
  have := macSend_txAt_nobias g m m1 s hst hwf hno data fport conf rs rs' so hs.send
  rw [hid] at this
  rw [ha]
  exact this

/-- the automaton along the acts of a receive procedure; the second component is the uplink counter -/
def ActsA (r : RegionId) : List Act → Auto × Nat → Auto → Prop
  | [], x, a' => a' = x.1
  | .accC _ d :: rest, x, a' => ActsA r rest (x.1.accept d.confirmed, bumpFu x.2) a'
  | .accA _ d _ :: rest, x, a' => ∃ a1, AcceptedA x.1 d a1 ∧ ActsA r rest (a1, bumpFu x.2) a'
  | .tmo :: rest, x, a' => ActsA r rest (tmo r x.2 x.1, bumpFu x.2) a'

/-- along the acts of a plain procedure the automaton moves as the `uplink` arm of `AdrStep` says -/
theorem actsA_plain {r : RegionId} {w : WinRes} {fault : Option Nat} {a a' : Auto} {fc : Nat} :
    ActsA r (plainActs w fault) (a, fc) a' →
      match w, fault with
      | .accepted _ d _, none => AcceptedA a d a'
      | .accepted _ d _, some _ => ∃ a1, AcceptedA a d a1 ∧ a' = tmo r (bump fc) a1
      | .ended, some _ => a' = tmo r (bump fc) (tmo r fc a)
      | _, _ => a' = tmo r fc a := by
  cases w with
  | accepted N d snr =>
    cases fault with
    | none => exact fun ⟨a1, h1, e⟩ => e ▸ h1
    | some k => exact id
  | ended => cases fault <;> exact id
  | nothing => cases fault <;> exact id

theorem acts_adr (r : RegionId) (acts : List Act) :
    ∀ (m m' : MacState) (a : Auto) (fc : Nat), At r m a fc → Acts m acts m' → ∃ a' fc', ActsA r acts (a, fc) a' ∧ At r m' a' fc' := by
  induction acts with
  | nil => intro m m' a fc ha h; cases h; exact ⟨a, fc, rfl, ha⟩
  | cons x rest ih =>
    intro m m' a fc ha h
    cases x with
    | accC N d =>
      obtain ⟨s, hs, _, h⟩ := h
      exact ih _ m' _ _ (ha.acceptC hs d N) h
    | accA N d snr =>
      obtain ⟨s, ctx, hs, _, hc, h⟩ := h
      obtain ⟨a1, hacc, h1⟩ := ha.accept hs d N hc
      obtain ⟨a', fc', hA, h'⟩ := ih _ m' _ _ h1 h
      exact ⟨a', fc', ⟨a1, hacc, hA⟩, h'⟩
    | tmo => exact ih _ m' _ _ ha.timeout h

theorem step_adrRel {σ} (g : Rng σ) (r : RegionId) (m m' : MacState) (rs rs' : σ) (ev : Ev) (out : Out) (dg : DG)
    (nb : Bool) (hr : AdrRel r nb m dg) (hv : evOk ev = true ∧ validEv r ev = true)
    (h : step g (m, rs) ev = .ok ((m', rs'), out)) : ∃ dg', AdrStep r nb dg ev out dg' ∧ AdrRel r nb m' dg' := by
  obtain ⟨gh, a⟩ := dg
  obtain ⟨hgh, hwf, hid, hon, hdr, hnb, hses⟩ := hr
  simp only at hgh hon hdr hnb hses
  have hk : Keeps m m' := step_keeps hwf hid hv.2 h
  suffices hs : ∃ a', AdrStep r nb (gh, a) ev out (ghStep gh ev, a') ∧ Desc m' a' by
    obtain ⟨a', h1, h2, h3, h4⟩ := hs
    exact ⟨(ghStep gh ev, a'), h1, step_ghRel g m m' rs rs' ev out gh hgh hv.1 h, hk.1, hk.2.1.trans hid, h2, h3,
      fun e => step_nobias g m m' rs rs' ev out gh hgh hv.1 (hnb e) h, h4⟩
  cases step_cases g hgh hv.1 h with
  | joinAbp =>
    exact ⟨{ a with ackOwed := false, cnt := 0 }, ⟨rfl, by cases gh <;> rfl⟩, hon, hdr, fun s hs => by cases hs; exact ⟨rfl, rfl⟩⟩
  | @setDr _ dr => exact ⟨a.setDr dr, ⟨rfl, by cases gh <;> rfl⟩, hon, rfl, hses⟩
  | @setAdr _ on =>
    refine ⟨a.setAdr on, ⟨rfl, by cases gh <;> rfl⟩, ?_, ?_, fun s' hs' => ?_⟩
    · rw [macSetAdr_eq]; rfl
    · rw [macSetAdr_eq]; exact hdr
    · obtain ⟨s, hs, rfl⟩ := macSetAdr_joined hs'
      obtain ⟨ho, hc⟩ := hses s hs
      exact ⟨ho, by cases on <;> simp [Auto.setAdr, hc]⟩
  | joined _ _ hcfg1 _ hacc =>
    obtain ⟨e1, e2⟩ := otaaAccept_cfg _ _ _ hacc
    refine ⟨{ a with ackOwed := false, cnt := 0 }, ⟨rfl, by cases gh <;> rfl⟩, by rw [e1, hcfg1]; exact hon,
      by rw [e2, hcfg1]; exact hdr, fun s hs => ?_⟩
    cases hs.symm.trans (otaaAccept_st _ _ _ hacc)
    exact ⟨rfl, rfl⟩
  | joinFailed _ hst1 hcfg1 =>
    exact ⟨{ a with ackOwed := false, cnt := 0 }, ⟨rfl, by cases gh <;> rfl⟩, by rw [hcfg1]; exact hon, by rw [hcfg1]; exact hdr,
      fun s hs => by cases hs.symm.trans hst1⟩
  | rxcIdle => exact ⟨a, ⟨rfl, rfl⟩, hon, hdr, hses⟩
  | upIdle => exact ⟨a, ⟨rfl, rfl, rfl⟩, hon, hdr, hses⟩
  | @rxc s v _ mp _ _ hst _ _ ha =>
    obtain ⟨a', fc', hA, h'⟩ :=
      acts_adr r _ m m' a s.fcntUp ⟨hid, s, hst, auto_eq_abs hon hdr (hses s hst).1 (hses s hst).2, rfl⟩ ha
    refine ⟨a', ⟨rfl, ?_⟩, h'.rel⟩
    cases hs : specRxc s.fcntDown v mp <;> simp only [rxcActs, hs] at hA ⊢ <;> exact hA
  | @up s _ _ _ _ _ _ _ _ _ _ _ _ hst _ hs ha =>
    obtain ⟨hhead, hconf, htx, h1⟩ := sent_at g hwf hid hst (auto_eq_abs hon hdr (hses s hst).1 (hses s hst).2) hnb hs
    obtain ⟨a', fc', hA, h'⟩ := acts_adr r _ _ m' _ _ h1 ha
    exact ⟨a', ⟨rfl, _, _, _, rfl, hhead, hconf, htx, actsA_plain hA⟩, h'.rel⟩

/-- **C12 over every history**: along every run of valid events from a well-formed state the
reference automaton describes, every data uplink carries the automaton's header bits, and the
automaton moves as `AdrStep` says — the data rate steps down exactly when the count of uplinks without
accepted downlink reaches 96, 128, … with ADR on (`Auto.timeout`, `stepdown_only_at`), any accepted
downlink restarts the count, the ACK bit is set in the first uplink after one or more accepted
confirmed downlinks and in no other. -/
theorem history_header_bits {σ} (g : Rng σ) (r : RegionId) (nb : Bool) (m : MacState) (rs : σ) (dg : DG) (hr : AdrRel r nb m dg)
    (evs : List Ev) (hv : ∀ ev ∈ evs, evOk ev = true ∧ validEv r ev = true) (ms' : MacState × σ) (outs : List Out)
    (h : run g (m, rs) evs = .ok (ms', outs)) : TraceR (AdrStep r nb) dg (evs.zip outs) := by
  have hc := run_chain g (m, rs) ms' evs outs h
  exact chain_traceR g (AdrStep r nb) (AdrRel r nb) (fun ev => evOk ev = true ∧ validEv r ev = true)
    (fun m s ev m' s' out gh hr hv hs => step_adrRel g r m m' s s' ev out gh nb hr hv hs)
    (m, rs) ms' (evs.zip outs) dg hr (fun x hx => hv x.1 (List.of_mem_zip hx).1) hc

/-- the automaton of a freshly initialised device: ADR on, data rate 0 -/
def auto0 : Auto := { ackOwed := false, adrOn := true, cnt := 0, dr := 0 }

theorem adrRel_init (r : RegionId) (maxPower : Nat) (gain : Int) (hg : gainOk r gain = true) :
    AdrRel r true (MacState.init (RegionState.init r) maxPower gain) (none, auto0) := by
  obtain ⟨h1, h2, h3, _⟩ := C08.ansRel_init r maxPower gain hg
  exact ⟨h1, h2, h3, rfl, rfl, fun _ => noBias_init r, fun s hs => by cases hs⟩

theorem history_header_bits_init {σ} (g : Rng σ) (r : RegionId) (maxPower : Nat) (gain : Int) (hg : gainOk r gain = true) (rs : σ)
    (evs : List Ev) (hv : ∀ ev ∈ evs, evOk ev = true ∧ validEv r ev = true) (ms' : MacState × σ) (outs : List Out)
    (h : run g (MacState.init (RegionState.init r) maxPower gain, rs) evs = .ok (ms', outs)) :
    TraceR (AdrStep r true) (none, auto0) (evs.zip outs) :=
  history_header_bits g r true _ rs (none, auto0) (adrRel_init r maxPower gain hg) evs hv ms' outs h

/-! non-vacuity: 97 uplinks without any downlink at DR3 in EU868 — ADRACKReq from the 65th on, the
data rate steps down once (at 96); a confirmed downlink then restarts the count and is ACKed once -/
def lcg : Rng Nat := fun x => ((x * 1103515245 + 12345) / 65536, x * 1103515245 + 12345)

def up : Ev := .uplink [1] 1 false none none none 51 51
def cdl : Option (RxView × Int) :=
  some (.data { len := 14, confirmed := true, fcnt16 := 1, micFcnt := some 1, fopts := [], fport := some 1, payload := [1] }, 5)

def demoHistory : List Ev :=
  [.joinAbp 7 1 2, .setDr 3] ++ List.replicate 97 up ++ [.uplink [1] 1 false none cdl none 51 51, up, up]

def bits (outs : List Out) : List (Bool × Bool × Bool) :=
  outs.filterMap (fun o => match o with | .up so _ _ => some (so.frame.ack, so.frame.adr, so.frame.adrAckReq) | _ => none)

example : ∀ ev ∈ demoHistory, evOk ev = true ∧ validEv .EU868 ev = true := by decide +kernel
example : (run lcg (MacState.init (RegionState.init .EU868) 14 0, 1) demoHistory).toOption.map
      (fun r => (r.1.1.cfg.dataRate, ((bits r.2).drop 63).take 3, (bits r.2).drop 97)) =
    some (2, [(false, true, false), (false, true, true), (false, true, true)],
          [(false, true, true), (true, true, false), (false, true, false)]) := by decide +kernel
example : AdrRel .EU868 true (MacState.init (RegionState.init .EU868) 14 0) (none, auto0) :=
  adrRel_init .EU868 14 0 (by decide)
/-! ## extended histories: the automaton also moves at acceptances INSIDE the receive procedure

`Model/HistoryC.lean`: a Class C device hands the frames it hears on the RXC parameters between TX and
RX1 and between RX1 and RX2 to `handle_rxc` in the middle of the procedure.  The reference procedure
(`Lemmas/CycleC.lean`, `upRefC`) decides — from the event, the tracker's counter and the uplink's
counter — on the list of ACTS of the procedure; the automaton moves along them (`ActsA`): a frame
accepted on the RXC parameters restarts the count and makes an ACK owed if confirmed (`accept`), a
frame accepted in a Class A window likewise (and may command a data rate: `AcceptedA`), every
`rx2_complete` — both windows empty, an oversized frame, a radio fault — is a `timeout`. -/

/-- **one extended event, seen from the uplink header**: events of `Model/History.lean` as `AdrStep`
says (a join procedure: the plain `joinOtaa` it amounts to); `send` + receive procedure of a device
with a session: the uplink carries the automaton's header bits and the requested message type, goes
out at the automaton's data rate, and the automaton then moves along the acts the REFERENCE decides on
for this procedure, Class C acceptances inside it included. -/
def AdrStepC (r : RegionId) (nb : Bool) (g : DG) (e : EvL) (out : OutC) (g' : DG) : Prop :=
  match e.2 with
  | .base ev => AdrStep r nb g ev out.out g'
  | .joinC cc fault c1 rx1 c2 rx2 => AdrStep r nb g (joinPlain fault rx1 rx2) out.out g'
  | .uplinkC cc _ _ conf fault c1 rx1 c2 rx2 =>
    g'.1 = ghNextC g.1 e out ∧
    (match g.1 with
     | some last =>
       ∃ so resp dl, out.out = .up so resp dl ∧
         (so.frame.ack, so.frame.adr, so.frame.adrAckReq) = g.2.header (lowerExists r) ∧ so.frame.confirmed = conf ∧
         ((r.isFixed = false ∨ nb = true) → TxAt r g.2.dr so.tx) ∧
         ActsA r (upRefC cc last conf e.1 fault c1 rx1 c2 rx2 so).acts (g.2.afterSend, so.frame.fcnt) g'.2
     | none => out.out = .notJoined ∧ g'.2 = g.2)

theorem stepC_adrRel {σ} (g : Rng σ) (r : RegionId) (m m' : MacState) (rs rs' : σ) (ev : EvC) (out : OutC) (dg : DG)
    (nb : Bool) (hr : AdrRel r nb m dg) (hv : C08.evValidC r ev)
    (h : stepC g (m, rs) ev = .ok ((m', rs'), out)) : ∃ dg', AdrStepC r nb dg (rxcMp m, ev) out dg' ∧ AdrRel r nb m' dg' := by
  obtain ⟨gh, a⟩ := dg
  have hgh' := stepC_ghRel g m m' rs rs' _ out gh hr.1 hv.1 h
  have hk : Keeps m m' := stepC_keeps hr.2.1 hr.2.2.1 hv.2 h
  cases stepC_cases g hr.1 hv.1 h with
  | base he hs => exact step_adrRel g r m m' rs rs' _ _ _ nb hr ⟨he, hv.2⟩ hs
  | joinC he hs => exact step_adrRel g r m m' rs rs' _ _ _ nb hr ⟨he, validEv_joinPlain hv.2⟩ hs
  | upIdle => exact ⟨(none, a), ⟨rfl, rfl, rfl⟩, hr⟩
  | upC hst _ hs ha =>
    obtain ⟨_, hwf, hid, hon, hdr, hnb, hses⟩ := hr
    obtain ⟨hhead, hconf, htx, h1⟩ := sent_at g hwf hid hst (auto_eq_abs hon hdr (hses _ hst).1 (hses _ hst).2) hnb hs
    obtain ⟨a', fc', hA, h'⟩ := acts_adr r _ _ m' _ _ h1 ha
    exact ⟨(_, a'), ⟨rfl, _, _, _, rfl, hhead, hconf, htx, hA⟩, hgh', hk.1, hk.2.1.trans hid, h'.rel.1, h'.rel.2.1,
      fun e => acts_nobias _ _ m' (macSend_nobias g hst (hnb e) hs.send) ha, h'.rel.2.2⟩

/-- **C12 over every extended history** (Class C receptions inside the receive procedure included):
along every `runC` of valid events from a well-formed state the reference automaton describes, every
data uplink carries the automaton's header bits, and the automaton moves as `AdrStepC` says — an
accepted downlink, wherever it is heard (RX1, RX2, on the RXC parameters between uplinks or INSIDE the
receive procedure), restarts the count and, if confirmed, sets the ACK bit of the first uplink after
it and of no other; every uplink that completes without one counts. -/
theorem historyC_header_bits {σ} (g : Rng σ) (r : RegionId) (nb : Bool) (m : MacState) (rs : σ) (dg : DG) (hr : AdrRel r nb m dg)
    (evs : List EvC) (hv : ∀ ev ∈ evs, C08.evValidC r ev) (ms' : MacState × σ) (outs : List OutC)
    (h : runC g (m, rs) evs = .ok (ms', outs)) : TraceRG (AdrStepC r nb) dg ((annotC g (m, rs) evs).zip outs) := by
  have hc := runC_chain g (m, rs) ms' evs outs h
  exact chainC_traceR g (AdrStepC r nb) (AdrRel r nb) (C08.evValidC r)
    (fun m s ev m' s' out gh hr hv hs => stepC_adrRel g r m m' s s' ev out gh nb hr hv hs)
    (m, rs) ms' _ dg hr (fun x hx => hv _ (mem_annot_zip g _ evs outs x hx)) hc

/-- **C12 on the async front-end, for EVERY script, both classes** -/
theorem asyncC_header_bits {σ} (g : Rng σ) (cfg : DevCfg) (r : RegionId) (nb : Bool) (d : DevRun) (rs : σ) (dg : DG)
    (hr : AdrRel r nb d.m dg) (ops : List AsyncOp) (hv : ∀ op ∈ ops, op.allView viewOk = true ∧ op.valid r = true)
    (obs : List OpObs) (d' : DevRun) (rs' : σ) (h : asyncOps g cfg d rs ops = .ok (obs, d', rs')) :
    ∃ outs, TraceRG (AdrStepC r nb) dg ((annotC g (d.m, rs) (abstractSessionC cfg ops)).zip outs) ∧ AllRel ObsRel obs outs := by
  obtain ⟨outs, hrun, hobs⟩ := asyncOps_runC g cfg d rs ops obs d' rs' h
  exact ⟨outs, historyC_header_bits g r nb d.m rs dg hr _ (abstractSessionC_ok cfg r ops hv) _ outs hrun, hobs⟩

/-! non-vacuity, and the numbers of `C06.classC_inside_frontend`: ONE `send` of a Class C device that
hears a confirmed downlink between TX and RX1 leaves ADR count 1 and an ACK owed; the uplink itself went
out with counter 0 and without ACK; the next uplink carries the ACK -/
def cdlC : RxView × Int :=
  (.data { len := 14, confirmed := true, fcnt16 := 3, micFcnt := some 3, fopts := [], fport := some 2, payload := [3] }, 5)

def demoHistoryC : List EvC :=
  [ .base (.joinAbp 7 1 2),
    .uplinkC true [1] 1 false none [cdlC] none [] none,
    .uplinkC true [2] 1 false none [] none [] none ]

example : ∀ ev ∈ demoHistoryC, evOkC ev = true ∧ validEvC .EU868 ev = true := by decide
example : (runC lcg (MacState.init (RegionState.init .EU868) 14 0, 1) demoHistoryC).toOption.map
      (fun r => (bits (r.2.map (·.out)), r.1.1.st)) =
    some ([(false, true, false), (true, true, false)],
      .joined { pending := [], ackOwed := false, confirmed := false, devAddr := 7, fcntUp := 3, fcntDown := some 3,
                adrAckCnt := 2, nwkKey := 1, appKey := 2 }) := by decide +kernel
example : ActsA .EU868 [.accC 3 { len := 14, confirmed := true, fcnt16 := 3, micFcnt := some 3, fopts := [], fport := some 2, payload := [3] }, .tmo]
    (auto0.afterSend, 0) { ackOwed := true, adrOn := true, cnt := 1, dr := 0 } := by
  simp only [ActsA]; decide

end C12

#print axioms C12.header_refines
#print axioms C12.timeout_refines
#print axioms C12.accept_refines
#print axioms C12.setAdr_refines
#print axioms C12.adrAckReq_iff
#print axioms C12.stepdown_only_at
#print axioms C12.step_adrRel
#print axioms C12.history_header_bits
#print axioms C12.history_header_bits_init
#print axioms C12.answers_adr
#print axioms C12.macSend_txAt
#print axioms C12.selectTxChannel_nobias
#print axioms C12.step_nobias
#print axioms C12.macSend_txAt_nobias

#print axioms C12.stepC_adrRel
#print axioms C12.historyC_header_bits
#print axioms C12.asyncC_header_bits
