import LoraVerif.Props.C06.Session
import LoraVerif.Lemmas.RefineNb
import LoraVerif.Lemmas.ExpiredC
import LoraVerif.Lemmas.RefineListen
/-!
# C06 — uplink frame counters never repeat within a session

The frame `Mac::send` hands to the radio carries the session's full 32-bit `fcnt_up` (MIC and encryption
use it, its low half goes on the wire — C01), and every way the receive procedure can end — a frame in
RX1 or RX2, rejected or oversized frames, the timeout, a radio fault after the frame went out — moves
that counter on by exactly one, or reports `SessionExpired` with the counter standing at 2^32 − 1; a
Class C reception never decreases it.  These per-function facts, with the session identity and the
32-bit bound, come from one pass over the MAC functions (`Props/C06/Session.lean`: `Later`, `Advanced`).
They are composed over ALL histories of `Model/History.lean` — any frames, faults, Class C receptions and
setter calls, any start state, any random stream — into `FcntStrict` (counters strictly increasing within a
session until expiry is reported): a predicate of the shape of a ghost-driven trace (`TraceD`; `fcntStrict_cons`)
whose ghost is the bound `b` on the next counter, tied to the state by `Rel` and moved by `after`; one step keeps `Rel`
(`step_rel`, `stepC_rel`).  It is not an instance of `TraceD`: the end results read it over the `projEv`-projected
events of an extended run and ask nothing of the events, while `chainC_traceD` runs over annotated events under `evOkC`;
so `runC_fcnt_strict` is an induction of its own.
The result is transferred to both device front-ends through the refinement theorems of `Lemmas/Refine*.lean`.
Not claimed, and false on the model as on the code: once `SessionExpired` has been reported a further
`send` is not refused (`send_after_expiry_reuses`; `FcntStrict` makes no claim after expiry).
-/
open Model

namespace C06

def isJoin : Ev → Bool
  | .joinAbp _ _ _ | .joinOtaa _ _ _ _ _ => true
  | _ => false

def expiredResp (r : Option Response) : Bool := r == some .sessionExpired

/-- **the counters of the uplinks handed to the radio, read off a history's trace** (event, output).
`b = some lo`: the next uplink of the running session must carry a counter ≥ `lo`; after an uplink
with counter `n` the bound is `n + 1` — strictly increasing — until the device reports
`SessionExpired` (`b = none`: the property makes no claim about a device that is used on after it
reported expiry) or a (re-)join starts a new session at 0. -/
def FcntStrict : Option Nat → List (Ev × Out) → Prop
  | _, [] => True
  | b, (ev, out) :: rest =>
    match out with
    | .up o resp _ =>
      (∀ lo, b = some lo → lo ≤ o.frame.fcnt) ∧
        FcntStrict (if expiredResp resp then none else some (o.frame.fcnt + 1)) rest
    | _ => if isJoin ev then FcntStrict (some 0) rest else FcntStrict b rest

theorem expiredResp_false {r : Option Response} : expiredResp r = false ↔ r ≠ some .sessionExpired :=
  beq_eq_false_iff_ne

def Respects (b : Option Nat) (out : Out) : Prop := ∀ o r d, out = .up o r d → ∀ lo, b = some lo → lo ≤ o.frame.fcnt

/-- the bound after an event (`join`: it (re)starts activation) with output `out` -/
def after (b : Option Nat) (join : Bool) : Out → Option Nat
  | .up o resp _ => if expiredResp resp then none else some (o.frame.fcnt + 1)
  | _ => if join then some 0 else b

theorem fcntStrict_cons {b : Option Nat} {ev : Ev} {out : Out} {rest : List (Ev × Out)} :
    FcntStrict b ((ev, out) :: rest) ↔ Respects b out ∧ FcntStrict (after b (isJoin ev) out) rest := by
  cases out with
  | up o r d => exact and_congr_left' ⟨fun h _ _ _ e => by cases e; exact h, fun h => h o r d rfl⟩
  | _ =>
    cases hj : isJoin ev <;> simp only [FcntStrict, after, hj, if_true, if_false, Bool.false_eq_true] <;>
      exact ⟨fun h => ⟨fun _ _ _ e => (nomatch e), h⟩, fun h => h.2⟩

/-- the bound `b` is respected by the state: a live session's counter is at least `lo` -/
def Rel (m : MacState) (b : Option Nat) : Prop := ∀ lo, b = some lo → ∀ s, m.st = .joined s → lo ≤ s.fcntUp

theorem rel_none (m : MacState) : Rel m none := nofun

theorem rel_zero (m : MacState) : Rel m (some 0) := fun _ e _ _ => by cases e; exact Nat.zero_le _

theorem rel_of_joined {m : MacState} {s : Session} (hj : joinedWith m s) {lo : Nat} (h : lo ≤ s.fcntUp) : Rel m (some lo) := by
  intro lo' e s' hs'
  cases e
  cases hj.symm.trans hs'
  exact h

theorem rel_weaken {m : MacState} {n : Nat} {b : Option Nat} (h : Rel m (some n)) (hb : ∀ lo, b = some lo → lo ≤ n) : Rel m b :=
  fun lo e s hs => Nat.le_trans (hb lo e) (h n rfl s hs)

theorem rel_quiet {m' : MacState} {b : Option Nat} {j : Bool} {out : Out} (hout : ∀ o r d, out ≠ .up o r d)
    (h : Rel m' (if j then some 0 else b)) : Respects b out ∧ Rel m' (after b j out) := by
  cases out with
  | up o r d => exact absurd rfl (hout o r d)
  | _ => exact ⟨fun _ _ _ e => (nomatch e), h⟩

/-! ## one step: a (re-)join starts a session at 0, any other step stays within the session or without one

The three cases need no hypothesis on state or frames, so they walk `step` themselves (on `Props/C06/Session.lean`)
rather than go through `Model.step_cases`, which asks for a tracked state and 16-bit wire counters. -/

/-- the session a join attempt can end in: none, or the one the authentic JoinAccept defines -/
def FreshFrom (rx1 rx2 : Option (RxView × Int)) (m' : MacState) : Prop :=
  (∃ ot, m'.st = .otaa ot) ∨
  ∃ j snr, (rx1 = some (.joinAccept j, snr) ∨ rx2 = some (.joinAccept j, snr)) ∧ j.micOk = true ∧
    m'.st = .joined (Session.new j.devAddr j.nwkKey j.appKey)

/-- what a join event leaves behind -/
def JoinPost (m' : MacState) : Ev → Prop
  | .joinAbp da nwk app => m'.st = .joined (Session.new da nwk app)
  | .joinOtaa _ rx1 rx2 _ _ => FreshFrom rx1 rx2 m'
  | _ => True

/-- **a (re-)join starts at zero with the key identities of the activation**: after an ABP
activation the session is exactly `Session.new` of the given address and keys; after an OTAA attempt
the MAC is either still joining or holds exactly the session defined by an authentic JoinAccept heard
in RX1 or RX2 — counters 0, no downlink counter, nothing pending, and the keys derived from that
JoinAccept; nothing of the previous session survives. -/
theorem join_starts_fresh {σ} (g : Rng σ) (m m' : MacState) (rs rs' : σ) (ev : Ev) (out : Out)
    (h : step g (m, rs) ev = .ok ((m', rs'), out)) : JoinPost m' ev := by
  cases ev with
  | joinAbp da nwk app => unfold step at h; cases Except.pure_eq_ok h; rfl
  | joinOtaa fault rx1 rx2 mp1 mp2 =>
    obtain ⟨jo, m1, o, _, hst1, _, ht⟩ := step_joinOtaa_inv g m m' rs rs' fault rx1 rx2 mp1 mp2 out h
    cases hr : joinRes fault rx1 rx2 with
    | none =>
      rw [hr] at ht
      exact Or.inl ⟨o, ht.1 ▸ hst1⟩
    | some j =>
      rw [hr] at ht
      obtain ⟨snr, hf, hmic⟩ := joinRes_heard hr
      exact Or.inr ⟨j, snr, hf, hmic, otaaAccept_st m1 m' j ht.1⟩
  | _ => trivial

section
variable {σ} {g : Rng σ} {m m' : MacState} {rs rs' : σ} {ev : Ev} {out : Out}

theorem step_join (hj : isJoin ev = true)
    (h : step g (m, rs) ev = .ok ((m', rs'), out)) :
    (∀ s', m'.st = .joined s' → s'.fcntUp = 0) ∧ ∀ o r d, out ≠ .up o r d := by
  cases ev with
  | joinAbp da nwk app =>
    unfold step at h
    cases Except.pure_eq_ok h
    exact ⟨fun s' e => by cases e; rfl, fun _ _ _ e => (nomatch e)⟩
  | joinOtaa fault rx1 rx2 mp1 mp2 =>
    obtain ⟨jo, m1, o, _, hst1, _, ht⟩ := step_joinOtaa_inv g m m' rs rs' fault rx1 rx2 mp1 mp2 out h
    cases hr : joinRes fault rx1 rx2 <;> rw [hr] at ht <;> rw [ht.2]
    · exact ⟨fun s' e => (by rw [ht.1, hst1] at e; cases e), fun _ _ _ e => (nomatch e)⟩
    · exact ⟨fun s' e => (by rw [otaaAccept_st m1 m' _ ht.1] at e; cases e; rfl), fun _ _ _ e => (nomatch e)⟩
  | _ => cases hj

/-- **what a step within session `s` leaves**: the MAC joined, with a later state of the same session; an
uplink it hands to the radio carries the session's counter and address, and unless `SessionExpired` is
reported the counter has moved past the one used -/
def InSession (s : Session) (m' : MacState) (out : Out) : Prop :=
  ∃ s', joinedWith m' s' ∧ Later s s' ∧ ∀ o r d, out = .up o r d →
    o.frame.fcnt = s.fcntUp ∧ o.frame.devAddr = s.devAddr ∧ (r ≠ some .sessionExpired → s.fcntUp < s'.fcntUp)

theorem InSession.up {s s' : Session} {m' : MacState} {so : SendOut} {cfg : Config} {rid : RegionId} {data : List Nat}
    {port : Nat} {conf : Bool} {r : Option Response} {d : Option (Nat × List Nat)}
    (hfr : so.frame = descOf s cfg rid data port conf) (hj : joinedWith m' s') (hl : Later s s')
    (hlt : r ≠ some .sessionExpired → s.fcntUp < s'.fcntUp) : InSession s m' (.up so r d) :=
  ⟨s', hj, hl, fun _ _ _ e => by cases e; exact ⟨by rw [hfr]; rfl, by rw [hfr]; rfl, hlt⟩⟩

theorem step_session {s : Session} (hm : joinedWith m s) (hj : isJoin ev = false)
    (h : step g (m, rs) ev = .ok ((m', rs'), out)) : InSession s m' out := by
  unfold step at h
  cases ev with
  | joinAbp da nwk app => cases hj
  | joinOtaa fault rx1 rx2 mp1 mp2 => cases hj
  | setAdr on =>
    cases Except.pure_eq_ok h
    obtain ⟨cnt, e⟩ := (macSetAdr_st m on).1 s hm
    exact ⟨_, e, ⟨rfl, Nat.le_refl _, id⟩, fun _ _ _ e => (nomatch e)⟩
  | setDr dr =>
    cases Except.pure_eq_ok h
    exact ⟨s, hm, .refl s, fun _ _ _ e => (nomatch e)⟩
  | rxc v snr mp =>
    obtain ⟨rf, _, h⟩ := Except.bind_eq_ok h
    obtain ⟨⟨o, m1⟩, hrx, h⟩ := Except.bind_eq_ok h
    cases Except.pure_eq_ok h
    obtain ⟨_, s', _, hj', hs⟩ := macHandleRx_session hm hrx
    exact ⟨s', hj', hs.later, fun _ _ _ e => (nomatch e)⟩
  | uplink data fport conf fault rx1 rx2 mp1 mp2 =>
    obtain ⟨⟨o, m1, rs1⟩, hsend, h⟩ := Except.bind_eq_ok h
    obtain ⟨so, rfl, -, hfr, hj1, -, -⟩ := macSend_sent hm hsend
    have hl1 := sentSession_later s conf
    cases fault with
    | some k =>
      obtain ⟨m2, hfc, h⟩ := Except.bind_eq_ok h
      cases Except.pure_eq_ok h
      obtain ⟨s2, hj2, hl2⟩ :=
        faultedCycle_wp .post (keptRx_later _) m1 k rx1 rx2 mp1 mp2 ⟨_, hj1, .refl _⟩ nofun nofun m2 hfc
      obtain ⟨s3, hj3, hl3, hlt⟩ := fault_session hj2
      exact .up hfr hj3 (hl1.trans (hl2.trans hl3)) fun hr => Nat.lt_of_le_of_lt hl2.le (hlt hr)
    | none =>
      obtain ⟨⟨r, dl, m2⟩, hcy, h⟩ := Except.bind_eq_ok h
      cases Except.pure_eq_ok h
      obtain ⟨s2, hj2, ha⟩ := classACycle_session hj1 hcy
      exact .up hfr hj2 (hl1.trans ha.later) fun hr => ha.lt fun e => hr (e ▸ rfl)

theorem step_notJoined (hm : ∀ s, m.st ≠ .joined s) (hj : isJoin ev = false)
    (h : step g (m, rs) ev = .ok ((m', rs'), out)) :
    m'.st = m.st ∧ ∀ o r d, out ≠ .up o r d := by
  cases ev with
  | joinAbp da nwk app => cases hj
  | joinOtaa fault rx1 rx2 mp1 mp2 => cases hj
  | setAdr on => unfold step at h; cases Except.pure_eq_ok h; exact ⟨(macSetAdr_st m on).2 hm, fun _ _ _ e => (nomatch e)⟩
  | setDr dr => unfold step at h; cases Except.pure_eq_ok h; exact ⟨rfl, fun _ _ _ e => (nomatch e)⟩
  | rxc v snr mp =>
    obtain ⟨rfl, _, _, _, rfl⟩ := step_rxc_notJoined g m m' rs rs' hm v snr mp out h
    exact ⟨rfl, fun _ _ _ e => (nomatch e)⟩
  | uplink data fport conf fault rx1 rx2 mp1 mp2 =>
    obtain ⟨rfl, _, rfl⟩ := step_uplink_notJoined g m m' rs rs' hm data fport conf fault rx1 rx2 mp1 mp2 out h
    exact ⟨rfl, fun _ _ _ e => (nomatch e)⟩

end

/-- **within a session, address and keys never change**: a step that is not a (re-)join leaves a
joined MAC joined with the same DevAddr and the same key identities, and an uplink it hands to the
radio carries that DevAddr -/
theorem step_session_id {σ} (g : Rng σ) (m m' : MacState) (rs rs' : σ) (ev : Ev) (out : Out) (s : Session)
    (hm : joinedWith m s) (hj : isJoin ev = false) (h : step g (m, rs) ev = .ok ((m', rs'), out)) :
    (∃ s', joinedWith m' s' ∧ sid s' = sid s) ∧ ∀ o r d, out = .up o r d → o.frame.devAddr = s.devAddr := by
  obtain ⟨s', hj', hl, hup⟩ := step_session hm hj h
  exact ⟨⟨s', hj', hl.sid⟩, fun o r d e => (hup o r d e).2.1⟩

theorem rel_session {m m' : MacState} {s : Session} {b : Option Nat} {out : Out} (hr : Rel m b) (hm : joinedWith m s)
    (h : InSession s m' out) : Respects b out ∧ Rel m' (after b false out) := by
  obtain ⟨s', hj', hl, hup⟩ := h
  refine ⟨fun o r d e lo hlo => (hup o r d e).1 ▸ hr lo hlo s hm, ?_⟩
  cases out with
  | up o r d =>
    obtain ⟨hf, _, hlt⟩ := hup o r d rfl
    simp only [after]
    cases he : expiredResp r
    · exact rel_of_joined hj' (hf ▸ hlt (expiredResp_false.1 he))
    · exact rel_none m'
  | _ => exact fun lo e s'' hs'' => by cases hj'.symm.trans hs''; exact Nat.le_trans (hr lo e s hm) hl.le

theorem step_rel {σ} {g : Rng σ} {m m' : MacState} {rs rs' : σ} {ev : Ev} {out : Out} {b : Option Nat} (hr : Rel m b)
    (h : step g (m, rs) ev = .ok ((m', rs'), out)) : Respects b out ∧ Rel m' (after b (isJoin ev) out) := by
  cases hj : isJoin ev with
  | true => exact rel_quiet (step_join hj h).2 (rel_zero m')
  | false =>
    by_cases hjn : ∃ s, joinedWith m s
    · obtain ⟨s, hm⟩ := hjn
      exact rel_session hr hm (step_session hm hj h)
    · obtain ⟨hst, hout⟩ := step_notJoined (fun s e => hjn ⟨s, e⟩) hj h
      exact rel_quiet hout fun lo e s hs => hr lo e s (hst ▸ hs)

/-- the `Ev` an extended event is read as by `FcntStrict` (only `isJoin` matters) -/
def projEv : EvC → Ev
  | .base e => e
  | .uplinkC _ data fport conf _ _ rx1 _ rx2 => .uplink data fport conf none rx1 rx2 0 0
  | .joinC _ _ _ rx1 _ rx2 => .joinOtaa none rx1 rx2 0 0

theorem stepC_uplinkC_session {σ} {g : Rng σ} {m m' : MacState} {rs rs' : σ} {s : Session} (hm : joinedWith m s)
    {cc : Bool} {data : List Nat} {fport : Nat} {conf : Bool} {fault : Option FaultPos} {c1 c2 : List (RxView × Int)}
    {rx1 rx2 : Option (RxView × Int)} {oc : OutC}
    (h : stepC g (m, rs) (.uplinkC cc data fport conf fault c1 rx1 c2 rx2) = .ok ((m', rs'), oc)) :
    InSession s m' oc.out := by
  unfold stepC at h
  obtain ⟨⟨o, m1, rs1⟩, hsend, hk⟩ := Except.bind_eq_ok h
  obtain ⟨so, rfl, -, hfr, hj1, -, -⟩ := macSend_sent hm hsend
  obtain ⟨⟨fin, heard, m2⟩, hcy, hk2⟩ := Except.bind_eq_ok hk
  obtain ⟨s2, hj2, hl2, hresp⟩ := cycleC_session hj1 hcy
  have hl := (sentSession_later s conf).trans hl2
  cases fin with
  | resp ro =>
    cases Except.pure_eq_ok hk2
    exact .up hfr hj2 hl fun hr => hresp ro rfl fun e => hr (e ▸ rfl)
  | complete =>
    cases Except.pure_eq_ok hk2
    obtain ⟨s3, hj3, ha3⟩ := macRx2Complete_session hj2
    exact .up hfr hj3 (hl.trans ha3.later) fun hr => Nat.lt_of_le_of_lt hl2.le (ha3.lt fun e => hr (e ▸ rfl))
  | cut =>
    cases Except.pure_eq_ok hk2
    obtain ⟨s3, hj3, hl3, hlt⟩ := fault_session hj2
    exact .up hfr hj3 (hl.trans hl3) fun hr => Nat.lt_of_le_of_lt hl2.le (hlt hr)

theorem stepC_rel {σ} {g : Rng σ} {m m' : MacState} {rs rs' : σ} {ev : EvC} {oc : OutC} {b : Option Nat} (hr : Rel m b)
    (h : stepC g (m, rs) ev = .ok ((m', rs'), oc)) : Respects b oc.out ∧ Rel m' (after b (isJoin (projEv ev)) oc.out) := by
  cases ev with
  | base e => exact step_rel hr (stepC_base g _ _ e oc h).1
  | joinC cc fault c1 rx1 c2 rx2 =>
    exact step_rel (ev := joinPlain fault rx1 rx2) hr (stepC_joinC_plain g _ _ cc fault c1 rx1 c2 rx2 oc h).1
  | uplinkC cc data fport conf fault c1 rx1 c2 rx2 =>
    by_cases hjn : ∃ s, joinedWith m s
    · obtain ⟨s, hm⟩ := hjn
      exact rel_session hr hm (stepC_uplinkC_session hm h)
    · obtain ⟨rfl, _, rfl⟩ :=
        stepC_uplinkC_notJoined g m m' rs rs' (fun s e => hjn ⟨s, e⟩) cc data fport conf fault c1 rx1 c2 rx2 oc h
      exact ⟨fun _ _ _ e => (nomatch e), hr⟩

theorem runC_fcnt_strict {σ} (g : Rng σ) (m : MacState) (rs : σ) (evs : List EvC) (ms' : MacState × σ) (ocs : List OutC)
    (b : Option Nat) (hr : Rel m b) (h : runC g (m, rs) evs = .ok (ms', ocs)) :
    FcntStrict b ((evs.map projEv).zip (ocs.map (fun oc => oc.out))) := by
  induction evs generalizing m rs b ocs with
  | nil => trivial
  | cons ev rest ih =>
    obtain ⟨⟨m1, rs1⟩, o, os, hstep, hrun, rfl⟩ := runC_cons_iff.mp h
    obtain ⟨hok, hr1⟩ := stepC_rel hr hstep
    exact fcntStrict_cons.2 ⟨hok, ih m1 rs1 os _ hr1 hrun⟩

theorem run_fcnt_strict {σ} (g : Rng σ) (m : MacState) (rs : σ) (evs : List Ev) (ms' : MacState × σ) (outs : List Out)
    (b : Option Nat) (hr : Rel m b) (h : run g (m, rs) evs = .ok (ms', outs)) : FcntStrict b (evs.zip outs) := by
  have := runC_fcnt_strict g m rs _ ms' _ b hr (runC_base g _ _ evs outs h)
  simpa only [List.map_map, Function.comp_def, projEv, List.map_id'] using this

/-- **over every history, the uplink counters handed to the radio within one session are strictly
increasing until the device reports `SessionExpired`** — whatever frames are received in RX1/RX2 or
between uplinks (Class C), wherever radio faults strike, from ANY start state (in particular the
initial one), for every random stream.  A (re-)join starts a new session. -/
theorem history_fcnt_strict {σ} (g : Rng σ) (m : MacState) (rs : σ) (evs : List Ev) (ms' : MacState × σ)
    (outs : List Out) (h : run g (m, rs) evs = .ok (ms', outs)) : FcntStrict (some 0) (evs.zip outs) :=
  run_fcnt_strict g m rs evs ms' outs (some 0) (rel_zero m) h

/-- … and from a state with a live session: every uplink carries at least that session's counter -/
theorem history_fcnt_from {σ} (g : Rng σ) (m : MacState) (s : Session) (hm : joinedWith m s) (rs : σ) (evs : List Ev)
    (ms' : MacState × σ) (outs : List Out) (h : run g (m, rs) evs = .ok (ms', outs)) :
    FcntStrict (some s.fcntUp) (evs.zip outs) :=
  run_fcnt_strict g m rs evs ms' outs _ (rel_of_joined hm (Nat.le_refl _)) h

/-- position `k` of a trace neither (re-)joins nor reports expiry -/
def Quiet (t : List (Ev × Out)) (k : Nat) : Prop :=
  ∀ e o, t[k]? = some (e, o) → isJoin e = false ∧ ∀ so d, o ≠ .up so (some .sessionExpired) d

theorem after_quiet {b : Option Nat} {out : Out} {lo : Nat} (hb : b = some lo) (hok : Respects b out)
    (hq : ∀ so d, out ≠ .up so (some .sessionExpired) d) : ∃ lo', after b false out = some lo' ∧ lo ≤ lo' := by
  cases out with
  | up o r d =>
    have : expiredResp r = false := expiredResp_false.2 fun e => hq o d (e ▸ rfl)
    exact ⟨_, by simp only [after, this, Bool.false_eq_true, if_false], Nat.le_succ_of_le (hok o r d rfl lo hb)⟩
  | _ => exact ⟨lo, hb, Nat.le_refl _⟩

theorem fcntStrict_bound {t : List (Ev × Out)} {lo j : Nat} {e : Ev} {so : SendOut} {r : Option Response}
    {d : Option (Nat × List Nat)} (h : FcntStrict (some lo) t) (hj : t[j]? = some (e, .up so r d))
    (hq : ∀ k, k < j → Quiet t k) : lo ≤ so.frame.fcnt := by
  induction t generalizing lo j with
  | nil => cases hj
  | cons x rest ih =>
    obtain ⟨hok, h⟩ := fcntStrict_cons.1 h
    cases j with
    | zero => cases hj; exact hok so r d rfl lo rfl
    | succ j =>
      obtain ⟨hq1, hq2⟩ := hq 0 (Nat.succ_pos _) x.1 x.2 rfl
      obtain ⟨lo', e', hle⟩ := after_quiet rfl hok hq2
      rw [hq1, e'] at h
      exact Nat.le_trans hle (ih h hj fun k hk => hq (k + 1) (Nat.succ_lt_succ hk))

/-- of two uplinks of a trace with only quiet positions from the first up to the second, the second
carries the larger counter -/
theorem fcntStrict_lt {t : List (Ev × Out)} {b : Option Nat} {i j : Nat} {ei ej : Ev} {oi oj : SendOut}
    {ri rj : Option Response} {di dj : Option (Nat × List Nat)} (h : FcntStrict b t) (hij : i < j)
    (hi : t[i]? = some (ei, .up oi ri di)) (hj : t[j]? = some (ej, .up oj rj dj))
    (hq : ∀ k, i ≤ k → k < j → Quiet t k) : oi.frame.fcnt < oj.frame.fcnt := by
  induction t generalizing b i j with
  | nil => cases hi
  | cons x rest ih =>
    obtain ⟨_, h⟩ := fcntStrict_cons.1 h
    cases j with
    | zero => cases hij
    | succ j =>
      cases i with
      | zero =>
        have hr := (hq 0 (Nat.le_refl 0) hij _ _ hi).2 oi di
        cases hi
        rw [show after b (isJoin ei) (.up oi ri di) = some (oi.frame.fcnt + 1) by
          simp only [after, expiredResp_false.2 fun e => hr (e ▸ rfl), Bool.false_eq_true, if_false]] at h
        exact fcntStrict_bound h hj fun k hk => hq (k + 1) (Nat.zero_le _) (Nat.succ_lt_succ hk)
      | succ i =>
        exact ih h (Nat.lt_of_succ_lt_succ hij) hi hj fun k h1 h2 => hq (k + 1) (Nat.succ_le_succ h1) (Nat.succ_lt_succ h2)

/-- **no counter is ever reused within a session.**  Take any history and any two uplinks of it, the
`i`-th and the `j`-th event (`i < j`), with no (re-)join and no reported `SessionExpired` from `i` up
to (excluding) `j`: the later frame carries a strictly larger 32-bit counter — so no
(session key, DevAddr, FCnt) triple is handed to the radio twice. -/
theorem history_no_counter_reuse {σ} (g : Rng σ) (m : MacState) (rs : σ) (evs : List Ev) (ms' : MacState × σ)
    (outs : List Out) (h : run g (m, rs) evs = .ok (ms', outs)) (i j : Nat) (hij : i < j)
    (ei ej : Ev) (oi oj : SendOut) (ri rj : Option Response) (di dj : Option (Nat × List Nat))
    (hi : (evs.zip outs)[i]? = some (ei, .up oi ri di)) (hj : (evs.zip outs)[j]? = some (ej, .up oj rj dj))
    (hq : ∀ k, i ≤ k → k < j → Quiet (evs.zip outs) k) : oi.frame.fcnt < oj.frame.fcnt :=
  fcntStrict_lt (history_fcnt_strict g m rs evs ms' outs h) hij hi hj hq

/-- … hence along every join-free stretch of a history: same DevAddr, same keys, on every uplink -/
theorem history_session_id {σ} (g : Rng σ) (m : MacState) (rs : σ) (evs : List Ev) (ms' : MacState × σ) (outs : List Out)
    (s : Session) (hm : joinedWith m s) (hj : ∀ ev ∈ evs, isJoin ev = false)
    (h : run g (m, rs) evs = .ok (ms', outs)) :
    (∃ s', joinedWith ms'.1 s' ∧ sid s' = sid s) ∧ ∀ o r d, Out.up o r d ∈ outs → o.frame.devAddr = s.devAddr := by
  obtain ⟨hI, hQ⟩ := run_invariant g (fun m => ∃ s', joinedWith m s' ∧ sid s' = sid s) (fun ev => isJoin ev = false)
    (fun out => ∀ o r d, out = .up o r d → o.frame.devAddr = s.devAddr)
    (fun m rs ev m' rs' out ⟨s1, hj1, hs1⟩ hv hs => by
      obtain ⟨⟨s2, hj2, hs2⟩, hup⟩ := step_session_id g m m' rs rs' ev out s1 hj1 hv hs
      exact ⟨⟨s2, hj2, hs2.trans hs1⟩, fun o r d e => (hup o r d e).trans (congrArg Prod.fst hs1)⟩)
    m rs evs ms' outs ⟨s, hm, rfl⟩ hj h
  exact ⟨hI, fun o r d ho => hQ _ ho o r d rfl⟩

def Bounded (m : MacState) : Prop := ∀ s, m.st = .joined s → s.fcntUp ≤ 0xFFFFFFFF

theorem step_bounded {σ} {g : Rng σ} {m m' : MacState} {rs rs' : σ} {ev : Ev} {out : Out} (hb : Bounded m)
    (h : step g (m, rs) ev = .ok ((m', rs'), out)) :
    Bounded m' ∧ ∀ o r d, out = .up o r d → o.frame.fcnt ≤ 0xFFFFFFFF := by
  cases hj : isJoin ev with
  | true =>
    obtain ⟨h0, hout⟩ := step_join hj h
    exact ⟨fun s' e => h0 s' e ▸ Nat.zero_le _, fun o r d e => absurd e (hout o r d)⟩
  | false =>
    by_cases hjn : ∃ s, joinedWith m s
    · obtain ⟨s, hm⟩ := hjn
      obtain ⟨s', hj', hl, hup⟩ := step_session hm hj h
      exact ⟨fun s'' e => by cases hj'.symm.trans e; exact hl.fits (hb s hm), fun o r d e => (hup o r d e).1 ▸ hb s hm⟩
    · obtain ⟨hst, hout⟩ := step_notJoined (fun s e => hjn ⟨s, e⟩) hj h
      exact ⟨fun s e => hb s (hst ▸ e), fun o r d e => absurd e (hout o r d)⟩

/-- **the counter never wraps**: from any state whose counter fits 32 bits (the initial state, any
fresh session) every uplink of every history carries a counter ≤ 2^32 − 1 — at 2^32 − 1 the device
reports `SessionExpired` and the counter stands (`cycle_fcnt`, `fault_fcnt`) -/
theorem history_fcnt_32bit {σ} (g : Rng σ) (m : MacState) (rs : σ) (evs : List Ev) (ms' : MacState × σ) (outs : List Out)
    (hb : Bounded m) (h : run g (m, rs) evs = .ok (ms', outs)) :
    ∀ o r d, Out.up o r d ∈ outs → o.frame.fcnt ≤ 0xFFFFFFFF :=
  fun o r d ho => (run_invariant g Bounded (fun _ => True) (fun out => ∀ o r d, out = .up o r d → o.frame.fcnt ≤ 0xFFFFFFFF)
    (fun _ _ _ _ _ _ hb _ hs => step_bounded hb hs) m rs evs ms' outs hb (fun _ _ => trivial) h).2
    _ ho o r d rfl

theorem init_bounded (r : RegionState) (maxPower : Nat) (gain : Int) : Bounded (MacState.init r maxPower gain) := by
  intro s hs; cases hs

/-- **an expiry INSIDE the receive procedure is reported by the procedure.**  `send` + receive procedure
of a device with a session, either class, any frames, any fault position: if the uplink went out with
the last counter, or ANY frame handled during the procedure — on the RXC parameters before RX1 or
before RX2, or in a window — was answered `SessionExpired` (the `heard` list), then the procedure as a
whole reports `SessionExpired` to the application.  So the point where `FcntStrict` (and the property:
"until the device reports SessionExpired") drops its claim is never missed because the exhaustion
happened in the middle of a procedure.  (Reference level: `Lemmas/ExpiredC.lean`.) -/
theorem stepC_expired_reported {σ} (g : Rng σ) (m m' : MacState) (rs rs' : σ) (s : Session) (hst : m.st = .joined s)
    (hl : LastOk s.fcntDown) (cc : Bool) (data : List Nat) (fport : Nat) (conf : Bool) (fault : Option FaultPos)
    (c1 : List (RxView × Int)) (rx1 : Option (RxView × Int)) (c2 : List (RxView × Int)) (rx2 : Option (RxView × Int))
    (hv : evOkC (.uplinkC cc data fport conf fault c1 rx1 c2 rx2) = true) (out : OutC)
    (h : stepC g (m, rs) (.uplinkC cc data fport conf fault c1 rx1 c2 rx2) = .ok ((m', rs'), out))
    (hx : s.fcntUp = 0xFFFFFFFF ∨ ∃ o ∈ out.heard, o.resp = .sessionExpired) :
    ∃ so dl, out.out = .up so (some .sessionExpired) dl := by
  obtain ⟨gh, hr⟩ : ∃ gh, GhRel m gh := ⟨some s.fcntDown, s, hst, rfl, hl⟩
  cases stepC_cases g hr hv h with
  | upIdle hn => exact absurd hst (hn s)
  | upC hst' _ hs =>
    cases hst.symm.trans hst'
    rw [show s.fcntUp = _ from (congrArg UplinkDesc.fcnt hs.frame).symm] at hx
    have hres : (upRefC cc s.fcntDown conf (rxcMp m) fault c1 rx1 c2 rx2 _).resp = some .sessionExpired :=
      refUplink_expired cc ⟨s.fcntDown, _⟩ conf (rxcMp m) fault c1 rx1 c2 rx2 _ _ hx
    exact ⟨_, _, by rw [hres]⟩

/-- **… at every position of every extended history**: an event whose `heard` list contains
`SessionExpired` reports `SessionExpired` itself -/
theorem historyC_expired_reported {σ} (g : Rng σ) (m : MacState) (rs : σ) (gh : Gh) (hr : GhRel m gh) (evs : List EvC)
    (hv : ∀ ev ∈ evs, evOkC ev = true) (ms' : MacState × σ) (outs : List OutC) (h : runC g (m, rs) evs = .ok (ms', outs))
    (i : Nat) (mpc : Nat) (cc : Bool) (data : List Nat) (fport : Nat) (conf : Bool) (fault : Option FaultPos)
    (c1 : List (RxView × Int)) (rx1 : Option (RxView × Int)) (c2 : List (RxView × Int)) (rx2 : Option (RxView × Int)) (out : OutC)
    (hi : ((annotC g (m, rs) evs).zip outs)[i]? = some ((mpc, .uplinkC cc data fport conf fault c1 rx1 c2 rx2), out))
    (hx : ∃ o ∈ out.heard, o.resp = .sessionExpired) :
    ∃ so dl, out.out = .up so (some .sessionExpired) dl := by
  have hc := runC_chain g (m, rs) ms' evs outs h
  obtain ⟨⟨mi, rsi⟩, ⟨mi', rsi'⟩, h1, _, hstep, _⟩ := chainC_at g (m, rs) ms' _ i _ out hc hi
  have hvz : ∀ x ∈ (annotC g (m, rs) evs).zip outs, evOkC x.1.2 = true := fun x hx => hv _ (mem_annot_zip g _ evs outs x hx)
  have hri := chainC_ghRel g (m, rs) (mi, rsi) _ gh hr (fun x hx => hvz x (List.mem_of_mem_take hx)) h1
  have hve := hvz _ (List.mem_of_getElem? hi)
  simp only at hve hstep hri
  generalize ghostAfterG ghNextC gh (((annotC g (m, rs) evs).zip outs).take i) = gi at hri
  cases stepC_cases g hri hve hstep with
  | upIdle => obtain ⟨o, ho, _⟩ := hx; cases ho
  | upC hst hl =>
    exact stepC_expired_reported g mi mi' rsi rsi' _ hst hl cc data fport conf fault c1 rx1 c2 rx2 hve _ hstep (Or.inr hx)

/-! ## the MAC functions one by one

The property's statement on each MAC function, in its own terms (repackagings of `Advanced.fcnt`); the histories above
rest on `Props/C06/Session.lean` directly. -/

theorem rx2Complete_fcnt (s : Session) (cfg : Config) (r : RegionId) :
    (s.fcntUp = 0xFFFFFFFF → rx2Complete s cfg r = (.sessionExpired, s, cfg)) ∧
    (s.fcntUp ≠ 0xFFFFFFFF → (rx2Complete s cfg r).2.1.fcntUp = s.fcntUp + 1 ∧ (rx2Complete s cfg r).1 ≠ .sessionExpired
        ∧ (rx2Complete s cfg r).1 ≠ .noUpdate) := by
  constructor
  · intro h
    rw [rx2Complete_eq, tmoResp, bumpFu, if_pos h, if_pos h, if_pos h, if_neg (fun e => e.1 h)]
  · intro h
    have ha := rx2Complete_advanced s cfg r
    rcases ha.fcnt with ⟨_, h2, h3⟩ | ⟨h1, _⟩
    · exact ⟨h2, h3, ha.resp⟩
    · exact absurd h1 h

theorem handleRx_fcnt (s : Session) (cfg : Config) (region : RegionState) (d : RxData) (mp : Nat) (snr : Int)
    (ig : Bool) (o : RxOut) (s' : Session) (cfg' : Config) (region' : RegionState)
    (h : sessionHandleRx s cfg region d mp snr ig = .ok (o, s', cfg', region')) :
    (o.resp = .noUpdate ∧ s'.fcntUp = s.fcntUp)
    ∨ (o.resp ≠ .noUpdate ∧ o.resp ≠ .sessionExpired ∧ s'.fcntUp = s.fcntUp + 1 ∧ s.fcntUp ≠ 0xFFFFFFFF)
    ∨ (o.resp = .sessionExpired ∧ s'.fcntUp = s.fcntUp ∧ s.fcntUp = 0xFFFFFFFF) := by
  rcases sessionHandleRx_step h with ⟨h1, rfl⟩ | ha
  · exact Or.inl ⟨h1, rfl⟩
  · rcases ha.fcnt with ⟨h1, h2, h3⟩ | ⟨h1, h2, h3⟩
    · exact Or.inr (Or.inl ⟨ha.resp, h3, h2, h1⟩)
    · exact Or.inr (Or.inr ⟨h3, h2, h1⟩)

/-- the uplink handed to the radio carries the session's counter; building it leaves the counter alone -/
theorem send_uses_fcnt (s : Session) (cfg : Config) (r : RegionId) (data : List Nat) (port : Nat) (conf : Bool)
    (desc : UplinkDesc) (s' : Session) (h : prepareBuffer s cfg r data port conf = .ok (desc, s')) :
    desc.fcnt = s.fcntUp ∧ s'.fcntUp = s.fcntUp ∧ s'.fcntDown = s.fcntDown ∧ desc.devAddr = s.devAddr := by
  obtain ⟨rfl, rfl⟩ := prepareBuffer_ok s cfg r data port conf desc s' h
  exact ⟨rfl, rfl, rfl, rfl⟩

theorem window_fcnt (m : MacState) (s : Session) (hm : joinedWith m s) (f : Option (RxView × Int)) (mp : Nat)
    (o : Option RxOut) (m' : MacState) (h : window m f mp = .ok (o, m')) :
    ∃ s', joinedWith m' s' ∧
      ((o = none ∧ s'.fcntUp = s.fcntUp)
       ∨ (∃ out, o = some out ∧ out.resp ≠ .sessionExpired ∧ s'.fcntUp = s.fcntUp + 1 ∧ s.fcntUp ≠ 0xFFFFFFFF)
       ∨ (∃ out, o = some out ∧ out.resp = .sessionExpired ∧ s'.fcntUp = s.fcntUp ∧ s.fcntUp = 0xFFFFFFFF)) := by
  obtain ⟨s', hj, ⟨rfl, rfl⟩ | ⟨out, rfl, ha⟩⟩ := window_session hm h
  · exact ⟨_, hj, Or.inl ⟨rfl, rfl⟩⟩
  · refine ⟨s', hj, Or.inr ?_⟩
    rcases ha.fcnt with ⟨h1, h2, h3⟩ | ⟨h1, h2, h3⟩
    · exact Or.inl ⟨out, rfl, h3, h2, h1⟩
    · exact Or.inr ⟨out, rfl, h3, h2, h1⟩

/-- **every complete Class A receive procedure advances the uplink counter by exactly one, or
reports session expiry with the counter exhausted — it never wraps and never stands still.** -/
theorem cycle_fcnt (m : MacState) (s : Session) (hm : joinedWith m s) (rx1 rx2 : Option (RxView × Int)) (mp1 mp2 : Nat)
    (r : Response) (dl : Option (Nat × List Nat)) (m' : MacState)
    (h : classACycle m rx1 rx2 mp1 mp2 = .ok (r, dl, m')) :
    ∃ s', joinedWith m' s' ∧
      ((s.fcntUp ≠ 0xFFFFFFFF ∧ s'.fcntUp = s.fcntUp + 1 ∧ r ≠ .sessionExpired)
       ∨ (s.fcntUp = 0xFFFFFFFF ∧ s'.fcntUp = s.fcntUp ∧ r = .sessionExpired)) := by
  obtain ⟨s', hj, ha⟩ := classACycle_session hm h
  exact ⟨s', hj, ha.fcnt⟩

/-- a radio fault after the frame was handed to the radio burns the counter as well -/
theorem fault_fcnt (m : MacState) (s : Session) (hm : joinedWith m s) :
    ∃ s', joinedWith (faultAfterTx m) s' ∧
      ((s.fcntUp ≠ 0xFFFFFFFF ∧ s'.fcntUp = s.fcntUp + 1) ∨ (s.fcntUp = 0xFFFFFFFF ∧ s'.fcntUp = s.fcntUp)) := by
  obtain ⟨s', hj, ha⟩ := macRx2Complete_session hm
  exact ⟨s', hj, ha.fcnt.imp (fun h => ⟨h.1, h.2.1⟩) (fun h => ⟨h.1, h.2.1⟩)⟩

/-- the boundary of the claim: a device that is used on after it reported expiry sends counter
2^32 − 1 again (the application must re-join; the stack does not refuse the `send`) -/
theorem send_after_expiry_reuses {σ} (g : Rng σ) (m : MacState) (s : Session) (hm : joinedWith m s)
    (hx : s.fcntUp = 0xFFFFFFFF) (data : List Nat) (port : Nat) (conf : Bool) (rs rs' : σ) (o : Option SendOut) (m' : MacState)
    (h : macSend g m data port conf rs = .ok (o, m', rs')) : ∃ out, o = some out ∧ out.frame.fcnt = 0xFFFFFFFF := by
  obtain ⟨out, ho, hs⟩ := macSend_sent hm h
  exact ⟨out, ho, by rw [hs.frame]; exact hx⟩

/-- a call that (re)starts activation -/
def _root_.Model.AsyncOp.isJoin : AsyncOp → Bool
  | .join _ | .abp _ _ _ => true
  | _ => false

/-- **`FcntStrict` on what the application and the radio see of an async session**: each data frame
handed to the radio (`OpObs.frame`, see `sentFrame`) carries a counter at or above the bound; after a
frame with counter `n` the bound is `n + 1`, until a call returns `SessionExpired` (no claim after that);
`join` / ABP activation start a new session at 0 -/
def FcntStrictObs : Option Nat → List (AsyncOp × OpObs) → Prop
  | _, [] => True
  | b, (op, ob) :: rest =>
    match ob.frame with
    | some f =>
      (∀ lo, b = some lo → lo ≤ f.fcnt) ∧
        FcntStrictObs (if ob.res == some (.ok .sessionExpired) then none else some (f.fcnt + 1)) rest
    | none => if op.isJoin then FcntStrictObs (some 0) rest else FcntStrictObs b rest

theorem isJoin_abstractOp (cfg : DevCfg) (op : AsyncOp) : isJoin (projEv (abstractOp cfg op)) = op.isJoin := by
  cases op with
  | send d p c script => simp only [abstractOp, abstractSendC]; split <;> rfl
  | join script => simp only [abstractOp, abstractJoinC]; split <;> rfl
  | _ => rfl

theorem okExpired_eq (res : DevResult) : (some res == some (DevResult.ok .sessionExpired)) = expiredResp res.resp? := by
  cases res with
  | ok r => cases r <;> rfl
  | _ => rfl

theorem fcntStrict_obs (cfg : DevCfg) (ops : List AsyncOp) (obs : List OpObs) (ocs : List OutC) (b : Option Nat)
    (hrel : AllRel ObsRel obs ocs) (hlen : ops.length = obs.length)
    (h : FcntStrict b (((ops.map (abstractOp cfg)).map projEv).zip (ocs.map (fun oc => oc.out)))) :
    FcntStrictObs b (ops.zip obs) := by
  induction hrel generalizing ops b with
  | nil => cases ops <;> trivial
  | @cons ob oc obs' ocs' hab _ ih =>
    cases ops with
    | nil => cases hlen
    | cons op rest =>
      simp only [List.map_cons, List.zip_cons_cons] at h
      obtain ⟨hok, h⟩ := fcntStrict_cons.1 h
      have ih := ih rest _ (Nat.succ.inj hlen) h
      obtain ⟨hres, hframe⟩ := hab
      rw [isJoin_abstractOp] at ih
      rw [List.zip_cons_cons]
      unfold FcntStrictObs
      rw [hframe]
      cases hout : oc.out with
      | up so resp dl =>
        rw [hout] at hok ih hres
        cases hr : ob.res with
        | none => rw [hr] at hres; cases hres
        | some res =>
          rw [hr] at hres
          cases hres
          exact ⟨hok so _ dl rfl, okExpired_eq res ▸ ih⟩
      | _ =>
        rw [hout] at ih
        cases hj : op.isJoin <;> simp only [hj, Out.frame?, after, if_true, if_false, Bool.false_eq_true] at ih ⊢ <;> exact ih

theorem allRel_length {α β : Type} {R : α → β → Prop} {l1 : List α} {l2 : List β} (h : AllRel R l1 l2) :
    l1.length = l2.length :=
  h.length

/-- **the frames the async front-end hands to the radio carry strictly increasing counters within a
session, for every script.**  Any device state, either class, any list of application calls, each
`send` / `join` under ANY script of radio answers (errors at any call, frames in any window, Class C
frames between the windows): every data frame handed to the radio carries a counter strictly above the
previous one of the same session, until a call returns `SessionExpired`; `join` / ABP start a new
session. -/
theorem async_fcnt_strict {σ} (g : Rng σ) (cfg : DevCfg) (d : DevRun) (rs : σ) (ops : List AsyncOp) (obs : List OpObs)
    (d' : DevRun) (rs' : σ) (h : asyncOps g cfg d rs ops = .ok (obs, d', rs')) : FcntStrictObs (some 0) (ops.zip obs) := by
  obtain ⟨⟨ms', ocs⟩, hrun, hrel⟩ := (asyncOps_sim g cfg d rs ops).elim_ok h
  have hs := runC_fcnt_strict g d.m rs _ ms' ocs (some 0) (rel_zero d.m) hrun
  have hlen : ops.length = obs.length := by
    rw [hrel.obs.length, runC_outs_length g _ _ _ _ hrun, List.length_map]
  exact fcntStrict_obs cfg ops obs ocs (some 0) hrel.obs hlen hs

/-! ## the non-blocking front-end

A frame is shown when its exchange starts and the history event happens when it completes: in between the bound is a
promise (`Promise`) about what the completed exchange will leave (`owed`). -/

/-- what one event of the non-blocking machine shows to the radio and the application -/
structure NbObs where
  /-- the data frame handed to the radio: a `send` in `Idle` that the MAC accepts (`sentFrame`) -/
  frame : Option UplinkDesc
  /-- a `join` in `Idle` (the MAC drops the session at once) -/
  joinStart : Bool
  resp : NbResp

def nbObsOf {σ} (g : Rng σ) (r : NbRun) (rs : σ) (ev : NbEvent) (resp : NbResp) : NbObs :=
  { frame := (match r.st, ev with
      | .idle, .send d p c => sentFrame g r.m d p c rs
      | _, _ => none),
    joinStart := (match r.st, ev with
      | .idle, .join => true
      | _, _ => false),
    resp := resp }

/-- a session of the non-blocking device with what each event shows -/
def nbRunObs {σ} (g : Rng σ) (cfg : NbCfg) : NbRun → σ → List (NbEvent × List NbItem) → M (List NbObs × NbRun × σ)
  | r, rs, [] => pure ([], r, rs)
  | r, rs, (ev, items) :: rest => do
    let (resp, r', rs') ← nbEvent g cfg r rs ev items
    let (obs, r'', rs'') ← nbRunObs g cfg r' rs' rest
    pure (nbObsOf g r rs ev resp :: obs, r'', rs'')

def nextBound (b : Option Nat) (ob : NbObs) : Option Nat :=
  if ob.resp == .mac .sessionExpired then none
  else match ob.frame with
    | some f => some (f.fcnt + 1)
    | none => if ob.joinStart then some 0 else b

/-- **`FcntStrict` on the events of the non-blocking machine**: each data frame handed to the radio
carries a counter at or above the bound; after a frame with counter `n` the bound is `n + 1`, until
`SessionExpired` is reported (no claim after that); a `join` accepted in `Idle` starts a new session -/
def FcntStrictNb : Option Nat → List NbObs → Prop
  | _, [] => True
  | b, ob :: rest => (∀ f lo, ob.frame = some f → b = some lo → lo ≤ f.fcnt) ∧ FcntStrictNb (nextBound b ob) rest

/-- the bound an exchange of kind `k` begun in state `pre` leaves when it completes without reporting
expiry: past its own frame, or 0 for a join -/
def owed {σ} (g : Rng σ) (pre : MacState × σ) : Option (List Nat × Nat × Bool) → Option Nat
  | some (d, p, c) => (sentFrame g pre.1 d p c pre.2).map (·.fcnt + 1)
  | none => some 0

/-- the bound stays below what the exchange in progress will leave -/
def Promise {σ} (g : Rng σ) (pre : MacState × σ) (b : Option Nat) (k : Option (List Nat × Nat × Bool)) : Prop :=
  ∃ n, owed g pre k = some n ∧ ∀ lo, b = some lo → lo ≤ n

/-- the invariant of `nb_fcnt_strict`: the refinement invariant, and the bound respected by the state of
the history — in `Idle` the MAC state itself; during an exchange with the exchange's own frame accounted for -/
def NbBound {σ} (g : Rng σ) (b : Option Nat) (pre : MacState × σ) (gh : Option NbGhost) (r : NbRun) (rs : σ) : Prop :=
  NbInv g pre gh r rs ∧ match gh with
    | none => Rel pre.1 b
    | some x => Promise g pre b x.kind

theorem nbInv_flight {σ} {g : Rng σ} {pre : MacState × σ} {gh : Option NbGhost} {r : NbRun} {rs : σ}
    (h : NbInv g pre gh r rs) (hst : r.st ≠ .idle) : ∃ x join tx, gh = some x ∧ Started g pre x.kind join tx r.m rs := by
  unfold NbInv at h
  cases hs : r.st with
  | idle => exact absurd hs hst
  | sendingData join tx => rw [hs] at h; obtain ⟨⟨k, a, c, e, hs, _⟩, _⟩ := h; exact ⟨_, join, tx, e, hs⟩
  | waitingForRxWindow join tx second t => rw [hs] at h; obtain ⟨k, a, c, e, hs, _⟩ := h; exact ⟨_, join, tx, e, hs⟩
  | waitingForRx join tx second t => rw [hs] at h; obtain ⟨k, a, c, e, hs, _⟩ := h; exact ⟨_, join, tx, e, hs⟩

/-- while an exchange is in progress the abstraction keeps its kind -/
theorem nbAbs_flight (x : NbGhost) (st : NbState) (ev : NbEvent) (item : NbItem) (st' : NbState) (hst : st ≠ .idle) :
    (∃ y, nbAbs (some x) st ev item st' = (none, some y) ∧ y.kind = x.kind) ∨
    (∃ y tx, nbAbs (some x) st ev item st' = (some (ghostEv y tx), none) ∧ y.kind = x.kind) := by
  unfold nbAbs
  cases st with
  | idle => exact absurd rfl hst
  | sendingData join tx => cases ev <;> exact Or.inl ⟨x, rfl, rfl⟩
  | waitingForRxWindow join tx second t => cases ev <;> exact Or.inl ⟨x, rfl, rfl⟩
  | waitingForRx join tx second t =>
    cases ev with
    | join => exact Or.inl ⟨x, rfl, rfl⟩
    | send d p c => exact Or.inl ⟨x, rfl, rfl⟩
    | timeout =>
      simp only
      split
      · exact Or.inr ⟨x, tx, rfl, rfl⟩
      · exact Or.inl ⟨x, rfl, rfl⟩
    | radio e =>
      cases e with
      | txDone ts => exact Or.inl ⟨x, rfl, rfl⟩
      | rx snr v =>
        simp only
        split
        · split
          · exact Or.inr ⟨_, tx, rfl, by cases second <;> rfl⟩
          · exact Or.inl ⟨_, rfl, by cases second <;> rfl⟩
        · exact Or.inl ⟨x, rfl, rfl⟩

theorem step_uplink_shape {σ} {g : Rng σ} {m m' : MacState} {rs rs' : σ} {d : List Nat} {p : Nat} {c : Bool} {f : Option Nat}
    {rx1 rx2 : Option (RxView × Int)} {mp1 mp2 : Nat} {out : Out}
    (h : step g (m, rs) (.uplink d p c f rx1 rx2 mp1 mp2) = .ok ((m', rs'), out)) :
    sentFrame g m d p c rs = out.frame? ∧ (out = .notJoined ∨ ∃ o r dl, out = .up o r dl) := by
  unfold step at h
  obtain ⟨⟨o, m1, s1⟩, hsend, hk⟩ := Except.bind_eq_ok h
  unfold sentFrame
  rw [hsend]
  cases o with
  | none => cases Except.pure_eq_ok hk; exact ⟨rfl, Or.inl rfl⟩
  | some o =>
    cases f with
    | some k =>
      obtain ⟨m2, _, hk2⟩ := Except.bind_eq_ok hk
      cases Except.pure_eq_ok hk2
      exact ⟨rfl, Or.inr ⟨_, _, _, rfl⟩⟩
    | none =>
      obtain ⟨⟨r, dl, m2⟩, _, hk2⟩ := Except.bind_eq_ok hk
      cases Except.pure_eq_ok hk2
      exact ⟨rfl, Or.inr ⟨_, _, _, rfl⟩⟩

theorem sentFrame_respects {σ} {g : Rng σ} {m : MacState} {d : List Nat} {p : Nat} {c : Bool} {rs : σ} {f : UplinkDesc}
    {b : Option Nat} (hr : Rel m b) (h : sentFrame g m d p c rs = some f) : ∀ lo, b = some lo → lo ≤ f.fcnt := by
  unfold sentFrame at h
  split at h
  · rename_i o m1 rs1 hsend
    cases h
    by_cases hjn : ∃ s, joinedWith m s
    · obtain ⟨s, hm⟩ := hjn
      obtain ⟨_, e, hs⟩ := macSend_sent hm hsend
      cases e
      exact fun lo hlo => hs.frame ▸ hr lo hlo s hm
    · rw [macSend_notJoined g m (fun s e => hjn ⟨s, e⟩)] at hsend
      cases hsend
  · cases h

theorem nbResp_expired {resp : NbResp} {o : SendOut} {r : Option Response} {dl : Option (Nat × List Nat)}
    (h : NbRespRel resp (.up o r dl)) : (resp == .mac .sessionExpired) = expiredResp r := by
  cases r with
  | none => rcases h with rfl | rfl <;> rfl
  | some r => cases h; cases r <;> rfl

theorem rel_unless {m : MacState} {b : Option Nat} (c : Bool) (h : Rel m b) : Rel m (if c then none else b) := by
  cases c
  · exact h
  · exact rel_none m

theorem uplink_done {σ} {g : Rng σ} {m m' : MacState} {rs rs' : σ} {d : List Nat} {p : Nat} {c : Bool} {f : Option Nat}
    {rx1 rx2 : Option (RxView × Int)} {mp1 mp2 : Nat} {out : Out} {resp : NbResp} {b : Option Nat} (hr : Rel m b)
    (hstep : step g (m, rs) (.uplink d p c f rx1 rx2 mp1 mp2) = .ok ((m', rs'), out)) (hresp : NbRespRel resp out) :
    Rel m' (if resp == .mac .sessionExpired then none else
      match sentFrame g m d p c rs with
      | some f => some (f.fcnt + 1)
      | none => b) := by
  obtain ⟨hframe, hshape⟩ := step_uplink_shape hstep
  have hsp := (step_rel hr hstep).2
  rw [hframe]
  rcases hshape with rfl | ⟨o, rr, dl, rfl⟩
  · exact rel_unless _ hsp
  · rw [nbResp_expired hresp]
    exact hsp

theorem nbObsOf_flight {σ} (g : Rng σ) (r : NbRun) (rs : σ) (ev : NbEvent) (resp : NbResp) (hst : r.st ≠ .idle) :
    (nbObsOf g r rs ev resp).frame = none ∧ (nbObsOf g r rs ev resp).joinStart = false := by
  unfold nbObsOf
  cases hs : r.st with
  | idle => exact absurd hs hst
  | sendingData join tx => exact ⟨rfl, rfl⟩
  | waitingForRxWindow join tx second t => exact ⟨rfl, rfl⟩
  | waitingForRx join tx second t => exact ⟨rfl, rfl⟩

theorem nbStep_bound {σ} (g : Rng σ) (cfg : NbCfg) (b : Option Nat) (pre : MacState × σ) (gh : Option NbGhost) (r : NbRun)
    (rs : σ) (ev : NbEvent) (items : List NbItem) (resp : NbResp) (r' : NbRun) (rs' : σ)
    (hJ : NbBound g b pre gh r rs) (h : nbEvent g cfg r rs ev items = .ok (resp, r', rs')) :
    (∀ f lo, (nbObsOf g r rs ev resp).frame = some f → b = some lo → lo ≤ f.fcnt) ∧
    ∃ pre' gh', NbBound g (nextBound b (nbObsOf g r rs ev resp)) pre' gh' r' rs' := by
  obtain ⟨hinv, hb⟩ := hJ
  have hpost := nbStep_inv g cfg pre gh r rs ev items resp r' rs' hinv h
  by_cases hst : r.st = .idle
  · obtain ⟨rfl, rfl⟩ := hinv.idle hst
    have hRel : Rel r.m b := hb
    rw [hst] at hpost
    have hob : (nbObsOf g r rs ev resp).frame = (match ev with | .send d p c => sentFrame g r.m d p c rs | _ => none) ∧
        (nbObsOf g r rs ev resp).joinStart = (match ev with | .join => true | _ => false) := by
      unfold nbObsOf; rw [hst]; cases ev <;> exact ⟨rfl, rfl⟩
    unfold nextBound
    rw [hob.1, hob.2]
    cases ev with
    | timeout => exact ⟨fun _ _ e => (nomatch e), _, _, hpost.1, rel_unless _ hRel⟩
    | radio e => exact ⟨fun _ _ e => (nomatch e), _, _, hpost.1, rel_unless _ hRel⟩
    | join =>
      refine ⟨fun _ _ e => (nomatch e), ?_⟩
      by_cases hid : r'.st.isIdle = true
      · simp only [nbAbs, hid, if_true, NbStepPost] at hpost
        obtain ⟨out, _, hinv', _⟩ := hpost
        exact ⟨_, none, hinv', rel_unless _ (rel_zero r'.m)⟩
      · simp only [nbAbs, hid, Bool.false_eq_true, if_false, NbStepPost] at hpost
        refine ⟨_, _, hpost.1, 0, rfl, fun lo e => ?_⟩
        dsimp only at e
        split at e
        · cases e
        · cases e; exact Nat.le_refl 0
    | send d p c =>
      refine ⟨fun f lo e => sentFrame_respects hRel e lo, ?_⟩
      by_cases hid : r'.st.isIdle = true
      · simp only [nbAbs, hid, if_true, NbStepPost] at hpost
        obtain ⟨out, hstep, hinv', hresp, _⟩ := hpost
        exact ⟨_, none, hinv', uplink_done hRel hstep hresp⟩
      · simp only [nbAbs, hid, Bool.false_eq_true, if_false, NbStepPost] at hpost
        obtain ⟨_, _, _, e, hstart⟩ := nbInv_flight hpost.1 fun e => hid (by rw [e]; rfl)
        cases e
        obtain ⟨_, o, hsend, _⟩ := hstart
        have hsf : sentFrame g r.m d p c rs = some o.frame := by unfold sentFrame; rw [hsend]
        refine ⟨_, _, hpost.1, o.frame.fcnt + 1, by simp only [owed, hsf, Option.map_some], fun lo e => ?_⟩
        dsimp only at e
        rw [hsf] at e
        split at e
        · cases e
        · cases e; exact Nat.le_refl _
  · obtain ⟨x, _, _, rfl, _⟩ := nbInv_flight hinv hst
    obtain ⟨hf, hj⟩ := nbObsOf_flight g r rs ev resp hst
    obtain ⟨n, hn, hle⟩ := hb
    have hb : nextBound b (nbObsOf g r rs ev resp) = if resp == .mac .sessionExpired then none else b := by
      unfold nextBound; rw [hf, hj]; rfl
    rw [hf, hb]
    have hle' : ∀ lo, (if resp == .mac .sessionExpired then none else b) = some lo → lo ≤ n := fun lo e => by
      split at e
      · cases e
      · exact hle lo e
    refine ⟨fun _ _ e => (nomatch e), ?_⟩
    rcases nbAbs_flight x r.st ev (headItem items) r'.st hst with ⟨y, hab, hk⟩ | ⟨y, tx, hab, hk⟩
    · rw [hab] at hpost
      exact ⟨pre, some y, hpost.1, n, hk ▸ hn, hle'⟩
    · rw [hab] at hpost
      obtain ⟨out, hstep, hinv', hresp, _⟩ := hpost
      refine ⟨_, none, hinv', ?_⟩
      have hdone : Rel r'.m (if resp == .mac .sessionExpired then none else some n) := by
        unfold ghostEv at hstep
        rw [hk] at hstep
        cases hkind : x.kind with
        | none =>
          rw [hkind] at hn
          cases hn
          exact rel_unless _ (rel_zero r'.m)
        | some dpc =>
          obtain ⟨d, p, c⟩ := dpc
          rw [hkind] at hn hstep
          have := uplink_done (rel_none _) hstep hresp
          simp only [owed, Option.map_eq_some_iff] at hn
          obtain ⟨f, hsf, rfl⟩ := hn
          rwa [hsf] at this
      cases hc : (resp == NbResp.mac Response.sessionExpired)
      · rw [hc] at hdone hle'
        exact rel_weaken hdone fun lo e => hle' lo e
      · exact rel_none _

theorem nbRunObs_bound {σ} (g : Rng σ) (cfg : NbCfg) (b : Option Nat) (pre : MacState × σ) (gh : Option NbGhost) (r : NbRun)
    (rs : σ) (evs : List (NbEvent × List NbItem)) (obs : List NbObs) (r' : NbRun) (rs' : σ)
    (hJ : NbBound g b pre gh r rs) (h : nbRunObs g cfg r rs evs = .ok (obs, r', rs')) : FcntStrictNb b obs := by
  induction evs generalizing b pre gh r rs obs with
  | nil =>
    unfold nbRunObs at h
    cases Except.pure_eq_ok h
    trivial
  | cons x rest ih =>
    unfold nbRunObs at h
    obtain ⟨⟨resp, r1, rs1⟩, hev, hk⟩ := Except.bind_eq_ok h
    obtain ⟨⟨obs1, r2, rs2⟩, hrun, hk2⟩ := Except.bind_eq_ok hk
    cases Except.pure_eq_ok hk2
    obtain ⟨hcheck, pre', gh', hJ'⟩ := nbStep_bound g cfg b pre gh r rs x.1 x.2 resp r1 rs1 hJ hev
    exact ⟨hcheck, ih _ pre' gh' r1 rs1 obs1 hJ' hrun⟩

/-- **the frames the non-blocking front-end hands to the radio carry strictly increasing counters
within a session, for every event sequence.**  From `Idle` in any MAC state, for every sequence of
application, radio and timer events with any radio answers (protocol violations, radio errors,
`TxDone` at once, several frames in one window, stray timeouts): every data frame handed to the radio
carries a counter strictly above the previous one of the same session, until `SessionExpired` is
reported; a `join` accepted in `Idle` starts a new session.  Obtained from the refinement invariant
(`nbStep_inv`) and the history's step theorem (`step_rel`). -/
theorem nb_fcnt_strict {σ} (g : Rng σ) (cfg : NbCfg) (r : NbRun) (rs : σ) (evs : List (NbEvent × List NbItem))
    (obs : List NbObs) (r' : NbRun) (rs' : σ) (hidle : r.st = .idle)
    (h : nbRunObs g cfg r rs evs = .ok (obs, r', rs')) : FcntStrictNb (some 0) obs :=
  nbRunObs_bound g cfg (some 0) (r.m, rs) none r rs evs obs r' rs'
    ⟨nbInv_idle g r rs hidle, rel_zero r.m⟩ h

def cfg0 : Config :=
  { dataRate := 0, rx1Delay := 1000, txPower := none, rx1DrOffset := 0, rx2DataRate := none, rx2Frequency := none, adrEnabled := true }
example : (rx2Complete (Session.new 1 1 2) cfg0 .EU868).2.1.fcntUp = 1 := by decide
example : (rx2Complete { Session.new 1 1 2 with fcntUp := 0xFFFFFFFF } cfg0 .EU868).1 = .sessionExpired := by decide

def lcg : Rng Nat := fun x => ((x * 1103515245 + 12345) / 65536, x * 1103515245 + 12345)

/-- ABP, three uplinks (a confirmed downlink in RX1, a radio fault after one window, a timeout), a
Class C downlink in between, then an OTAA re-join and one more uplink -/
def demoHistory : List Ev :=
  [ .joinAbp 7 1 2,
    .uplink [1] 1 true none (some (.data { len := 14, confirmed := true, fcnt16 := 3, micFcnt := some 3, fopts := [], fport := some 2, payload := [5] }, 4)) none 250 250,
    .rxc (.data { len := 14, confirmed := false, fcnt16 := 4, micFcnt := some 4, fopts := [0x06], fport := none, payload := [] }) 0 250,
    .uplink [2] 1 false (some 1) (some (.garbage, 0)) none 250 250,
    .uplink [] 0 false none none none 250 250,
    .joinOtaa none none (some (.joinAccept { micOk := true, devAddr := 9, dlSettings := 0, rxDelay := 1, cfList := none, nwkKey := 5, appKey := 6 }, 1)) 250 250,
    .uplink [3] 3 false none none none 250 250 ]

def upFcnts (outs : List Out) : List (Nat × Nat) :=
  outs.filterMap (fun o => match o with | .up so _ _ => some (so.frame.devAddr, so.frame.fcnt) | _ => none)

/-- the run exists, and its uplinks carry (DevAddr, FCnt) = (7,0) (7,2) (7,3) | (9,0): the Class C
downlink and the accepted RX1 downlink each advanced the counter, the faulted uplink burnt one -/
example : (run lcg (MacState.init (RegionState.init .EU868) 14 0, 1) demoHistory).toOption.map (fun r => upFcnts r.2)
    = some [(7, 0), (7, 2), (7, 3), (9, 0)] := by decide +kernel

def demoCfgC : DevCfg := { lead := 15, buffer := 40, classC := true, txMs := 57 }

def cDown (n : Nat) (conf : Bool) : RxView :=
  .data { len := 14, confirmed := conf, fcnt16 := n, micFcnt := some n, fopts := [], fport := some 2, payload := [n] }

/-- ABP session; a Class C device hears a confirmed downlink between TX and RX1 of the first uplink,
nothing in the windows; a second uplink runs into a radio error while setting up RX2; OTAA re-join
(accept in RX2); one more uplink -/
def demoOps : List AsyncOp :=
  [ .abp 7 1 2,
    .send [1] 1 false [.ok, .ok, .frame 5 (cDown 3 true), .ok],
    .send [2] 1 false [.ok, .ok, .ok, .ok, .ok, .ok, .ok, .ok, .err],
    .join [.ok, .ok, .ok, .ok, .ok, .ok, .ok, .ok, .ok, .frame 1 (.joinAccept { micOk := true, devAddr := 9, dlSettings := 0, rxDelay := 1, cfList := none, nwkKey := 5, appKey := 6 })],
    .send [3] 3 false [] ]

def obsFcnts (obs : List OpObs) : List (Option (Nat × Nat × Bool)) :=
  obs.map (fun ob => ob.frame.map (fun f => (f.devAddr, f.fcnt, f.ack)))

/-- the session runs; its frames carry (DevAddr, FCnt, ACK) = (7,0,no) (7,2,yes) | (9,0,no): the Class C
downlink heard in the middle of the first procedure and the completion of that procedure each took a
counter, the ACK it asks for goes out with the NEXT uplink, the faulted uplink burnt counter 2 -/
example : (asyncOps lcg demoCfgC { m := MacState.init (RegionState.init .EU868) 14 0, script := [], calls := [], downlinks := [] } 1 demoOps).toOption.map
    (fun r => obsFcnts r.1) = some [none, some (7, 0, false), some (7, 2, true), none, some (9, 0, false)] := by decide +kernel

/-- the same exchanges on the non-blocking front-end -/
def demoNb : List (NbEvent × List NbItem) :=
  [ (.send [1] 1 true, []), (.send [2] 1 false, []), (.radio (.txDone 100), []), (.timeout, []),
    (.radio (.rx 0 .garbage), []), (.radio (.rx (-3) (cDown 3 true)), []),
    (.send [2] 1 false, [.txDoneNow 5000]), (.join, []), (.timeout, [.err]), (.timeout, []), (.timeout, []), (.timeout, []),
    (.timeout, []), (.send [3] 1 false, [.err]), (.send [4] 1 false, [.idle]), (.send [5] 1 false, []) ]

def demoNbStart : NbRun :=
  { m := macJoinAbp (MacState.init (RegionState.init .EU868) 14 0) 7 1 2, st := .idle, script := [], calls := [], downlinks := [] }

/-- counters 0 (answered in RX1), 1 (RX2 timeout), 2 and 3 (the radio refuses the transmission: burnt), 4 -/
example : (nbRunObs lcg { offset := -20, duration := 200 } demoNbStart 1 demoNb).toOption.map
    (fun r => r.1.filterMap (fun ob => ob.frame.map (fun f => f.fcnt))) = some [0, 1, 2, 3, 4] := by decide +kernel

/-! **Class C receptions inside the receive procedure are not a history of `Model/History.lean`.**
The script below (a confirmed downlink heard by `rx_continuous` between TX and RX1, nothing in the
windows) leaves the session at `fcnt_up = 2, fcnt_down = 3, adr_ack_cnt = 1, ACK owed`, the frame sent
carrying counter 0 without ACK.  The two candidate histories — the reception before the uplink, or after
it — give a different frame (counter 1 with ACK) resp. a different state (`adr_ack_cnt = 0`); the
extended event `abstractSendC` computes reproduces it.  `classC_inside_op` is the op line that replays
the same situation on the real front-end (`lvharness eval`): the snapshot shows two counters used and
ADR count 1 after ONE `send`. -/

def classC_inside_op : String :=
  "C04 adev EU868 1 - 15 40 1 57 ; abp 637606874 ; asend 1 0 01 | O O R12/60da1b01260000001a1aeb681b01ba/d/15/0/0/0/-/26/ddb6 O O O O O O O O O ; snap"

/-- (fcnt_up, fcnt_down, adr_ack_cnt, ACK owed) of the session (zeros if there is none; no downlink
counter yet reads 4294967296) -/
def sessOf (m : MacState) : Nat × Nat × Nat × Bool :=
  match m.st with
  | .joined s => (s.fcntUp, (match s.fcntDown with | some n => n | none => 4294967296), s.adrAckCnt, s.ackOwed)
  | _ => (0, 0, 0, false)

def mAbp : MacState := macJoinAbp (MacState.init (RegionState.init .EU868) 14 0) 7 1 2

def scriptInside : List ScriptItem := [.ok, .ok, .frame 5 (cDown 3 true), .ok]

def frameOf (o : Out) : Option (Nat × Bool) :=
  match o with
  | .up so _ _ => some (so.frame.fcnt, so.frame.ack)
  | _ => none

def insideRun : M (DevResult × DevRun × Nat) :=
  asyncSend lcg demoCfgC { m := mAbp, script := scriptInside, calls := [], downlinks := [] } [1] 1 false 1

theorem classC_inside_frontend :
    insideRun.toOption.map (fun r => r.1) = some (.ok .rxComplete) ∧
    insideRun.toOption.map (fun r => sessOf r.2.1.m) = some (2, 3, 1, true) ∧
    insideRun.toOption.map (fun r => r.2.1.downlinks) = some [(2, [3])] ∧
    (sentFrame lcg mAbp [1] 1 false 1).map (fun f => (f.fcnt, f.ack)) = some (0, false) := by decide +kernel

theorem classC_inside_not_rxc_before :
    (run lcg (mAbp, 1) [.rxc (cDown 3 true) 5 59, .uplink [1] 1 false none none none 59 59]).toOption.map
      (fun r => (sessOf r.1.1, r.2.filterMap frameOf)) = some ((2, 3, 1, false), [(1, true)]) := by decide +kernel

theorem classC_inside_not_rxc_after :
    (run lcg (mAbp, 1) [.uplink [1] 1 false none none none 59 59, .rxc (cDown 3 true) 5 59]).toOption.map
      (fun r => (sessOf r.1.1, r.2.filterMap frameOf)) = some ((2, 3, 0, true), [(0, false)]) := by decide +kernel

theorem classC_inside_extended :
    (runC lcg (mAbp, 1) [abstractSendC demoCfgC scriptInside [1] 1 false]).toOption.map
      (fun r => (sessOf r.1.1, r.2.filterMap (fun oc => frameOf oc.out))) = some ((2, 3, 1, true), [(0, false)]) := by
  decide +kernel

/-- a script without frames between the windows: the event `abstractAsync` computes, and the history
run equal to the front-end's result (instance of `async_send_refines`) -/
example : abstractAsync lcg { demoCfgC with classC := false } mAbp 1 [.ok, .ok, .ok, .frame 2 (cDown 4 false), .err] [1] 1 false =
    .uplink [1] 1 false (some 1) (some (cDown 4 false, 2)) none 59 59 := by rfl


/-! ### `SessionExpired` INSIDE a receive procedure

`runC_fcnt_strict` reads the response of the whole procedure.  A Class C acceptance on the RXC
parameters in the middle of a procedure can be the event that exhausts the counter space: the session
below is at `fcnt_up = 2^32 − 2`; the uplink goes out with that counter; the first frame heard between
TX and RX1 is accepted and moves `fcnt_up` to `2^32 − 1`; the second and the one heard between RX1 and
RX2 are then answered `SessionExpired` by `handle_rxc` (the `heard` list), the counter stays, and the
procedure itself ends with `SessionExpired` (`rx2_complete` at the last counter): expiry is REPORTED by
the event, so `FcntStrict` drops its claim exactly there.  The next uplink — which the property no longer
speaks about — carries `2^32 − 1`, still strictly above. -/

def cFrame (w : Nat) : RxView × Int :=
  (.data { len := 14, confirmed := false, fcnt16 := w, micFcnt := some w, fopts := [], fport := some 1, payload := [w] }, 5)

/-- an ABP session two uplinks before the end of the counter space -/
def mLate : MacState :=
  { macJoinAbp (MacState.init (RegionState.init .EU868) 14 0) 7 1 2 with
    st := .joined { Session.new 7 1 2 with fcntUp := 0xFFFFFFFE } }

def lateHistoryC : List EvC :=
  [ .uplinkC true [1] 1 false none [cFrame 1, cFrame 2] none [cFrame 3] none,
    .uplinkC true [2] 1 false none [] none [] none ]

/-- per uplink: its counter, whether the procedure reported `SessionExpired`, and for each frame handled
inside the procedure whether `handle_rxc` answered `SessionExpired` -/
def respOfC (o : OutC) : Option (Nat × Bool × List Bool) :=
  match o.out with
  | .up so r _ => some (so.frame.fcnt, expiredResp r, o.heard.map (fun x => x.resp == .sessionExpired))
  | _ => none

example : (runC lcg (mLate, 1) lateHistoryC).toOption.map (fun r => r.2.map respOfC) =
    some [some (4294967294, true, [false, true, true]), some (4294967295, true, [])] := by decide +kernel
example : (runC lcg (mLate, 1) lateHistoryC).toOption.map
      (fun r => match r.1.1.st with | .joined s => some (s.fcntUp, s.fcntDown) | _ => none) =
    some (some (4294967295, some 3)) := by decide +kernel

/-- the instance of `runC_fcnt_strict` for that run, from the session's own counter -/
example (ms' : MacState × Nat) (ocs : List OutC) (h : runC lcg (mLate, 1) lateHistoryC = .ok (ms', ocs)) :
    FcntStrict (some 0xFFFFFFFE) ((lateHistoryC.map projEv).zip (ocs.map (fun oc => oc.out))) :=
  runC_fcnt_strict lcg mLate 1 lateHistoryC ms' ocs (some 0xFFFFFFFE)
    (fun lo e s hs => by cases e; cases hs; exact Nat.le_refl _) h

/-- the hypotheses of `historyC_expired_reported` hold of `lateHistoryC` from `mLate` -/
example : ∀ ev ∈ lateHistoryC, evOkC ev = true := by decide
example : GhRel mLate (some none) := ⟨_, rfl, rfl, fun l e => by cases e⟩

/-- **a call of `rxc_listen` never sends, and advances `fcnt_up` by exactly one iff it answers
`DownlinkReceived`** (every state, every script; no hypothesis): no transmission is logged; the uplink
counter of the session after the call is the one before plus one exactly when `DownlinkReceived` is
answered and is unchanged otherwise; `SessionExpired` is answered only at the exhausted counter
`2^32 − 1`, which then stays — so a listen call can neither make a later uplink reuse a counter nor wrap it. -/
theorem async_listen_fcnt (r : DevRun) (res : ListenResult) (r' : DevRun) (h : asyncListen r = .ok (res, r')) :
    NoTxSince r r' ∧
    ((∃ n, res = .ok (.downlinkReceived n)) ↔ ∃ u, r.m.fcntUp? = some u ∧ r'.m.fcntUp? = some (u + 1)) ∧
    ((∀ n, res ≠ .ok (.downlinkReceived n)) → r'.m.fcntUp? = r.m.fcntUp?) ∧
    (res = .ok .sessionExpired → r.m.fcntUp? = some 0xFFFFFFFF) := by
  obtain ⟨outs, _, hrel⟩ := asyncListen_refines (σ := Unit) (fun s => (0, s)) () r res r' h
  refine ⟨hrel.calls, ?_⟩
  have key : (∃ n u, res = .ok (.downlinkReceived n) ∧ r.m.fcntUp? = some u ∧ r'.m.fcntUp? = some (u + 1)) ∨
      ((∀ n, res ≠ .ok (.downlinkReceived n)) ∧ r'.m.fcntUp? = r.m.fcntUp? ∧
        (res = .ok .sessionExpired → r.m.fcntUp? = some 0xFFFFFFFF)) := by
    have hf := hrel.fcnt
    unfold ListenFcnt at hf
    cases res with
    | ok resp =>
      cases resp with
      | downlinkReceived n => obtain ⟨u, h1, _, h2⟩ := hf; exact Or.inl ⟨n, u, rfl, h1, h2⟩
      | _ => exact Or.inr ⟨nofun, hf.2.1, fun _ => hf.2.2⟩
    | _ => exact Or.inr ⟨nofun, by rw [hf.1], nofun⟩
  rcases key with ⟨n, u, rfl, h1, h2⟩ | ⟨hne, hsame, hexp⟩
  · exact ⟨⟨fun _ => ⟨u, h1, h2⟩, fun _ => ⟨n, rfl⟩⟩, fun hne => absurd rfl (hne n), nofun⟩
  · refine ⟨⟨fun ⟨n, e⟩ => absurd e (hne n), fun ⟨u, h1, h2⟩ => ?_⟩, fun _ => hsame, hexp⟩
    rw [hsame, h1] at h2
    exact absurd (Option.some.inj h2) (Nat.ne_of_lt (Nat.lt_succ_self u))

/-- **uplink counters never repeat in sessions with listen calls.**  A session of sends, joins, setters and
`rxc_listen` calls (either class, any scripts) that returns is a run of the extended history
`abstractCalls` of its calls, its outputs are the front-end's answers call by call (`SessObs`), and along
that history every data frame handed to the radio carries a counter strictly above the previous one of
the same session until `SessionExpired` is reported (`FcntStrict`, as `runC_fcnt_strict`): the Class C
receptions of a listen call move `fcnt_up` forward only (`async_listen_fcnt`). -/
theorem asyncCalls_fcnt_strict {σ} (g : Rng σ) (cfg : DevCfg) (d : DevRun) (rs : σ) (calls : List AsyncCall)
    (obs : List CallObs) (d' : DevRun) (rs' : σ) (h : asyncCalls g cfg d rs calls = .ok (obs, d', rs')) :
    ∃ ocs, runC g (d.m, rs) (abstractCalls g cfg (d.m, rs) calls) = .ok ((d'.m, rs'), ocs) ∧ SessObs calls obs ocs ∧
      FcntStrict (some 0) (((abstractCalls g cfg (d.m, rs) calls).map projEv).zip (ocs.map (fun oc => oc.out))) := by
  obtain ⟨ocs, hrun, hobs⟩ := asyncCalls_runC g cfg d rs calls obs d' rs' h
  exact ⟨ocs, hrun, hobs,
    runC_fcnt_strict g d.m rs _ (d'.m, rs') ocs (some 0) (rel_zero d.m) hrun⟩

/-! non-vacuity: a device at `fcnt_up = 2^32 − 2` hears an authentic frame (counter moves to `2^32 − 1`),
listens again and hears the next one: `SessionExpired`, the counter stays -/

def lateListen : DevRun :=
  { m := { (macJoinAbp (MacState.init (RegionState.init .EU868) 14 0) 7 1 2) with
      st := .joined { Session.new 7 1 2 with fcntUp := 4294967294 } },
    script := [.frame 0 (.data { len := 14, confirmed := false, fcnt16 := 1, micFcnt := some 1, fopts := [], fport := some 1, payload := [1] })],
    calls := [], downlinks := [] }

example : (asyncListen lateListen).toOption.map (fun x => (x.1, x.2.m.fcntUp?, x.2.calls)) =
    some (.ok (.downlinkReceived 1), some 4294967295, [.rxContinuous]) := by decide +kernel
example : ((asyncListen lateListen).toOption.bind (fun x => (asyncListen { x.2 with script :=
      [.frame 0 (.data { len := 14, confirmed := false, fcnt16 := 2, micFcnt := some 2, fopts := [], fport := some 1, payload := [2] })] }).toOption)).map
    (fun x => (x.1, x.2.m.fcntUp?)) = some (.ok .sessionExpired, some 4294967295) := by decide +kernel

end C06

#print axioms C06.history_fcnt_strict
#print axioms C06.history_fcnt_from
#print axioms C06.history_no_counter_reuse
#print axioms C06.history_fcnt_32bit
#print axioms C06.join_starts_fresh
#print axioms C06.step_session_id
#print axioms C06.history_session_id
#print axioms C06.send_after_expiry_reuses
#print axioms C06.rx2Complete_fcnt
#print axioms C06.handleRx_fcnt
#print axioms C06.send_uses_fcnt
#print axioms C06.window_fcnt
#print axioms C06.cycle_fcnt
#print axioms C06.fault_fcnt
#print axioms C06.runC_fcnt_strict
#print axioms C06.stepC_expired_reported
#print axioms C06.historyC_expired_reported
#print axioms C06.async_fcnt_strict
#print axioms C06.nb_fcnt_strict
#print axioms C06.async_listen_fcnt
#print axioms C06.asyncCalls_fcnt_strict
