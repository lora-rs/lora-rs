import LoraVerif.Props.C02
/-!
# C11, byte level: the JoinRequest the device sends and the session keys it derives

`Props/C11.lean` works on the MAC model, where a received JoinAccept arrives as the reference codec's
view.  The byte-level half of C11 — the JoinRequest layout and MIC, JoinAccept decryption and MIC,
the field extraction, and the derivation of NwkSKey/AppSKey from (AppKey, JoinNonce, NetID,
DevNonce) — is proved on the codec model (`Model/Codec.lean`, tied to `lorawan-encoding` by the
C01/C02 correspondence) for ANY block cipher; the statements are restated here under the names the
C11 check audits.
-/
open Lora Lora.Codec

namespace C11

/-- the JoinRequest handed to the radio is byte-exact LoRaWAN §6.2.4 (MHDR | AppEUI | DevEUI | DevNonce | MIC) -/
theorem join_request_bytes (c : Cipher) (d : JoinRequest) (buf : Bytes) (appKey : Key) :
    d.buildInto buf ⟨c, appKey⟩ = Outcome.ofExcept (Spec.encodeJoinRequest c appKey d.toSpec buf.length) :=
  C01.build_join_request_eq_spec c d buf appKey

/-- a received JoinAccept is decrypted and authenticated exactly as §6.2.5 says; nothing else is accepted -/
theorem join_accept_decode (c : Cipher) (k : Key) (b : Bytes) :
    joinAcceptCheckMicAndDecryptInPlace b ⟨c, k⟩ =
      match Spec.decodeJoinAccept c k b with
      | .error e => (.err e, b)
      | .ok (clear, _, authentic) => (if authentic then .ok clear else .err .invalidMic, clear) :=
  C02.join_accept_check_eq_spec c k b

/-- the fields the MAC reads from the decrypted JoinAccept (JoinNonce, NetID, DevAddr, DLSettings,
RxDelay, CFList type 0 / 1) are the specification's -/
theorem join_accept_fields (clear : Bytes) (hl : clear.length = 17 ∨ clear.length = 33) :
    (joinAcceptView clear).map JoinAcceptView.toSpec = .ok (Spec.joinAcceptView clear) :=
  C02.join_accept_view_eq_spec clear hl

/-- NwkSKey (tag 1) and AppSKey (tag 2) are aes128_encrypt(AppKey, tag | JoinNonce | NetID | DevNonce | pad) -/
theorem session_keys (c : Cipher) (k : Key) (clear : Bytes) (tag : UInt8) (dn : DevNonce)
    (hl : clear.length = 17 ∨ clear.length = 33) :
    deriveSessionKey clear tag dn ⟨c, k⟩
      = .ok (Spec.sessionKey c k tag (Spec.joinAcceptView clear).joinNonce (Spec.joinAcceptView clear).netId
          (Spec.fromLe dn.toList)).toList :=
  C02.derive_session_key_eq_spec c k clear tag dn hl

end C11
